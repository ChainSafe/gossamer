/-
Byte strings, hex, little/big-endian numerals.  Core Lean only.
-/
namespace Gossamer

abbrev Bytes := List UInt8

/-- Shortcut: without it, instance search for `LawfulBEq UInt8` walks through Std's order packages
    before it finds this, in every declaration that compares bytes (`==`, `∈`, `List.lookup`). -/
instance lawfulBEqUInt8 : LawfulBEq UInt8 := inferInstance

def natOfLE : Bytes → Nat
  | [] => 0
  | b :: bs => b.toNat + 256 * natOfLE bs

/-- Go `big.Int.SetBytes` -/
def natOfBE (b : Bytes) : Nat := b.foldl (fun acc x => acc * 256 + x.toNat) 0

/-- truncating, like Go `PutUintXX` -/
def leBytes : Nat → Nat → Bytes
  | 0, _ => []
  | len + 1, n => UInt8.ofNat (n % 256) :: leBytes len (n / 256)

def beBytes (len n : Nat) : Bytes := (leBytes len n).reverse

def leMin (n : Nat) : Bytes :=
  if h : n = 0 then [] else UInt8.ofNat (n % 256) :: leMin (n / 256)
termination_by n
decreasing_by omega

def hexDigit (n : Nat) : Char :=
  if n < 10 then Char.ofNat (48 + n) else Char.ofNat (87 + n)

def hexOfByte (b : UInt8) : List Char := [hexDigit (b.toNat / 16), hexDigit (b.toNat % 16)]

def toHex (b : Bytes) : String := String.ofList (b.flatMap hexOfByte)

def hexVal? (c : Char) : Option Nat :=
  if '0' ≤ c ∧ c ≤ '9' then some (c.toNat - 48)
  else if 'a' ≤ c ∧ c ≤ 'f' then some (c.toNat - 87)
  else if 'A' ≤ c ∧ c ≤ 'F' then some (c.toNat - 55)
  else none

def ofHexChars? : List Char → Option Bytes
  | [] => some []
  | [_] => none
  | a :: b :: rest => do
    let x ← hexVal? a
    let y ← hexVal? b
    let r ← ofHexChars? rest
    pure (UInt8.ofNat (x * 16 + y) :: r)

def ofHex? (s : String) : Option Bytes :=
  if s = "-" then some [] else ofHexChars? s.toList

/-- the empty string is `-` (read back by `ofHex?`) so that tokens never vanish -/
def hex (b : Bytes) : String := if b.isEmpty then "-" else toHex b

theorem natOfLE_append (a b : Bytes) : natOfLE (a ++ b) = natOfLE a + 256 ^ a.length * natOfLE b := by
  induction a with
  | nil => simp [natOfLE]
  | cons x xs ih =>
    simp only [List.cons_append, natOfLE, ih, List.length_cons, Nat.pow_succ]
    rw [Nat.mul_add, Nat.add_assoc, ← Nat.mul_assoc, Nat.mul_comm 256 (256 ^ xs.length)]

theorem natOfBE_snoc (b : Bytes) (x : UInt8) : natOfBE (b ++ [x]) = natOfBE b * 256 + x.toNat := by
  simp [natOfBE, List.foldl_append]

theorem natOfBE_reverse (b : Bytes) : natOfBE b.reverse = natOfLE b := by
  induction b with
  | nil => simp [natOfBE, natOfLE]
  | cons x xs ih =>
    rw [List.reverse_cons, natOfBE_snoc, ih, natOfLE]; omega

theorem toNat_ofNat_lt {n : Nat} (h : n < 256) : (UInt8.ofNat n).toNat = n :=
  UInt8.toNat_ofNat_of_lt' h

theorem toNat_ofNat_mod (n : Nat) : (UInt8.ofNat (n % 256)).toNat = n % 256 :=
  toNat_ofNat_lt (Nat.mod_lt n (by decide))

theorem natOfLE_leBytes (len n : Nat) : natOfLE (leBytes len n) = n % 256 ^ len := by
  induction len generalizing n with
  | zero => simp [leBytes, natOfLE, Nat.mod_one]
  | succ k ih =>
    simp only [leBytes, natOfLE, ih, Nat.pow_succ]
    rw [toNat_ofNat_mod, Nat.mul_comm (256 ^ k) 256, Nat.mod_mul]

theorem length_leBytes (len n : Nat) : (leBytes len n).length = len := by
  induction len generalizing n with
  | zero => rfl
  | succ k ih => simp [leBytes, ih]

theorem leBytes_succ (k n : Nat) : leBytes (k+1) n = UInt8.ofNat (n % 256) :: leBytes k (n / 256) := rfl

theorem leMin_zero : leMin 0 = [] := by unfold leMin; simp

theorem leMin_pos {n : Nat} (h : n ≠ 0) : leMin n = UInt8.ofNat (n % 256) :: leMin (n / 256) := by
  rw [leMin]; simp [h]

theorem natOfLE_leMin (n : Nat) : natOfLE (leMin n) = n := by
  induction n using Nat.strongRecOn with
  | _ n ih =>
    by_cases h : n = 0
    · subst h; simp [leMin_zero, natOfLE]
    · rw [leMin_pos h, natOfLE, toNat_ofNat_mod, ih (n / 256) (by omega)]; omega

theorem natOfLE_lt (b : Bytes) : natOfLE b < 256 ^ b.length := by
  induction b with
  | nil => simp [natOfLE]
  | cons x xs ih =>
    simp only [natOfLE, List.length_cons, Nat.pow_succ]
    have := x.toNat_lt; omega

theorem length_leMin_le (n k : Nat) : (leMin n).length ≤ k ↔ n < 256 ^ k := by
  induction k generalizing n with
  | zero =>
    by_cases h : n = 0
    · subst h; simp [leMin_zero]
    · rw [leMin_pos h]; simp; omega
  | succ k ih =>
    by_cases h : n = 0
    · subst h; simp [leMin_zero]; exact Nat.pow_pos (by decide)
    · rw [leMin_pos h, List.length_cons, Nat.succ_le_succ_iff, ih, Nat.pow_succ]; omega

theorem length_leMin_lt (n k : Nat) : k < (leMin n).length ↔ 256 ^ k ≤ n := by
  have := length_leMin_le n k; omega

theorem take_leBytes_leMin (k n : Nat) (h : n < 256 ^ k) :
    (leBytes k n).take (leMin n).length = leMin n := by
  induction k generalizing n with
  | zero =>
    have : n = 0 := by simpa using h
    subst this; simp [leMin_zero]
  | succ k ih =>
    by_cases hn : n = 0
    · subst hn; simp [leMin_zero]
    · rw [leMin_pos hn, leBytes, List.length_cons, List.take_succ_cons,
        ih (n / 256) (by rw [Nat.pow_succ] at h; omega)]

theorem natOfLE_cons_mod (x : UInt8) (xs : Bytes) : UInt8.ofNat (natOfLE (x :: xs) % 256) = x := by
  rw [natOfLE, Nat.add_mul_mod_self_left, Nat.mod_eq_of_lt x.toNat_lt, UInt8.ofNat_toNat]

theorem natOfLE_cons_div (x : UInt8) (xs : Bytes) : natOfLE (x :: xs) / 256 = natOfLE xs := by
  rw [natOfLE, Nat.add_mul_div_left _ _ (by decide), Nat.div_eq_of_lt x.toNat_lt, Nat.zero_add]

theorem natOfLE_eq_dropLast_add (d : Bytes) (hne : d ≠ []) :
    natOfLE d = natOfLE d.dropLast + 256 ^ (d.length - 1) * (d.getLast hne).toNat := by
  conv => lhs; rw [← List.dropLast_concat_getLast hne]
  rw [natOfLE_append, List.length_dropLast]; simp [natOfLE]

theorem getLast_ne_zero_of_le (d : Bytes) (hne : d ≠ []) (h : 256 ^ (d.length - 1) ≤ natOfLE d) :
    d.getLast hne ≠ 0 := by
  intro hz
  have := natOfLE_lt d.dropLast
  rw [List.length_dropLast] at this
  rw [natOfLE_eq_dropLast_add d hne, hz] at h
  exact Nat.not_le.2 this h

theorem le_natOfLE_of_getLast (d : Bytes) (hne : d ≠ []) (h : d.getLast hne ≠ 0) :
    256 ^ (d.length - 1) ≤ natOfLE d := by
  have hpos : 0 < (d.getLast hne).toNat :=
    Nat.pos_of_ne_zero fun hz => h (UInt8.toNat_inj.mp (by simpa using hz))
  rw [natOfLE_eq_dropLast_add d hne]
  exact Nat.le_trans (Nat.le_mul_of_pos_right _ hpos) (Nat.le_add_left ..)

theorem leMin_natOfLE (b : Bytes) (h : ∀ hne : b ≠ [], b.getLast hne ≠ 0) : leMin (natOfLE b) = b := by
  induction b with
  | nil => rw [natOfLE, leMin_zero]
  | cons x xs ih =>
    have hpos := Nat.lt_of_lt_of_le (Nat.pow_pos (by decide)) (le_natOfLE_of_getLast (x :: xs) (by simp) (h _))
    rw [leMin_pos (Nat.ne_of_gt hpos), natOfLE_cons_mod, natOfLE_cons_div,
      ih fun hne => by have := h (by simp); rwa [List.getLast_cons hne] at this]

theorem leBytes_natOfLE (b : Bytes) : leBytes b.length (natOfLE b) = b := by
  induction b with
  | nil => rfl
  | cons x xs ih => rw [List.length_cons, leBytes, natOfLE_cons_mod, natOfLE_cons_div, ih]

theorem natOfLE_leBytes_lt {k n : Nat} (h : n < 256 ^ k) : natOfLE (leBytes k n) = n := by
  rw [natOfLE_leBytes, Nat.mod_eq_of_lt h]

theorem leBytes_inj {w a b : Nat} (ha : a < 256 ^ w) (hb : b < 256 ^ w) (h : leBytes w a = leBytes w b) :
    a = b := by rw [← natOfLE_leBytes_lt ha, ← natOfLE_leBytes_lt hb, h]

theorem pow256_1 : (256:Nat) ^ 1 = 256 := by decide
theorem pow256_2 : (256:Nat) ^ 2 = 65536 := by decide
theorem pow256_3 : (256:Nat) ^ 3 = 16777216 := by decide
theorem pow256_4 : (256:Nat) ^ 4 = 4294967296 := by decide

theorem pow256_7 : (256:Nat) ^ 7 = 72057594037927936 := by decide
theorem pow256_8 : (256:Nat) ^ 8 = 18446744073709551616 := by decide
theorem pow256_8_eq : (256 : Nat) ^ 8 = 2 ^ 64 := by decide
theorem pow2_64 : (2:Nat) ^ 64 = 18446744073709551616 := by decide

theorem pow256_mono {a b : Nat} (h : a ≤ b) : (256:Nat) ^ a ≤ 256 ^ b :=
  Nat.pow_le_pow_right (by decide) h

/-- 67 bytes is the longest payload of a SCALE big integer -/
theorem lt_pow67 {n k : Nat} (hk : k ≤ 67) (h : n < 256 ^ k) : n < 256 ^ 67 :=
  Nat.lt_of_lt_of_le h (pow256_mono hk)

theorem lt_pow67_of_lt_u64 {n : Nat} (h : n < 18446744073709551616) : n < 256 ^ 67 :=
  lt_pow67 (k := 8) (by decide) (pow256_8 ▸ h)

/-- A fixed-width field as its readers meet it: they test `bs.length < w`, take `natOfLE (bs.take w)` and go on with
    `bs.drop w` (the fixed-width cases of `Scale.Spec.decKind`).  `leBytes_readLE` is the converse: whatever such a reader
    accepts is such a field. -/
theorem readLE_leBytes {w x : Nat} (r : Bytes) (hx : x < 256 ^ w) :
    ¬ (leBytes w x ++ r).length < w ∧ natOfLE ((leBytes w x ++ r).take w) = x ∧
      (leBytes w x ++ r).drop w = r := by
  have hl := length_leBytes w x
  exact ⟨by rw [List.length_append, hl]; omega, by rw [List.take_left' hl, natOfLE_leBytes_lt hx],
    List.drop_left' hl⟩

theorem leBytes_readLE {w : Nat} {bs : Bytes} (h : ¬ bs.length < w) :
    natOfLE (bs.take w) < 256 ^ w ∧ bs = leBytes w (natOfLE (bs.take w)) ++ bs.drop w := by
  have hlen : (bs.take w).length = w := List.length_take_of_le (Nat.le_of_not_lt h)
  have h1 := natOfLE_lt (bs.take w)
  have h2 := leBytes_natOfLE (bs.take w)
  rw [hlen] at h1 h2
  exact ⟨h1, by rw [h2, List.take_append_drop]⟩

theorem natOfBE_lt (b : Bytes) : natOfBE b < 256 ^ b.length := by
  have := natOfLE_lt b.reverse
  rw [← natOfBE_reverse, List.reverse_reverse, List.length_reverse] at this
  exact this

theorem natOfBE_append (a b : Bytes) : natOfBE (a ++ b) = natOfBE a * 256 ^ b.length + natOfBE b := by
  have := natOfLE_append b.reverse a.reverse
  rw [← List.reverse_append, ← natOfBE_reverse, ← natOfBE_reverse, ← natOfBE_reverse] at this
  simp only [List.reverse_reverse, List.length_reverse] at this
  rw [this]; rw [Nat.mul_comm]; omega

theorem natOfBE_cons (x : UInt8) (xs : Bytes) :
    natOfBE (x :: xs) = x.toNat * 256 ^ xs.length + natOfBE xs := by
  rw [← List.singleton_append, natOfBE_append]; simp [natOfBE]

theorem natOfBE_replicate_zero (k : Nat) (b : Bytes) :
    natOfBE (List.replicate k (0 : UInt8) ++ b) = natOfBE b := by
  induction k with
  | zero => simp
  | succ k ih => rw [List.replicate_succ, List.cons_append, natOfBE_cons, ih]; simp

theorem natOfBE_dropWhile_zero (b : Bytes) : natOfBE (b.dropWhile (· == 0)) = natOfBE b := by
  induction b with
  | nil => rfl
  | cons x xs ih =>
    by_cases h : x = 0
    · subst h; simp only [List.dropWhile_cons, beq_self_eq_true, if_true, ih, natOfBE_cons]; simp
    · have : (x == 0) = false := by simpa using h
      simp [this]

theorem and_two_pow (m i : Nat) : m &&& 2 ^ i = if m.testBit i then 2 ^ i else 0 := by
  apply Nat.eq_of_testBit_eq
  intro j
  rw [Nat.testBit_and, Nat.testBit_two_pow]
  by_cases h : i = j
  · subst h; cases m.testBit i <;> simp
  · cases m.testBit i <;> simp [h]

end Gossamer
