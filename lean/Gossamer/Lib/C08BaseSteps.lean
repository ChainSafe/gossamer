/-
C08: the three operations of `TrieState` over the ideal backend with no transaction open that are
not the specification's operation on the committed state by unfolding (`cclr`, `killl`, `cclrl`);
`put_nil` / `del_nil` are in Lib/C08SimStep, the others are `rfl` inside `sim_step_nil`.
-/
import Gossamer.Lib.C08LevelWrites
namespace Gossamer.C08
open Gossamer

section
variable (Hc Hm : Entries → Bytes) (D : Dumper Logical) (ord : Diff → ApplyOrder)

theorem mainView_get (s : SS) (k : Bytes) (hk : Logical.isChildKey k = false) :
    OMap.get k (s.mainView Hc) = OMap.get k s.top.main := by
  unfold SS.mainView
  rw [view_get Hc _ k hk]

/-- `ClearPrefixInChild` with no transaction open -/
theorem cclr_nil (b : Logical) (ck p : Bytes) :
    stepTS (idealBackend Hc Hm) D ord { base := b, txs := [] } (.cclr ck p) =
      ({ base := Logical.setKid b ck (OMap.clearPrefix p (kidOf b ck)), txs := [] }, .ok) := by
  show clearPrefixInChildTS (idealBackend Hc Hm) { base := b, txs := [] } ck p = _
  simp only [clearPrefixInChildTS]
  rw [getChild_ideal]
  cases hfb : KMap.find ck b.kids with
  | none =>
    rw [kidOf_none hfb, show OMap.clearPrefix p ([] : Entries) = [] from rfl,
      setKid_nil_missing hfb]
  | some es =>
    rw [kidOf_some hfb]
    rfl

end

section
variable (Hc Hm : Entries → Bytes) (D : Dumper Logical) (ord : Diff → ApplyOrder) {b : Logical}

/-- `DeleteChildLimit` with no transaction open -/
theorem killl_nil (hw : b.WF) (ck : Bytes) (limit : Option Nat) :
    stepTS (idealBackend Hc Hm) D ord { base := b, txs := [] } (.killl ck limit) =
      let r := specLimit (kidOf b ck) (kidOf b ck) (fun _ => true) limit
      if (KMap.find ck b.kids).isNone then ({ base := b, txs := [] }, .cnt 0 false)
      else ({ base := Logical.setKid b ck r.1, txs := [] }, .cnt r.2.1 r.2.2) := by
  show deleteChildLimitTS (idealBackend Hc Hm) { base := b, txs := [] } ck limit = _
  simp only [deleteChildLimitTS]
  rw [getChild_ideal]
  cases hf : KMap.find ck b.kids with
  | none => rfl
  | some es =>
    have hs : OMap.Sorted es := (hw.kid ck es hf).1
    obtain ⟨hsome, hnone⟩ := specLimit_self (fun _ => true) (omap_sorted_keys hs)
      (fun y => by rw [omap_mem_keys, and_iff_left rfl])
    simp only [kidOf_some hf, Option.isNone_some, Bool.false_eq_true, if_false, entries_keys]
    cases limit with
    | none =>
      rw [hnone, filter_not_contains_nil fun e he => List.mem_map.mpr ⟨e, he, rfl⟩]
      rfl
    | some n =>
      have hl : _ = ((List.take n _).foldl (fun t k => OMap.erase k t) es, _) :=
        deleteKeysLimit_eq (idealBackend Hc Hm) (es.map (·.1)) n 0 es
      rw [Nat.zero_add] at hl
      simp only [hsome n, hl, foldl_erase_eq_filter, Nat.zero_add]
      rfl

/-- `ClearPrefixInChildWithLimit` with no transaction open, on an existing child -/
theorem cclrl_nil (hw : b.WF) (ck p : Bytes) (n : Nat) (hex : (KMap.find ck b.kids).isSome = true)
    (h0 : n ≠ 0 ∨ OMap.keysWithPrefix p (kidOf b ck) ≠ []) :
    stepTS (idealBackend Hc Hm) D ord { base := b, txs := [] } (.cclrl ck p n) =
      let r := specLimit (kidOf b ck) (kidOf b ck) (fun k => p.isPrefixOf k) (some n)
      ({ base := Logical.setKid b ck r.1, txs := [] }, .cnt r.2.1 r.2.2) := by
  show clearPrefixInChildLimitTS (idealBackend Hc Hm) { base := b, txs := [] } ck p n = _
  simp only [clearPrefixInChildLimitTS]
  rw [getChild_ideal]
  cases hf : KMap.find ck b.kids with
  | none => rw [hf] at hex; cases hex
  | some es =>
    have hs : OMap.Sorted es := (hw.kid ck es hf).1
    rw [kidOf_some hf] at h0 ⊢
    rw [← clearPrefixLimit_spec p n hs h0]
    simp only [idealBackend, omapOps]

end

end Gossamer.C08
