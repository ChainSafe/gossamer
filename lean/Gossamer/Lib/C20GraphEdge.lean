/-
C20 layer (b), proofs: the canonical ancestor edge of a block w.r.t. a set of vote-nodes (what the `ancestors` of
its entry must be), and how edges change when a block becomes a vote-node.
Orientation, in all `C20Graph*` files: the base is at the top.  "Above `b`" = towards the base = an ancestor of `b`
(`a ∈ t.chain b`, smaller index, smaller block number); "below `b`", "hangs below" = away from the base = a
descendant (`b ∈ t.chain d`, larger number).
-/
import Gossamer.Lib.C20GraphBase
import Gossamer.Lib.AList
namespace Gossamer.C20

variable {t : Tree}

/-- blocks from the parent of `b` up to and including the nearest vote-node above `b` -/
def edge (t : Tree) (N : Nat → Bool) (b : Nat) : List Nat := takeThrough N (t.chain b).tail

/-- the nearest vote-node strictly above `b` -/
def ancNode (t : Tree) (N : Nat → Bool) (b : Nat) : Option Nat := (edge t N b).getLast?

theorem edge_zero (t : Tree) (N : Nat → Bool) : edge t N 0 = [] := rfl

theorem pos_of_mem_edge {N : Nat → Bool} {b x : Nat} (hx : x ∈ edge t N b) : 0 < b := by
  rcases Nat.eq_zero_or_pos b with hz | hz
  · subst hz; simp [edge_zero] at hx
  · exact hz

theorem pos_of_not_node {N : Nat → Bool} (h0 : N 0 = true) {b : Nat} (hN : N b = false) : 0 < b :=
  Nat.pos_of_ne_zero (ne_of_true_of_false h0 hN).symm

theorem mem_edge_of_ancNode {N : Nat → Bool} {b a : Nat} (ha : ancNode t N b = some a) : a ∈ edge t N b :=
  List.mem_of_getLast? ha

theorem edge_prefix (t : Tree) (N : Nat → Bool) (b : Nat) : edge t N b <+: (t.chain b).tail :=
  takeThrough_prefix N _

theorem edge_shape (h : t.WF) {N : Nat → Bool} (h0 : N 0 = true) {b : Nat} (hb : 0 < b) :
    ∃ pre a, edge t N b = pre ++ [a] ∧ N a = true ∧ ∀ x, x ∈ pre → N x = false := by
  unfold edge
  apply takeThrough_spec
  rw [Tree.chain_tail_pos h hb]
  exact ⟨0, (Tree.upChain h).zero_mem _, h0⟩

theorem ancNode_some (h : t.WF) {N : Nat → Bool} (h0 : N 0 = true) {b : Nat} (hb : 0 < b) :
    ∃ a, ancNode t N b = some a ∧ N a = true ∧ a ∈ edge t N b := by
  obtain ⟨pre, a, e, ha, _⟩ := edge_shape h h0 hb
  exact ⟨a, by simp [ancNode, e], ha, by simp [e]⟩

theorem eq_zero_of_ancNode_none (h : t.WF) {N : Nat → Bool} (h0 : N 0 = true) {x : Nat}
    (hn : ancNode t N x = none) : x = 0 := by
  rcases Nat.eq_zero_or_pos x with hz | hz
  · exact hz
  · obtain ⟨a, ha, _⟩ := ancNode_some h h0 hz
    rw [ha] at hn; cases hn

theorem ancNode_isNode (h : t.WF) {N : Nat → Bool} (h0 : N 0 = true) {b a : Nat} (ha : ancNode t N b = some a) :
    N a = true := by
  obtain ⟨x, hx, hxN, _⟩ := ancNode_some h h0 (pos_of_mem_edge (mem_edge_of_ancNode ha))
  rw [ha] at hx; rw [Option.some.inj hx]; exact hxN

theorem node_in_edge_is_anc (h : t.WF) {N : Nat → Bool} (h0 : N 0 = true) {d x : Nat}
    (hx : x ∈ edge t N d) (hN : N x = true) : ancNode t N d = some x := by
  obtain ⟨pre, l, hsh, _, hpre⟩ := edge_shape h h0 (pos_of_mem_edge hx)
  have hxl : x = l := by
    rw [hsh] at hx
    rcases List.mem_append.1 hx with hp | hl
    · rw [hpre x hp] at hN; cases hN
    · simpa using hl
  unfold ancNode; rw [hsh, hxl]; simp

theorem edge_getElem (h : t.WF) {N : Nat → Bool} {b i x : Nat} (hx : (edge t N b)[i]? = some x) :
    (t.chain b)[i + 1]? = some x := by
  rw [← List.getElem?_tail, ← hx]
  exact (List.prefix_iff_getElem?.1 (edge_prefix t N b) i (getElem?_lt hx)).trans
    (List.getElem?_eq_getElem _).symm

theorem edge_mem_chain (h : t.WF) {N : Nat → Bool} {b x : Nat} (hx : x ∈ edge t N b) : x ∈ t.chain b := by
  obtain ⟨i, hi⟩ := List.getElem?_of_mem hx
  exact List.mem_of_getElem? (edge_getElem h hi)

theorem edge_num (h : t.WF) {N : Nat → Bool} {b i x : Nat} (hx : (edge t N b)[i]? = some x) :
    t.num x + i + 1 = t.num b := by
  have := Tree.num_getElem h (edge_getElem h hx)
  omega

theorem edge_ne_self (h : t.WF) {N : Nat → Bool} {b x : Nat} (hx : x ∈ edge t N b) : x ≠ b := by
  obtain ⟨i, hi⟩ := List.getElem?_of_mem hx
  have := edge_num h hi
  intro e; subst e; omega

theorem edge_lt (h : t.WF) {N : Nat → Bool} {b x : Nat} (hx : x ∈ edge t N b) : x < b :=
  Nat.lt_of_le_of_ne ((Tree.upChain h).mem_le (edge_mem_chain h hx)) (edge_ne_self h hx)

theorem edge_length (h : t.WF) {N : Nat → Bool} {b a : Nat} (ha : ancNode t N b = some a) :
    (edge t N b).length + t.num a = t.num b := by
  have hl : (edge t N b)[(edge t N b).length - 1]? = some a := by
    rw [← List.getLast?_eq_getElem?]; exact ha
  have := edge_num h hl
  have := getElem?_lt hl
  omega

theorem edge_num_ge (h : t.WF) {N : Nat → Bool} {d a x : Nat} (ha : ancNode t N d = some a)
    (hx : x ∈ edge t N d) : t.num a ≤ t.num x := by
  have hlen := edge_length h ha
  obtain ⟨i, hi⟩ := List.getElem?_of_mem hx
  have := edge_num h hi
  have := getElem?_lt hi
  omega

theorem edge_getElem_of_mem (h : t.WF) {N : Nat → Bool} {b x : Nat} (hx : x ∈ edge t N b) :
    (edge t N b)[t.num b - t.num x - 1]? = some x := by
  obtain ⟨i, hi⟩ := List.getElem?_of_mem hx
  have := edge_num h hi
  have : t.num b - t.num x - 1 = i := by omega
  rw [this]; exact hi

theorem mem_edge_of_between (h : t.WF) {N : Nat → Bool} {b a x : Nat} (ha : ancNode t N b = some a)
    (hx : x ∈ t.chain b) (hne : x ≠ b) (hnum : t.num a ≤ t.num x) : x ∈ edge t N b := by
  have hlen := edge_length h ha
  have n1 := Tree.num_lt_of_mem h hx hne
  obtain ⟨j, hj⟩ := List.getElem?_of_mem hx
  have nj := Tree.num_getElem h hj
  have hjl : j - 1 < (edge t N b).length := by omega
  have hc := edge_getElem h (List.getElem?_eq_getElem hjl)
  rw [show j - 1 + 1 = j by omega, hj] at hc
  rw [Option.some.inj hc]; exact List.getElem_mem hjl

theorem edge_convex (h : t.WF) {N : Nat → Bool} (h0 : N 0 = true) {d x y z : Nat} (hx : x ∈ edge t N d)
    (hz : z ∈ edge t N d) (hxy : x ∈ t.chain y) (hyz : y ∈ t.chain z) : y ∈ edge t N d := by
  obtain ⟨a, ha, _, _⟩ := ancNode_some h h0 (pos_of_mem_edge hx)
  have hzd := edge_mem_chain h hz
  have h1 := Tree.num_le_of_mem h hyz
  have h2 := Tree.num_lt_of_mem h hzd (edge_ne_self h hz)
  have h3 := edge_num_ge h ha hx
  have h4 := Tree.num_le_of_mem h hxy
  exact mem_edge_of_between h ha ((Tree.upChain h).trans hyz hzd) (fun e => by rw [e] at h1; omega) (by omega)

theorem edge_head (h : t.WF) (N : Nat → Bool) {x : Nat} (hx : 0 < x) : ∃ rest, edge t N x = t.parent x :: rest := by
  unfold edge
  rw [Tree.chain_tail_pos h hx]
  cases hc : t.chain (t.parent x) with
  | nil => exact absurd hc (t.chain_ne_nil _)
  | cons y ys =>
    have hh := Tree.chain_head t (t.parent x)
    rw [hc] at hh
    rw [← Option.some.inj hh]
    simp only [takeThrough]
    split <;> exact ⟨_, rfl⟩

theorem parent_mem_edge (h : t.WF) (N : Nat → Bool) {x : Nat} (hx : 0 < x) : t.parent x ∈ edge t N x := by
  obtain ⟨rest, e⟩ := edge_head h N hx
  rw [e]; exact List.mem_cons_self

theorem parent_mem_edge_of_mem (h : t.WF) {N : Nat → Bool} (h0 : N 0 = true) {d x : Nat}
    (hx : x ∈ edge t N d) (hN : N x = false) : t.parent x ∈ edge t N d := by
  have hxpos := pos_of_not_node h0 hN
  obtain ⟨a, ha, haN, hae⟩ := ancNode_some h h0 (pos_of_mem_edge hx)
  have hxd := edge_mem_chain h hx
  have hpd : t.parent x ∈ t.chain d := (Tree.upChain h).trans ((Tree.upChain h).parent_mem hxpos) hxd
  have hxa : x ≠ a := (ne_of_true_of_false haN hN).symm
  have hlt : t.num a < t.num x := by
    have := edge_num_ge h ha hx
    have : t.num a ≠ t.num x := fun e => hxa (Tree.chain_num_inj h hxd (edge_mem_chain h hae) e.symm)
    omega
  have hnp := Tree.num_pos h hxpos
  have hnd := Tree.num_le_of_mem h hxd
  refine mem_edge_of_between h ha hpd (fun e => ?_) (by omega)
  rw [e] at hnp; omega

theorem edge_succ (h : t.WF) {N : Nat → Bool} (h0 : N 0 = true) {d B X : Nat} (hB : B ∈ edge t N d)
    (hX : X ∈ edge t N d) (hn : t.num X = t.num B + 1) : t.parent X = B ∧ N X = false := by
  have hXpos : 0 < X := Nat.pos_of_ne_zero fun e => by rw [e, Tree.num_zero] at hn; omega
  constructor
  · have hpc := (Tree.upChain h).trans ((Tree.upChain h).parent_mem hXpos) (edge_mem_chain h hX)
    exact Tree.chain_num_inj h hpc (edge_mem_chain h hB) (by have := Tree.num_pos h hXpos; omega)
  · apply Bool.eq_false_iff.2
    intro hN
    -- a vote-node on the edge is its last block, and the numbers of the edge start there
    have := edge_num_ge h (node_in_edge_is_anc h h0 hX hN) hB
    omega

theorem node_above (h : t.WF) {N : Nat → Bool} (h0 : N 0 = true) {b a x : Nat} (ha : ancNode t N b = some a)
    (hx : x ∈ t.chain b) (hN : N x = true) (hne : x ≠ b) : x ∈ t.chain a := by
  rcases Tree.comparable h hx (edge_mem_chain h (mem_edge_of_ancNode ha)) with hxa | hax
  · exact hxa
  · -- otherwise `x` lies on the edge, and a vote-node on the edge is its last block
    have hxe := mem_edge_of_between h ha hx hne (Tree.num_le_of_mem h hax)
    have := node_in_edge_is_anc h h0 hxe hN
    rw [ha] at this
    rw [Option.some.inj this]; exact t.mem_chain_self x

theorem below_in_edge (h : t.WF) {N : Nat → Bool} (h0 : N 0 = true) {hash : Nat} (hN : N hash = false) :
    ∀ x, N x = true → hash ∈ t.chain x → ∃ y, N y = true ∧ hash ∈ edge t N y ∧ y ∈ t.chain x := by
  intro x
  induction x using Nat.strongRecOn with
  | _ x ih =>
    intro hx hm
    by_cases hx0 : x = 0
    · subst hx0
      exact absurd ((Tree.upChain h).mem_zero.1 hm).symm (ne_of_true_of_false h0 hN)
    · have hpos : 0 < x := by omega
      obtain ⟨a, ha, haN, hae⟩ := ancNode_some h h0 hpos
      have hne : hash ≠ x := (ne_of_true_of_false hx hN).symm
      by_cases hnum : t.num a ≤ t.num hash
      · exact ⟨x, hx, mem_edge_of_between h ha hm hne hnum, t.mem_chain_self x⟩
      · have hac : a ∈ t.chain x := edge_mem_chain h hae
        have hha : hash ∈ t.chain a := by
          rcases Tree.comparable h hm hac with h1 | h1
          · exact h1
          · have := Tree.num_le_of_mem h h1; omega
        obtain ⟨y, hy, hye, hya⟩ := ih a (edge_lt h hae) haN hha
        exact ⟨y, hy, hye, (Tree.upChain h).trans hya hac⟩

theorem ancestorNode_spec {N : Nat → Bool} {b : Nat} {e : Entry} (he : e.ancestors = edge t N b) :
    e.ancestorNode = ancNode t N b := by
  unfold Entry.ancestorNode ancNode
  rw [he]

theorem ancestorBlock_spec (h : t.WF) {N : Nat → Bool} {b : Nat} {e : Entry}
    (hn : e.number = t.num b) (he : e.ancestors = edge t N b) (n x : Nat) :
    e.ancestorBlock n = some x ↔ x ∈ edge t N b ∧ t.num x = n := by
  unfold Entry.ancestorBlock
  rw [hn, he]
  constructor
  · intro hx
    split at hx
    · cases hx
    · have := edge_num h hx
      exact ⟨List.mem_of_getElem? hx, by omega⟩
  · rintro ⟨hx, hnx⟩
    have hi := edge_getElem_of_mem h hx
    have := edge_num h hi
    have hlt : ¬ n ≥ t.num b := by omega
    simp only [hlt, if_false]
    rw [← hnx]; exact hi

theorem Entry.inDirectAncestry_eq_true (e : Entry) (hash n : Nat) :
    e.inDirectAncestry hash n = some true ↔ e.ancestorBlock n = some hash := by
  unfold Entry.inDirectAncestry
  cases e.ancestorBlock n <;> simp

theorem inDirectAncestry_true (h : t.WF) {N : Nat → Bool} {b : Nat} {e : Entry}
    (hn : e.number = t.num b) (he : e.ancestors = edge t N b) (hash : Nat) :
    e.inDirectAncestry hash (t.num hash) = some true ↔ hash ∈ edge t N b := by
  rw [Entry.inDirectAncestry_eq_true, ancestorBlock_spec h hn he]
  exact ⟨And.left, fun hx => ⟨hx, rfl⟩⟩

theorem inDirectAncestry_isSome (h : t.WF) {N : Nat → Bool} {b a : Nat} {e : Entry}
    (hn : e.number = t.num b) (he : e.ancestors = edge t N b) (ha : ancNode t N b = some a) (hash n : Nat) :
    (e.inDirectAncestry hash n).isSome ↔ (t.num a ≤ n ∧ n < t.num b) := by
  unfold Entry.inDirectAncestry Entry.ancestorBlock
  rw [Option.isSome_map, hn, he]
  have hlen := edge_length h ha
  split
  · simp only [Option.isSome_none, Bool.false_eq_true, false_iff]; omega
  · rw [isSome_getElem?]; omega

def addNode (N : Nat → Bool) (hash : Nat) : Nat → Bool := fun b => N b || b == hash

theorem edge_add_of_not_mem {N : Nat → Bool} {hash d : Nat} (hn : hash ∉ edge t N d) :
    edge t (addNode N hash) d = edge t N d := by
  unfold edge
  apply takeThrough_congr
  intro x hx
  have : x ≠ hash := fun e => hn (e ▸ hx)
  simp [addNode, this]

theorem edge_add_self (h : t.WF) {N : Nat → Bool} (hash : Nat) :
    edge t (addNode N hash) hash = edge t N hash :=
  edge_add_of_not_mem (fun hm => edge_ne_self h hm rfl)

theorem edge_add_of_mem (h : t.WF) {N : Nat → Bool} {hash d i : Nat} (hN : N hash = false)
    (hi : (edge t N d)[i]? = some hash) :
    edge t (addNode N hash) d = (edge t N d).take (i + 1) ∧ edge t N hash = (edge t N d).drop (i + 1) := by
  have hnd : (t.chain d).tail.Nodup := (Tree.chain_nodup h d).sublist (List.tail_sublist _)
  obtain ⟨e1, e2⟩ := takeThrough_add N hash (t.chain d).tail i hnd hi hN
  refine ⟨e1, ?_⟩
  show takeThrough N (t.chain hash).tail = (takeThrough N (t.chain d).tail).drop (i + 1)
  rw [← e2]
  congr 1
  have hc := Tree.chain_getElem h d (i + 1) hash (edge_getElem h hi)
  rw [hc]
  simp [List.tail_drop]

/-- the same cut by block numbers, as `introduceBranch` makes it -/
theorem edge_cut (h : t.WF) {N : Nat → Bool} {hash d : Nat} (hN : N hash = false) (hm : hash ∈ edge t N d) :
    edge t (addNode N hash) d = (edge t N d).take (t.num d - t.num hash) ∧
    edge t N hash = (edge t N d).drop (t.num d - t.num hash) := by
  have hi := edge_getElem_of_mem h hm
  have := edge_num h hi
  rw [show t.num d - t.num hash = t.num d - t.num hash - 1 + 1 by omega]
  exact edge_add_of_mem h hN hi

theorem ancNode_add_of_not_mem {N : Nat → Bool} {hash d : Nat} (hn : hash ∉ edge t N d) :
    ancNode t (addNode N hash) d = ancNode t N d := by
  unfold ancNode; rw [edge_add_of_not_mem hn]

theorem ancNode_eq_of_mem_edge (h : t.WF) {N : Nat → Bool} (h0 : N 0 = true) {hash d : Nat} (hN : N hash = false)
    (hm : hash ∈ edge t N d) : ancNode t N hash = ancNode t N d := by
  obtain ⟨i, hi⟩ := List.getElem?_of_mem hm
  -- `hash` is not the last block of the edge: its parent follows
  have hnl : i + 1 < (edge t N d).length := by
    obtain ⟨j, hj⟩ := List.getElem?_of_mem (parent_mem_edge_of_mem h h0 hm hN)
    have := edge_num h hi
    have := edge_num h hj
    have := Tree.num_pos h (pos_of_not_node h0 hN)
    have := getElem?_lt hj
    omega
  unfold ancNode
  rw [(edge_add_of_mem h hN hi).2, List.getLast?_drop, if_neg (by omega)]

theorem ancNode_add_of_mem (h : t.WF) {N : Nat → Bool} (h0 : N 0 = true) {hash d : Nat} (hN : N hash = false)
    (hm : hash ∈ edge t N d) :
    ancNode t (addNode N hash) d = some hash ∧ ancNode t N hash = ancNode t N d ∧
    ancNode t (addNode N hash) hash = ancNode t N d := by
  obtain ⟨i, hi⟩ := List.getElem?_of_mem hm
  have a2 := ancNode_eq_of_mem_edge h h0 hN hm
  refine ⟨?_, a2, ?_⟩
  · unfold ancNode; rw [(edge_add_of_mem h hN hi).1, getLast?_take_succ (getElem?_lt hi), hi]
  · unfold ancNode at a2 ⊢; rw [edge_add_self h]; exact a2

theorem not_mem_edge_anc (h : t.WF) {N : Nat → Bool} {b p : Nat} (hp : ancNode t N b = some p) : b ∉ edge t N p :=
  fun hm => edge_ne_self h hm
    ((Tree.upChain h).antisymm (edge_mem_chain h hm) (edge_mem_chain h (mem_edge_of_ancNode hp)))

/-! `hash`, so far no vote-node and below the vote-node `p`, becomes one: who hangs below whom afterwards -/
section
variable (h : t.WF) {N : Nat → Bool} (h0 : N 0 = true) {hash p : Nat} (hN : N hash = false)
  (hp : ancNode t N hash = some p)
include h h0 hN hp

theorem ancNode_add_eq (d : Nat) :
    ancNode t (addNode N hash) d =
      if d = hash then some p else if hash ∈ edge t N d then some hash else ancNode t N d := by
  by_cases hdh : d = hash
  · subst hdh
    rw [if_pos rfl]; unfold ancNode at hp ⊢; rw [edge_add_self h]; exact hp
  · rw [if_neg hdh]
    by_cases hm : hash ∈ edge t N d
    · rw [if_pos hm]; exact (ancNode_add_of_mem h h0 hN hm).1
    · rw [if_neg hm]; exact ancNode_add_of_not_mem hm

theorem parent_ne_new : p ≠ hash := ne_of_true_of_false (ancNode_isNode h h0 hp) hN

theorem below_new (d : Nat) :
    (addNode N hash d = true ∧ ancNode t (addNode N hash) d = some hash) ↔ (N d = true ∧ hash ∈ edge t N d) := by
  rw [ancNode_add_eq h h0 hN hp d]
  by_cases hdh : d = hash
  · have := parent_ne_new h h0 hN hp
    simp [hdh, hN, this]
  · by_cases hm : hash ∈ edge t N d
    · simp [addNode, hdh, hm]
    · simp only [if_neg hdh, hm, and_false, iff_false]
      rintro ⟨_, ha⟩
      rw [ancNode_isNode h h0 ha] at hN; cases hN

theorem below_parent (d : Nat) :
    (addNode N hash d = true ∧ ancNode t (addNode N hash) d = some p) ↔
      (d = hash ∨ (N d = true ∧ hash ∉ edge t N d ∧ ancNode t N d = some p)) := by
  rw [ancNode_add_eq h h0 hN hp d]
  by_cases hdh : d = hash
  · simp [hdh, addNode]
  · by_cases hm : hash ∈ edge t N d
    · have := (parent_ne_new h h0 hN hp).symm
      simp [addNode, hdh, hm, this]
    · simp [addNode, hdh, hm]

theorem below_other {b : Nat} (hbh : b ≠ hash) (hbp : b ≠ p) (d : Nat) :
    (addNode N hash d = true ∧ ancNode t (addNode N hash) d = some b) ↔ (N d = true ∧ ancNode t N d = some b) := by
  rw [ancNode_add_eq h h0 hN hp d]
  by_cases hdh : d = hash
  · simp [hdh, hN, hbp.symm]
  · by_cases hm : hash ∈ edge t N d
    · have : ancNode t N d ≠ some b := by
        rw [← ancNode_eq_of_mem_edge h h0 hN hm, hp]; exact fun e => hbp (Option.some.inj e).symm
      simp [addNode, hdh, hm, hbh.symm, this]
    · simp [addNode, hdh, hm]

end

end Gossamer.C20
