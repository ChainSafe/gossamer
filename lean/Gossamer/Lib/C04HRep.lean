/-
C04: the heap represents a trie.  `HRep hp t N a`: the cell `a` and everything below it is the trie `t`, whose
codec node (C07 form, real children) is `N`.  `N` is a function of `t` except for its `hashed` flags, which are
the `MustBeHashed` fields of the cells: they are set when a value is written and a later `SetVersion` leaves the
old ones, so `N` is carried beside `t` everywhere.  `depth` is the height of a trie: the fuel bound of the
model's recursions and the measure by which the write side excludes cycles (`HRep.func`: a cell represents at
most one trie, so a cell of a lower sub-trie is not the cell above it); the pure deletions do not raise it.
-/
import Gossamer.Lib.C04Stored
import Gossamer.Lib.TrieHeapTop
import Gossamer.Lib.AList
import Gossamer.Lib.TrieEnc
import Gossamer.Lib.TrieLemmas
namespace Gossamer
namespace TrieHeap
open Trie TrieCodec

theorem nibBytes_toNib (k : Nibs) : (nibBytes k).map toNib = k := by
  rw [funext toNib_eq]; exact Nibble.map_lo_nibs k

theorem nibBytes_length (k : Nibs) : (nibBytes k).length = k.length := by simp [nibBytes]

theorem nibBytes_isNib (k : Nibs) : IsNib (nibBytes k) := Nibble.nibs_lt k

/-- the clause of `HRep` for one child slot; the recursive call is the parameter `R`, so that the recursion through
    the family `cs` stays structural (`KidF` does the same for `FP`) -/
def KidH (R : Node → Nat → Prop) (t : Trie) (k : Node) : Option Nat → Prop
  | none => t = .nil ∧ k = .empty
  | some c => t ≠ .nil ∧ R k c

/-- The caches (`Dirty`, `MerkleValue`) are not read.  Sharing is allowed: two slots may point to one cell. -/
def HRep (hp : Heap) : Trie → Node → Nat → Prop
  | .nil, _, _ => False
  | .leaf pk v, N, a =>
    (hp.get a).isBranch = false ∧ (hp.get a).pk = pk ∧ (hp.get a).val = some v ∧
      (∀ i, (hp.get a).kids i = none) ∧ N = .leaf (nibBytes pk) (some v) (hp.get a).mbh
  | .branch pk v cs, N, a =>
    (hp.get a).isBranch = true ∧ (hp.get a).pk = pk ∧ (hp.get a).val = v ∧
      ∃ kn : Nib → Node, N = .branch (nibBytes pk) v (hp.get a).mbh ((List.finRange 16).map kn) ∧
        ∀ i, KidH (HRep hp (cs i)) (cs i) (kn i) ((hp.get a).kids i)

theorem HRep.real {hp : Heap} {t : Trie} {N : Node} {a : Nat} (h : HRep hp t N a) :
    (∃ p v m, N = .leaf p v m) ∨ (∃ p v m ks, N = .branch p v m ks) := by
  cases t with
  | nil => exact h.elim
  | leaf pk v => exact Or.inl ⟨_, _, _, h.2.2.2.2⟩
  | branch pk v cs =>
    obtain ⟨_, _, _, kn, hN, _⟩ := h
    exact Or.inr ⟨_, _, _, _, hN⟩

theorem HRep.ne_nil {hp : Heap} {t : Trie} {N : Node} {a : Nat} (h : HRep hp t N a) : t ≠ .nil := by
  intro e; subst e; exact h

theorem HRep.func {hp : Heap} : ∀ {t t' : Trie} {N N' : Node} {a : Nat},
    HRep hp t N a → HRep hp t' N' a → t = t' ∧ N = N'
  | .nil, _, _, _, _, h, _ => h.elim
  | _, .nil, _, _, _, _, h => h.elim
  | .leaf pk v, .leaf pk' v', N, N', a, h, h' => by
    obtain ⟨_, h2, h3, _, h5⟩ := h
    obtain ⟨_, h2', h3', _, h5'⟩ := h'
    have e1 : pk = pk' := h2.symm.trans h2'
    have e2 : v = v' := Option.some.inj (h3.symm.trans h3')
    subst e1 e2
    exact ⟨rfl, h5.trans h5'.symm⟩
  | .leaf _ _, .branch _ _ _, _, _, _, h, h' | .branch _ _ _, .leaf _ _, _, _, _, h, h' => by
    have h1 := h.1
    have h2 := h'.1
    rw [h1] at h2; cases h2
  | .branch pk v cs, .branch pk' v' cs', N, N', a, h, h' => by
    obtain ⟨_, h2, h3, kn, h4, h5⟩ := h
    obtain ⟨_, h2', h3', kn', h4', h5'⟩ := h'
    have e1 : pk = pk' := h2.symm.trans h2'
    have e2 : v = v' := h3.symm.trans h3'
    subst e1 e2
    have hkid : ∀ i, cs i = cs' i ∧ kn i = kn' i := by
      intro i
      have a1 := h5 i
      have a2 := h5' i
      cases hk : (hp.get a).kids i with
      | none => rw [hk] at a1 a2; exact ⟨a1.1.trans a2.1.symm, a1.2.trans a2.2.symm⟩
      | some c => rw [hk] at a1 a2; exact HRep.func a1.2 a2.2
    have ecs : cs = cs' := funext (fun i => (hkid i).1)
    have ekn : kn = kn' := funext (fun i => (hkid i).2)
    subst ecs ekn
    exact ⟨rfl, h4.trans h4'.symm⟩

theorem hrep_strip {hp hp' : Heap} (hs : ∀ b, (hp'.get b).strip = (hp.get b).strip) :
    ∀ (t : Trie) (N : Node) (a : Nat), HRep hp t N a → HRep hp' t N a
  | .nil, _, _, h => h
  | .leaf pk v, N, a, h => by
    obtain ⟨h1, h2, h3, h4, h5⟩ := h
    have hs := hs a
    exact ⟨by rw [strip_isBranch hs]; exact h1, by rw [strip_pk hs]; exact h2, by rw [strip_val hs]; exact h3,
      by rw [strip_kids hs]; exact h4, by rw [strip_mbh hs]; exact h5⟩
  | .branch pk v cs, N, a, h => by
    obtain ⟨h1, h2, h3, kn, h4, h5⟩ := h
    have hsa := hs a
    refine ⟨by rw [strip_isBranch hsa]; exact h1, by rw [strip_pk hsa]; exact h2, by rw [strip_val hsa]; exact h3,
      kn, by rw [strip_mbh hsa]; exact h4, fun i => ?_⟩
    rw [strip_kids hsa]
    have := h5 i
    cases hk : (hp.get a).kids i with
    | none => rw [hk] at this; exact this
    | some c => rw [hk] at this; exact ⟨this.1, hrep_strip hs (cs i) (kn i) c this.2⟩

theorem hrep_cacheOnly {hp hp' : Heap} (hc : CacheOnly hp hp') (t : Trie) (N : Node) (a : Nat) :
    HRep hp' t N a ↔ HRep hp t N a :=
  ⟨hrep_strip (fun b => (hc.cell b).symm) t N a, hrep_strip hc.cell t N a⟩

theorem kidEnc_real (H : Bytes → Bytes) {N : Node}
    (h : (∃ p v m, N = .leaf p v m) ∨ (∃ p v m ks, N = .branch p v m ks)) :
    C07.kidEnc H N = scaleEncBytes (Gossamer.merkleValue H (encode H N)) := by
  rcases h with ⟨p, v, m, rfl⟩ | ⟨p, v, m, ks, rfl⟩ <;> rfl

/-- the codec node of child `i` read back out of `N`: `Coh` does not carry the family `kn` of `HRep`
    (`kidAt_map` identifies the two) -/
def kidAt : Node → Nib → Node
  | .branch _ _ _ ks, i => (ks[i.val]?).getD .empty
  | _, _ => .empty

theorem kidAt_map (p : Bytes) (v : Option Bytes) (m : Bool) (kn : Nib → Node) (i : Nib) :
    kidAt (.branch p v m ((List.finRange 16).map kn)) i = kn i :=
  (List.getD_eq_getElem?_getD ..).symm.trans (getD_finRange_map kn i .empty)

theorem hrep_enc_leaf (H : Bytes → Bytes) {hp : Heap} {pk : Nibs} {v : Bytes} {N : Node} {a : Nat}
    (h : HRep hp (.leaf pk v) N a) : encodeHead H (hp.get a) = encode H N := by
  obtain ⟨hb, hpk, hv, _, rfl⟩ := h
  unfold encodeHead
  simp [hb, hpk, hv, TrieCodec.encode, nibBytes_length]

theorem hrep_enc_branch (H : Bytes → Bytes) {hp : Heap} {pk : Nibs} {v : Option Bytes} {cs : Nib → Trie}
    {a : Nat} {kn : Nib → Node}
    (hb : (hp.get a).isBranch = true) (hpk : (hp.get a).pk = pk) (hv : (hp.get a).val = v)
    (hk : ∀ i, KidH (HRep hp (cs i)) (cs i) (kn i) ((hp.get a).kids i)) :
    encodeHead H (hp.get a) ++
        kidsBytes (hp.get a).kids (fun i => Gossamer.merkleValue H (encode H (kn i))) =
      encode H (.branch (nibBytes pk) v (hp.get a).mbh ((List.finRange 16).map kn)) := by
  have hkid : ∀ i, (((hp.get a).kids i).isSome = (!(kn i).isEmpty)) ∧
      (if ((hp.get a).kids i).isSome then scaleEncBytes (Gossamer.merkleValue H (encode H (kn i))) else []) =
        C07.kidEnc H (kn i) := by
    intro i
    have := hk i
    cases hki : (hp.get a).kids i with
    | none => rw [hki] at this; rw [this.2]; exact ⟨rfl, rfl⟩
    | some c =>
      rw [hki] at this
      rw [kidEnc_real H this.2.real]
      rcases this.2.real with ⟨_, _, _, e⟩ | ⟨_, _, _, _, e⟩ <;> rw [e] <;> exact ⟨rfl, rfl⟩
  have hpres : presentKids (hp.get a).kids = TrieCodec.presentKids ((List.finRange 16).map kn) := by
    rw [C07.presentKids_eq_map, List.map_map]
    exact congrArg (List.map · _) (funext fun i => (hkid i).1)
  have hkb : kidsBytes (hp.get a).kids (fun i => Gossamer.merkleValue H (encode H (kn i))) =
      (List.finRange 16).flatMap (fun i => C07.kidEnc H (kn i)) := by
    unfold kidsBytes
    congr 1
    funext i
    exact (hkid i).2
  unfold encodeHead
  simp only [hb, Bool.not_true, Bool.false_eq_true, if_false, hpk, hv, TrieCodec.encode, nibBytes_length, hpres,
    hkb, C07.encodeKids_flatMap, List.flatMap_map, List.append_assoc]

theorem retrieveF_hrep : ∀ (f : Nat) (hp : Heap) (t : Trie) (N : Node) (a : Nat) (key : Nibs),
    HRep hp t N a → key.length < f → retrieveF f hp (some a) key = Trie.retrieve t key
  | 0, _, _, _, _, _, _, hf => absurd hf (Nat.not_lt_zero _)
  | f + 1, hp, .nil, _, _, _, h, _ => h.elim
  | f + 1, hp, .leaf pk v, N, a, key, h, _ => by
    obtain ⟨h1, h2, h3, _, _⟩ := h
    unfold retrieveF Trie.retrieve
    simp only [h1, Bool.not_false, if_true, h2, h3]
  | f + 1, hp, .branch pk v cs, N, a, key, h, hf => by
    obtain ⟨h1, h2, h3, kn, _, hk⟩ := h
    unfold retrieveF Trie.retrieve
    simp only [h1, Bool.not_true, Bool.false_eq_true, if_false, h2, h3]
    split
    · rfl
    · split
      · rfl
      · rcases hdk : key.drop pk.length with _ | ⟨i, rest⟩
        · rfl
        · dsimp only
          have := hk i
          cases hkid : (hp.get a).kids i with
          | none =>
            rw [hkid] at this
            rw [this.1, retrieveF]; rfl
          | some ch =>
            rw [hkid] at this
            exact retrieveF_hrep f hp (cs i) (kn i) ch rest this.2 (drop_length_lt hdk hf)

/-- partial keys of at most 65535 nibbles, values shorter than 2^30 bytes (the limits of the codec) -/
def SizeOK : Trie → Prop
  | .nil => True
  | .leaf pk v => pk.length ≤ 65535 ∧ v.length < 1073741824
  | .branch pk v cs => pk.length ≤ 65535 ∧ (∀ x, v = some x → x.length < 1073741824) ∧ ∀ i, SizeOK (cs i)

theorem hrep_wf {hp : Heap} : ∀ (t : Trie) (N : Node) (a : Nat), HRep hp t N a → SizeOK t → C07.WF N
  | .nil, _, _, h, _ => h.elim
  | .leaf pk v, N, a, h, hs => by
    obtain ⟨_, _, _, _, rfl⟩ := h
    unfold C07.WF
    exact ⟨nibBytes_isNib pk, by rw [nibBytes_length]; exact hs.1, rfl,
      fun x hx => by cases hx; exact hs.2⟩
  | .branch pk v cs, N, a, h, hs => by
    obtain ⟨_, _, _, kn, rfl, hk⟩ := h
    unfold C07.WF
    refine ⟨nibBytes_isNib pk, by rw [nibBytes_length]; exact hs.1, hs.2.1, by simp, ?_⟩
    refine (C07.wfKids_iff _).mpr (List.forall_mem_map.mpr fun i _ => ?_)
    have hki := hk i
    cases hkk : (hp.get a).kids i with
    | none => rw [hkk] at hki; rw [hki.2]; trivial
    | some x =>
      rw [hkk] at hki
      have hw := hrep_wf (cs i) (kn i) x hki.2 (hs.2.2 i)
      rcases hki.2.real with ⟨_, _, _, e⟩ | ⟨_, _, _, _, e⟩ <;> rw [e] at hw ⊢ <;> exact hw

end TrieHeap
end Gossamer
