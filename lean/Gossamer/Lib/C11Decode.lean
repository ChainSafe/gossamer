import Gossamer.Lib.C11Encode
namespace Gossamer.C11
open Gossamer Gossamer.Scale

theorem decodeUint_nil : decodeUintV [] = none := rfl

theorem decodeUintV_eq_read (bs : Bytes) : decodeUintV bs = compactRead goUintOk bs := by
  cases bs with
  | nil => rfl
  | cons b rest =>
    by_cases m0 : b.toNat % 4 = 0
    · simp [decodeUintV, compactRead, compactPayload, compactVal, goUintOk, m0, natOfLE]
    · by_cases m1 : b.toNat % 4 = 1
      · cases rest with
        | nil => simp [decodeUintV, compactRead, compactPayload, m1]
        | cons c rest' =>
          simp only [decodeUintV, compactRead, compactPayload, compactVal, goUintOk, m1, natOfLE,
            Nat.reduceEqDiff, if_false, if_true, List.length_cons, List.take_succ_cons, List.take_zero,
            List.drop_succ_cons, List.drop_zero, Nat.mul_zero, Nat.add_zero, Bool.not_eq_true',
            decide_eq_false_iff_not, ite_not]
          simp
      · by_cases m2 : b.toNat % 4 = 2
        · by_cases hl : rest.length < 3
          · simp [decodeUintV, readFull, compactRead, compactPayload, m2, hl]
          · simp only [decodeUintV, readFull, compactRead, compactPayload, compactVal, goUintOk, m2, hl,
              Nat.reduceEqDiff, if_false, if_true, Bool.not_eq_true', decide_eq_false_iff_not, ite_not]
        · have m3 : b.toNat % 4 = 3 := by omega
          by_cases h48 : b.toNat / 4 + 4 ≠ 4 ∧ b.toNat / 4 + 4 ≠ 8
          · simp only [decodeUintV, compactRead, goUintOk, m0, m1, m2, if_false, if_pos h48]
            split <;> rfl
          · by_cases hl : rest.length < b.toNat / 4 + 4
            · simp [decodeUintV, readFull, compactRead, compactPayload, m3, hl]
            · simp only [decodeUintV, readFull, compactRead, compactPayload, compactVal, goUintOk, m3,
                h48, hl, Nat.reduceEqDiff, if_false, if_true]
              split <;> simp only [Bool.not_eq_true', decide_eq_false_iff_not, ite_not]

theorem decodeUintV_spec (bs : Bytes) :
    decodeUintV bs = (compactDec bs).filter (fun p => uintOk p.1) := by
  rw [decodeUintV_eq_read, compactDec_eq_read]
  cases bs with
  | nil => rfl
  | cons b rest =>
    simp only [compactRead]
    split
    · rfl
    · rw [goUintOk_eq (by rw [List.length_take]; omega)]
      cases compactCanon b _ <;> cases h : uintOk _ <;> simp [Option.filter, h]

theorem decodeUintV_some {bs : Bytes} {n : Nat} {r : Bytes} :
    decodeUintV bs = some (n, r) ↔ compactDec bs = some (n, r) ∧ uintOk n = true := by
  rw [decodeUintV_spec, Option.filter_eq_some_iff]

theorem decodeUintV_compactEnc {n : Nat} (hok : uintOk n = true) (r : Bytes) :
    decodeUintV (compactEnc n ++ r) = some (n, r) :=
  decodeUintV_some.2 ⟨compactDec_enc n (lt_pow67_of_lt_u64 (uintOk_lt_maxSeqLen hok)) r, hok⟩

theorem decodeUintV_length_lt (bs : Bytes) (n : Nat) (r : Bytes) (h : decodeUintV bs = some (n, r)) :
    r.length < bs.length :=
  compactDec_length_lt (decodeUintV_some.1 h).1

/-- the (prefix, payload) pairs `decodeBigInt` accepts, as the Go code tests them -/
def goBigOk (b : UInt8) (p : Bytes) : Bool :=
  if b.toNat % 4 = 0 then true
  else if b.toNat % 4 = 1 then !decide (compactVal b p ≤ 63)
  else if b.toNat % 4 = 2 then !decide (compactVal b p ≤ 16383)
  else if p.getLast? = some 0 then false
  else if b.toNat / 4 + 4 = 4 ∧ compactVal b p < 1073741824 then false
  else true

theorem decBigV_eq_read (bs : Bytes) : decBigV bs = compactRead goBigOk bs := by
  cases bs with
  | nil => rfl
  | cons b rest =>
    by_cases m0 : b.toNat % 4 = 0
    · simp [decBigV, compactRead, compactPayload, compactVal, goBigOk, m0, natOfLE]
    · by_cases m1 : b.toNat % 4 = 1
      · cases rest with
        | nil => simp [decBigV, compactRead, compactPayload, m1]
        | cons c rest' =>
          simp only [decBigV, compactRead, compactPayload, compactVal, goBigOk, m1, natOfLE,
            Nat.reduceEqDiff, if_false, if_true, List.length_cons, List.take_succ_cons, List.take_zero,
            List.drop_succ_cons, List.drop_zero, Nat.mul_zero, Nat.add_zero, Bool.not_eq_true',
            decide_eq_false_iff_not, ite_not]
          simp
      · by_cases m2 : b.toNat % 4 = 2
        · by_cases hl : rest.length < 3
          · simp [decBigV, readFull, compactRead, compactPayload, m2, hl]
          · simp only [decBigV, readFull, compactRead, compactPayload, compactVal, goBigOk, m2, hl,
              Nat.reduceEqDiff, if_false, if_true, Bool.not_eq_true', decide_eq_false_iff_not, ite_not]
        · have m3 : b.toNat % 4 = 3 := by omega
          by_cases hl : rest.length < b.toNat / 4 + 4
          · simp [decBigV, readFull, compactRead, compactPayload, m3, hl]
          · simp only [decBigV, readFull, compactRead, compactPayload, compactVal, goBigOk, m3, hl,
              Nat.reduceEqDiff, if_false, if_true]
            split
            · rfl
            · split <;> rfl

theorem goBigOk_eq {b : UInt8} {p : Bytes} (hp : p.length = compactPayload b) :
    goBigOk b p = compactCanon b p := by
  rw [Bool.eq_iff_iff]
  unfold goBigOk compactCanon compactMin
  by_cases m0 : b.toNat % 4 = 0
  · simp [m0]
  · by_cases m1 : b.toNat % 4 = 1
    · simp [m1]; omega
    · by_cases m2 : b.toNat % 4 = 2
      · simp [m2]; omega
      · have m3 : b.toNat % 4 = 3 := by omega
        rw [compactPayload_big m3] at hp
        have hne : p ≠ [] := by intro e; rw [e] at hp; cases hp
        -- the top byte is non-zero exactly when the value reaches `256^(len-1)`
        have htop : p.getLast? = some 0 ↔ ¬ 256 ^ (b.toNat / 4 + 3) ≤ compactVal b p := by
          rw [List.getLast?_eq_some_getLast hne, Option.some.injEq, compactVal, if_pos m3]
          constructor
          · intro hz hle; exact getLast_ne_zero_of_le p hne (by rw [hp]; exact hle) hz
          · intro hn; apply Decidable.byContradiction; intro hz
            have := le_natOfLE_of_getLast p hne hz
            rw [hp] at this; exact hn this
        have lo : b.toNat / 4 ≠ 0 → 256 ^ 4 ≤ 256 ^ (b.toNat / 4 + 3) := fun h => pow256_mono (by omega)
        rw [pow256_4] at lo
        simp only [m3, Nat.reduceEqDiff, if_false, htop, decide_eq_true_eq, Nat.max_le]
        generalize compactVal b p = v at *
        by_cases hle : 256 ^ (b.toNat / 4 + 3) ≤ v
        · by_cases k4 : b.toNat / 4 = 0
          · simp [k4]; omega
          · have := lo k4; simp [hle, k4]; omega
        · simp [hle]

theorem decBigV_spec (bs : Bytes) : decBigV bs = compactDec bs := by
  rw [decBigV_eq_read, compactDec_eq_read]
  exact compactRead_congr (fun _ _ => goBigOk_eq) bs

theorem decBigV_length_lt (bs : Bytes) (n : Nat) (r : Bytes) (h : decBigV bs = some (n, r)) :
    r.length < bs.length :=
  compactDec_length_lt (decBigV_spec bs ▸ h)

theorem zf_eq_false (p : Prim) (bs : Bytes) (h : p.kind ≠ .bytes) : (decPA p bs).zf = false := by
  cases p <;> simp only [decPA]
  case bytes | str => exact absurd rfl h
  case compact => unfold decCompact; split <;> rfl
  case big => unfold decBig; split <;> rfl
  case bool =>
    unfold decBool
    split
    · rfl
    · split
      · rfl
      · split <;> rfl
  all_goals (unfold decFixed; split <;> rfl)

theorem decFixed_u (w : Nat) (bs : Bytes) :
    (decFixed w false bs).res = Spec.decKind (.uint w) bs := by
  unfold decFixed readFull
  by_cases hl : bs.length < w <;> simp [hl, PRes.fail, PRes.ok, Spec.decKind]

theorem goSigned_eq (w n : Nat) : goSigned w n = Spec.untwos w n := rfl

theorem decFixed_s (w : Nat) (bs : Bytes) :
    (decFixed w true bs).res = Spec.decKind (.sint w) bs := by
  unfold decFixed readFull
  by_cases hl : bs.length < w <;> simp [hl, PRes.fail, PRes.ok, Spec.decKind, goSigned_eq]

theorem decBool_spec (bs : Bytes) : (decBool bs).res = Spec.decKind .bool bs := by
  cases bs with
  | nil => rfl
  | cons b r =>
    simp only [decBool, Spec.decKind]
    split
    · rfl
    · split <;> rfl

/-- the leaves on which the Go decoder accepts what the Go encoder wrote: everything except a
    Go `uint` (or a length) in [2^32, 2^56) -/
def okLeaf : Prim → Val → Bool
  | .compact, .nat n => uintOk n
  | _, _ => true

/-- a sequence length is read by `decodeUint`, so the same test as `okLeaf .compact` -/
def okLen (n : Nat) : Bool := uintOk n

theorem okLeaf_of_ne {p : Prim} (hp : p ≠ .compact) (v : Val) : okLeaf p v = true := by
  cases p <;> first | rfl | exact absurd rfl hp

theorem decCompact_spec (bs : Bytes) :
    (decCompact bs).res = (Spec.decKind (.compact 8) bs).filter (fun x => okLeaf .compact x.1) := by
  unfold decCompact
  rw [decodeUintV_spec]
  simp only [Spec.decKind]
  cases hc : compactDec bs with
  | none => rfl
  | some q =>
    obtain ⟨n, r⟩ := q
    cases hok : uintOk n with
    | true =>
      have hlt : n < 256 ^ 8 := uintOk_lt_maxSeqLen hok
      simp [Option.filter, hok, PRes.ok, okLeaf, hlt]
    | false => by_cases hlt : n < 256 ^ 8 <;> simp [Option.filter, hok, PRes.fail, okLeaf, hlt]

theorem decBig_spec (bs : Bytes) : (decBig bs).res = Spec.decKind (.compact 67) bs := by
  unfold decBig
  rw [decBigV_spec]
  simp only [Spec.decKind]
  cases hc : compactDec bs with
  | none => rfl
  | some q => simp [PRes.ok, (compactDec_sound hc).1]

/-- the canonical byte-string decoder may read its length with `decodeUint`: the lengths that
    `decodeUint` refuses are too long for a byte string anyway -/
theorem decKind_bytes_eq (bs : Bytes) :
    Spec.decKind .bytes bs = match decodeUintV bs with
      | none => none
      | some (n, r) =>
        if n < maxBytesLen ∧ n ≤ r.length then some (.bytes (r.take n), r.drop n) else none := by
  rw [decodeUintV_spec, Spec.decKind]
  rcases compactDec bs with _ | ⟨n, r⟩
  · rfl
  · simp only [Option.filter]
    by_cases hok : uintOk n = true
    · rw [if_pos hok]
    · rw [if_neg hok, if_neg (fun h => hok ((uintOk_iff n).2 (.inl h.1)))]

theorem decBytes_spec (bs : Bytes) :
    ((decBytes bs).zf = false → (decBytes bs).res = Spec.decKind .bytes bs) ∧
    ((decBytes bs).zf = true → Spec.decKind .bytes bs = none) := by
  rw [decKind_bytes_eq, decBytes]
  rcases decodeUintV bs with _ | ⟨n, r⟩
  · exact ⟨fun _ => rfl, fun _ => rfl⟩
  · have hm : maxBytesLen = 4294967296 := rfl
    simp only [hm]
    by_cases hbig : n > 4294967295
    · rw [if_pos hbig, if_neg (by omega)]; exact ⟨fun _ => rfl, fun _ => rfl⟩
    · rw [if_neg hbig]
      by_cases hz : n = 0
      · subst hz; exact ⟨fun _ => by simp [PRes.ok], fun h => by cases h⟩
      · rw [if_neg hz]
        cases r with
        | nil => exact ⟨fun _ => by simp [PRes.fail]; omega, fun _ => by simp; omega⟩
        | cons x xs =>
          simp only [List.isEmpty_cons, Bool.false_eq_true, if_false, PRes.ok, decide_eq_false_iff_not,
            decide_eq_true_eq]
          refine ⟨fun h => ?_, fun h => by rw [if_neg (by omega)]⟩
          rw [if_pos ⟨by omega, by omega⟩, Nat.sub_eq_zero_of_le (by omega)]
          simp

theorem decBytes_some {bs : Bytes} {v : Val} {r : Bytes} (h : (decBytes bs).res = some (v, r)) :
    ∃ n r0, decodeUintV bs = some (n, r0) ∧ n ≤ 4294967295 ∧ r = r0.drop n ∧
      v = .bytes (r0.take n ++ List.replicate (min (n - r0.length) padCap) 0) ∧
      (decBytes bs).req ≤ max (decodeUintReq bs) n ∧ ((decBytes bs).zf = false → n ≤ r0.length) := by
  unfold decBytes at h ⊢
  simp only at h ⊢
  split at h
  · cases h
  · rename_i n r0 hu
    simp only [hu]
    refine ⟨n, r0, rfl, ?_⟩
    by_cases hbig : n > 4294967295
    · rw [if_pos hbig] at h; cases h
    · rw [if_neg hbig] at h ⊢
      by_cases h0 : n = 0
      · rw [if_pos h0] at h ⊢
        cases h; subst h0
        exact ⟨Nat.zero_le _, rfl, by simp, Nat.le_max_left .., fun _ => Nat.zero_le _⟩
      · rw [if_neg h0] at h ⊢
        by_cases he : r0.isEmpty = true
        · rw [if_pos he] at h; cases h
        · rw [if_neg he] at h ⊢
          cases h
          exact ⟨Nat.le_of_not_lt hbig, rfl, rfl, Nat.le_refl _, fun hz => Nat.le_of_not_lt (of_decide_eq_false hz)⟩

theorem decBytes_length_lt (bs : Bytes) (v : Val) (r : Bytes) (h : (decBytes bs).res = some (v, r)) :
    r.length < bs.length := by
  obtain ⟨n, r0, hu, _, rfl, _⟩ := decBytes_some h
  have := decodeUintV_length_lt bs n r0 hu
  rw [List.length_drop]
  omega

/-- **Every primitive**: when no short read was zero-filled, the Go primitive decoder returns what
    the canonical one returns (refusing compact values outside `uintOk`); when one was, the
    canonical decoder rejects the input. -/
theorem decPA_spec (p : Prim) (bs : Bytes) :
    ((decPA p bs).zf = false →
      (decPA p bs).res = (Spec.decKind p.kind bs).filter (fun x => okLeaf p x.1)) ∧
    ((decPA p bs).zf = true → Spec.decKind p.kind bs = none) := by
  by_cases hc : p = .compact
  · subst hc
    exact ⟨fun _ => decCompact_spec bs, fun hz => by rw [zf_eq_false _ bs (by decide)] at hz; cases hz⟩
  -- every other primitive keeps all the canonical results
  have hf : ∀ o : Option (Val × Bytes), o.filter (fun x => okLeaf p x.1) = o := fun o => by
    rcases o with _ | ⟨v, r⟩
    · rfl
    · simp only [Option.filter, okLeaf_of_ne hc, if_true]
  rw [hf]
  by_cases hk : p.kind = .bytes
  · cases p <;> first | exact decBytes_spec bs | cases hk
  · refine ⟨fun _ => ?_, fun hz => by rw [zf_eq_false p bs hk] at hz; cases hz⟩
    cases p
    case u8 | u16 | u32 | u64 | u128 => exact decFixed_u _ bs
    case i8 | i16 | i32 | i64 => exact decFixed_s _ bs
    case compact => exact absurd rfl hc
    case big => exact decBig_spec bs
    case bool => exact decBool_spec bs
    case bytes | str => exact absurd rfl hk

theorem model_rtP (p : Prim) (v : Val) (r : Bytes) (hw : wtKind p.kind v = true)
    (hq : okLeaf p v = true) : codec.decP p (codec.encP p v ++ r) = some (v, r) := by
  show (decPA p (encP p v ++ r)).res = some (v, r)
  rw [encP_canonical p v hw]
  have hs : Spec.decKind p.kind (Spec.encKind p.kind v ++ r) = some (v, r) := Spec.rt.rtP p v r hw
  have ⟨h1, h2⟩ := decPA_spec p (Spec.encKind p.kind v ++ r)
  cases hz : (decPA p (Spec.encKind p.kind v ++ r)).zf with
  | true => have := h2 hz; rw [hs] at this; cases this
  | false => rw [h1 hz, hs]; exact Option.filter_eq_some_iff.2 ⟨rfl, hq⟩

theorem model_rtLen (n : Nat) (r : Bytes) (hn : n < maxSeqLen) (hq : okLen n = true) :
    codec.decLen (codec.encLen n ++ r) = some (n, r) := by
  show decodeUintV (encodeUint n ++ r) = some (n, r)
  rw [C11_encodeUint_canonical n hn]
  exact decodeUintV_compactEnc hq r

/-- the Go round trip, where no `uint` leaf and no sequence length lies in [2^32, 2^56): the
    statement of `C11_roundtrip_partial` (Props/C11) for the library modules -/
theorem unmarshal_marshal (t : Ty) (v : Val) (r : Bytes) (h : wt t v = true)
    (hq : leavesOk okLeaf okLen t v = true) : unmarshal t (marshal t v ++ r) = some (v, r) :=
  roundtripOn codec okLeaf okLen model_rtP model_rtLen t v r h hq

/-! What a successful `Unmarshal` returned, on any input (zero-filled short reads included), survives
`Marshal` then `Unmarshal` by `unmarshal_marshal`. -/

theorem decBytes_good (bs : Bytes) (v : Val) (r : Bytes) (h : (decBytes bs).res = some (v, r)) :
    wtKind .bytes v = true := by
  obtain ⟨n, r0, _, hn, _, rfl, _⟩ := decBytes_some h
  simp only [wtKind, decide_eq_true_eq, List.length_append, List.length_take, List.length_replicate,
    maxBytesLen]
  have : (4294967296 : Nat) = 2 ^ 32 := by decide
  omega

theorem prim_good (p : Prim) (bs : Bytes) (v : Val) (r : Bytes)
    (h : codec.decP p bs = some (v, r)) : wtKind p.kind v = true ∧ okLeaf p v = true := by
  have h' : (decPA p bs).res = some (v, r) := h
  by_cases hb : p = .bytes
  · subst hb; exact ⟨decBytes_good bs v r h', rfl⟩
  · by_cases hs : p = .str
    · subst hs; exact ⟨decBytes_good bs v r h', rfl⟩
    · have hz := zf_eq_false p bs (by cases p <;> simp_all [Prim.kind])
      have e := (decPA_spec p bs).1 hz
      rw [e] at h'
      have ⟨hspec, hok⟩ := Option.filter_eq_some_iff.1 h'
      exact ⟨(Spec.snd.sndP p bs v r hspec).1, hok⟩

theorem unmarshal_good (t : Ty) (hwf : t.wf = true) (bs : Bytes) (v : Val) (r : Bytes)
    (h : unmarshal t bs = some (v, r)) :
    wt t v = true ∧ leavesOk okLeaf okLen t v = true :=
  decode_wt codec okLeaf okLen prim_good
    (fun _ _ _ hl => have hok := (decodeUintV_some.1 hl).2; ⟨uintOk_lt_maxSeqLen hok, hok⟩) t hwf bs v r h

/-! The decode side of the body stream (Lib/C11Encode, at its end): an empty input is no body, and a
body that decodes to no extrinsic began with the byte zero. -/

theorem unmarshal_seq_nil (t : Ty) : unmarshal (.seq t) [] = none := rfl

theorem decodeUintV_zero (b : UInt8) (rest r : Bytes) (h : decodeUintV (b :: rest) = some (0, r)) :
    b = 0 := by
  have hs := (compactDec_sound (decodeUintV_some.1 h).1).2
  have : compactEnc 0 = [0] := by decide
  rw [this] at hs
  simp only [List.cons_append, List.nil_append, List.cons.injEq] at hs
  exact hs.1

end Gossamer.C11
