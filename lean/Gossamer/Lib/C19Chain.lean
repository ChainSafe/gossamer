/-
C19: the ancestry relation of `Gossamer.C19.Chain` (`pathTo` / `desc`).
`Up c b a` : `a` is reached from `b` by following parent steps (a is `b` or an ancestor of it).
`Path c base b path` : `path` lists the blocks from `b` up to `base` (exclusive); `pathAux` computes it.
Not an instance of Lib/UpChain: a parent step needs the header of the block (`b ∈ c.has`), so there is no parent FUNCTION.
-/
import Gossamer.Model.C19
namespace Gossamer.C19

theorem step_some {c : Chain} {b p : Nat} (h : c.step b = some p) :
    b < c.par.length ∧ (p < b ∨ p = c.par.length) := by
  unfold Chain.step at h
  by_cases hb : b < c.par.length ∧ b ∈ c.has
  · rw [if_pos hb] at h
    refine ⟨hb.1, ?_⟩
    rw [← Option.some.inj h]
    by_cases hp : c.par.getD b b < b
    · exact Or.inl (by rw [if_pos hp]; exact hp)
    · exact Or.inr (if_neg hp)
  · rw [if_neg hb] at h; cases h

theorem step_sentinel (c : Chain) {b : Nat} (h : c.par.length ≤ b) : c.step b = none :=
  if_neg fun hb => Nat.not_lt.2 h hb.1

/-- the number of parent steps available from `b` is at most this -/
def upBound (c : Chain) (b : Nat) : Nat := if b < c.par.length then b + 1 else 0

theorem upBound_step {c : Chain} {b p : Nat} (h : c.step b = some p) : upBound c p < upBound c b := by
  have := step_some h
  unfold upBound
  split <;> split <;> omega

theorem step_ne {c : Chain} {b p : Nat} (h : c.step b = some p) : b ≠ p :=
  fun e => Nat.lt_irrefl _ (e ▸ upBound_step h)

theorem upBound_le (c : Chain) (b : Nat) : upBound c b ≤ c.par.length + 1 := by
  unfold upBound; split <;> omega

inductive Up (c : Chain) : Nat → Nat → Prop
  | refl (b : Nat) : Up c b b
  | step {b p a : Nat} : c.step b = some p → Up c p a → Up c b a

theorem Up.trans {c : Chain} {b a a' : Nat} (h1 : Up c b a) (h2 : Up c a a') : Up c b a' := by
  induction h1 with
  | refl => exact h2
  | step hs _ ih => exact Up.step hs (ih h2)

theorem Up.total {c : Chain} {v y z : Nat} (h1 : Up c v y) (h2 : Up c v z) : Up c y z ∨ Up c z y := by
  induction h1 with
  | refl => exact Or.inl h2
  | step hs h1' ih =>
    cases h2 with
    | refl => exact Or.inr (Up.step hs h1')
    | step hs' h2' =>
      cases hs.symm.trans hs'
      exact ih h2'

theorem Up.lt {c : Chain} {b a : Nat} (h : Up c b a) : a = b ∨ upBound c a < upBound c b := by
  induction h with
  | refl => exact Or.inl rfl
  | step hs _ ih => exact Or.inr (ih.elim (· ▸ upBound_step hs) fun h => Nat.lt_trans h (upBound_step hs))

theorem Up.antisymm {c : Chain} {a b : Nat} (h1 : Up c a b) (h2 : Up c b a) : a = b :=
  h2.lt.elim id fun l2 => h1.lt.elim Eq.symm fun l1 => absurd (Nat.lt_trans l1 l2) (Nat.lt_irrefl _)

theorem Up.child {c : Chain} {t cur : Nat} (h : Up c t cur) (hne : cur ≠ t) :
    ∃ x, c.step x = some cur ∧ Up c t x := by
  induction h with
  | refl => exact absurd rfl hne
  | @step b p a hs hu ih =>
    by_cases hp : a = p
    · exact ⟨b, hp ▸ hs, Up.refl _⟩
    · obtain ⟨x, hx, hux⟩ := ih hp
      exact ⟨x, hx, Up.step hs hux⟩

inductive Path (c : Chain) (base : Nat) : Nat → List Nat → Prop
  | nil : Path c base base []
  | cons {cur p : Nat} {q : List Nat} : cur ≠ base → c.step cur = some p → Path c base p q →
      Path c base cur (cur :: q)

theorem pathAux_path {c : Chain} {base : Nat} : ∀ (f cur : Nat) (path : List Nat),
    pathAux c base f cur = some path → Path c base cur path := by
  intro f
  induction f with
  | zero =>
    intro cur path h
    rw [pathAux] at h
    by_cases hb : cur = base
    · rw [if_pos hb] at h; cases h; exact hb ▸ .nil
    · rw [if_neg hb] at h; cases h
  | succ f ih =>
    intro cur path h
    rw [pathAux] at h
    by_cases hb : cur = base
    · rw [if_pos hb] at h; cases h; exact hb ▸ .nil
    rw [if_neg hb] at h
    cases hs : c.step cur with
    | none => rw [hs] at h; cases h
    | some p =>
      simp only [hs] at h
      cases hq : pathAux c base f p with
      | none => rw [hq] at h; cases h
      | some q =>
        rw [hq] at h; cases h
        exact .cons hb hs (ih p q hq)

theorem Path.length_le {c : Chain} {base cur : Nat} {path : List Nat} (h : Path c base cur path) :
    path.length ≤ upBound c cur := by
  induction h with
  | nil => exact Nat.zero_le _
  | cons _ hs _ ih => exact Nat.lt_of_le_of_lt ih (upBound_step hs)

theorem Path.pathAux {c : Chain} {base cur : Nat} {path : List Nat} (h : Path c base cur path) :
    ∀ f, upBound c cur ≤ f → pathAux c base f cur = some path := by
  induction h with
  | nil => intro f _; cases f <;> simp [C19.pathAux]
  | cons hb hs _ ih =>
    intro f hf
    have := upBound_step hs
    obtain ⟨f, rfl⟩ : ∃ f', f = f' + 1 := ⟨f - 1, by omega⟩
    rw [C19.pathAux, if_neg hb, hs]
    simp only [ih f (by omega), Option.map_some]

theorem Path.up {c : Chain} {base cur : Nat} {path : List Nat} (h : Path c base cur path) : Up c cur base := by
  induction h with
  | nil => exact Up.refl _
  | cons _ hs _ ih => exact Up.step hs ih

theorem Up.path {c : Chain} {base cur : Nat} (h : Up c cur base) : ∃ path, Path c base cur path := by
  induction h with
  | refl => exact ⟨[], .nil⟩
  | @step b p a hs _ ih =>
    by_cases hb : b = a
    · exact ⟨[], hb ▸ .nil⟩
    · exact ih.elim fun q hq => ⟨b :: q, .cons hb hs hq⟩

theorem pathAux_fuel {c : Chain} {base : Nat} : ∀ (f g cur : Nat), upBound c cur ≤ f → upBound c cur ≤ g →
    pathAux c base f cur = pathAux c base g cur := by
  intro f g cur hf hg
  cases h1 : pathAux c base f cur with
  | some p => exact ((pathAux_path f cur p h1).pathAux g hg).symm
  | none =>
    cases h2 : pathAux c base g cur with
    | none => rfl
    | some p => exact h1.symm.trans ((pathAux_path g cur p h2).pathAux f hf)

theorem pathTo_iff {c : Chain} {base blk : Nat} {path : List Nat} :
    pathTo c base blk = some path ↔ Path c base blk path :=
  ⟨pathAux_path _ _ _, fun h => h.pathAux _ (upBound_le c blk)⟩

theorem pathTo_self (c : Chain) (b : Nat) : pathTo c b b = some [] := pathTo_iff.2 .nil

theorem desc_iff {c : Chain} {base blk : Nat} : desc c base blk = true ↔ Up c blk base := by
  rw [desc, Option.isSome_iff_exists]
  exact ⟨fun ⟨_, hp⟩ => (pathTo_iff.1 hp).up, fun h => h.path.imp fun _ => pathTo_iff.2⟩

theorem desc_refl (c : Chain) (b : Nat) : desc c b b = true := desc_iff.2 (Up.refl b)

theorem desc_trans {c : Chain} {a b d : Nat} (h1 : desc c a b = true) (h2 : desc c b d = true) :
    desc c a d = true := desc_iff.2 ((desc_iff.1 h2).trans (desc_iff.1 h1))

theorem desc_total {c : Chain} {y z v : Nat} (h1 : desc c y v = true) (h2 : desc c z v = true) :
    desc c y z = true ∨ desc c z y = true :=
  ((desc_iff.1 h1).total (desc_iff.1 h2)).symm.imp desc_iff.2 desc_iff.2

theorem desc_antisymm {c : Chain} {a b : Nat} (h1 : desc c a b = true) (h2 : desc c b a = true) : a = b :=
  (desc_iff.1 h2).antisymm (desc_iff.1 h1)

theorem Path.mem {c : Chain} {base cur : Nat} {path : List Nat} (h : Path c base cur path) :
    ∀ x, x ∈ path → Up c cur x ∧ Up c x base ∧ x ≠ base := by
  induction h with
  | nil => exact nofun
  | cons hb hs hq ih =>
    intro x hm
    rcases List.mem_cons.1 hm with rfl | hm
    · exact ⟨Up.refl _, Up.step hs hq.up, hb⟩
    · exact ⟨Up.step hs (ih x hm).1, (ih x hm).2⟩

theorem pathAux_mem {c : Chain} {base : Nat} : ∀ (f cur : Nat) (path : List Nat),
    pathAux c base f cur = some path → ∀ h, h ∈ path → Up c cur h ∧ Up c h base ∧ h ≠ base :=
  fun f cur path hp => (pathAux_path f cur path hp).mem

theorem Path.last {c : Chain} {base cur x : Nat} {path : List Nat} (h : Path c base cur path)
    (hl : path.getLast? = some x) : c.step x = some base ∧ Up c cur x := by
  induction h with
  | nil => cases hl
  | cons _ hs hq ih =>
    cases hq with
    | nil => cases hl; exact ⟨hs, Up.refl _⟩
    | cons hb' hs' hq' =>
      rw [List.getLast?_cons_cons] at hl
      exact ⟨(ih hl).1, Up.step hs (ih hl).2⟩

theorem dist_le (c : Chain) (base b : Nat) : dist c base b ≤ c.par.length + 1 := by
  unfold dist
  cases hp : pathTo c base b with
  | none => exact Nat.zero_le _
  | some p => exact Nat.le_trans (pathTo_iff.1 hp).length_le (upBound_le c b)

theorem Up.path_via {c : Chain} {cur x t : Nat} (hs : c.step x = some cur) (hu : Up c t x) :
    ∃ q, Path c cur t q ∧ q.getLast? = some x := by
  have hne := step_ne hs
  induction hu with
  | refl => exact ⟨_, .cons hne hs .nil, rfl⟩
  | @step b p a hst hu' ih =>
    obtain ⟨q, hq, hl⟩ := ih hs hne
    -- `b = cur` would be above `a` and reached from it
    have hbne : b ≠ cur := fun e =>
      hne ((e ▸ Up.step hst hu' : Up c cur a).antisymm (Up.step hs (Up.refl _))).symm
    refine ⟨b :: q, .cons hbne hst hq, ?_⟩
    cases hq with
    | nil => cases hl
    | cons _ _ _ => rwa [List.getLast?_cons_cons]

theorem childToward_iff {c : Chain} {cur t x : Nat} :
    childToward c cur t = some x ↔ c.step x = some cur ∧ desc c x t = true := by
  unfold childToward
  constructor
  · intro h
    cases hp : pathTo c cur t with
    | none => rw [hp] at h; cases h
    | some p => rw [hp] at h; exact ((pathTo_iff.1 hp).last h).imp_right desc_iff.2
  · intro ⟨hs, hd⟩
    obtain ⟨q, hq, hl⟩ := (desc_iff.1 hd).path_via hs
    rw [pathTo_iff.2 hq]
    exact hl

theorem sibling_eq {c : Chain} {cur x z : Nat} (hx : c.step x = some cur) (hz : c.step z = some cur)
    (h : desc c x z = true ∨ desc c z x = true) : z = x := by
  have aux : ∀ {x z}, c.step x = some cur → c.step z = some cur → desc c x z = true → z = x := by
    intro x z hx hz h
    cases desc_iff.1 h with
    | refl => rfl
    | step hs hu =>
      -- otherwise `cur`, the parent of `z`, lies below its child `x`
      cases hz.symm.trans hs
      exact absurd ((Up.step hx (Up.refl _)).antisymm hu) (step_ne hx)
  exact h.elim (aux hx hz) fun h => (aux hz hx h).symm

theorem pathTo_nil {c : Chain} {base blk : Nat} (h : pathTo c base blk = some []) : blk = base := by
  cases pathTo_iff.1 h
  rfl

end Gossamer.C19
