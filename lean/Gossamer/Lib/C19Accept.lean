/-
C19: from the model's verdict to the specification.  `ValidateCommit` and `verifyWithVoterSet` answer by answer, in the
model's own terms (`validateCommit_valid_iff`, `accept_iff`); the bridges to Lib/C19Spec: `members_eq`, `weightOn_spec`,
`threshold_spec`, where the GHOST walk ends under the fault assumption (`ghost_iff`), the header checks (`headers_ok`);
and the independence of the width of block numbers.
-/
import Gossamer.Lib.C19Spec
import Gossamer.Lib.C19Chain
import Gossamer.Lib.C19Verify
import Gossamer.Lib.C19Complete
namespace Gossamer.C19

theorem members_eq {ws : List IdW} {vs : VoterSet} (h : newVoterSet ws = some vs) (pcs : List Pre) :
    pcs.filter (fun p => vs.contains p.id) = membersOf ws pcs := by
  unfold membersOf
  apply List.filter_congr
  intro p _
  rw [Bool.eq_iff_iff, contains_iff h]
  simp

theorem weightOn_spec {ws : List IdW} {vs : VoterSet} (h : newVoterSet ws = some vs) (c : Chain)
    (vp : List Pre) (b : Nat) :
    weightOn vs c (trackAll vp) b = specWeight ws c vp b := by
  rw [weightOn_eq, wsum_congr (fun id => bit_eq_supports (trInv_all vp) c id b)]
  exact (newVoterSet_spec h).wsum _

theorem threshold_spec {ws : List IdW} {vs : VoterSet} (h : newVoterSet ws = some vs) :
    vs.threshold = specThreshold ws := (newVoterSet_spec h).threshold

/-- the early return of the import loop never happens (`ImpInv.run`) -/
theorem validateCommit_valid_iff {pick : List Nat → Nat} {w : Nat} {vs : VoterSet} {c : Chain} {tBlk tNum : Nat}
    {pcs vp : List Pre} (hvp : pcs.filter (fun p => vs.contains p.id) = vp) :
    (validateCommit pick w vs c tBlk tNum pcs).valid = true ↔
    ∃ base, minPre vp = some base ∧ (∀ p ∈ vp, desc c base.blk p.blk = true) ∧
      vs.threshold ≤ (vp.foldl (importStep vs) Imp.init).curW ∧
      vs.threshold ≤ weightOn vs c (trackAll vp) base.blk ∧
      walk pick vs c (trackAll vp) (c.par.length + 1) base.blk = tBlk ∧
      (base.num + dist c base.blk tBlk) % 2 ^ w = tNum := by
  have hstop := (import_init vs vp).run
  have htr := (import_init vs vp).tr
  unfold validateCommit
  dsimp only
  rw [hvp]
  cases hm : minPre vp with
  | none => exact ⟨nofun, fun ⟨_, h, _⟩ => nomatch h⟩
  | some base =>
    simp only [Option.some.injEq, exists_eq_left']
    by_cases hall : (vp.all fun p => desc c base.blk p.blk) = true
    · rw [if_neg (by rw [hall]; decide), if_neg (by rw [hstop]; decide), ghostIsTarget, htr]
      by_cases hc : vs.threshold ≤ (vp.foldl (importStep vs) Imp.init).curW ∧
          vs.threshold ≤ weightOn vs c (trackAll vp) base.blk
      · simp only [if_pos hc, Bool.and_eq_true, beq_iff_eq]
        exact ⟨fun ⟨h1, h2⟩ => ⟨List.all_eq_true.1 hall, hc.1, hc.2, h1, h1 ▸ h2⟩,
          fun ⟨_, _, _, h1, h2⟩ => ⟨h1, h1 ▸ h2⟩⟩
      · rw [if_neg hc]
        exact ⟨nofun, fun h => absurd ⟨h.2.1, h.2.2.1⟩ hc⟩
    · rw [if_pos (by simpa using hall)]
      exact ⟨nofun, fun h => absurd (List.all_eq_true.2 h.1) hall⟩

theorem accept_iff {pick : List Nat → Nat} {w : Nat} {vs : VoterSet} {c : Chain} {tBlk tNum : Nat}
    {pcs : List Pre} :
    accept pick w vs c tBlk tNum pcs = true ↔ (validateCommit pick w vs c tBlk tNum pcs).valid = true ∧
    ∃ mp vis, lastMin none pcs = some mp ∧ visitLoop c mp.blk pcs [] = .ok vis ∧
      sameSet vis c.has = true := by
  unfold accept verifyWithVoterSet
  by_cases hv : (validateCommit pick w vs c tBlk tNum pcs).valid = true
  · rw [if_neg (by rw [hv]; decide)]
    refine Iff.trans ?_ (and_iff_right hv).symm
    cases lastMin none pcs with
    | none => exact ⟨nofun, fun ⟨_, _, h, _⟩ => nomatch h⟩
    | some mp =>
      simp only [Option.some.injEq, exists_and_left, exists_eq_left']
      cases hvl : visitLoop c mp.blk pcs [] with
      | error e =>
        refine ⟨fun h => ?_, fun ⟨_, h, _⟩ => nomatch h⟩
        rcases visitLoop_error _ _ _ _ _ hvl with rfl | rfl <;> cases h
      | ok vis =>
        simp only [Except.ok.injEq, exists_eq_left']
        by_cases hss : sameSet vis c.has = true
        · rw [if_pos hss]; exact ⟨fun _ => hss, fun _ => rfl⟩
        · rw [if_neg hss]; exact ⟨nofun, fun h => absurd h hss⟩
  · rw [if_pos (by simpa using hv)]
    exact ⟨nofun, fun h => absurd h.1 hv⟩

/-- the width of block numbers matters only through the number of the GHOST block, which is at most the base's
    number plus the length of the chain -/
theorem ghostIsTarget_width (pick : List Nat → Nat) {w w' : Nat} (vs : VoterSet) (c : Chain) (s : Imp) (base : Pre)
    (tBlk tNum : Nat) (hb : base.num + c.par.length + 1 < 2 ^ w) (hb' : base.num + c.par.length + 1 < 2 ^ w') :
    ghostIsTarget pick w vs c s base tBlk tNum = ghostIsTarget pick w' vs c s base tBlk tNum := by
  unfold ghostIsTarget
  dsimp only
  generalize walk pick vs c s.tr (c.par.length + 1) base.blk = g
  have hd : base.num + dist c base.blk g ≤ base.num + c.par.length + 1 := by have := dist_le c base.blk g; omega
  rw [Nat.mod_eq_of_lt (Nat.lt_of_le_of_lt hd hb), Nat.mod_eq_of_lt (Nat.lt_of_le_of_lt hd hb')]

theorem validateCommit_width (pick : List Nat → Nat) {w w' : Nat} (vs : VoterSet) (c : Chain) (tBlk tNum : Nat)
    (pcs : List Pre) (hb : ∀ p ∈ pcs, p.num + c.par.length + 1 < 2 ^ w)
    (hb' : ∀ p ∈ pcs, p.num + c.par.length + 1 < 2 ^ w') :
    validateCommit pick w vs c tBlk tNum pcs = validateCommit pick w' vs c tBlk tNum pcs := by
  unfold validateCommit
  simp only
  cases hm : minPre (pcs.filter (fun p => vs.contains p.id)) with
  | none => rfl
  | some base =>
    have hmem := (List.mem_filter.1 (minPre_spec _ _ hm).1).1
    simp only [ghostIsTarget_width pick vs c _ base tBlk tNum (hb base hmem) (hb' base hmem)]

theorem supports_mono {c : Chain} {vp : List Pre} {id a b : Nat} (hd : desc c a b = true)
    (h : supportsB c vp id b = true) : supportsB c vp id a = true := by
  rw [supportsB_iff] at h ⊢
  rcases h with h | ⟨p, hp, hid, hdp⟩
  · exact Or.inl h
  · exact Or.inr ⟨p, hp, hid, desc_trans hd hdp⟩

theorem specWeight_mono (ws : List IdW) {c : Chain} (vp : List Pre) {a b : Nat} (hd : desc c a b = true) :
    specWeight ws c vp b ≤ specWeight ws c vp a :=
  wsum_mono (fun _ h => supports_mono hd h) ws

theorem supports_comparable {c : Chain} {vp : List Pre} {id y z : Nat}
    (hy : supportsB c vp id y = true) (hz : supportsB c vp id z = true) :
    equivB vp id = true ∨ desc c y z = true ∨ desc c z y = true := by
  rw [supportsB_iff] at hy hz
  rcases hy with hy | ⟨p, hp, hpid, hdp⟩
  · exact Or.inl hy
  rcases hz with hz | ⟨q, hq, hqid, hdq⟩
  · exact Or.inl hz
  cases hs : sameVS p q with
  | false => exact Or.inl ((equivB_iff vp id).2 ⟨p, hp, q, hq, hpid, hqid, hs⟩)
  | true => exact Or.inr (desc_total hdp (sameVS_blk hs ▸ hdq))

theorem super_comparable {ws : List IdW} {c : Chain} {vp : List Pre} (hpos : 0 < rawTotal ws)
    (htol : equivWeight ws vp ≤ rawTotal ws - specThreshold ws) {y z : Nat}
    (hy : specThreshold ws ≤ specWeight ws c vp y) (hz : specThreshold ws ≤ specWeight ws c vp z) :
    desc c y z = true ∨ desc c z y = true := by
  have ⟨_, _, hy', hz', he⟩ := WSum.meet_of_super (wsum_tol hpos htol) (wsum_super hpos hy) (wsum_super hpos hz)
  exact (supports_comparable hy' hz').resolve_left fun h => Bool.false_ne_true (he ▸ h)

theorem mem_condChildren_spec {ws : List IdW} {vs : VoterSet} (hvs : newVoterSet ws = some vs) {c : Chain}
    {pcs : List Pre} {cur x : Nat} (h : x ∈ condChildren vs c (trackAll (membersOf ws pcs)) cur) :
    c.step x = some cur ∧ (∃ p ∈ membersOf ws pcs, desc c x p.blk = true) ∧
      specThreshold ws ≤ specWeight ws c (membersOf ws pcs) x := by
  obtain ⟨hsx, ⟨t, ht, hdx⟩, hw⟩ := mem_condChildren.1 h
  rw [weightOn_spec hvs, threshold_spec hvs] at hw
  exact ⟨hsx, ⟨t.first, (trInv_all _).mem_first t ht, hdx⟩, hw⟩

/-- the fault assumption is needed: the model's children come from FIRST votes; a supporter that does not equivocate
    has its only vote there, below the child -/
theorem condChildren_of_super {ws : List IdW} {vs : VoterSet} (hvs : newVoterSet ws = some vs) {c : Chain}
    {pcs : List Pre} (htol : Tolerant ws pcs) {cur x : Nat} (hsx : c.step x = some cur)
    (hwx : specThreshold ws ≤ specWeight ws c (membersOf ws pcs) x) :
    x ∈ condChildren vs c (trackAll (membersOf ws pcs)) cur := by
  have hpos := (newVoterSet_spec hvs).pos
  obtain ⟨_, _, hsup, hneq⟩ := WSum.exists_of_super (wsum_tol hpos htol) (wsum_super hpos hwx)
  obtain ⟨t, ht, hdt⟩ := (trInv_all _).tracked_below hsup hneq
  rw [mem_condChildren, weightOn_spec hvs, threshold_spec hvs]
  exact ⟨hsx, ⟨t, ht, hdt⟩, hwx⟩

theorem ghost_iff {pick : List Nat → Nat} (hp : LegalPick pick) {ws : List IdW} {vs : VoterSet}
    (hvs : newVoterSet ws = some vs) {c : Chain} {pcs : List Pre} (htol : Tolerant ws pcs) {base t : Nat}
    (hB : specThreshold ws ≤ specWeight ws c (membersOf ws pcs) base) :
    walk pick vs c (trackAll (membersOf ws pcs)) (c.par.length + 1) base = t ↔
      Up c t base ∧ specThreshold ws ≤ specWeight ws c (membersOf ws pcs) t ∧
      ∀ x, c.step x = some t → (∃ p ∈ membersOf ws pcs, desc c x p.blk = true) →
        specWeight ws c (membersOf ws pcs) x < specThreshold ws := by
  have R := ghost_run (vs := vs) (c := c) (tr := trackAll (membersOf ws pcs)) hp base
  constructor
  · intro h
    rw [h] at R
    obtain ⟨hd, hw, _⟩ := R.spec hp
    rw [weightOn_spec hvs, weightOn_spec hvs, threshold_spec hvs] at hw
    refine ⟨desc_iff.1 hd, hw hB, fun x hsx _ => Nat.lt_of_not_le fun hwx => ?_⟩
    -- the run stopped at `t`: no child qualifies, and `x` would
    exact R.terminal x (condChildren_of_super hvs htol hsx hwx)
  · intro ⟨hu, hwt, hgh⟩
    refine R.reach hp (fun x hx => ?_) (fun cur x hux hsx => ?_) hu
    · obtain ⟨hsx, hv, hwx⟩ := mem_condChildren_spec hvs hx
      exact Nat.lt_irrefl _ (Nat.lt_of_lt_of_le (hgh x hsx hv) hwx)
    · -- on the way to `t` the child towards `t` carries the weight of `t`; a second one would split a supermajority
      have hwx := Nat.le_trans hwt (specWeight_mono ws _ (desc_iff.2 hux))
      refine ⟨condChildren_of_super hvs htol hsx hwx, fun z hz => ?_⟩
      obtain ⟨hsz, _, hwz⟩ := mem_condChildren_spec hvs hz
      exact sibling_eq hsx hsz (super_comparable (newVoterSet_spec hvs).pos htol hwx hwz)

theorem Mono.blk_eq {c : Chain} {pcs : List Pre} (hmono : Mono c pcs) {p q : Pre} (hp : p ∈ pcs) (hq : q ∈ pcs)
    (hd : desc c p.blk q.blk = true) (hle : q.num ≤ p.num) : q.blk = p.blk :=
  Decidable.byContradiction fun hne => Nat.not_lt.2 hle (hmono p hp q hq hd fun e => hne e.symm)

/-- with tree-consistent numbers the (last) lowest precommit, `minPrecommit`'s, names the block of every lowest
    precommit, so the routes and the header set are the specification's -/
theorem headers_ok {w : Nat} {ws : List IdW} {c : Chain} {tBlk tNum : Nat} {pcs : List Pre} (hmono : Mono c pcs)
    (hv : ValidCore w ws c tBlk tNum pcs) :
    ∃ mp vis, lastMin none pcs = some mp ∧ visitLoop c mp.blk pcs [] = .ok vis ∧ sameSet vis c.has = true := by
  obtain ⟨lo, hlomem, hlomin, hlopath, hloset⟩ := hv.ancestry
  obtain ⟨mp, hlm⟩ : ∃ mp, lastMin none pcs = some mp := by
    cases pcs with
    | nil => cases hlomem
    | cons p ps => exact lastMin_isSome ps p
  obtain ⟨hmpmem, hmpmin⟩ := lastMin_none_spec hlm
  have hmpblk : mp.blk = lo.blk :=
    hmono.blk_eq hlomem hmpmem (Option.isSome_iff_exists.2 (hlopath mp hmpmem)) (hmpmin lo hlomem)
  obtain ⟨vis, hvl⟩ := visitLoop_ok c mp.blk pcs []
    (fun p hpm => ⟨hv.sigs p hpm, by rw [hmpblk]; exact hlopath p hpm⟩)
  obtain ⟨_, v2⟩ := visitLoop_spec c mp.blk pcs [] vis hvl
  have hss : sameSet vis c.has = true := by
    rw [sameSet_iff]
    intro h
    rw [v2 h, hloset h, hmpblk]
    simp
  exact ⟨mp, vis, hlm, hvl, hss⟩

end Gossamer.C19
