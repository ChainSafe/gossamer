/-
C19: the specification depends on the precommits through membership only (`valid_congr`, `tolerant_congr`, `mono_congr`),
and the two extreme resolutions of the vote graph's child order bracket every resolution (`walk_toward`, `walk_away`,
`accept_of_walk`).
-/
import Gossamer.Lib.C19Accept
namespace Gossamer.C19

theorem members_congr {ws : List IdW} {pcs pcs' : List Pre} (h : ∀ p, p ∈ pcs ↔ p ∈ pcs') (p : Pre) :
    p ∈ membersOf ws pcs ↔ p ∈ membersOf ws pcs' := by
  unfold membersOf
  simp only [List.mem_filter, h p]

theorem supportsB_congr {c : Chain} {vp vp' : List Pre} (h : ∀ p, p ∈ vp ↔ p ∈ vp') (id b : Nat) :
    supportsB c vp id b = supportsB c vp' id b := by
  rw [Bool.eq_iff_iff, supportsB_iff, supportsB_iff, equivB_iff, equivB_iff]
  simp only [h]

theorem equivB_congr {vp vp' : List Pre} (h : ∀ p, p ∈ vp ↔ p ∈ vp') (id : Nat) :
    equivB vp id = equivB vp' id := by
  rw [Bool.eq_iff_iff, equivB_iff, equivB_iff]
  simp only [h]

theorem specWeight_congr (ws : List IdW) (c : Chain) {vp vp' : List Pre} (h : ∀ p, p ∈ vp ↔ p ∈ vp') (b : Nat) :
    specWeight ws c vp b = specWeight ws c vp' b :=
  wsum_congr (fun id => supportsB_congr h id b) ws

theorem valid_congr {w : Nat} {ws : List IdW} {c : Chain} {tBlk tNum : Nat} {pcs pcs' : List Pre}
    (h : ∀ p, p ∈ pcs ↔ p ∈ pcs') (hv : Valid w ws c tBlk tNum pcs) : Valid w ws c tBlk tNum pcs' := by
  have hm := members_congr (ws := ws) h
  obtain ⟨⟨hpos, hlt, ⟨b, hbmem, hball, hbT, hbnum⟩, ⟨pv, hpv, hdv⟩, hsuper, hsigs,
    ⟨lo, hlomem, hlomin, hlopath, hloset⟩⟩, hghost⟩ := hv
  refine ⟨⟨hpos, hlt, ⟨b, (hm b).1 hbmem, fun p hp => hball p ((hm p).2 hp), hbT, hbnum⟩,
    ⟨pv, (hm pv).1 hpv, hdv⟩, ?_, fun p hp => hsigs p ((h p).2 hp),
    ⟨lo, (h lo).1 hlomem, fun p hp => hlomin p ((h p).2 hp), fun p hp => hlopath p ((h p).2 hp), ?_⟩⟩, ?_⟩
  · rw [← specWeight_congr ws c hm]; exact hsuper
  · intro hh
    rw [hloset hh]
    simp only [h]
  · intro x hx ⟨p, hp, hd⟩
    rw [← specWeight_congr ws c hm]
    exact hghost x hx ⟨p, (hm p).2 hp, hd⟩

theorem tolerant_congr {ws : List IdW} {pcs pcs' : List Pre} (h : ∀ p, p ∈ pcs ↔ p ∈ pcs')
    (ht : Tolerant ws pcs) : Tolerant ws pcs' := by
  unfold Tolerant equivWeight at ht ⊢
  rw [← wsum_congr (fun id => equivB_congr (members_congr (ws := ws) h) id) ws]
  exact ht

theorem mono_congr {c : Chain} {pcs pcs' : List Pre} (h : ∀ p, p ∈ pcs ↔ p ∈ pcs') (hm : Mono c pcs) :
    Mono c pcs' :=
  fun p hp q hq => hm p ((h p).2 hp) q ((h q).2 hq)

theorem find_or_head_mem (p : Nat → Bool) {l : List Nat} (hl : l ≠ []) :
    (match l.find? p with | some x => x | none => l.headD 0) ∈ l := by
  cases hf : l.find? p with
  | some x => exact List.mem_of_find?_eq_some hf
  | none => cases l with
    | nil => exact absurd rfl hl
    | cons y ys => exact List.mem_cons_self

theorem legal_pickToward (c : Chain) (t : Nat) : LegalPick (pickToward c t) :=
  fun _ hl => find_or_head_mem _ hl

theorem legal_pickAway (c : Chain) (t : Nat) : LegalPick (pickAway c t) :=
  fun _ hl => find_or_head_mem _ hl

theorem walk_toward {pick : List Nat → Nat} (hp : LegalPick pick) (vs : VoterSet) (c : Chain)
    (tr : List Tracked) (t cur : Nat) (h : walk pick vs c tr (c.par.length + 1) cur = t) :
    walk (pickToward c t) vs c tr (c.par.length + 1) cur = t := by
  refine ((ghost_run hp cur).of_pick hp (fun cur hne hd => ?_) h).walk (legal_pickToward c t)
  -- the preferring pick finds a child towards `t`, and there is only one
  unfold pickToward
  cases hf : (condChildren vs c tr cur).find? (fun x => desc c x t) with
  | some x =>
    exact (sibling_eq (condChildren_step (List.mem_of_find?_eq_some hf)) (condChildren_step (hp _ hne))
      (desc_total (List.find?_some (p := fun x => desc c x t) hf) hd)).symm
  | none => exact absurd hd (by simpa using List.find?_eq_none.1 hf _ (hp _ hne))

theorem walk_away {pick : List Nat → Nat} (hp : LegalPick pick) (vs : VoterSet) (c : Chain)
    (tr : List Tracked) (t cur : Nat) (h : walk (pickAway c t) vs c tr (c.par.length + 1) cur = t) :
    walk pick vs c tr (c.par.length + 1) cur = t := by
  refine ((ghost_run (legal_pickAway c t) cur).of_pick (legal_pickAway c t) (fun cur hne hd => ?_) h).walk hp
  -- the avoiding pick found nothing to avoid: every qualifying child is an ancestor of `t`
  have hall : desc c (pick (condChildren vs c tr cur)) t = true := by
    cases hf : (condChildren vs c tr cur).find? (fun x => !desc c x t) with
    | some x =>
      have hx : (!desc c x t) = true := List.find?_some (p := fun x => !desc c x t) hf
      rw [pickAway, hf] at hd
      rw [hd] at hx; cases hx
    | none => simpa using List.find?_eq_none.1 hf _ (hp _ hne)
  exact sibling_eq (condChildren_step (legal_pickAway c t _ hne)) (condChildren_step (hp _ hne)) (desc_total hd hall)

theorem accept_of_walk {pick pick' : List Nat → Nat} {w : Nat} {vs : VoterSet} {c : Chain}
    {tBlk tNum : Nat} {pcs : List Pre}
    (hw : ∀ tr cur, walk pick vs c tr (c.par.length + 1) cur = tBlk →
      walk pick' vs c tr (c.par.length + 1) cur = tBlk)
    (h : accept pick w vs c tBlk tNum pcs = true) : accept pick' w vs c tBlk tNum pcs = true := by
  obtain ⟨hv, rest⟩ := accept_iff.1 h
  obtain ⟨base, h1, h2, h3, h4, h5, h6⟩ := (validateCommit_valid_iff rfl).1 hv
  exact accept_iff.2 ⟨(validateCommit_valid_iff rfl).2 ⟨base, h1, h2, h3, h4, hw _ _ h5, h6⟩, rest⟩

end Gossamer.C19
