/-
`getPreVotedBlock` / `getGrandpaGHOST` for every iteration order versus the closed form (`cands`, `candsDown`,
`maxDepth`, `pvbSet`); with at most one third equivocators the blocks with more than two thirds of the votes lie on
one chain, so the deepest of them (the GRANDPA-GHOST) is unique.
-/
import Gossamer.Lib.C21Blocks
import Gossamer.Lib.Threshold
namespace Gossamer.C21

theorem mem_maxDepth {t : Tree} {l : List Nat} {b : Nat} :
    b ∈ maxDepth t l ↔ b ∈ l ∧ ∀ b' ∈ l, t.depth b' ≤ t.depth b := by
  simp [maxDepth, List.mem_filter, List.all_eq_true]

theorem mem_dirSel {c : Cfg} {votes : List (Nat × Vote)} {e th b : Nat} :
    b ∈ dirSel c votes e th ↔ (∃ kv ∈ votes, kv.2.blk = b) ∧ th < cnt c.t votes b + e := by
  simp [dirSel, votedBlocks, List.mem_filter, total_eq]

theorem mem_superBlocks {c : Cfg} {votes : List (Nat × Vote)} {e th b : Nat} :
    b ∈ superBlocks c votes e th ↔ b < c.t.size ∧ th < cnt c.t votes b + e := by
  simp [superBlocks, List.mem_filter, total_eq]

/-- the early return: directly voted blocks above the threshold hide every other block -/
theorem cands_eq_dirSel {c : Cfg} {votes : List (Nat × Vote)} {e th : Nat} (h : dirSel c votes e th ≠ []) :
    cands c votes e th = dirSel c votes e th := by
  rw [cands, if_pos (not_isEmpty_iff.2 h)]

theorem cands_eq_super {c : Cfg} {votes : List (Nat × Vote)} {e th : Nat} (h : dirSel c votes e th = [])
    (hv : votes ≠ []) : cands c votes e th = superBlocks c votes e th := by
  rw [cands, h, if_neg (by decide), if_neg (by rwa [List.isEmpty_iff])]

theorem mem_cands_super {c : Cfg} {votes : List (Nat × Vote)} (hk : KnownVotes c.t votes) {e th b : Nat}
    (hb : b ∈ cands c votes e th) : b < c.t.size ∧ th < cnt c.t votes b + e := by
  by_cases hd : dirSel c votes e th = []
  · by_cases hv : votes = []
    · subst hv; cases hb
    · rw [cands_eq_super hd hv] at hb
      exact mem_superBlocks.1 hb
  · rw [cands_eq_dirSel hd] at hb
    obtain ⟨⟨kv, hkv, hkb⟩, ht⟩ := mem_dirSel.1 hb
    exact ⟨hkb ▸ hk kv hkv, ht⟩

/-- a block above the threshold and still no candidate: only with no vote at all, when the equivocators alone are a
supermajority (the corner of `C21_finalise_sound` where `getBestFinalCandidate` answers the pre-voted block) -/
theorem votes_nil_of_cands_nil {c : Cfg} {votes : List (Nat × Vote)} {e th b : Nat} (hb : b < c.t.size)
    (hs : th < cnt c.t votes b + e) (hn : cands c votes e th = []) : votes = [] := by
  apply Classical.byContradiction
  intro hv
  by_cases hd : dirSel c votes e th = []
  · rw [cands_eq_super hd hv] at hn
    exact List.ne_nil_of_mem (mem_superBlocks.2 ⟨hb, hs⟩) hn
  · exact hd (cands_eq_dirSel hd ▸ hn)

theorem candsDown_of_ne {c : Cfg} {votes : List (Nat × Vote)} {e th : Nat} (h : cands c votes e th ≠ []) :
    candsDown c votes e th = cands c votes e th := by
  cases th with
  | zero => rfl
  | succ th => rw [candsDown, if_pos (not_isEmpty_iff.2 h)]

theorem candsDown_mem {c : Cfg} {votes : List (Nat × Vote)} {e b : Nat} :
    ∀ th, b ∈ candsDown c votes e th → ∃ th', b ∈ cands c votes e th' := by
  intro th
  induction th with
  | zero => intro h; exact ⟨0, h⟩
  | succ th ih =>
    intro h
    unfold candsDown at h
    by_cases hd : (!(cands c votes e (th + 1)).isEmpty) = true
    · exact ⟨th + 1, by rwa [if_pos hd] at h⟩
    · exact ih (by rwa [if_neg hd] at h)

theorem pvbSet_known {c : Cfg} {s : St} (hk : KnownVotes c.t s.pv) {b : Nat} (hb : b ∈ pvbSet c s) :
    b < c.t.size := by
  obtain ⟨th', h⟩ := candsDown_mem _ (mem_maxDepth.1 hb).1
  exact (mem_cands_super hk h).1

theorem pickHighest_spec : ∀ (l : List (Nat × Nat)) (init : Vote),
    (pickHighest init l = init ∧ ∀ p ∈ l, p.2 ≤ init.num) ∨
    (∃ p ∈ l, pickHighest init l = ⟨p.1, p.2⟩ ∧ init.num < p.2 ∧ ∀ q ∈ l, q.2 ≤ p.2) := by
  intro l
  induction l with
  | nil => intro init; exact Or.inl ⟨rfl, nofun⟩
  | cons a rest ih =>
    intro init
    unfold pickHighest
    rw [List.foldl_cons]
    by_cases ha : init.num < a.2
    · rw [if_pos ha]
      refine Or.inr ?_
      rcases ih ⟨a.1, a.2⟩ with ⟨h1, h2⟩ | ⟨p, hp, h1, h2, h3⟩
      · exact ⟨a, List.mem_cons_self, h1, ha, List.forall_mem_cons.2 ⟨Nat.le_refl _, h2⟩⟩
      · exact ⟨p, List.mem_cons_of_mem _ hp, h1, Nat.lt_trans ha h2,
          List.forall_mem_cons.2 ⟨Nat.le_of_lt h2, h3⟩⟩
    · rw [if_neg ha]
      rcases ih init with ⟨h1, h2⟩ | ⟨p, hp, h1, h2, h3⟩
      · exact Or.inl ⟨h1, List.forall_mem_cons.2 ⟨Nat.le_of_not_lt ha, h2⟩⟩
      · exact Or.inr ⟨p, List.mem_cons_of_mem _ hp, h1, h2,
          List.forall_mem_cons.2 ⟨Nat.le_trans (Nat.le_of_not_lt ha) (Nat.le_of_lt h2), h3⟩⟩

/-- how a selection `sel` of the code (a Go map block → number) stands to the candidates `cs` of the closed form.  Not
`sel = cs`: of the blocks with enough votes the ancestor search is only known to select the deepest
(`PsbChar.complete`), and the deepest is all that `pickHighest` and `maxDepth` look at; hence `dom`. -/
structure SelRel (c : Cfg) (cs : List Nat) (sel : Sel) : Prop where
  sub : ∀ q ∈ sel, q.1 ∈ cs
  dom : ∀ b ∈ cs, ∃ q ∈ sel, c.t.depth b ≤ c.t.depth q.1
  num : ∀ q ∈ sel, q.2 = c.number q.1
  fin : ∀ q ∈ sel, c.fin ∈ c.t.chain q.1

theorem SelRel.nil_iff {c : Cfg} {cs : List Nat} {sel : Sel} (h : SelRel c cs sel) : sel = [] ↔ cs = [] := by
  constructor
  · intro hs
    cases cs with
    | nil => rfl
    | cons b rest =>
      obtain ⟨q, hq, _⟩ := h.dom b List.mem_cons_self
      rw [hs] at hq; cases hq
  · intro hc
    cases sel with
    | nil => rfl
    | cons q rest =>
      have := h.sub q List.mem_cons_self
      rw [hc] at this; cases this

theorem selRel_of_char {c : Cfg} {votes : List (Nat × Vote)} {e th : Nat} {sel : Sel}
    (h : PsbChar c votes e th sel) : SelRel c (cands c votes e th) sel := by
  have hnum : ∀ q ∈ sel, q.2 = c.number q.1 := fun _ hq => h.ok.num hq
  have hfin : ∀ q ∈ sel, c.fin ∈ c.t.chain q.1 := fun _ hq => h.ok.fin hq
  by_cases hd : dirSel c votes e th = []
  · -- no directly voted block has more than `th` votes
    have hD : ∀ kv ∈ votes, cnt c.t votes kv.2.blk + e ≤ th := fun kv hkv =>
      Nat.le_of_not_lt fun hn => List.ne_nil_of_mem (mem_dirSel.2 ⟨⟨kv, hkv, rfl⟩, hn⟩) hd
    by_cases hv : votes = []
    · rw [h.nil hv, hv]
      exact ⟨nofun, nofun, nofun, nofun⟩
    rw [cands_eq_super hd hv]
    refine ⟨fun q hq => mem_superBlocks.2 ⟨h.ok.known hq, h.ok.super hq⟩, fun b hb => ?_, hnum, hfin⟩
    obtain ⟨G, hG, hmax⟩ := exists_max (fun b => c.t.depth b) _ (List.ne_nil_of_mem hb)
    have hG' := mem_superBlocks.1 hG
    exact ⟨(G, c.number G), h.complete hD hv G hG'.1 hG'.2 fun b' hb's hb't =>
      hmax b' (mem_superBlocks.2 ⟨hb's, hb't⟩), hmax b hb⟩
  · rw [cands_eq_dirSel hd]
    obtain ⟨b0, hb0⟩ := List.exists_mem_of_ne_nil _ hd
    obtain ⟨⟨kv0, hkv0, hkb0⟩, ht0⟩ := mem_dirSel.1 hb0
    have hex : ∃ kv ∈ votes, th < cnt c.t votes kv.2.blk + e := ⟨kv0, hkv0, hkb0 ▸ ht0⟩
    refine ⟨fun q hq => ?_, fun b hb => ?_, hnum, hfin⟩
    · obtain ⟨kv, hkv, he⟩ := h.onlyDirect hex q hq
      exact mem_dirSel.2 ⟨⟨kv, hkv, he⟩, h.ok.super hq⟩
    · obtain ⟨⟨kv, hkv, rfl⟩, ht⟩ := mem_dirSel.1 hb
      exact ⟨_, h.direct kv hkv ht, Nat.le_refl _⟩

theorem pickHighest_maxDepth {c : Cfg} (hw : c.t.WF) {cs : List Nat} {sel L : Sel} (h : SelRel c cs sel)
    (hL : L.Perm sel) (hne : sel ≠ []) :
    (pickHighest c.head L).blk ∈ maxDepth c.t cs ∧
      pickHighest c.head L = c.voteOf (pickHighest c.head L).blk := by
  have hmem : ∀ q, q ∈ L ↔ q ∈ sel := fun q => hL.mem_iff
  rcases pickHighest_spec L c.head with ⟨h1, h2⟩ | ⟨p, hp, h1, _, h3⟩
  · -- nothing is higher than the finalised head: every selected block is the head
    have hall : ∀ q ∈ sel, q.1 = c.fin := by
      intro q hq
      have hle := h2 q ((hmem q).2 hq)
      rw [h.num q hq] at hle
      have hf := h.fin q hq
      exact ((Tree.upChain hw).depth_inj hf (c.t.mem_chain_self q.1)
        (Nat.le_antisymm ((Tree.upChain hw).depth_le hf) (Nat.le_of_add_le_add_left hle))).symm
    obtain ⟨q0, hq0⟩ := List.exists_mem_of_ne_nil _ hne
    rw [h1]
    refine ⟨mem_maxDepth.2 ⟨?_, fun b' hb' => ?_⟩, rfl⟩
    · show c.fin ∈ cs
      exact hall q0 hq0 ▸ h.sub q0 hq0
    · obtain ⟨q, hq, hd⟩ := h.dom b' hb'
      show _ ≤ c.t.depth c.fin
      exact hall q hq ▸ hd
  · have hps : p ∈ sel := (hmem p).1 hp
    rw [h1]
    refine ⟨mem_maxDepth.2 ⟨h.sub p hps, fun b' hb' => ?_⟩, by rw [Cfg.voteOf, h.num p hps]⟩
    obtain ⟨q, hq, hd⟩ := h.dom b' hb'
    -- depth and number go together
    have hle := h3 q ((hmem q).2 hq)
    rw [h.num q hq, h.num p hps] at hle
    unfold Cfg.number at hle
    exact Nat.le_trans hd (Nat.le_of_add_le_add_left hle)

theorem single_maxDepth {c : Cfg} {cs : List Nat} {hh n : Nat} (h : SelRel c cs [(hh, n)]) :
    hh ∈ maxDepth c.t cs ∧ (⟨hh, n⟩ : Vote) = c.voteOf hh := by
  refine ⟨mem_maxDepth.2 ⟨h.sub _ List.mem_cons_self, fun b' hb' => ?_⟩, ?_⟩
  · obtain ⟨q, hq, hd⟩ := h.dom b' hb'
    rwa [List.mem_singleton.1 hq] at hd
  · rw [Cfg.voteOf, ← h.num _ List.mem_cons_self]

theorem ghostLoop_rel {c : Cfg} (hw : c.t.WF) {votes : List (Nat × Vote)} (hg : GoodVotes c votes) {o : Ord}
    (ho : o.Valid) (e : Nat) : ∀ th, SelRel c (candsDown c votes e th) (ghostLoop c o votes e th) := by
  intro th
  induction th with
  | zero => exact selRel_of_char (psb_char hw hg (ho.sub 0) e 0)
  | succ th ih =>
    have hr := selRel_of_char (psb_char hw hg (ho.sub (th + 1)) e (th + 1))
    unfold ghostLoop candsDown
    by_cases hs : psb c (o.sub (th + 1)) votes e (th + 1) = []
    · rw [if_neg (mt not_isEmpty_iff.1 (not_not_intro hs)),
        if_neg (mt not_isEmpty_iff.1 (not_not_intro (hr.nil_iff.1 hs)))]
      exact ih
    · rw [if_pos (not_isEmpty_iff.2 hs), if_pos (not_isEmpty_iff.2 (mt hr.nil_iff.2 hs))]
      exact hr

theorem gpv_closed_form {c : Cfg} (hw : c.t.WF) {s : St} (hg : GoodVotes c s.pv) {o : Ord}
    (ho : o.Valid) :
    (∀ v, getPreVotedBlock c o s = .ok v → v.blk ∈ pvbSet c s ∧ v = c.voteOf v.blk) ∧
    (∀ e, getPreVotedBlock c o s = .error e → e = .noghost ∧ pvbSet c s = []) := by
  have hr := selRel_of_char (psb_char hw hg (ho.sub 0) s.pve.length (thr c.n))
  unfold pvbSet getPreVotedBlock
  cases hsel : psb c (o.sub 0) s.pv s.pve.length (thr c.n) with
  | nil =>
    -- no block above the threshold: getGrandpaGHOST
    have hrel := ghostLoop_rel hw hg ((ho.sub 2).sub 0) s.pve.length (thr c.n)
    simp only
    unfold getGrandpaGHOST
    by_cases hb : (ghostLoop c ((o.sub 2).sub 0) s.pv s.pve.length (thr c.n)).isEmpty = true
    · rw [if_pos hb, hrel.nil_iff.1 (List.isEmpty_iff.1 hb)]
      exact ⟨nofun, fun e he => ⟨(Except.error.inj he).symm, rfl⟩⟩
    · rw [if_neg hb]
      refine ⟨fun v hv => ?_, nofun⟩
      cases hv
      exact pickHighest_maxDepth hw hrel ((ho.sub 2 [1]).2.2 _) (mt List.isEmpty_iff.2 hb)
  | cons a rest =>
    rw [hsel] at hr
    rw [candsDown_of_ne (mt hr.nil_iff.2 (List.cons_ne_nil _ _))]
    refine ⟨fun v hv => ?_, ?_⟩
    · cases rest with
      | nil => cases hv; exact single_maxDepth hr
      | cons b rest => cases hv; exact pickHighest_maxDepth hw hr ((ho [1]).2.2 _) (List.cons_ne_nil _ _)
    · cases rest <;> exact nofun

/-- C21 counts stored votes (`cnt` is a `countP`) and adds a NUMBER of equivocators, so this is the counting argument
itself and no instance of `WSum.meet`, which is about weights of voters. -/
theorem super_comparable {t : Tree} (hw : t.WF) {votes : List (Nat × Vote)} (hk : KnownVotes t votes)
    {e n : Nat} (hacc : votes.length + e ≤ n) (he : 3 * e ≤ n) {a b : Nat} (ha : a < t.size)
    (hb : b < t.size) (hat : thr n < cnt t votes a + e) (hbt : thr n < cnt t votes b + e) :
    a ∈ t.chain b ∨ b ∈ t.chain a := by
  apply Classical.byContradiction
  intro hn
  -- no vote counts for both: together the two counts are at most the number of votes
  have hdis : cnt t votes a + cnt t votes b ≤ votes.length := by
    refine countP_add_le _ _ _ fun kv hkv ⟨h1, h2⟩ => ?_
    have hv := hk kv hkv
    rw [decide_eq_true_eq] at h1 h2
    exact hn (Tree.comparable hw ((isDesc_yes_iff ha hv).1 h1) ((isDesc_yes_iff hb hv).1 h2))
  have h1 := (Threshold.two_thirds_lt n _).1 hat
  have h2 := (Threshold.two_thirds_lt n _).1 hbt
  omega

theorem super_unique {t : Tree} (hw : t.WF) {votes : List (Nat × Vote)} (hk : KnownVotes t votes)
    {e n : Nat} (hacc : votes.length + e ≤ n) (he : 3 * e ≤ n) {a b : Nat} (ha : a < t.size)
    (hb : b < t.size) (hat : thr n < cnt t votes a + e) (hbt : thr n < cnt t votes b + e)
    (hd : t.depth a = t.depth b) : a = b := by
  rcases super_comparable hw hk hacc he ha hb hat hbt with h | h
  · exact (Tree.upChain hw).depth_inj h (t.mem_chain_self b) hd
  · exact ((Tree.upChain hw).depth_inj h (t.mem_chain_self a) hd.symm).symm

end Gossamer.C21
