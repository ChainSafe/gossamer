/-
The primitives of peerstate.go.  Each is characterised once as a one-peer step (`X_cases`, `X_eq`: the
result is the state itself or a `place`) and keeps the invariant: `X_invX` takes the invariant to the
invariant; `addReputation_susp`, `nodeAddRep_susp` take it to the invariant with the ban clause of the peer
suspended (its reputation has changed, the disconnect is still to come); `psDisconnect_resume` takes that
back to the invariant.  `updateTime` and `clearFresh` rewrite every node.  At the end, what the operations
observe of a primitive at its peer (`X_conn`, `X_repOf`, …).
-/
import Gossamer.Lib.C30Inv
namespace Gossamer.C30
variable {n : Nat}
attribute [local simp] Bool.beq_eq_decide_eq

section prims
variable {K : Prop} {mi mo : Nat} {s : PS n} {p : Fin n}

theorem occ_noSlot (d : MS) (o : Option Node) : occ d o true = false := by
  cases o <;> simp [occ]

theorem free_of_idle {s : PS n} {p : Fin n} {o : Option Node} {b : Bool}
    (h : occ .ingoing o b = false ∧ occ .outgoing o b = false) : Free s p o b :=
  ⟨fun e => Bool.noConfusion (h.1.symm.trans e), fun e => Bool.noConfusion (h.2.symm.trans e)⟩

theorem psDisconnect_cases (s : PS n) (p : Fin n) :
    (conn s p = false ∧ psDisconnect s p = (s, true)) ∨
    ∃ nd, s.nodes p = some nd ∧ psDisconnect s p =
      (place s p (some { nd with st := .notConnected, fresh := true }) (s.noSlot p), false) := by
  unfold psDisconnect conn place
  rw [upd_self]
  cases hnd : s.nodes p with
  | none => exact .inl ⟨rfl, rfl⟩
  | some nd =>
    cases hns : s.noSlot p with
    | true => exact .inr ⟨nd, rfl, by simp only [occ_noSlot, ctrUpd_self]; rfl⟩
    | false => cases hs : nd.st <;> simp [setNode, occ, ctrUpd, hs, MS.connected]

theorem psDisconnect_ro (s : PS n) (p : Fin n) : (psDisconnect s p).1.ro = s.ro := by
  rcases psDisconnect_cases s p with ⟨_, e⟩ | ⟨_, _, e⟩ <;> rw [e] <;> rfl

theorem psDisconnect_conn (s : PS n) (p : Fin n) : conn (psDisconnect s p).1 p = false := by
  rcases psDisconnect_cases s p with ⟨h0, e⟩ | ⟨nd, _, e⟩ <;> rw [e]
  · exact h0
  · unfold conn; rw [place_nodes_self]; rfl

theorem psDisconnect_pt (s : PS n) (p : Fin n) : Pt s (psDisconnect s p).1 p := by
  rcases psDisconnect_cases s p with ⟨_, e⟩ | ⟨_, _, e⟩ <;> rw [e]
  · exact ⟨fun _ _ => ⟨rfl, rfl⟩, rfl, rfl⟩
  · exact place_pt s p _ _

theorem conn_node {s : PS n} {p : Fin n} {nd : Node} (h : s.nodes p = some nd) : conn s p = nd.st.connected := by
  unfold conn
  rw [h]

theorem repOf_node {s : PS n} {p : Fin n} {nd : Node} (h : s.nodes p = some nd) : repOf s p = nd.rep := by
  unfold repOf
  rw [h]

theorem occ_idle {s : PS n} {p : Fin n} (hc : conn s p = false) (b : Bool) :
    occ .ingoing (s.nodes p) b = false ∧ occ .outgoing (s.nodes p) b = false := by
  unfold conn at hc
  cases hnd : s.nodes p with
  | none => exact ⟨rfl, rfl⟩
  | some nd => rw [hnd] at hc; cases hs : nd.st <;> simp [hs, MS.connected, occ] at hc ⊢

theorem tryOutgoing_cases (s : PS n) (p : Fin n) (hc : conn s p = false) :
    ((s.nodes p = none ∨ (s.noSlot p = false ∧ ¬ s.numOut < s.maxOut)) ∧ tryOutgoing s p = (s, true)) ∨
    ∃ nd, s.nodes p = some nd ∧ Free s p (some { nd with st := .outgoing }) (s.noSlot p) ∧
      tryOutgoing s p = (place s p (some { nd with st := .outgoing }) (s.noSlot p), false) := by
  unfold tryOutgoing place
  rw [upd_self, (occ_idle hc _).1, (occ_idle hc _).2]
  cases hnd : s.nodes p with
  | none => exact .inl ⟨.inl rfl, by split <;> rfl⟩
  | some nd =>
    cases hns : s.noSlot p with
    | true => exact .inr ⟨nd, rfl, free_of_idle ⟨occ_noSlot _ _, occ_noSlot _ _⟩, by simp [setNode, occ_noSlot, ctrUpd_self]⟩
    | false =>
      by_cases hlt : s.numOut < s.maxOut
      · exact .inr ⟨nd, rfl, ⟨fun e => Bool.noConfusion e, fun _ => .inr hlt⟩, by simp [setNode, occ, ctrUpd, hlt]⟩
      · simp [hlt]

theorem tryAcceptIncoming_cases (s : PS n) (p : Fin n) (hc : conn s p = false) :
    ((s.nodes p = none ∨ (s.noSlot p = false ∧ ¬ s.numIn < s.maxIn)) ∧ tryAcceptIncoming s p = (s, true)) ∨
    ∃ nd, s.nodes p = some nd ∧ Free s p (some { nd with st := .ingoing }) (s.noSlot p) ∧
      tryAcceptIncoming s p = (place s p (some { nd with st := .ingoing }) (s.noSlot p), false) := by
  unfold tryAcceptIncoming place
  rw [upd_self, (occ_idle hc _).1, (occ_idle hc _).2]
  cases hnd : s.nodes p with
  | none => exact .inl ⟨.inl rfl, by split <;> rfl⟩
  | some nd =>
    cases hns : s.noSlot p with
    | true => exact .inr ⟨nd, rfl, free_of_idle ⟨occ_noSlot _ _, occ_noSlot _ _⟩, by simp [setNode, occ_noSlot, ctrUpd_self]⟩
    | false =>
      by_cases hlt : s.numIn < s.maxIn
      · exact .inr ⟨nd, rfl, ⟨fun _ => .inr hlt, fun e => Bool.noConfusion e⟩, by simp [setNode, occ, ctrUpd, hlt]⟩
      · simp [hlt]

theorem addNoSlotNode_eq (s : PS n) (p : Fin n) :
    addNoSlotNode s p = (place s p (s.nodes p) true, !s.noSlot p && (s.nodes p).isNone) := by
  unfold addNoSlotNode place
  rw [upd_self]
  have hu := upd_self s.noSlot p
  cases hns : s.noSlot p with
  | true => rw [hns] at hu; simp [ctrUpd_self, hu]
  | false =>
    cases hnd : s.nodes p with
    | none => simp [occ, ctrUpd_self]
    | some nd => cases hs : nd.st <;> simp [occ, ctrUpd, hs]

theorem removeNoSlotNode_eq (s : PS n) (p : Fin n) :
    removeNoSlotNode s p = (place s p (s.nodes p) false, s.noSlot p && (s.nodes p).isNone) := by
  unfold removeNoSlotNode place
  rw [upd_self]
  have hu := upd_self s.noSlot p
  cases hns : s.noSlot p with
  | false => rw [hns] at hu; simp [ctrUpd_self, hu]
  | true =>
    cases hnd : s.nodes p with
    | none => simp [occ, ctrUpd_self]
    | some nd => cases hs : nd.st <;> simp [occ, ctrUpd, hs]

theorem removeNoSlotNode_ro (s : PS n) (p : Fin n) : (removeNoSlotNode s p).1.ro = s.ro := by
  rw [removeNoSlotNode_eq]; rfl

theorem removeNoSlotNode_conn (s : PS n) (p : Fin n) : conn (removeNoSlotNode s p).1 p = conn s p := by
  rw [removeNoSlotNode_eq]; unfold conn; rw [place_nodes_self]

theorem removeNoSlotNode_err (s : PS n) (p : Fin n) (h : (removeNoSlotNode s p).2 = true) : conn s p = false := by
  rw [removeNoSlotNode_eq] at h
  unfold conn
  cases hnd : s.nodes p with
  | none => rfl
  | some nd => simp [hnd] at h

theorem status_conn (s : PS n) (p : Fin n) : (status s p = .connected) ↔ conn s p = true := by
  unfold status conn
  cases hnd : s.nodes p with
  | none => simp
  | some nd => cases hs : nd.st <;> simp [hs, MS.connected]

theorem not_conn {s : PS n} {p : Fin n} (h : status s p ≠ .connected) : conn s p = false :=
  Bool.eq_false_iff.mpr (mt (status_conn s p).mpr h)

theorem insertPeer_invX (hn : Fits n) (h : InvX K mi mo none s) (p : Fin n) : InvX K mi mo none (insertPeer s p) := by
  unfold insertPeer
  cases hnd : s.nodes p with
  | some _ => exact h
  | none =>
    exact setNode_invX hn h hnd _ rfl rfl
      (fun nd e => by cases e; exact ⟨inRange_zero, fun hc => Bool.noConfusion hc⟩)

theorem forgetPeer_invX (hn : Fits n) (h : InvX K mi mo none s) (p : Fin n) (hc : conn s p = false) :
    InvX K mi mo none (forgetPeer s p).1 := by
  have hi := occ_idle hc (s.noSlot p)
  unfold forgetPeer
  cases hnd : s.nodes p with
  | none => exact h
  | some nd =>
    by_cases h0 : nd.rep ≠ 0
    · simp only [if_pos h0]
      exact setNode_invX hn h rfl _ hi.1.symm hi.2.symm
        (fun nd' e => by cases e; exact ⟨h.range p nd hnd, fun hc => Bool.noConfusion hc⟩)
    · simp only [if_neg h0]
      exact setNode_invX hn h rfl _ hi.1.symm hi.2.symm (fun nd' e => nomatch e)

theorem touch_invX (hn : Fits n) (h : InvX K mi mo none s) (p : Fin n) : InvX K mi mo none (touch s p) := by
  unfold touch
  cases hnd : s.nodes p with
  | none => exact h
  | some nd =>
    exact setNode_invX hn h hnd _ rfl rfl
      (fun nd' e => by cases e; exact ⟨h.range p nd hnd, h.inv.noban p nd hnd⟩)

theorem addReputation_susp (hn : Fits n) (h : InvX K mi mo none s) (p : Fin n) (v : Int) :
    InvX K mi mo (some p) (addReputation s p v).1 := by
  unfold addReputation
  cases hnd : s.nodes p with
  | none =>
    exact setNode_susp hn h hnd _ rfl rfl (fun nd' e => by cases e; exact addI_range _ _ inRange_zero)
  | some nd =>
    exact setNode_susp hn h hnd _ rfl rfl
      (fun nd' e => by cases e; exact addI_range _ _ (h.range p nd hnd))

theorem nodeAddRep_susp (hn : Fits n) (h : InvX K mi mo none s) (p : Fin n) (v : Int) :
    InvX K mi mo (some p) (nodeAddRep s p v) := by
  unfold nodeAddRep
  cases hnd : s.nodes p with
  | none => exact h.suspend p
  | some nd =>
    exact setNode_susp hn h hnd _ rfl rfl
      (fun nd' e => by cases e; exact addI_range _ _ (h.range p nd hnd))

theorem psDisconnect_resume (hn : Fits n) (h : InvX K mi mo (some p) s) : InvX K mi mo none (psDisconnect s p).1 := by
  have hc := psDisconnect_conn s p
  refine InvX.resume ?_ (fun nd hnd hcn => by rw [conn_node hnd, hcn] at hc; cases hc)
  rcases psDisconnect_cases s p with ⟨_, e⟩ | ⟨nd, hnd, e⟩ <;> rw [e]
  · exact h
  · exact place_suspended hn h _ _ (h.resNoSlot p) (fun nd' e' => by cases e'; exact h.range p nd hnd)
      (fun _ => free_of_idle ⟨rfl, rfl⟩)

theorem tryOutgoing_invX (hn : Fits n) (h : InvX K mi mo none s) (p : Fin n) (hc : conn s p = false)
    (hrep : bannedThreshold ≤ repOf s p) : InvX K mi mo none (tryOutgoing s p).1 := by
  rcases tryOutgoing_cases s p hc with ⟨_, e⟩ | ⟨nd, hnd, hfree, e⟩
  · rw [e]; exact h
  · rw [e]
    exact place_invX hn h _ _ (h.resNoSlot p)
      (fun nd' e' => by cases e'; exact ⟨h.range p nd hnd, fun _ => repOf_node hnd ▸ hrep⟩)
      (fun _ => hfree)

theorem tryAcceptIncoming_invX (hn : Fits n) (h : InvX K mi mo none s) (p : Fin n) (hc : conn s p = false)
    (hrep : bannedThreshold ≤ repOf s p) : InvX K mi mo none (tryAcceptIncoming s p).1 := by
  rcases tryAcceptIncoming_cases s p hc with ⟨_, e⟩ | ⟨nd, hnd, hfree, e⟩
  · rw [e]; exact h
  · rw [e]
    exact place_invX hn h _ _ (h.resNoSlot p)
      (fun nd' e' => by cases e'; exact ⟨h.range p nd hnd, fun _ => repOf_node hnd ▸ hrep⟩)
      (fun _ => hfree)

/-- `ps.reservedNode[p] = struct{}{}` followed by `addNoSlotNode` -/
theorem reserve_invX (hn : Fits n) (h : InvX K mi mo none s) (p : Fin n) :
    InvX K mi mo none (addNoSlotNode { s with reserved := upd s.reserved p true } p).1 := by
  rw [addNoSlotNode_eq]
  have h1 : InvX K mi mo none (place s p (s.nodes p) true) :=
    place_invX hn h _ _ (fun _ => rfl) (fun nd e => ⟨h.range p nd e, h.inv.noban p nd e⟩)
      (fun _ => free_of_idle ⟨occ_noSlot _ _, occ_noSlot _ _⟩)
  exact h1.setReserved p true (fun _ => place_noSlot_self _ _ _ _)

/-- `delete(ps.reservedNode, p)` followed by `removeNoSlotNode`; the peer may come to occupy a slot -/
theorem unreserve_invX (hn : Fits n) (h : InvX K mi mo none s) (p : Fin n) (hf : K → Free s p (s.nodes p) false) :
    InvX K mi mo none (removeNoSlotNode { s with reserved := upd s.reserved p false } p).1 := by
  rw [removeNoSlotNode_eq]
  exact place_invX hn (h.setReserved p false (fun e => Bool.noConfusion e)) _ _ (fun e => (upd_same _ _ _).symm.trans e)
    (fun nd e => ⟨h.range p nd e, h.inv.noban p nd e⟩) hf

/-- in reserved-only mode un-reserving a connected peer is followed by its disconnect, which takes the
    peer out of the slot `removeNoSlotNode` has just put it into: no free slot is needed -/
theorem unreserve_drop_invX (hn : Fits n) (h : InvX K mi mo none s) (p : Fin n) :
    InvX K mi mo none (psDisconnect (removeNoSlotNode { s with reserved := upd s.reserved p false } p).1 p).1 := by
  -- the state between the two steps may exceed a maximum: it is crossed without the slot clause
  -- (`K := False`), which is then shown for the two steps as one (`Pt.trans`, `slots_point`)
  have h2 := psDisconnect_resume hn ((unreserve_invX hn (K := False) { h with slots := False.elim } p False.elim).suspend p)
  have hi := occ_idle (psDisconnect_conn (removeNoSlotNode { s with reserved := upd s.reserved p false } p).1 p)
  have pt : Pt s (removeNoSlotNode { s with reserved := upd s.reserved p false } p).1 p := by
    rw [removeNoSlotNode_eq]; exact ⟨(place_pt _ p _ _).frame, rfl, rfl⟩
  exact { h2 with slots := fun k => (slots_point h.cin h.cout h2.cin h2.cout
    (pt.trans (psDisconnect_pt _ p)) (h.slots k) (free_of_idle (hi _))) }

theorem mapNodes_invX (h : InvX K mi mo none s) (f : Fin n → Option Node)
    (hocc : ∀ d, MS.notConnected ≠ d → ∀ q, occ d (f q) (s.noSlot q) = occ d (s.nodes q) (s.noSlot q))
    (hgood : ∀ q nd', f q = some nd' → ∃ nd, s.nodes q = some nd ∧ nd'.st = nd.st ∧ InRange nd'.rep ∧
      (bannedThreshold ≤ nd.rep → bannedThreshold ≤ nd'.rep)) :
    InvX K mi mo none { s with nodes := f } := by
  refine { h with cin := ?_, cout := ?_, noban := ?_, range := ?_ }
  · exact h.cin.trans (List.countP_congr (fun q _ => iff_of_eq (congrArg (· = true) (hocc .ingoing (by decide) q)))).symm
  · exact h.cout.trans (List.countP_congr (fun q _ => iff_of_eq (congrArg (· = true) (hocc .outgoing (by decide) q)))).symm
  · intro q nd' _ e hc
    obtain ⟨nd, e0, hst, _, hthr⟩ := hgood q nd' e
    exact hthr (h.inv.noban q nd e0 (hst ▸ hc))
  · intro q nd' e
    obtain ⟨nd, _, _, hr, _⟩ := hgood q nd' e
    exact hr

theorem tickOpt_some (fm : Bool) (o : Option Node) (nd' : Node) (h : tickOpt fm o = some nd') :
    ∃ nd, o = some nd ∧ nd' = { nd with rep := tickI nd.rep } := by
  unfold tickOpt at h
  cases o with
  | none => cases h
  | some nd =>
    simp only [] at h
    by_cases hc : tickI nd.rep = 0 ∧ nd.st = MS.notConnected ∧ fm = true ∧ nd.fresh = false
    · rw [if_pos hc] at h; cases h
    · rw [if_neg hc] at h; cases h; exact ⟨nd, rfl, rfl⟩

theorem tickOpt_occ (fm : Bool) (o : Option Node) (d : MS) (hd : MS.notConnected ≠ d) (b : Bool) :
    occ d (tickOpt fm o) b = occ d o b := by
  unfold tickOpt
  cases o with
  | none => rfl
  | some nd =>
    simp only []
    by_cases hc : tickI nd.rep = 0 ∧ nd.st = MS.notConnected ∧ fm = true ∧ nd.fresh = false
    · rw [if_pos hc]; simp [occ, hc.2.1, hd]
    · rw [if_neg hc]; rfl

theorem tickAll_invX (h : InvX K mi mo none s) : InvX K mi mo none (tickAll s) :=
  mapNodes_invX h _ (fun d hd _ => tickOpt_occ _ _ d hd _)
    (fun q nd' e => by
      obtain ⟨nd, e0, e1⟩ := tickOpt_some _ _ _ e
      subst e1
      exact ⟨nd, e0, rfl, tickI_range _ (h.range q nd e0), tickI_thr _ (h.range q nd e0)⟩)

theorem tickN_invX (k : Nat) (h : InvX K mi mo none s) : InvX K mi mo none (tickN k s) := by
  induction k generalizing s with
  | zero => exact h
  | succ k ih => exact ih (tickAll_invX h)

theorem updateTime_invX (h : InvX K mi mo none s) : InvX K mi mo none (updateTime s) :=
  { tickN_invX s.pending h with }

theorem clearFresh_invX (h : InvX K mi mo none s) : InvX K mi mo none (clearFresh s) :=
  mapNodes_invX h _ (fun _ _ q => by cases s.nodes q <;> rfl)
    (fun q nd' e => by
      obtain ⟨nd, e0, e1⟩ := Option.map_eq_some_iff.mp e
      subst e1
      exact ⟨nd, e0, rfl, h.range q nd e0, id⟩)

end prims

theorem insertPeer_conn (s : PS n) (p : Fin n) : conn (insertPeer s p) p = conn s p := by
  unfold insertPeer conn
  cases hnd : s.nodes p with
  | none => simp only [setNode, upd_same]; rfl
  | some _ => rw [hnd]

theorem insertPeer_repOf (s : PS n) (p : Fin n) : repOf (insertPeer s p) p = repOf s p := by
  unfold insertPeer repOf
  cases hnd : s.nodes p with
  | none => simp only [setNode, upd_same]
  | some _ => rw [hnd]

theorem insertPeer_node (s : PS n) (p : Fin n) : (insertPeer s p).nodes p ≠ none := by
  unfold insertPeer
  cases hnd : s.nodes p with
  | none => simp only [setNode, upd_same]; exact Option.some_ne_none _
  | some _ => rw [hnd]; exact Option.some_ne_none _

theorem insertPeer_noSlot (s : PS n) (p : Fin n) : (insertPeer s p).noSlot = s.noSlot := by
  unfold insertPeer
  split <;> rfl

theorem insertPeer_known (s : PS n) (p : Fin n) (h : status s p ≠ .unknown) : insertPeer s p = s := by
  unfold insertPeer
  cases hnd : s.nodes p with
  | none => exact absurd (by unfold status; rw [hnd]) h
  | some _ => rfl

theorem isNotConn_conn (s : PS n) (p : Fin n) (h : isNotConn s p = true) : conn s p = false := by
  unfold isNotConn at h
  unfold conn
  cases hnd : s.nodes p with
  | none => rfl
  | some nd =>
    rw [hnd] at h
    simp only [Bool.beq_eq_decide_eq, decide_eq_true_eq] at h
    exact congrArg MS.connected h

theorem addReputation_rep (s : PS n) (p : Fin n) (v : Int) :
    ∀ nd, (addReputation s p v).1.nodes p = some nd → nd.rep = (addReputation s p v).2 := by
  intro nd h
  unfold addReputation at *
  simp only [setNode, upd_same, Option.some.injEq] at h
  subst h
  rfl

theorem psDisconnect_ok (s : PS n) (p : Fin n) (hc : conn s p = true) : (psDisconnect s p).2 = false := by
  rcases psDisconnect_cases s p with ⟨h0, _⟩ | ⟨_, _, e⟩
  · rw [hc] at h0; cases h0
  · rw [e]

theorem touch_conn (s : PS n) (p : Fin n) : conn (touch s p) p = conn s p := by
  unfold touch conn
  cases hnd : s.nodes p with
  | none => rw [hnd]
  | some _ => simp only [setNode, upd_same]

theorem touch_repOf (s : PS n) (p : Fin n) : repOf (touch s p) p = repOf s p := by
  unfold touch repOf
  cases hnd : s.nodes p <;> simp [setNode, upd, hnd]

theorem addReputation_conn (s : PS n) (p : Fin n) (v : Int) :
    conn (addReputation s p v).1 p = conn s p := by
  unfold addReputation conn
  cases hnd : s.nodes p <;> simp only [setNode, upd_same] <;> rfl

theorem nodeAddRep_conn (s : PS n) (p : Fin n) (v : Int) : conn (nodeAddRep s p v) p = conn s p := by
  unfold nodeAddRep conn
  cases hnd : s.nodes p with
  | none => rw [hnd]
  | some _ => simp only [setNode, upd_same]

theorem addReputation_repOf (s : PS n) (p q : Fin n) (v : Int) :
    repOf (addReputation s p v).1 q = if q = p then addI (repOf s q) v else repOf s q := by
  unfold addReputation repOf
  by_cases e : q = p
  · subst e; cases s.nodes q <;> simp [setNode, upd]
  · simp [setNode, upd, e]

end Gossamer.C30
