/-
The byte store of the compiled driver (a hash map; absent = 0) is lawful, so every C28 theorem applies to
the model the driver runs.
-/
import Std.Data.HashMap
import Gossamer.Lib.C28Mem
namespace Gossamer.C28

def hashStore : Store :=
  { σ := Std.HashMap Nat Nat, empty := {}, get := fun b a => b.getD a 0, set := fun b a v => b.insert a v }

theorem hashMap_getD_insert (b : Std.HashMap Nat Nat) (a v x : Nat) :
    (b.insert a v).getD x 0 = if x = a then v else b.getD x 0 := by
  simp only [Std.HashMap.getD_insert, beq_iff_eq, eq_comm (a := a) (b := x)]

theorem hashStore_lawful : hashStore.Lawful := ⟨hashMap_getD_insert⟩

end Gossamer.C28
