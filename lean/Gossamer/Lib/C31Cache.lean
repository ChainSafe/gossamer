/-
The same-request limiter: the LRU list of `CreateBlockResponse` as a function of the history of keys
(`cacheOf_eq`: its keys are the `window` of the `seenCap` most recently used distinct keys, each with its
`servedCount`).
-/
import Gossamer.Model.C31
namespace Gossamer.C31

/-- what one non-empty-mask call does to the seen-requests cache -/
def stepK (c : Cache) (k : ReqKey) : Cache :=
  if (lruGet c k).1 ≥ maxSame then (lruGet c k).2
  else lruPut seenCap (lruGet c k).2 k ((lruGet c k).1 + 1)

theorem request_cache (t : Tree) (c : Cache) (p : Nat) (r : Request) :
    (request t c p r).1 = if r.mask = 0 then c else stepK c (reqKey p r) := by
  unfold request stepK
  split
  · rfl
  · simp only
    split <;> rfl

theorem request_refused_iff (t : Tree) (c : Cache) (p : Nat) (r : Request) :
    (∃ c', request t c p r = (c', .refused)) ↔
      r.mask ≠ 0 ∧ maxSame ≤ (lruGet c (reqKey p r)).1 := by
  unfold request
  split
  · rename_i h0
    simp [h0]
  · rename_i h0
    simp only
    split
    · rename_i hge
      simp [h0, hge]
    · rename_i hge
      simp [h0]
      omega

/-- distinct keys of the history, most recently used first -/
def recency : List ReqKey → List ReqKey
  | [] => []
  | k :: older => k :: (recency older).filter (· ≠ k)

def window (hist : List ReqKey) : List ReqKey := (recency hist).take seenCap

def bump (n : Nat) : Nat := if n ≥ maxSame then n else n + 1

/-- how often `k` was served (not refused) since it last entered the window; the count stops at `maxSame` because a
    refused call does not count itself (first branch of `stepK`; the inner `if` is `bump`) -/
def servedCount : List ReqKey → ReqKey → Nat
  | [], _ => 0
  | k' :: older, k =>
    if k' = k then
      (if servedCount older k ≥ maxSame then servedCount older k else servedCount older k + 1)
    else if k ∈ window (k' :: older) then servedCount older k else 0

/-- the cache after the calls with these keys -/
def cacheOf : List ReqKey → Cache
  | [] => []
  | k :: older => stepK (cacheOf older) k

theorem recency_nodup : ∀ hist, (recency hist).Nodup
  | [] => List.nodup_nil
  | k :: older => by
    simp only [recency, List.nodup_cons]
    exact ⟨by simp, (recency_nodup older).filter _⟩

theorem servedCount_le : ∀ hist k, servedCount hist k ≤ maxSame
  | [], _ => by simp [servedCount]
  | k' :: older, k => by
    have := servedCount_le older k
    simp only [servedCount]
    split
    · split <;> omega
    · split <;> omega

theorem filter_ne_self {k : ReqKey} {l : List ReqKey} (h : k ∉ l) : l.filter (· ≠ k) = l :=
  List.filter_eq_self.mpr fun x hx => by simpa using fun e : x = k => h (e ▸ hx)

theorem take_filter_ne (k : ReqKey) : ∀ (l : List ReqKey) (n : Nat), l.Nodup →
    ((l.take (n + 1)).filter (· ≠ k)).take n = (l.filter (· ≠ k)).take n
  | [], _, _ => by simp
  | x :: l, n, hnd => by
    have hnd' := (List.nodup_cons.mp hnd)
    by_cases hx : x = k
    · subst hx
      have h1 := filter_ne_self hnd'.1
      have h2 := filter_ne_self (l := l.take n) fun h => hnd'.1 (List.mem_of_mem_take h)
      simp only [ne_eq, decide_not] at h1 h2
      simp [List.take_succ_cons, h1, h2, List.take_take]
    · cases n with
      | zero => simp
      | succ m =>
        have ih := take_filter_ne k l m hnd'.2
        simp only [List.take_succ_cons, List.filter_cons, hx, ne_eq, not_false_eq_true,
          decide_true, ite_true]
        rw [ih]

theorem find_map_pair (S : ReqKey → Nat) (k : ReqKey) : ∀ (l : List ReqKey),
    (l.map (fun x => (x, S x))).find? (fun e => e.1 = k) = if k ∈ l then some (k, S k) else none
  | [] => by simp
  | x :: l => by
    simp only [List.map_cons, List.find?_cons]
    by_cases hx : x = k
    · subst hx; simp
    · have ih := find_map_pair S k l
      simp only [hx, decide_false, List.mem_cons]
      rw [ih]
      have : ¬ k = x := fun h => hx h.symm
      simp [this]

theorem map_congr_mem {l : List ReqKey} {f g : ReqKey → ReqKey × Nat} (h : ∀ x ∈ l, f x = g x) :
    l.map f = l.map g := List.map_congr_left h

theorem servedCount_other {k' k : ReqKey} {older : List ReqKey} (hne : k' ≠ k)
    (hin : k ∈ window (k' :: older)) : servedCount (k' :: older) k = servedCount older k := by
  simp [servedCount, hne, hin]

theorem stepK_map (S : ReqKey → Nat) (k : ReqKey) (l : List ReqKey) (hl : l.length ≤ seenCap) :
    stepK (l.map (fun x => (x, S x))) k =
      (k, bump (if k ∈ l then S k else 0)) ::
        ((l.filter (· ≠ k)).take (seenCap - 1)).map (fun x => (x, S x)) := by
  by_cases hin : k ∈ l
  · -- a hit: the entry moves to the front; nothing is evicted because `k` itself leaves the tail
    have hlen : (l.filter (· ≠ k)).length ≤ seenCap - 1 := by
      have : (l.filter (· ≠ k)).length < l.length :=
        List.length_filter_lt_length_iff_exists.mpr ⟨k, hin, by simp⟩
      omega
    have hget : lruGet (l.map (fun x => (x, S x))) k =
        (S k, (k, S k) :: (l.filter (· ≠ k)).map (fun x => (x, S x))) := by
      simp only [lruGet, find_map_pair, hin, ite_true, List.filter_map, Function.comp_def]
    have hff : ((l.filter (· ≠ k)).map (fun x => (x, S x))).filter (fun e => e.1 ≠ k) =
        (l.filter (· ≠ k)).map (fun x => (x, S x)) := by
      rw [List.filter_map, List.filter_filter]; simp
    rw [stepK, hget, if_pos hin, List.take_of_length_le hlen, bump]
    by_cases hge : S k ≥ maxSame
    · rw [if_pos hge, if_pos hge]
    · rw [if_neg hge, if_neg hge]
      simp only [lruPut, List.any_cons, decide_true, Bool.true_or, ite_true, List.filter_cons, ne_eq,
        not_true_eq_false, decide_false, Bool.false_eq_true, ite_false]
      exact congrArg _ hff
  · -- a miss: a new entry; the least recently used one is dropped when the cache is full
    have hget : lruGet (l.map (fun x => (x, S x))) k = (0, l.map (fun x => (x, S x))) := by
      simp only [lruGet, find_map_pair, hin, ite_false]
    have hany : (l.map (fun x => (x, S x))).any (fun e => e.1 = k) = false := by
      simp only [List.any_map, List.any_eq_false, Function.comp, decide_eq_true_eq]
      exact fun x hx hxk => hin (hxk ▸ hx)
    rw [stepK, hget, if_neg hin, filter_ne_self hin]
    have hcap : 1 ≤ seenCap := by decide
    simp only [show ¬ (0 ≥ maxSame) by decide, ite_false, lruPut, hany, Bool.false_eq_true, bump, List.length_map]
    congr 1
    split
    · rw [← List.map_dropLast, List.dropLast_eq_take]
      congr 2
      omega
    · rw [List.take_of_length_le (by omega)]

theorem window_cons (k : ReqKey) (older : List ReqKey) :
    window (k :: older) = k :: ((window older).filter (· ≠ k)).take (seenCap - 1) := by
  obtain ⟨c, hc⟩ : ∃ c, seenCap = c + 1 := ⟨seenCap - 1, by decide⟩
  rw [window, window, recency, hc, List.take_succ_cons, Nat.add_sub_cancel, take_filter_ne k _ c (recency_nodup older)]

theorem servedCount_out {hist : List ReqKey} {k : ReqKey} (h : k ∉ window hist) :
    servedCount hist k = 0 := by
  cases hist with
  | nil => rfl
  | cons k' older =>
    -- the newest key is in the window
    have hne : ¬ k' = k := fun heq => h (by rw [← heq, window_cons]; exact List.mem_cons_self)
    rw [servedCount, if_neg hne, if_neg h]

theorem servedCount_self (k : ReqKey) (older : List ReqKey) :
    servedCount (k :: older) k = bump (if k ∈ window older then servedCount older k else 0) := by
  have : (if k ∈ window older then servedCount older k else 0) = servedCount older k := by
    split
    · rfl
    · rename_i h; exact (servedCount_out h).symm
  rw [this]
  simp [servedCount, bump]

/-- **The cache is a function of the history**: its keys are the LRU window (the 100 most
    recently used distinct (peer, request) keys, most recent first) and every key carries the
    number of times it was served since it last entered the window. -/
theorem cacheOf_eq : ∀ hist, cacheOf hist = (window hist).map (fun k => (k, servedCount hist k))
  | [] => rfl
  | k :: older => by
    have hlen : (window older).length ≤ seenCap := by rw [window, List.length_take]; exact Nat.min_le_left _ _
    rw [cacheOf, cacheOf_eq older, stepK_map _ k _ hlen, window_cons, List.map_cons, servedCount_self]
    congr 1
    -- behind `k` the counts are those of the older history
    refine List.map_congr_left fun x hx => ?_
    have hxk : k ≠ x := fun h => by
      have := (List.mem_filter.mp (List.mem_of_mem_take hx)).2
      simp [h] at this
    rw [servedCount_other hxk (by rw [window_cons]; exact List.mem_cons_of_mem _ hx)]

/-- the seen-requests cache of a service that handled the calls `ops` (oldest first) -/
def cacheAfter (t : Tree) (ops : List (Nat × Request)) : Cache :=
  ops.foldl (fun c o => (request t c o.1 o.2).1) []

/-- the keys of the calls that reach the limiter (non-empty field mask), newest first -/
def keysOf (ops : List (Nat × Request)) : List ReqKey :=
  ops.foldl (fun ks o => if o.2.mask = 0 then ks else reqKey o.1 o.2 :: ks) []

theorem cacheAfter_eq (t : Tree) (ops : List (Nat × Request)) :
    cacheAfter t ops = cacheOf (keysOf ops) :=
  List.foldl_hom cacheOf (init := []) fun ks o => by
    rw [request_cache]
    split <;> rfl

theorem lruGet_cacheOf (hist : List ReqKey) (k : ReqKey) :
    (lruGet (cacheOf hist) k).1 = servedCount hist k := by
  rw [cacheOf_eq]
  simp only [lruGet, find_map_pair]
  by_cases hin : k ∈ window hist
  · simp only [hin, ite_true]
  · simp only [hin, ite_false]
    exact (servedCount_out hin).symm

theorem recency_prefix : ∀ (fs older : List ReqKey), fs.Nodup →
    ∃ rest, recency (fs ++ older) = fs ++ rest
  | [], older, _ => ⟨recency older, rfl⟩
  | f :: fs, older, hnd => by
    obtain ⟨hf, hfs⟩ := List.nodup_cons.mp hnd
    obtain ⟨rest, hr⟩ := recency_prefix fs older hfs
    refine ⟨rest.filter (· ≠ f), ?_⟩
    simp only [List.cons_append, recency, hr, List.filter_append]
    congr 2
    exact filter_ne_self hf

end Gossamer.C31
