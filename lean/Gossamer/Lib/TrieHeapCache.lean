/-
Semantics of the Merkle value caches of the heap model, without fuel: `Val hp a m`, `CalculateMerkleValue` on the
node at `a` yields `m` reading the caches of `hp`; `RVal hp a m`, `CalculateRootMerkleValue` yields `m`.
Hashing only writes caches, and what it writes is what would be computed anyway (`calcMV_ok`, `encodeAndHash_spec`).

Five relations say "`hp'` differs from `hp` by cache writes only"; they differ in which cells and in what is known
of the values written:
* `MvOnly hp hp'` (here): every cell keeps all fields but `mv`; nothing about the values.  What `calcMV`, `hash` do.
* `CacheOnly hp hp'` (here): every cell keeps all fields but `mv` and `dirty`.  `MvOnly` implies it
  (`MvOnly.cacheOnly`).  What `writeDirty` does (it also cleans).
* `TrP H P hp hp'` (here): on the cells of `P` only, a cell is untouched or holds a value that `Val H hp` assigns
  to it, `dirty` kept or cleared (`CellT`).  For a region `P` closed under child pointers (`Closed`, always a
  separate hypothesis) `Val` of the cells of `P` is the same in both heaps (`TrP.val_iff`), whatever happens outside.
* `Tr H hp hp'` (here): `MvOnly`, and `TrP` on EVERY closed region.  What `calcMV` and the children phase of
  `encodeAndHash` do (`CalcOK`); the value written last at the node itself may be of the root flavour and is not
  covered.
* `VP H P ρ hp hp'` (TrieHeapView): `TrP` on `P`, and at the one cell `ρ` a value of either flavour.  What
  `calcRootMV`/`hash` and `writeDirty` of ANOTHER trie are to a reader with root cell `ρ` (`calcRootMV_vp`,
  `writeDirty_vp`); `Tr` gives it for every view (`VP.of_tr`), and `Good` (TrieHeapGood) holds it for every
  admissible view, so the mutators give it too.  Its consequence is `VP.rval_iff`: the reader's root hash is unchanged.
-/
import Gossamer.Lib.TrieHeapLemmas
import Gossamer.Lib.AList
namespace Gossamer
namespace TrieHeap

def kidsBytes (ks : Nib → Option Nat) (ms : Nib → Bytes) : Bytes :=
  (List.finRange 16).flatMap (fun i => if (ks i).isSome then TrieCodec.scaleEncBytes (ms i) else [])

theorem kidsBytes_congr (ks : Nib → Option Nat) (ms ms' : Nib → Bytes)
    (h : ∀ i c, ks i = some c → ms i = ms' i) : kidsBytes ks ms = kidsBytes ks ms' := by
  unfold kidsBytes
  congr 1
  funext i
  cases hk : ks i with
  | none => simp
  | some c => rw [h i c hk]

/-- `CalculateMerkleValue` as a relation -/
inductive Val (H : Bytes → Bytes) (hp : Heap) : Nat → Bytes → Prop where
  | cached {a : Nat} {m : Bytes} : (hp.get a).dirty = false → (hp.get a).mv = some m → Val H hp a m
  | comp {a : Nat} (ms : Nib → Bytes) : ((hp.get a).dirty = true ∨ (hp.get a).mv = none) →
      (∀ i c, (hp.get a).encKids i = some c → Val H hp c (ms i)) →
      Val H hp a (merkleValue H (encodeHead H (hp.get a) ++ kidsBytes (hp.get a).encKids ms))

/-- the encoding of the node at `a` (children through their cached / computed Merkle values) -/
def Enc (H : Bytes → Bytes) (hp : Heap) (a : Nat) (e : Bytes) : Prop :=
  ∃ ms : Nib → Bytes, (∀ i c, (hp.get a).encKids i = some c → Val H hp c (ms i)) ∧
    e = encodeHead H (hp.get a) ++ kidsBytes (hp.get a).encKids ms

/-- `CalculateRootMerkleValue` as a relation -/
def RVal (H : Bytes → Bytes) (hp : Heap) (a : Nat) (m : Bytes) : Prop :=
  (((hp.get a).dirty = false ∧ ((hp.get a).mv.getD []).length = 32) ∧ (hp.get a).mv = some m) ∨
  (¬ ((hp.get a).dirty = false ∧ ((hp.get a).mv.getD []).length = 32) ∧ ∃ e, Enc H hp a e ∧ m = H e)

theorem Val.functional {H : Bytes → Bytes} {hp : Heap} {a : Nat} {m m' : Bytes}
    (h : Val H hp a m) (h' : Val H hp a m') : m = m' := by
  induction h generalizing m' with
  | cached hd hm =>
    cases h' with
    | cached _ hm' => rw [hm] at hm'; exact Option.some.inj hm'
    | comp ms hc _ => rcases hc with hc | hc <;> simp_all
  | @comp a ms hc _ ih =>
    cases h' with
    | cached hd hm => rcases hc with hc | hc <;> simp_all
    | comp ms' _ hk' =>
      rw [kidsBytes_congr _ ms ms' (fun i c hcc => ih i c hcc (hk' i c hcc))]

theorem Enc.functional {H : Bytes → Bytes} {hp : Heap} {a : Nat} {e e' : Bytes}
    (h : Enc H hp a e) (h' : Enc H hp a e') : e = e' := by
  obtain ⟨ms, hk, rfl⟩ := h
  obtain ⟨ms', hk', rfl⟩ := h'
  rw [kidsBytes_congr _ ms ms' (fun i c hcc => (hk i c hcc).functional (hk' i c hcc))]

theorem RVal.functional {H : Bytes → Bytes} {hp : Heap} {a : Nat} {m m' : Bytes}
    (h : RVal H hp a m) (h' : RVal H hp a m') : m = m' := by
  rcases h with ⟨hc, hm⟩ | ⟨hc, e, he, rfl⟩ <;> rcases h' with ⟨hc', hm'⟩ | ⟨hc', e', he', rfl⟩
  · rw [hm] at hm'; exact Option.some.inj hm'
  · exact absurd hc hc'
  · exact absurd hc' hc
  · rw [he.functional he']

theorem encodeHead_strip (H : Bytes → Bytes) {n n' : HNode} (h : n'.strip = n.strip) :
    encodeHead H n' = encodeHead H n := by
  unfold encodeHead
  rw [strip_isBranch h, strip_mbh h, strip_pk h, strip_val h, strip_kids h]

theorem encKids_strip {n n' : HNode} (h : n'.strip = n.strip) : n'.encKids = n.encKids := by
  unfold HNode.encKids
  rw [strip_isBranch h, strip_kids h]

theorem encKids_sub {n : HNode} {i : Nib} {c : Nat} (h : n.encKids i = some c) : n.kids i = some c := by
  unfold HNode.encKids at h
  split at h
  · exact h
  · simp [noKids] at h

/-- `HeapWF hp` is `Closed (· < hp.size) hp` written out, and is used as such with `Reach.closed`. -/
def Closed (P : Nat → Prop) (hp : Heap) : Prop :=
  ∀ a, P a → ∀ i c, (hp.get a).kids i = some c → P c

theorem closed_reach (hp : Heap) (a : Nat) : Closed (Reach hp a) hp :=
  fun _ hb i _ hk => hb.tail i hk

theorem Reach.closed {P : Nat → Prop} {hp : Heap} (hc : Closed P hp) {a b : Nat} (ha : P a) (h : Reach hp a b) :
    P b := by
  induction h with
  | refl => exact ha
  | step i hk _ ih => exact ih (hc _ ha i _ hk)

theorem reachO_lt {hp : Heap} (hwf : HeapWF hp) {root : Option Nat} (hr : ∀ r, root = some r → r < hp.size)
    {b : Nat} (h : ReachO hp root b) : b < hp.size := by
  obtain ⟨r, e, h⟩ := reachO_iff.mp h
  exact Reach.closed hwf (hr r e) h

/-- a transparent cache write at ONE cell: the cell keeps its other fields; its cache is untouched, or it
    holds a value that the readers of the cell accept (`ok`), with `Dirty` kept or cleared -/
def CellT (ok : Bytes → Prop) (n n' : HNode) : Prop :=
  n'.strip = n.strip ∧
    (n' = n ∨ ∃ m, n'.mv = some m ∧ (n'.dirty = n.dirty ∨ n'.dirty = false) ∧ ok m)

theorem CellT.dirty {ok : Bytes → Prop} {n n' : HNode} (c : CellT ok n n') :
    n'.dirty = n.dirty ∨ n'.dirty = false := by
  rcases c.2 with e | ⟨_, _, hd, _⟩
  · exact Or.inl (by rw [e])
  · exact hd

theorem CellT.mono {ok ok' : Bytes → Prop} {n n' : HNode} (c : CellT ok n n') (h : ∀ m, ok m → ok' m) :
    CellT ok' n n' :=
  ⟨c.1, c.2.imp id (fun ⟨m, hm, hd, hv⟩ => ⟨m, hm, hd, h m hv⟩)⟩

theorem CellT.trans {ok ok' : Bytes → Prop} {n n1 n2 : HNode} (a : CellT ok n n1) (b : CellT ok' n1 n2)
    (h : ∀ m, ok' m → ok m) : CellT ok n n2 := by
  refine ⟨b.1.trans a.1, ?_⟩
  rcases b.2 with e2 | ⟨m, hm, hd, hv⟩
  · rw [e2]; exact a.2
  · refine Or.inr ⟨m, hm, ?_, h m hv⟩
    rcases hd with hd | hd
    · exact a.dirty.imp hd.trans hd.trans
    · exact Or.inr hd

theorem CellT.write_mv {ok : Bytes → Prop} {n n1 : HNode} (a : CellT ok n n1) {m : Bytes} (hm : ok m) :
    CellT ok n { n1 with mv := some m } :=
  ⟨a.1, Or.inr ⟨m, rfl, a.dirty, hm⟩⟩

theorem CellT.write_clean {ok : Bytes → Prop} {n n1 : HNode} (a : CellT ok n n1) {m : Bytes}
    (hmv : n1.mv = some m) (hm : ok m) : CellT ok n { n1 with dirty := false } :=
  ⟨a.1, Or.inr ⟨m, hmv, Or.inr rfl, hm⟩⟩

theorem CellT.cached_bwd {H : Bytes → Bytes} {ok : Bytes → Prop} {hp hp' : Heap} {a : Nat}
    (c : CellT ok (hp.get a) (hp'.get a)) {m : Bytes} (hd : (hp'.get a).dirty = false)
    (hm : (hp'.get a).mv = some m) : Val H hp a m ∨ ok m := by
  rcases c.2 with he | ⟨m', hm', _, hv⟩
  · exact Or.inl (Val.cached (by rw [← he]; exact hd) (by rw [← he]; exact hm))
  · rw [hm] at hm'; cases hm'; exact Or.inr hv

/-- a write leaves the cell clean unless it was dirty and stays so -/
theorem CellT.comp_bwd {H : Bytes → Bytes} {ok : Bytes → Prop} {hp hp' : Heap} {a : Nat}
    (c : CellT ok (hp.get a) (hp'.get a)) (ms : Nib → Bytes)
    (hcnd : (hp'.get a).dirty = true ∨ (hp'.get a).mv = none)
    (hk : ∀ i x, (hp.get a).encKids i = some x → Val H hp x (ms i)) :
    Val H hp a (merkleValue H (encodeHead H (hp'.get a) ++ kidsBytes (hp'.get a).encKids ms)) := by
  rw [encodeHead_strip H c.1, encKids_strip c.1]
  refine Val.comp ms ?_ hk
  rcases c.2 with he | ⟨m', hm', hd', _⟩
  · rw [← he]; exact hcnd
  · have hdt : (hp'.get a).dirty = true := hcnd.resolve_right (by rw [hm']; exact nofun)
    rcases hd' with h1 | h1
    · exact Or.inl (h1 ▸ hdt)
    · rw [hdt] at h1; cases h1

/-- transparent cache writes on the cells of `P`.  The field is `CellT (Val H hp a) (hp.get a) (hp'.get a)` with
    `CellT` unfolded; Lean identifies the two, and the lemmas below pass `t.cell a ha` to the `CellT` lemmas as it is. -/
structure TrP (H : Bytes → Bytes) (P : Nat → Prop) (hp hp' : Heap) : Prop where
  cell : ∀ a, P a → (hp'.get a).strip = (hp.get a).strip ∧
    (hp'.get a = hp.get a ∨
      ∃ m, (hp'.get a).mv = some m ∧
        ((hp'.get a).dirty = (hp.get a).dirty ∨ (hp'.get a).dirty = false) ∧ Val H hp a m)

theorem TrP.refl (H : Bytes → Bytes) (P : Nat → Prop) (hp : Heap) : TrP H P hp hp :=
  ⟨fun _ _ => ⟨rfl, Or.inl rfl⟩⟩

theorem TrP.closed {H : Bytes → Bytes} {P : Nat → Prop} {hp hp' : Heap} (t : TrP H P hp hp')
    (hc : Closed P hp) : Closed P hp' := by
  intro a ha i c hk
  rw [strip_kids (t.cell a ha).1] at hk
  exact hc a ha i c hk

theorem TrP.mono {H : Bytes → Bytes} {P Q : Nat → Prop} {hp hp' : Heap} (t : TrP H Q hp hp')
    (h : ∀ a, P a → Q a) : TrP H P hp hp' :=
  ⟨fun a ha => t.cell a (h a ha)⟩

theorem TrP.val_fwd {H : Bytes → Bytes} {P : Nat → Prop} {hp hp' : Heap} (t : TrP H P hp hp')
    (hc : Closed P hp) {a : Nat} {m : Bytes} (h : Val H hp a m) (ha : P a) : Val H hp' a m := by
  induction h with
  | @cached a m hd hm =>
    rcases (t.cell a ha).2 with he | ⟨m', hm', hd', hv⟩
    · exact Val.cached (by rw [he]; exact hd) (by rw [he]; exact hm)
    · obtain rfl := hv.functional (Val.cached hd hm)
      exact Val.cached (hd'.elim (·.trans hd) id) hm'
  | @comp a ms hcnd hk ih =>
    obtain ⟨hs, hcell⟩ := t.cell a ha
    have hcomp : ((hp'.get a).dirty = true ∨ (hp'.get a).mv = none) →
        Val H hp' a (merkleValue H (encodeHead H (hp.get a) ++ kidsBytes (hp.get a).encKids ms)) := fun h' => by
      have := Val.comp (H := H) (hp := hp') ms h' (fun i c hic => by
        rw [encKids_strip hs] at hic; exact ih i c hic (hc a ha i c (encKids_sub hic)))
      rw [encodeHead_strip H hs, encKids_strip hs] at this
      exact this
    rcases hcell with he | ⟨m', hm', _, hv⟩
    · exact hcomp (by rw [he]; exact hcnd)
    · obtain rfl := hv.functional (Val.comp ms hcnd hk)
      by_cases hdd : (hp'.get a).dirty = false
      · exact Val.cached hdd hm'
      · exact hcomp (Or.inl (by simpa using hdd))

theorem TrP.val_bwd {H : Bytes → Bytes} {P : Nat → Prop} {hp hp' : Heap} (t : TrP H P hp hp')
    (hc : Closed P hp) {a : Nat} {m : Bytes} (h : Val H hp' a m) (ha : P a) : Val H hp a m := by
  induction h with
  | @cached a m hd hm => exact (CellT.cached_bwd (t.cell a ha) hd hm).elim id id
  | @comp a ms hcnd hk ih =>
    exact CellT.comp_bwd (t.cell a ha) ms hcnd (fun i x hic =>
      ih i x (by rw [encKids_strip (t.cell a ha).1]; exact hic) (hc a ha i x (encKids_sub hic)))

theorem TrP.val_iff {H : Bytes → Bytes} {P : Nat → Prop} {hp hp' : Heap} (t : TrP H P hp hp')
    (hc : Closed P hp) {a : Nat} (ha : P a) (m : Bytes) : Val H hp a m ↔ Val H hp' a m :=
  ⟨fun h => t.val_fwd hc h ha, fun h => t.val_bwd hc h ha⟩

theorem TrP.trans {H : Bytes → Bytes} {P : Nat → Prop} {hp hp1 hp2 : Heap} (t1 : TrP H P hp hp1)
    (t2 : TrP H P hp1 hp2) (hc : Closed P hp) : TrP H P hp hp2 :=
  ⟨fun a ha => CellT.trans (t1.cell a ha) (t2.cell a ha) (fun _ hv => t1.val_bwd hc hv ha)⟩

theorem TrP.enc_iff {H : Bytes → Bytes} {P : Nat → Prop} {hp hp' : Heap} (t : TrP H P hp hp')
    (hc : Closed P hp) {a : Nat} (hs : (hp'.get a).strip = (hp.get a).strip)
    (hk : ∀ i c, (hp.get a).kids i = some c → P c) (e : Bytes) : Enc H hp a e ↔ Enc H hp' a e := by
  constructor
  · rintro ⟨ms, hv, rfl⟩
    refine ⟨ms, ?_, ?_⟩
    · intro i c hic
      rw [encKids_strip hs] at hic
      exact t.val_fwd hc (hv i c hic) (hk i c (encKids_sub hic))
    · rw [encodeHead_strip H hs, encKids_strip hs]
  · rintro ⟨ms, hv, rfl⟩
    refine ⟨ms, ?_, ?_⟩
    · intro i c hic
      have hic' : (hp'.get a).encKids i = some c := by rw [encKids_strip hs]; exact hic
      exact t.val_bwd hc (hv i c hic') (hk i c (encKids_sub hic))
    · rw [encodeHead_strip H hs, encKids_strip hs]

structure MvOnly (hp hp' : Heap) : Prop where
  size : hp'.size = hp.size
  cell : ∀ b, (hp'.get b).strip = (hp.get b).strip ∧ (hp'.get b).dirty = (hp.get b).dirty

theorem MvOnly.refl (hp : Heap) : MvOnly hp hp := ⟨rfl, fun _ => ⟨rfl, rfl⟩⟩

theorem MvOnly.trans {hp hp1 hp2 : Heap} (a : MvOnly hp hp1) (b : MvOnly hp1 hp2) : MvOnly hp hp2 :=
  ⟨b.size.trans a.size, fun x => ⟨(b.cell x).1.trans (a.cell x).1, (b.cell x).2.trans (a.cell x).2⟩⟩

theorem MvOnly.kids {hp hp' : Heap} (h : MvOnly hp hp') (b : Nat) : (hp'.get b).kids = (hp.get b).kids :=
  strip_kids (h.cell b).1

theorem MvOnly.closed {hp hp' : Heap} (h : MvOnly hp hp') {P : Nat → Prop} (hc : Closed P hp) :
    Closed P hp' := by
  intro a ha i c hk
  rw [h.kids] at hk
  exact hc a ha i c hk

theorem MvOnly.reach {hp hp' : Heap} (h : MvOnly hp hp') {a b : Nat} (r : Reach hp a b) : Reach hp' a b :=
  r.congr (fun x _ _ => h.kids x)

structure CacheOnly (hp hp' : Heap) : Prop where
  size : hp'.size = hp.size
  cell : ∀ b, (hp'.get b).strip = (hp.get b).strip

theorem CacheOnly.refl (hp : Heap) : CacheOnly hp hp := ⟨rfl, fun _ => rfl⟩

theorem CacheOnly.trans {hp hp1 hp2 : Heap} (a : CacheOnly hp hp1) (b : CacheOnly hp1 hp2) :
    CacheOnly hp hp2 := ⟨b.size.trans a.size, fun x => (b.cell x).trans (a.cell x)⟩

theorem MvOnly.cacheOnly {hp hp' : Heap} (h : MvOnly hp hp') : CacheOnly hp hp' :=
  ⟨h.size, fun b => (h.cell b).1⟩

theorem CacheOnly.wf {hp hp' : Heap} (hc : CacheOnly hp hp') (h : HeapWF hp) : HeapWF hp' := by
  intro a ha i x hx
  rw [hc.size] at ha ⊢
  rw [strip_kids (hc.cell a)] at hx
  exact h a ha i x hx

theorem cacheOnly_clean (hp : Heap) (a : Nat) :
    CacheOnly hp (hp.modify a (fun x => { x with dirty := false })) := by
  refine ⟨by simp, fun b => ?_⟩
  rcases hp.get_modify_cases a _ b with ⟨_, e⟩ | e <;> rw [e] <;> rfl

theorem MvOnly.modify_mv (hp : Heap) (a : Nat) (m : Option Bytes) :
    MvOnly hp (hp.modify a (fun x => { x with mv := m })) := by
  refine ⟨by simp, fun b => ?_⟩
  rcases hp.get_modify_cases a _ b with ⟨_, e⟩ | e <;> rw [e] <;> exact ⟨rfl, rfl⟩

/-- what hashing the children of a node does to the heap -/
structure Tr (H : Bytes → Bytes) (hp hp' : Heap) : Prop where
  mvOnly : MvOnly hp hp'
  trp : ∀ Q : Nat → Prop, Closed Q hp → TrP H Q hp hp'

theorem Tr.refl (H : Bytes → Bytes) (hp : Heap) : Tr H hp hp := ⟨MvOnly.refl hp, fun Q _ => TrP.refl H Q hp⟩

theorem Tr.trans {H : Bytes → Bytes} {hp hp1 hp2 : Heap} (a : Tr H hp hp1) (b : Tr H hp1 hp2) : Tr H hp hp2 :=
  ⟨a.mvOnly.trans b.mvOnly, fun Q hq => (a.trp Q hq).trans (b.trp Q (a.mvOnly.closed hq)) hq⟩

/-- the result `r` of `calcMV` with any fuel at `a` (`calcMV_ok`); also what `encodeKids_spec` asks of the call on a child -/
structure CalcOK (H : Bytes → Bytes) (hp : Heap) (a : Nat) (r : Heap × Option Bytes) : Prop where
  tr : Tr H hp r.1
  val : ∀ m, r.2 = some m → Val H hp a m

def encKidStep (rec : Heap → Nat → Heap × Option Bytes) (ks : Nib → Option Nat)
    (acc : Heap × Option Bytes) (i : Nib) : Heap × Option Bytes :=
  match ks i, acc.2 with
  | some c, some bs => ((rec acc.1 c).1, (rec acc.1 c).2.map (fun m => bs ++ TrieCodec.scaleEncBytes m))
  | _, _ => acc

theorem encKidStep_none {rec : Heap → Nat → Heap × Option Bytes} {ks : Nib → Option Nat} {i : Nib}
    (h : ks i = none) (acc : Heap × Option Bytes) : encKidStep rec ks acc i = acc := by
  unfold encKidStep; rw [h]

theorem encKidStep_some {rec : Heap → Nat → Heap × Option Bytes} {ks : Nib → Option Nat} {i : Nib} {c : Nat}
    (h : ks i = some c) (hp : Heap) (bs : Bytes) :
    encKidStep rec ks (hp, some bs) i =
      ((rec hp c).1, (rec hp c).2.map (fun m => bs ++ TrieCodec.scaleEncBytes m)) := by
  unfold encKidStep; rw [h]

/-- `encodeKids` (like `dnlLoop`, `wdKids`) is irreducible, so that unfolding a function that calls it does not
    expand the loop over the sixteen slots; this equation (the model's `encodeKids_eq`) is the way in. -/
theorem encodeKids_fold (rec : Heap → Nat → Heap × Option Bytes) (ks : Nib → Option Nat) (hp : Heap) :
    encodeKids rec ks hp = (List.finRange 16).foldl (encKidStep rec ks) (hp, some []) :=
  encodeKids_eq rec ks hp

theorem encodeKids_noKids (rec : Heap → Nat → Heap × Option Bytes) (hp : Heap) :
    encodeKids rec noKids hp = (hp, some []) := by
  rw [encodeKids_fold]
  exact foldl_pres (· = (hp, some [])) _ (fun _ _ h => h ▸ encKidStep_none rfl _) _ rfl

/-- The loop of `encodeKids` for any calls `rec` that keep a heap property `P` and return `ms i` at child `i`
    (`S i c`: a fact learnt at that call).  Two users: `encodeKids_spec` below (`P := Tr H hp`, `S`: the value is
    `Val`'s) and `hashFinish_pure` of C04Write (`P`: the frame `DT`), which also needs the last clause: the loop
    returns a value if every call does. -/
theorem encodeKids_inv {P : Heap → Prop} {S : Nib → Nat → Prop} (rec : Heap → Nat → Heap × Option Bytes)
    (ks : Nib → Option Nat) (ms : Nib → Bytes)
    (hrec : ∀ hp1 i c, P hp1 → ks i = some c →
      P (rec hp1 c).1 ∧ ∀ m, (rec hp1 c).2 = some m → m = ms i ∧ S i c) (hp : Heap) (h0 : P hp) :
    P (encodeKids rec ks hp).1 ∧
    (∀ out, (encodeKids rec ks hp).2 = some out → (∀ i c, ks i = some c → S i c) ∧ out = kidsBytes ks ms) ∧
    ((∀ hp1 i c, P hp1 → ks i = some c → (rec hp1 c).2 ≠ none) → (encodeKids rec ks hp).2 ≠ none) := by
  rw [encodeKids_fold]
  have key := foldl_inv (encKidStep rec ks)
    (fun pre acc => P acc.1 ∧
      (∀ out, acc.2 = some out → (∀ i ∈ pre, ∀ c, ks i = some c → S i c) ∧
        out = pre.flatMap (fun i => if (ks i).isSome then TrieCodec.scaleEncBytes (ms i) else [])) ∧
      ((∀ hp1 i c, P hp1 → ks i = some c → (rec hp1 c).2 ≠ none) → acc.2 ≠ none))
    (fun _ => True) ?step (List.finRange 16) [] (hp, some []) (fun _ _ => trivial)
    ⟨h0, fun out ho => ⟨fun _ hi => (nomatch hi), by cases ho; rfl⟩, fun _ => nofun⟩
  · obtain ⟨h1, h2, h3⟩ := key
    exact ⟨h1, fun out ho => ⟨fun i => (h2 out ho).1 i (List.mem_finRange i), (h2 out ho).2⟩, h3⟩
  case step =>
    rintro pre ⟨hp1, o⟩ i - ⟨hP, h2, h3⟩
    cases hki : ks i with
    | none =>
      rw [encKidStep_none hki]
      refine ⟨hP, fun out ho => ⟨fun j hj c hs => ?_, by simp [hki, (h2 out ho).2]⟩, h3⟩
      rcases List.mem_append.mp hj with hj | hj
      · exact (h2 out ho).1 j hj c hs
      · cases List.mem_singleton.mp hj; rw [hki] at hs; cases hs
    | some c =>
      cases o with
      | none =>
        -- once a call has failed nothing more happens
        have : encKidStep rec ks (hp1, none) i = (hp1, none) := by unfold encKidStep; rw [hki]
        rw [this]; exact ⟨hP, nofun, h3⟩
      | some bs =>
        rw [encKidStep_some hki]
        obtain ⟨hP', hv⟩ := hrec hp1 i c hP hki
        obtain ⟨hS, hbs⟩ := h2 bs rfl
        refine ⟨hP', fun out ho => ?_, fun hall e => hall hp1 i c hP hki (by simpa using e)⟩
        cases hr : (rec hp1 c).2 with
        | none => rw [hr] at ho; cases ho
        | some m =>
          rw [hr] at ho; cases ho
          obtain ⟨hm, hSi⟩ := hv m hr
          refine ⟨fun j hj c' hs => ?_, by simp [hki, hbs, hm]⟩
          rcases List.mem_append.mp hj with hj | hj
          · exact hS j hj c' hs
          · cases List.mem_singleton.mp hj; cases hki.symm.trans hs; exact hSi

theorem encodeKids_spec (H : Bytes → Bytes) (rec : Heap → Nat → Heap × Option Bytes)
    (hrec : ∀ hp c, CalcOK H hp c (rec hp c)) (ks : Nib → Option Nat) (hp : Heap) :
    Tr H hp (encodeKids rec ks hp).1 ∧
    (∀ out, (encodeKids rec ks hp).2 = some out →
      ∃ ms : Nib → Bytes, (∀ i c, ks i = some c → Val H hp c (ms i)) ∧ out = kidsBytes ks ms) := by
  -- the value `Val` assigns to each child (any value where there is none), chosen before the loop runs
  obtain ⟨ms, hms⟩ : ∃ ms : Nib → Bytes, ∀ j c m, ks j = some c → Val H hp c m → ms j = m :=
    ⟨fun j => Classical.epsilon (fun m => ∃ c, ks j = some c ∧ Val H hp c m), fun j c m hk hv => by
      obtain ⟨c', hk', hv'⟩ := Classical.epsilon_spec (p := fun m => ∃ c, ks j = some c ∧ Val H hp c m) ⟨m, c, hk, hv⟩
      cases hk.symm.trans hk'
      exact hv'.functional hv⟩
  obtain ⟨h1, h3, _⟩ := encodeKids_inv (P := fun hp1 => Tr H hp hp1)
    (S := fun i c => Val H hp c (ms i)) rec ks ms
    (fun hp1 i c hP hki => by
      have ok := hrec hp1 c
      refine ⟨hP.trans ok.tr, fun m hr => ?_⟩
      have hval : Val H hp c m :=
        (hP.trp (Reach hp c) (closed_reach hp c)).val_bwd (closed_reach hp c) (ok.val m hr) (Reach.refl c)
      have hms := hms i c m hki hval
      exact ⟨hms.symm, hms ▸ hval⟩)
    hp (Tr.refl H hp)
  exact ⟨h1, fun out ho => ⟨ms, h3 out ho⟩⟩

theorem TrP.write_mv {H : Bytes → Bytes} {Q : Nat → Prop} {hp hp1 : Heap} (t : TrP H Q hp hp1)
    (a : Nat) (m : Bytes) (hv : Q a → Val H hp a m) :
    TrP H Q hp (hp1.modify a (fun x => { x with mv := some m })) := by
  refine ⟨fun b hb => ?_⟩
  rcases hp1.get_modify_cases a _ b with ⟨rfl, e⟩ | e <;> rw [e]
  · exact CellT.write_mv (t.cell b hb) (hv hb)
  · exact t.cell b hb

/-- The body that `calcMV` (on a node it has to hash) and `encodeAndHash` share, `rec` being `calcMV` with some fuel.
    The result is a variable `r` so that a caller can `generalize` the call and take `r` apart. -/
theorem hashFinish_encodeKids_spec (H : Bytes → Bytes) (rec : Heap → Nat → Heap × Option Bytes)
    (hrec : ∀ hp c, CalcOK H hp c (rec hp c)) (root : Bool) (hp : Heap) (a : Nat)
    (r : Heap × Option (Bytes × Bytes))
    (hr : hashFinish H root (hp.get a) a (encodeKids rec (hp.get a).encKids hp) = r) :
    MvOnly hp r.1 ∧
    (match r.2 with
     | none => Tr H hp r.1
     | some (enc, m) => Enc H hp a enc ∧ m = (if root then H enc else merkleValue H enc) ∧
        ∃ hp1, Tr H hp hp1 ∧ r.1 = hp1.modify a (fun x => { x with mv := some m })) := by
  obtain ⟨h1, h3⟩ := encodeKids_spec H rec hrec (hp.get a).encKids hp
  subst hr
  unfold hashFinish
  cases hk : (encodeKids rec (hp.get a).encKids hp).2 with
  | none => exact ⟨h1.mvOnly, h1⟩
  | some ks =>
    obtain ⟨ms, hv, rfl⟩ := h3 ks hk
    exact ⟨h1.mvOnly.trans (MvOnly.modify_mv _ a _), ⟨ms, hv, rfl⟩, rfl, _, h1, rfl⟩

theorem calcMV_ok (H : Bytes → Bytes) : ∀ (f : Nat) (hp : Heap) (a : Nat), CalcOK H hp a (calcMV H f hp a)
  | 0, hp, a => ⟨Tr.refl H hp, fun m h => by simp [calcMV] at h⟩
  | f + 1, hp, a => by
    have ih := calcMV_ok H f
    unfold calcMV
    by_cases hc : (hp.get a).dirty = false ∧ (hp.get a).mv.isSome
    · simp only [hc, and_self, if_true]
      obtain ⟨m, hm⟩ := Option.isSome_iff_exists.mp hc.2
      exact ⟨Tr.refl H hp, fun m' h => by rw [hm] at h; cases h; exact Val.cached hc.1 hm⟩
    · simp only [hc, if_false]
      have hcnd : (hp.get a).dirty = true ∨ (hp.get a).mv = none := by
        by_cases hd : (hp.get a).dirty = true
        · exact Or.inl hd
        · right
          have hd' : (hp.get a).dirty = false := by simpa using hd
          cases hm : (hp.get a).mv with
          | none => rfl
          | some m => exact absurd ⟨hd', by simp [hm]⟩ hc
      generalize hr : hashFinish H false (hp.get a) a (encodeKids (calcMV H f) (hp.get a).encKids hp) = r
      obtain ⟨g1, g2⟩ := hashFinish_encodeKids_spec H (calcMV H f) ih false hp a r hr
      obtain ⟨hpe, _ | ⟨enc, m⟩⟩ := r
      · exact ⟨g2, fun m h => nomatch h⟩
      · obtain ⟨⟨ms, hv, rfl⟩, hm, hp1, t1, heq⟩ := g2
        have hval : Val H hp a m := by rw [hm, if_neg Bool.false_ne_true]; exact Val.comp ms hcnd hv
        cases (show hpe = _ from heq)
        exact ⟨⟨g1, fun Q hq => (t1.trp Q hq).write_mv a m (fun _ => hval)⟩, fun m' hm' => by cases hm'; exact hval⟩

theorem encodeAndHash_spec (H : Bytes → Bytes) (root : Bool) (hp : Heap) (a : Nat) :
    MvOnly hp (encodeAndHash H root hp a).1 ∧
    (match (encodeAndHash H root hp a).2 with
     | none => Tr H hp (encodeAndHash H root hp a).1
     | some (enc, m) => Enc H hp a enc ∧ m = (if root then H enc else merkleValue H enc) ∧
        ∃ hp1, Tr H hp hp1 ∧ (encodeAndHash H root hp a).1 = hp1.modify a (fun x => { x with mv := some m })) :=
  hashFinish_encodeKids_spec H (calcMV H bigFuel) (calcMV_ok H bigFuel) root hp a _ rfl

end TrieHeap
end Gossamer
