/-
C08: one level of overlay, abstractly.  `res` is the ordered map obtained from the ordered map
`base` by the upserts `ups` and the deletions `dels` (disjoint key sets).  Reads: the way
`TrieState` computes a value, the next key, entry listings and key listings from (`ups`, `dels`,
`base`) agrees with the ordered-map operations on `res`.  Writes: `upsert` / `delete` of a change
set and the loops over them act on `res` as upsert / erase / filter.  The same facts serve the main
trie and every child trie.
-/
import Gossamer.Lib.C08KeyLists
set_option linter.unusedSectionVars false
namespace Gossamer.C08
open Gossamer

-- `Overlay.get` decides `x ∈ dels` through core's instance for `LawfulBEq UInt8`; with the shortcut of
-- Base/Bytes in scope the field would elaborate to a different (propositionally equal) term
attribute [-instance] lawfulBEqUInt8 in
structure Overlay (base : Entries) (ups : KMap Bytes) (dels : KSet) (res : Entries) : Prop where
  sbase : OMap.Sorted base
  sups : KMap.Sorted ups
  sres : OMap.Sorted res
  disj : ∀ x, x ∈ dels → KMap.find x ups = none
  get : ∀ x, OMap.get x res = if x ∈ dels then none else ov (KMap.find x ups) (OMap.get x base)

/-- `get` of a change set followed by the fall-through to `x`, as an overlay -/
theorem cdiff_get_ov (c : CDiff) (k : Bytes) (x : Option Bytes)
    (h : k ∈ c.deletes → KMap.find k c.upserts = none) :
    (if ((c.get k).1.isSome || (c.get k).2) = true then (c.get k).1 else x) =
      if k ∈ c.deletes then none else ov (KMap.find k c.upserts) x := by
  unfold CDiff.get
  split
  · rename_i v hv
    have : k ∉ c.deletes := fun hm => by rw [h hm] at hv; cases hv
    simp [this, hv]
  · rename_i hv
    by_cases hdel : k ∈ c.deletes
    · simp [hdel, KSet.has]
    · have : KSet.has k c.deletes = false := by simp [KSet.has, hdel]
      simp [this, hdel, hv]

section
variable {base : Entries} {ups : KMap Bytes} {dels : KSet} {res : Entries}

theorem Overlay.mem_res (h : Overlay base ups dels res) (x : Bytes) :
    x ∈ res.map (·.1) ↔ (x ∈ KMap.keys ups ∨ (x ∈ base.map (·.1) ∧ x ∉ dels)) := by
  rw [omap_mem_keys, h.get, KMap.mem_keys_iff, omap_mem_keys]
  by_cases hd : x ∈ dels
  · simp [hd, h.disj x hd]
  · simp only [hd, if_false, not_false_eq_true, and_true]
    cases hf : KMap.find x ups with
    | none | some v => simp

theorem Overlay.res_nil_iff {ups : KMap Bytes} {dels : KSet} {res : Entries}
    (h : Overlay [] ups dels res) : res = [] ↔ ups = [] := by
  -- both lists are empty exactly when they have no key, and by `mem_res` they have the same keys
  rw [← List.map_eq_nil_iff (f := (·.1)), ← List.map_eq_nil_iff (f := (·.1)) (l := ups),
    List.eq_nil_iff_forall_not_mem, List.eq_nil_iff_forall_not_mem]
  exact forall_congr' fun x => not_congr ((h.mem_res x).trans (or_iff_left fun hx => nomatch hx.1))

/-- `NextKey` / `GetChildNextKey` inside a transaction -/
theorem Overlay.next (h : Overlay base ups dels res) (k : Bytes) :
    OMap.nextKey k res =
      mergeNext (firstGt k (KMap.keys ups))
        ((Logical.keysAfterE base k).find? (fun x => !KSet.has x dels)) := by
  rw [find_keysAfter base k, nextKey_eq_firstGt]
  refine firstGt_union (KMap.sorted_keys h.sups) (KSet.sorted_filter (omap_sorted_keys h.sbase) _)
    (omap_sorted_keys h.sres) fun x => ?_
  rw [h.mem_res, List.mem_filter, Bool.not_eq_true', ← Bool.not_eq_true, KSet.has_iff]

/-- `TrieEntries` / the map built by `GetKeysWithPrefixFromChild` inside a transaction -/
theorem Overlay.entries (h : Overlay base ups dels res) :
    dels.foldl (fun m k => KMap.del k m)
        (ups.foldl (fun (m : KMap (Option Bytes)) e => KMap.ins e.1 (some e.2) m)
          (base.map (fun e => (e.1, some e.2)))) =
      res.map (fun e => (e.1, some e.2)) := by
  apply KMap.ext (KMap.sorted_foldl_del _ (KMap.sorted_foldl_ins _ _ (sorted_map_some h.sbase)))
    (sorted_map_some h.sres)
  intro k
  rw [KMap.find_foldl_del, KMap.find_foldl_ins some _ (KMap.nodupKeys_of_sorted h.sups), find_map_some,
    find_map_some, h.get]
  by_cases hd : k ∈ dels
  · simp [hd]
  · simp only [hd, if_false]
    cases KMap.find k ups <;> simp

end

section
variable {base res : Entries} {ups : KMap Bytes} {dels : KSet}

theorem Overlay.upsert (h : Overlay base ups dels res) (k v : Bytes) :
    Overlay base (KMap.ins k v ups) (KSet.del k dels) (OMap.upsert k v res) := by
  refine ⟨h.sbase, KMap.sorted_ins _ _ h.sups, OMap.sorted_upsert _ _ h.sres, disj_upsert h.disj k v, ?_⟩
  · intro x
    simp only [OMap.get_upsert, KMap.find_ins, KSet.mem_del, h.get]
    by_cases hx : x = k <;> simp [hx]

theorem Overlay.delete (h : Overlay base ups dels res) (k : Bytes) :
    Overlay base (KMap.del k ups) (KSet.ins k dels) (OMap.erase k res) := by
  refine ⟨h.sbase, KMap.sorted_del _ h.sups, OMap.sorted_erase _ h.sres, disj_delete h.disj k, ?_⟩
  · intro x
    simp only [OMap.get_erase, KMap.find_del, KSet.mem_ins, h.get]
    by_cases hx : x = k <;> simp [hx]

end

theorem mem_fold_dels (K : List Bytes) (c : CDiff) (x : Bytes) :
    x ∈ (K.foldl CDiff.delete c).deletes ↔ (x ∈ K ∨ x ∈ c.deletes) :=
  List.foldl_hom CDiff.deletes (g₁ := CDiff.delete) (g₂ := fun s k => KSet.ins k s) (fun _ _ => rfl) ▸
    mem_foldl_ins K c.deletes x

theorem Overlay.foldDelete {base res : Entries} {c : CDiff}
    (h : Overlay base c.upserts c.deletes res) (K : List Bytes) :
    Overlay base (K.foldl CDiff.delete c).upserts (K.foldl CDiff.delete c).deletes
      (res.filter (fun e => !K.contains e.1)) := by
  -- one `Overlay.delete` per key; the erasures together are the filter
  rw [← foldl_erase_eq_filter]
  induction K generalizing c res with
  | nil => exact h
  | cons k r ih => exact ih (h.delete k)

end Gossamer.C08
