import Gossamer.Lib.TrieSpec
import Gossamer.Lib.AList
-- the statements of `namespace OMap` take `[Rank α] [DecidableEq α]` from its `variable` line whether they use
-- both or not
set_option linter.unusedSectionVars false
namespace Gossamer
open Rank

section klt
variable {α : Type} [Rank α]

theorem klt_nil_right (a : List α) : klt a [] = false := by
  cases a <;> rfl

theorem klt_irrefl (a : List α) : klt a a = false := by
  induction a with
  | nil => rfl
  | cons x xs ih =>
    show (decide (rank x < rank x) || (rank x == rank x && klt xs xs)) = false
    rw [ih, Bool.and_false, Bool.or_false, decide_eq_false (Nat.lt_irrefl _)]

theorem klt_trans {a b c : List α} (h1 : klt a b = true) (h2 : klt b c = true) :
    klt a c = true := by
  induction a generalizing b c with
  | nil =>
    cases c with
    | nil => cases b <;> cases h2
    | cons z zs => rfl
  | cons x xs ih =>
    cases b with
    | nil => cases h1
    | cons y ys =>
      cases c with
      | nil => cases h2
      | cons z zs =>
        simp only [klt, Bool.or_eq_true, decide_eq_true_eq, Bool.and_eq_true, beq_iff_eq] at h1 h2 ⊢
        rcases h1 with h1 | ⟨e1, h1⟩ <;> rcases h2 with h2 | ⟨e2, h2⟩
        · exact Or.inl (Nat.lt_trans h1 h2)
        · exact Or.inl (e2 ▸ h1)
        · exact Or.inl (e1 ▸ h2)
        · exact Or.inr ⟨e1.trans e2, ih h1 h2⟩

theorem klt_trichotomy (a b : List α) : klt a b = true ∨ a = b ∨ klt b a = true := by
  induction a generalizing b with
  | nil => cases b with
    | nil => right; left; rfl
    | cons y ys => left; rfl
  | cons x xs ih =>
    cases b with
    | nil => right; right; rfl
    | cons y ys =>
      simp only [klt, Bool.or_eq_true, decide_eq_true_eq, Bool.and_eq_true, beq_iff_eq, List.cons.injEq]
      rcases Nat.lt_trichotomy (rank x) (rank y) with h | h | h
      · left; left; exact h
      · rcases ih ys with h' | h' | h'
        · left; right; exact ⟨h, h'⟩
        · right; left; exact ⟨rank_inj h, h'⟩
        · right; right; right; exact ⟨h.symm, h'⟩
      · right; right; left; exact h

theorem klt_ne {a b : List α} (h : klt a b = true) : a ≠ b := by
  intro e; subst e; simp [klt_irrefl] at h

theorem klt_append_cons (a : List α) (x : α) (r : List α) : klt a (a ++ x :: r) = true := by
  induction a with
  | nil => rfl
  | cons y ys ih => simp [klt, ih]

theorem klt_append_left (p a b : List α) : klt (p ++ a) (p ++ b) = klt a b := by
  induction p with
  | nil => rfl
  | cons y ys ih => simp [klt, ih]

theorem klt_strict : AList.StrictOrder (klt (α := α)) := ⟨klt_irrefl, klt_trans, klt_trichotomy⟩

theorem klt_asymm {a b : List α} (h : klt a b = true) : klt b a = false := klt_strict.asymm h

/-- the comparator is the one the harnesses sort listings that come from Go maps with -/
theorem mergeSort_of_sorted {β : Type} {l : List (List α × β)} (h : AList.Sorted klt l) :
    l.mergeSort (fun a b => !(klt b.1 a.1)) = l :=
  List.mergeSort_of_pairwise (h.imp fun hab => by simp [klt_asymm hab])

end klt

theorem isPrefixOf_self {α : Type} [DecidableEq α] (p : List α) : p.isPrefixOf p = true :=
  List.isPrefixOf_iff_prefix.mpr (List.prefix_refl p)

theorem isPrefixOf_append_self {α : Type} [DecidableEq α] (p r : List α) :
    p.isPrefixOf (p ++ r) = true :=
  List.isPrefixOf_iff_prefix.mpr (List.prefix_append p r)

theorem isPrefixOf_iff {α : Type} [DecidableEq α] {p k : List α} :
    p.isPrefixOf k = true ↔ ∃ r, k = p ++ r :=
  List.isPrefixOf_iff_prefix.trans (exists_congr fun _ => eq_comm)

theorem isPrefixOf_trans {α : Type} [DecidableEq α] {a b c : List α}
    (h1 : a.isPrefixOf b = true) (h2 : b.isPrefixOf c = true) : a.isPrefixOf c = true := by
  rw [List.isPrefixOf_iff_prefix] at *
  exact h1.trans h2

theorem isPrefixOf_antisymm {α : Type} [DecidableEq α] {a b : List α}
    (h1 : a.isPrefixOf b = true) (h2 : b.isPrefixOf a = true) : a = b := by
  rw [List.isPrefixOf_iff_prefix] at h1 h2
  exact h1.eq_of_length (Nat.le_antisymm h1.length_le h2.length_le)

theorem isPrefixOf_off_append {α : Type} [DecidableEq α] {p k : List α} (h : p.isPrefixOf k = false)
    (q : List α) : (p ++ q).isPrefixOf k = false :=
  Bool.eq_false_iff.mpr fun h2 =>
    Bool.eq_false_iff.mp h (isPrefixOf_trans (isPrefixOf_append_self p q) h2)

theorem isPrefixOf_append_left {α : Type} [DecidableEq α] (p a b : List α) :
    (p ++ a).isPrefixOf (p ++ b) = a.isPrefixOf b := by
  induction p with
  | nil => rfl
  | cons x xs ih => simp [ih]

theorem isPrefixOf_fork {α : Type} [DecidableEq α] (c : List α) {i j : α} (h : i ≠ j) (a b : List α) :
    (c ++ i :: a).isPrefixOf (c ++ j :: b) = false := by
  rw [isPrefixOf_append_left, List.isPrefixOf_cons_cons, beq_eq_false_iff_ne.mpr h, Bool.false_and]

theorem append_cons_isPrefixOf_self {α : Type} [DecidableEq α] (pk : List α) (i : α) (r : List α) :
    (pk ++ i :: r).isPrefixOf pk = false := by
  cases h : (pk ++ i :: r).isPrefixOf pk with
  | false => rfl
  | true =>
    obtain ⟨s, hs⟩ := isPrefixOf_iff.mp h
    have := congrArg List.length hs
    simp at this

theorem isPrefixOf_total {α : Type} [DecidableEq α] {a b k : List α}
    (ha : a.isPrefixOf k = true) (hb : b.isPrefixOf k = true) :
    a.isPrefixOf b = true ∨ b.isPrefixOf a = true := by
  simp only [List.isPrefixOf_iff_prefix] at *
  exact List.prefix_or_prefix_of_prefix ha hb

namespace OMap
variable {α : Type} [Rank α] [DecidableEq α]

abbrev E (α : Type) := List (List α × Bytes)

theorem sorted_cons {e : List α × Bytes} {r : E α} :
    Sorted (e :: r) ↔ (∀ e' ∈ r, klt e.1 e'.1 = true) ∧ Sorted r := Iff.rfl

theorem Sorted.tail {e : List α × Bytes} {r : E α} (h : Sorted (e :: r)) : Sorted r := h.2

theorem get_lookup : AssocLookup (get (α := α)) := ⟨fun _ => rfl, fun _ _ _ => rfl⟩

theorem get_eq (k : List α) (es : E α) : get k es = es.lookup k := get_lookup.eq_lookup k es

theorem upsert_eq (k : List α) (v : Bytes) (es : E α) : upsert k v es = AList.sins klt k v es := by
  induction es with
  | nil => rfl
  | cons e r ih => rw [upsert, AList.sins, ih]

/-- `OMap.Sorted` is the specification's own recursion and what the properties state; the proofs go through
    core's `Pairwise` (`AList.Sorted klt`) and come back by this lemma -/
theorem sorted_iff_pairwise (es : E α) : Sorted es ↔ AList.Sorted klt es := by
  induction es with
  | nil => exact ⟨fun _ => .nil, fun _ => trivial⟩
  | cons e r ih => exact (and_congr_right fun _ => ih).trans AList.sorted_cons.symm

theorem get_append (k : List α) (a b : E α) : get k (a ++ b) = (get k a).or (get k b) := by
  rw [get_eq, get_eq, get_eq, List.lookup_append]

theorem get_some_mem {k : List α} {v : Bytes} {es : E α} (h : get k es = some v) : (k, v) ∈ es :=
  AList.mem_of_lookup (get_eq k es ▸ h)

theorem get_of_mem_sorted {k : List α} {v : Bytes} {es : E α} (hs : Sorted es) (h : (k, v) ∈ es) :
    get k es = some v :=
  (get_eq k es).trans (AList.lookup_of_mem (((sorted_iff_pairwise _).mp hs).nodupKeys klt_strict) h)

theorem sorted_ext {a b : E α} (ha : Sorted a) (hb : Sorted b)
    (h : ∀ k, get k a = get k b) : a = b :=
  AList.Sorted.ext klt_strict ((sorted_iff_pairwise _).mp ha) ((sorted_iff_pairwise _).mp hb) fun k => by
    rw [← get_eq, ← get_eq, h]

theorem get_upsert (k : List α) (v : Bytes) (es : E α) (k' : List α) :
    get k' (upsert k v es) = if k' = k then some v else get k' es := by
  rw [get_eq, get_eq, upsert_eq, AList.lookup_sins]

theorem sorted_upsert (k : List α) (v : Bytes) {es : E α} (hs : Sorted es) :
    Sorted (upsert k v es) := by
  rw [upsert_eq]
  exact (sorted_iff_pairwise _).mpr (AList.sorted_sins klt_strict k v ((sorted_iff_pairwise _).mp hs))

theorem sorted_filter (p : List α × Bytes → Bool) {es : E α} (hs : Sorted es) :
    Sorted (es.filter p) :=
  (sorted_iff_pairwise _).mpr (((sorted_iff_pairwise _).mp hs).filter p)

theorem get_filter_none (p : List α × Bytes → Bool) {k : List α} {es : E α}
    (h : get k es = none) : get k (es.filter p) = none := by
  rw [get_eq, AList.lookup_eq_none_iff_keys] at *
  exact fun hm => h (List.mem_map.mpr
    ((List.mem_map.mp hm).imp fun e he => ⟨(List.mem_filter.mp he.1).1, he.2⟩))

theorem get_filter_key (q : List α → Bool) (es : E α) (k : List α) :
    get k (es.filter (fun e => q e.1)) = if q k then get k es else none := by
  rw [get_eq, get_eq, AList.lookup_filter_key]

theorem get_erase (k : List α) (es : E α) (k' : List α) :
    get k' (erase k es) = if k' = k then none else get k' es := by
  rw [get_eq, get_eq]
  exact AList.lookup_erase k es k'

theorem sorted_erase (k : List α) {es : E α} (hs : Sorted es) : Sorted (erase k es) :=
  sorted_filter _ hs

theorem get_clearPrefix (p : List α) (es : E α) (k : List α) :
    get k (clearPrefix p es) = if p.isPrefixOf k then none else get k es := by
  rw [clearPrefix, get_filter_key (fun x => !p.isPrefixOf x)]
  cases p.isPrefixOf k <;> rfl

theorem sorted_clearPrefix (p : List α) {es : E α} (hs : Sorted es) : Sorted (clearPrefix p es) :=
  sorted_filter _ hs

theorem keysWithPrefix_asc {es : E α} (hs : Sorted es) (p : List α) :
    AList.Asc klt (keysWithPrefix p es) :=
  AList.sorted_iff_keys.mp (((sorted_iff_pairwise es).mp hs).filter _)

theorem length_keysWithPrefix_le (p : List α) (es : E α) : (keysWithPrefix p es).length ≤ es.length := by
  simp only [keysWithPrefix, List.length_map]; exact List.length_filter_le _ _

theorem length_upsert_le (k : List α) (v : Bytes) (es : E α) : (upsert k v es).length ≤ es.length + 1 := by
  induction es with
  | nil => simp [upsert]
  | cons e r ih =>
    simp only [upsert]
    split
    · simp
    · split
      · simp
      · simp only [List.length_cons]; omega

theorem mem_keysWithPrefix (p k : List α) (es : E α) :
    k ∈ keysWithPrefix p es ↔ p.isPrefixOf k = true ∧ ∃ v, (k, v) ∈ es := by
  simp only [keysWithPrefix, List.mem_map, List.mem_filter]
  constructor
  · rintro ⟨e, ⟨he, hp⟩, rfl⟩; exact ⟨hp, e.2, he⟩
  · rintro ⟨hp, v, hv⟩; exact ⟨(k, v), ⟨hv, hp⟩, rfl⟩

theorem get_foldl_upsert (kvs : E α) (es : E α) (k : List α) :
    get k (kvs.foldl (fun es e => upsert e.1 e.2 es) es) =
      match kvs.reverse.find? (fun e => e.1 == k) with
      | some e => some e.2
      | none => get k es := by
  induction kvs generalizing es with
  | nil => rfl
  | cons e r ih =>
    simp only [List.foldl_cons, ih, List.reverse_cons, List.find?_append]
    cases hr : r.reverse.find? (fun e => e.1 == k) with
    | some x => simp
    | none =>
      simp only [Option.none_or, List.find?_cons, List.find?_nil, get_upsert]
      by_cases hk : e.1 = k
      · simp [hk]
      · have : ¬ k = e.1 := fun h => hk h.symm
        have hb : (e.1 == k) = false := beq_eq_false_iff_ne.mpr hk
        simp [this, hb]

theorem dropMatching_zero (p : List α) (es : List (List α × Bytes)) : dropMatching p 0 es = es := by
  cases es <;> rfl

theorem dropMatching_sublist (p : List α) (n : Nat) (es : List (List α × Bytes)) :
    (dropMatching p n es).Sublist es := by
  induction es generalizing n with
  | nil => cases n <;> exact List.Sublist.refl _
  | cons e r ih =>
    cases n with
    | zero => exact List.Sublist.refl _
    | succ m =>
      simp only [dropMatching]
      split
      · exact (ih m).cons e
      · exact (ih (m + 1)).cons_cons e

theorem sorted_dropMatching (p : List α) (n : Nat) {es : List (List α × Bytes)} (h : Sorted es) :
    Sorted (dropMatching p n es) := by
  rw [sorted_iff_pairwise] at h ⊢
  exact h.sublist (dropMatching_sublist p n es)

theorem dropMatching_all (p : List α) (n : Nat) (es : List (List α × Bytes))
    (h : ∀ e ∈ es, p.isPrefixOf e.1 = true) : dropMatching p n es = es.drop n := by
  induction es generalizing n with
  | nil => cases n <;> rfl
  | cons e r ih =>
    cases n with
    | zero => rfl
    | succ m =>
      simp only [dropMatching, h e (by simp), if_true, List.drop_succ_cons]
      exact ih m (fun x hx => h x (by simp [hx]))

theorem dropMatching_append_left (p : List α) (n : Nat) (a b : List (List α × Bytes))
    (h : ∀ e ∈ a, p.isPrefixOf e.1 = false) : dropMatching p n (a ++ b) = a ++ dropMatching p n b := by
  induction a with
  | nil => rfl
  | cons e r ih =>
    cases n with
    | zero => simp [dropMatching_zero]
    | succ m =>
      simp only [List.cons_append, dropMatching, h e (by simp), Bool.false_eq_true, if_false]
      rw [ih (fun x hx => h x (by simp [hx]))]

theorem dropMatching_none (p : List α) (n : Nat) (es : List (List α × Bytes))
    (h : ∀ e ∈ es, p.isPrefixOf e.1 = false) : dropMatching p n es = es := by
  have := dropMatching_append_left p n es [] h
  rwa [List.append_nil, show dropMatching p n [] = [] by cases n <;> rfl, List.append_nil] at this

theorem dropMatching_append_right (p : List α) (n : Nat) (a b : List (List α × Bytes))
    (h : ∀ e ∈ b, p.isPrefixOf e.1 = false) : dropMatching p n (a ++ b) = dropMatching p n a ++ b := by
  induction a generalizing n with
  | nil => simp [dropMatching_none p n b h]; cases n <;> rfl
  | cons e r ih =>
    cases n with
    | zero => simp [dropMatching_zero]
    | succ m =>
      simp only [List.cons_append, dropMatching]
      split
      · exact ih m
      · rw [ih (m + 1)]; rfl

theorem keysWithPrefix_all (p : List α) (es : List (List α × Bytes))
    (h : ∀ e ∈ es, p.isPrefixOf e.1 = true) : (keysWithPrefix p es).length = es.length := by
  simp only [keysWithPrefix, List.length_map]
  rw [List.filter_eq_self.mpr h]

theorem keysWithPrefix_none (p : List α) (es : List (List α × Bytes))
    (h : ∀ e ∈ es, p.isPrefixOf e.1 = false) : keysWithPrefix p es = [] := by
  simp only [keysWithPrefix, List.map_eq_nil_iff, List.filter_eq_nil_iff]
  intro e he; simp [h e he]

theorem get_foldl_upsert_other (kvs es : E α) (k : List α) (h : ∀ e ∈ kvs, e.1 ≠ k) :
    get k (kvs.foldl (fun es e => upsert e.1 e.2 es) es) = get k es := by
  rw [get_foldl_upsert,
    List.find?_eq_none.mpr fun e he => by simpa using h e (List.mem_reverse.mp he)]

end OMap
end Gossamer
