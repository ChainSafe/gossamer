/-
C23: the shape of one operation of the model.  `isDesc` never fails, so the pruning functions are filters and
`ApplyScheduledChanges` has a closed form; the digests of a header are handled one by one, so a property kept
by every single `importChange` is kept by `HandleDigests` whether it fails or not; from these, one proof rule
for `imp` and one for `fin`.
-/
import Gossamer.Lib.C23Tree
import Gossamer.Lib.AList
namespace Gossamer.C23

theorem isDesc_ne_none (t : Tree) (s : St) (a d : Nat) : isDesc t s a d ≠ none := by
  unfold isDesc; split
  · simp
  · split <;> simp

theorem isDesc_true {t : Tree} (wf : t.WF) {s : St} {a d : Nat} (h : isDesc t s a d = some true) :
    anc t a d = true ∧ (a = d ∨ (a ∈ s.live ∧ d ∈ s.live)) := by
  unfold isDesc at h
  split at h
  · rename_i e; subst e; exact ⟨anc_refl wf _, Or.inl rfl⟩
  · split at h
    · rename_i hl
      simp only [Bool.and_eq_true, List.contains_eq_mem, decide_eq_true_eq] at hl
      simp only [Option.some.injEq] at h
      exact ⟨h, Or.inr hl⟩
    · simp at h

theorem isDesc_live {t : Tree} {s : St} {a d : Nat} (ha : a ∈ s.live) (hd : d ∈ s.live) (hne : a ≠ d) :
    isDesc t s a d = some (anc t a d) := by
  unfold isDesc
  simp [hne, ha, hd]

theorem isDesc_dead {t : Tree} {s : St} {a d : Nat} (ha : a ∉ s.live ∨ d ∉ s.live) (hne : a ≠ d) :
    isDesc t s a d = some false := by
  unfold isDesc
  rcases ha with ha | ha <;> simp [hne, ha]

theorem isDesc_eq_anc_of {t : Tree} (wf : t.WF) {s : St} {a d : Nat}
    (h : a ∉ s.live ∨ d ∉ s.live → anc t a d = false) : isDesc t s a d = some (anc t a d) := by
  by_cases e : a = d
  · rw [e, anc_refl wf, isDesc, if_pos rfl]
  · by_cases hl : a ∈ s.live ∧ d ∈ s.live
    · exact isDesc_live hl.1 hl.2 e
    · have hd := Classical.not_and_iff_not_or_not.1 hl
      rw [isDesc_dead hd e, h hd]

theorem forcedPrune_eq (isD : IsD) (h : Nat) (hD : ∀ a d, isD a d ≠ none) :
    ∀ l, forcedPrune isD h l = .ok (l.filter (fun c => isD h c.blk == some true)) := by
  intro l
  induction l with
  | nil => rfl
  | cons c cs ih =>
    simp only [forcedPrune, ih]
    cases hd : isD h c.blk with
    | none => exact absurd hd (hD _ _)
    | some d => cases d <;> simp [List.filter, hd]

theorem schedPrune_eq (isD : IsD) (h : Nat) (hD : ∀ a d, isD a d ≠ none) : ∀ (l : List Node),
    schedPrune isD h l =
      .ok (l.filter (fun r => isD h r.ann.blk == some true || isD r.ann.blk h == some true)) := by
  intro l
  induction l with
  | nil => rfl
  | cons r rs ih =>
    simp only [schedPrune, ih, onBranch]
    cases h1 : isD h r.ann.blk with
    | none => exact absurd h1 (hD _ _)
    | some d1 =>
      cases d1 with
      | true => simp [List.filter, h1]
      | false =>
        cases h2 : isD r.ann.blk h with
        | none => exact absurd h2 (hD _ _)
        | some d2 => cases d2 <;> simp [List.filter, h1, h2]

theorem lookupRoots_mem {cond : Node → Except Err Bool} {r : Node} : ∀ {l : List Node},
    lookupRoots cond l = .ok (some r) → r ∈ l := by
  intro l
  induction l with
  | nil => intro h; simp [lookupRoots] at h
  | cons a l ih =>
    intro h
    simp only [lookupRoots] at h
    split at h
    · exact absurd h (by simp)
    · simp only [Except.ok.injEq, Option.some.injEq] at h; subst h; simp
    · exact List.mem_cons_of_mem _ (ih h)

theorem applyForced_ok {t : Tree} {s s' : St} {b : Nat} (h : applyForced t s b = .ok s') :
    s' = s ∨ ∃ fc : Ann, s' = { startNext s fc.tag fc.best with forced := [], roots := [] } := by
  unfold applyForced at h
  split at h
  · exact absurd h (by simp)
  · simp only [Except.ok.injEq] at h; exact Or.inl h.symm
  · dsimp only at h
    split at h
    · exact absurd h (by simp)
    · exact absurd h (by simp)
    · simp only [Except.ok.injEq] at h; exact Or.inr ⟨_, h.symm⟩

/-- the forced changes that `pruneChanges` keeps at a finalisation of `b` -/
def prunedForced (t : Tree) (s : St) (b : Nat) : List Ann :=
  s.forced.filter (fun c => isDesc t s b c.blk == some true)

theorem applyScheduledPartial_eq (t : Tree) (s : St) (b : Nat) :
    applyScheduledPartial t s b = { s with forced := prunedForced t s b } := by
  unfold applyScheduledPartial
  rw [forcedPrune_eq _ _ (isDesc_ne_none t s)]; rfl

theorem applyScheduled_eq (t : Tree) (s : St) (b : Nat) :
    applyScheduled t s b =
      if s.roots.isEmpty then .ok { s with forced := prunedForced t s b }
      else match lookupRoots (applicableCond t (isDesc t s) b (num t b)) s.roots with
        | .error e => .error e
        | .ok (some r) =>
          .ok (startNext { s with forced := prunedForced t s b, roots := r.kids } r.ann.tag (num t b))
        | .ok none =>
          .ok { s with forced := prunedForced t s b, roots := s.roots.filter (fun r =>
                  isDesc t s b r.ann.blk == some true || isDesc t s r.ann.blk b == some true) } := by
  unfold applyScheduled schedFindApplicable
  simp only [forcedPrune_eq _ _ (isDesc_ne_none t s), fun s' => schedPrune_eq _ b (isDesc_ne_none t s'),
    show ∀ f, isDesc t { s with forced := f } = isDesc t s from fun _ => rfl]
  split
  · rfl
  · cases lookupRoots (applicableCond t (isDesc t s) b (num t b)) s.roots with
    | error e => rfl
    | ok o => cases o <;> rfl

/-- what a finalisation may do to the change tree -/
inductive Shrinks : List Node → List Node → Prop
  | same {l : List Node} : Shrinks l l
  | kids {l : List Node} {r : Node} (h : r ∈ l) : Shrinks l r.kids
  | filter {l : List Node} (keep : Node → Bool) : Shrinks l (l.filter keep)

theorem applyScheduled_ok {t : Tree} {s s' : St} {b : Nat} (h : applyScheduled t s b = .ok s') :
    ∃ roots', Shrinks s.roots roots' ∧
      (s' = { s with forced := prunedForced t s b, roots := roots' } ∨
       ∃ tag, s' = startNext { s with forced := prunedForced t s b, roots := roots' } tag (num t b)) := by
  rw [applyScheduled_eq] at h
  split at h
  · simp only [Except.ok.injEq] at h; exact ⟨_, .same, Or.inl h.symm⟩
  · split at h
    · exact absurd h (by simp)
    · rename_i r hr
      simp only [Except.ok.injEq] at h
      exact ⟨_, .kids (lookupRoots_mem hr), Or.inr ⟨_, h.symm⟩⟩
    · simp only [Except.ok.injEq] at h; exact ⟨_, .filter _, Or.inl h.symm⟩

theorem filterDigests_blk (t : Tree) (b : Nat) : ∀ d ∈ filterDigests (t.anns.filter (·.blk = b)), d.blk = b := by
  intro d hd
  unfold filterDigests at hd
  split at hd
  · simp only [List.mem_filter, decide_eq_true_eq] at hd; exact hd.1.2
  · simp only [List.mem_filter, decide_eq_true_eq] at hd; exact hd.2

theorem handleDigests_ind {t : Tree} {P : St → Prop} {ds : List Ann}
    (hf : ∀ s d f, d ∈ ds → P s → forcedImport t (isDesc t s) d s.forced = .ok f → P { s with forced := f })
    (hr : ∀ s d r, d ∈ ds → P s → schedImport t (isDesc t s) d s.roots = .ok r → P { s with roots := r }) :
    ∀ s, P s → P (handleDigestsPartial t s ds) ∧ ∀ s', handleDigests t s ds = .ok s' → P s' := by
  induction ds with
  | nil => exact fun s h => ⟨h, fun s' e => by cases e; exact h⟩
  | cons d ds ih =>
    intro s h
    have ih' := ih (fun s x f hx => hf s x f (List.mem_cons_of_mem _ hx))
      (fun s x r hx => hr s x r (List.mem_cons_of_mem _ hx))
    simp only [handleDigestsPartial, handleDigests]
    split
    · cases hfi : forcedImport t (isDesc t s) d s.forced with
      | error e => exact ⟨h, fun s' e => by cases e⟩
      | ok f => exact ih' _ (hf s d f (List.mem_cons_self ..) h hfi)
    · cases hri : schedImport t (isDesc t s) d s.roots with
      | error e => exact ⟨h, fun s' e => by cases e⟩
      | ok r => exact ih' _ (hr s d r (List.mem_cons_self ..) h hri)

/-- the premise `hadd` of `importBlock_rule` for a block that is not in the block tree -/
theorem addBlock_fresh {t : Tree} {s : St} {b : Nat} (h : inBt t s b = false) :
    (if inBt t s b = true then s else { s with live := s.live ++ [b] }) = { s with live := s.live ++ [b] } := by
  rw [h]; rfl

/-- `Q` is what holds between `AddBlock` and `ApplyForcedChanges`, while the digests of `b` are handled -/
theorem importBlock_rule {t : Tree} {s : St} {b : Nat} {P : St → Prop} (Q : St → Prop) (h0 : P s)
    (hadd : inBt t s (par t b) = true → Q (if inBt t s b = true then s else { s with live := s.live ++ [b] }))
    (hf : ∀ s1 d f, d.blk = b → Q s1 → forcedImport t (isDesc t s1) d s1.forced = .ok f → Q { s1 with forced := f })
    (hr : ∀ s1 d r, d.blk = b → Q s1 → schedImport t (isDesc t s1) d s1.roots = .ok r → Q { s1 with roots := r })
    (hQ : ∀ s1, Q s1 → P s1)
    (ha : ∀ s1 (fc : Ann), Q s1 → P { startNext s1 fc.tag fc.best with forced := [], roots := [] }) :
    P (importBlock t s b).1 := by
  unfold importBlock
  split
  · exact h0
  · rename_i hpar
    have hq := handleDigests_ind (P := Q) (fun s1 d f hd => hf s1 d f (filterDigests_blk t b d hd))
      (fun s1 d r hd => hr s1 d r (filterDigests_blk t b d hd)) _ (hadd (by simpa using hpar))
    dsimp only
    split
    · exact hQ _ hq.1
    · rename_i s1 hd
      split
      · exact hQ _ (hq.2 _ hd)
      · rename_i s2 hap
        rcases applyForced_ok hap with rfl | ⟨fc, rfl⟩
        · exact hQ _ (hq.2 _ hd)
        · exact ha _ fc (hq.2 _ hd)

theorem finalise_rule {t : Tree} {s : St} {b : Nat} {P : St → Prop} (h0 : P s)
    (h1 : inBt t s b = true → ∀ s1, s1 = { s with live := s.live.filter (fun x => anc t b x || anc t x b), root := b } →
      ∀ roots', Shrinks s.roots roots' →
        P { s1 with forced := prunedForced t s1 b, roots := roots' } ∧
        ∀ tag, P (startNext { s1 with forced := prunedForced t s1 b, roots := roots' } tag (num t b))) :
    P (finalise t s b).1 := by
  unfold finalise setFinalised
  split
  · exact h0
  · rename_i s1 hs
    split at hs
    · rename_i hb
      simp only [Option.some.injEq] at hs
      subst hs
      split
      · rw [applyScheduledPartial_eq]
        exact (h1 hb _ rfl _ .same).1
      · rename_i s2 ha
        obtain ⟨roots', hsh, e | ⟨tag, e⟩⟩ := applyScheduled_ok ha
        · rw [e]; exact (h1 hb _ rfl roots' hsh).1
        · rw [e]; exact (h1 hb _ rfl roots' hsh).2 tag
    · exact absurd hs (by simp)

def run (t : Tree) (s : St) (ops : List Op) : St := ops.foldl (fun s op => (step t s op).1) s

theorem run_nil (t : Tree) (s : St) : run t s [] = s := rfl
theorem run_cons (t : Tree) (s : St) (op : Op) (ops : List Op) : run t s (op :: ops) = run t (step t s op).1 ops := rfl
theorem run_append (t : Tree) (s : St) (a b : List Op) : run t s (a ++ b) = run t (run t s a) b := by
  simp [run, List.foldl_append]

end Gossamer.C23
