/-
Round trips of whole nodes, for both codecs of `Gossamer.Lib.TrieCodec`: a well-formed node decodes
from its encoding to its decoded form (`view`, `Gossamer.Model.C07`).
-/
import Gossamer.Lib.TrieCodecLemmas
import Gossamer.Model.C07
namespace Gossamer.C07
open Gossamer Gossamer.TrieCodec

/-- a child that is neither absent nor a stub: the third arm `| _ =>` of the per-child `match` in
    `encodeKids`, `viewKids`, `presentKids` and `WFKids` -/
def isReal : Node → Bool
  | .leaf .. => true
  | .branch .. => true
  | _ => false

theorem encodeKids_cons_real (H : Bytes → Bytes) (c : Node) (cs : List Node) (h : isReal c = true) :
    encodeKids H (c :: cs) = scaleEncBytes (merkleValue H (encode H c)) ++ encodeKids H cs := by
  cases c <;> simp [isReal] at h <;> simp [encodeKids]

theorem viewKids_cons_real (H : Bytes → Bytes) (c : Node) (cs : List Node) (h : isReal c = true) :
    viewKids H (c :: cs) =
      (if (encode H c).length < 32 then view H c else .stub (H (encode H c))) :: viewKids H cs := by
  cases c <;> simp [isReal] at h <;> simp [viewKids]

theorem presentKids_cons_real (c : Node) (cs : List Node) (h : isReal c = true) :
    presentKids (c :: cs) = true :: presentKids cs := by
  cases c <;> simp [isReal] at h <;> simp [presentKids, Node.isEmpty]

theorem wfKids_cons_real (c : Node) (cs : List Node) (h : isReal c = true) :
    WFKids (c :: cs) ↔ (WF c ∧ WFKids cs) := by
  cases c <;> simp [isReal] at h <;> simp [WFKids]

theorem view_real (H : Bytes → Bytes) (c : Node) (h : isReal c = true) : view H c ≠ .empty := by
  cases c <;> simp [isReal] at h <;> simp [view]

theorem scaleEnc_length_ge (b : Bytes) : b.length + 1 ≤ (scaleEncBytes b).length := by
  have := Scale.compactEnc_length_pos b.length
  rw [scaleEncBytes, List.length_append, compactEnc_eq_scale]; omega

theorem decodeKids_absent {strict : Bool} {dec : Bytes → Out Node} {bits : List Bool} {r : Bytes}
    {cs : List Node} (h : decodeKids strict dec bits r = .ok cs) :
    decodeKids strict dec (false :: bits) r = .ok (.empty :: cs) := by
  simp only [decodeKids, h]

theorem decodeKids_hashed {strict : Bool} {dec : Bytes → Out Node} {bits : List Bool} {m r : Bytes}
    {cs : List Node} (hm : m.length = 32) (h : decodeKids strict dec bits r = .ok cs) :
    decodeKids strict dec (true :: bits) (scaleEncBytes m ++ r) = .ok (.stub m :: cs) := by
  have : ¬ m.length < hashLength := by rw [hm]; decide
  simp only [decodeKids, scaleBytes_enc strict m (by rw [hm]; decide), this, if_false, h]

theorem decodeKids_inline {strict : Bool} {dec : Bytes → Out Node} {bits : List Bool} {m r : Bytes}
    {n : Node} {cs : List Node} (hm : m.length < 32) (hd : dec m = .ok n) (hn : n ≠ .empty)
    (h : decodeKids strict dec bits r = .ok cs) :
    decodeKids strict dec (true :: bits) (scaleEncBytes m ++ r) = .ok (n :: cs) := by
  simp only [decodeKids, scaleBytes_enc strict m (by omega), hashLength, hm, if_true, hd, h]
  cases n <;> simp_all

/-- `K` is the fuel left for the children (`decodeF_rt` takes `dec := decodeF strict f`, `K := f`): an
    inlined child is decoded by `dec`, which is known to be right on encodings shorter than `K`. -/
theorem decodeKids_rt (H : Bytes → Bytes) (hH : ∀ m, (H m).length = 32) (strict : Bool)
    (dec : Bytes → Out Node) (K : Nat)
    (hdec : ∀ c, WF c → (encode H c).length < K → dec (encode H c) = .ok (view H c)) :
    ∀ (kids : List Node) (r : Bytes), WFKids kids → (encodeKids H kids).length ≤ K →
      decodeKids strict dec (presentKids kids) (encodeKids H kids ++ r) = .ok (viewKids H kids) := by
  intro kids
  induction kids with
  | nil => intro r _ _; rfl
  | cons c cs ih =>
    intro r hwf hlen
    by_cases hr : isReal c = true
    · rw [presentKids_cons_real c cs hr, encodeKids_cons_real H c cs hr, viewKids_cons_real H c cs hr,
        List.append_assoc]
      rw [wfKids_cons_real c cs hr] at hwf
      rw [encodeKids_cons_real H c cs hr, List.length_append] at hlen
      have hge := scaleEnc_length_ge (merkleValue H (encode H c))
      have ih' := ih r hwf.2 (by omega)
      unfold merkleValue at hge hlen ⊢
      by_cases he : (encode H c).length < 32
      · rw [if_pos he] at hge hlen
        rw [if_pos he, if_pos he]
        exact decodeKids_inline he (hdec c hwf.1 (by omega)) (view_real H c hr) ih'
      · rw [if_neg he, if_neg he]
        exact decodeKids_hashed (hH _) ih'
    · cases c with
      | empty =>
        simp only [WFKids] at hwf
        simp only [encodeKids, List.nil_append] at hlen ⊢
        exact decodeKids_absent (ih r hwf.2 hlen)
      | stub mv =>
        simp only [WFKids] at hwf
        have hge := scaleEnc_length_ge mv
        simp only [encodeKids, List.length_append, List.append_assoc] at hlen ⊢
        exact decodeKids_hashed hwf.1 (ih r hwf.2 (by omega))
      | leaf _ _ _ => cases hr rfl
      | branch _ _ _ _ => cases hr rfl

theorem leafVariantOf_facts (hashed : Bool) :
    leafVariantOf hashed ∈ nodeVariants ∧ leafVariantOf hashed ≠ emptyV ∧
    (leafVariantOf hashed = leafV ∨ leafVariantOf hashed = leafHashedV) ∧
    (leafVariantOf hashed = leafHashedV ↔ hashed = true) := by
  cases hashed <;> decide

theorem branchVariantOf_facts (v : Option Bytes) (hashed : Bool) :
    branchVariantOf v hashed ∈ nodeVariants ∧ branchVariantOf v hashed ≠ emptyV ∧
    ¬ (branchVariantOf v hashed = leafV ∨ branchVariantOf v hashed = leafHashedV) ∧
    (branchVariantOf v hashed = branchV ∨ branchVariantOf v hashed = branchValV ∨
      branchVariantOf v hashed = branchHashedV) := by
  cases v <;> cases hashed <;> simp [branchVariantOf] <;> decide

theorem variants_ne : leafV ≠ leafHashedV ∧ branchV ≠ branchValV ∧ branchV ≠ branchHashedV ∧
    branchHashedV ≠ branchValV := by decide

theorem presentKids_eq_map : ∀ kids : List Node, presentKids kids = kids.map (fun c => !c.isEmpty)
  | [] => rfl
  | _ :: cs => congrArg _ (presentKids_eq_map cs)

/-- with arbitrary bytes `r` after the node: `Decode` takes a reader and leaves what follows -/
theorem decodeF_rt (H : Bytes → Bytes) (hH : ∀ m, (H m).length = 32) (strict : Bool) :
    ∀ (f : Nat) (n : Node) (r : Bytes), WF n → (encode H n).length < f →
      decodeF strict f (encode H n ++ r) = .ok (view H n) := by
  intro f
  induction f with
  | zero => intro n _ _ h; omega
  | succ f ih =>
    intro n r hwf hlen
    cases n with
    | empty =>
      have : encode H .empty = [0] := rfl
      rw [this]
      simp [decodeF, decodeHeader_zero, view]
    | stub mv => simp [WF] at hwf
    | leaf pk v hashed =>
      simp only [WF] at hwf
      obtain ⟨hnib, hpk, hsome, hval⟩ := hwf
      obtain ⟨x, rfl⟩ := Option.isSome_iff_exists.mp hsome
      obtain ⟨hv1, hv2, hv3, hv4⟩ := leafVariantOf_facts hashed
      simp only [encode, List.append_assoc, decodeF]
      rw [header_roundtrip _ hv1 _ hpk]
      simp only [hv2, hv3, if_true, if_false, decodeLeaf]
      rw [key_roundtrip pk _ hnib]
      cases hashed with
      | true => simp [hv4, valueEnc, decodeHashedValue_append (H x) r (hH x), view, viewValue]
      | false => simp [hv4, valueEnc, scaleBytes_enc strict x (Nat.lt_trans (hval x rfl) (by decide)) r, view, viewValue]
    | branch pk v hashed kids =>
      simp only [WF] at hwf
      obtain ⟨hnib, hpk, hval, hk16, hkids⟩ := hwf
      obtain ⟨hv1, hv2, hv3, hv4⟩ := branchVariantOf_facts v hashed
      obtain ⟨b0, b1, hbm, hbits⟩ := bitmap_roundtrip (presentKids kids) (by rw [presentKids_eq_map, List.length_map, hk16])
      simp only [encode, List.append_assoc, hbm, List.cons_append, List.nil_append] at hlen ⊢
      have hklen : (encodeKids H kids).length ≤ f := by
        simp only [List.length_append, List.length_cons] at hlen; omega
      -- an inlined child is a buffer of its own: nothing follows its encoding
      have hKids := decodeKids_rt H hH strict (decodeF strict f) f
        (fun c hc hl => by simpa using ih c [] hc hl) kids r hkids hklen
      simp only [decodeF]
      rw [header_roundtrip _ hv1 _ hpk]
      simp only [hv2, hv3, hv4, if_true, if_false, decodeBranch]
      rw [key_roundtrip pk _ hnib]
      simp only [List.headD_cons, List.drop_succ_cons, List.drop_zero, hbits]
      cases v with
      | none => simp [branchVariantOf, variants_ne, valueEnc, hKids, view, viewValue]
      | some x =>
        cases hashed with
        | true =>
          simp [branchVariantOf, variants_ne, valueEnc, decodeHashedValue_append (H x) _ (hH x), hKids, view,
            viewValue]
        | false =>
          simp [branchVariantOf, valueEnc, scaleBytes_enc strict x (Nat.lt_trans (hval x rfl) (by decide)), hKids, view, viewValue]

theorem decode_encode (H : Bytes → Bytes) (hH : ∀ m, (H m).length = 32) (strict : Bool)
    (n : Node) (hwf : WF n) : decode strict (encode H n) = .ok (view H n) := by
  have := decodeF_rt H hH strict _ n [] hwf (Nat.lt_succ_self _)
  rwa [List.append_nil] at this

theorem unmarshal_ok (quirk : Bool) (h : Bytes) (hh : HashOK quirk h) : unmarshalH256 quirk h = some h := by
  obtain ⟨h1, h2⟩ := hh
  unfold unmarshalH256
  have ht : h.take 32 = h := by rw [← h1]; exact List.take_length
  cases quirk with
  | false => simp [h1, ht]
  | true => simp [h1, ht, h2 rfl]

/-- `n` key bytes of which the first holds `o` nibbles less: `2 * n - o` nibbles, read back as
    `n` bytes at offset `o` -/
theorem nibbleCount_split (n o : Nat) (hn : 0 < n) (ho : o < 2) :
    ¬ (2 * n - o = 0) ∧ (2 * n - o) % 2 = o ∧ (2 * n - o) / 2 + o = n := by
  obtain ⟨k, rfl⟩ : ∃ k, n = k + 1 := ⟨n - 1, (Nat.succ_pred_eq_of_pos hn).symm⟩
  match o, ho with
  | 0, _ => exact ⟨Nat.succ_ne_zero _, Nat.mul_mod_right 2 _, Nat.mul_div_cancel_left _ Nat.two_pos⟩
  | 1, _ =>
    show ¬ (2 * k + 1 = 0) ∧ (2 * k + 1) % 2 = 1 ∧ (2 * k + 1) / 2 + 1 = k + 1
    exact ⟨Nat.succ_ne_zero _, Nat.mul_add_mod_self_left 2 k 1, by rw [Nat.mul_add_div Nat.two_pos]⟩

theorem tdecodeKey_rt (d r : Bytes) (o : Nat) (ho : o < 2) (hd : d = [] → o = 0) :
    tdecodeKey (2 * d.length - o) (d ++ r) = .ok (d, o, r) := by
  unfold tdecodeKey
  cases d with
  | nil => simp [hd rfl]
  | cons x xs =>
    have := nibbleCount_split (x :: xs).length o (Nat.zero_lt_succ _) ho
    simp only [this, if_false]
    rw [readN_append (x :: xs) r rfl (by simp)]
    simp

theorem tdecodeHashedValue_rt (quirk : Bool) (h r : Bytes) (hh : HashOK quirk h) :
    tdecodeHashedValue quirk (h ++ r) = .ok (h, r) := by
  unfold tdecodeHashedValue
  rw [readN_append h r hh.1 (by decide)]
  simp [hh.1, unmarshal_ok quirk h hh]

theorem tdecodeKids_rt (quirk strict : Bool) : ∀ (kids : List TChild) (r : Bytes),
    (∀ c ∈ kids, TChildOK quirk c) →
      tdecodeKids quirk strict (kids.map (fun c => !c.isNone)) (kids.flatMap tchildEnc ++ r) = .ok kids := by
  intro kids
  induction kids with
  | nil => intro r _; simp [tdecodeKids]
  | cons c cs ih =>
    intro r hok
    have hcs := ih r (fun c hc => hok c (by simp [hc]))
    have hc := hok c (by simp)
    cases c with
    | none =>
      have e : (!TChild.isNone .none) = false := rfl
      simp only [List.map_cons, List.flatMap_cons, tchildEnc, List.nil_append, e, tdecodeKids, hcs]
    | inline b =>
      simp only [TChildOK] at hc
      have e : (!TChild.isNone (.inline b)) = true := rfl
      simp only [List.map_cons, List.flatMap_cons, tchildEnc, List.append_assoc, e, tdecodeKids]
      rw [scaleBytes_enc strict b (by omega)]
      simp only [hc, if_true, hcs]
    | hashed h =>
      simp only [TChildOK] at hc
      have e : (!TChild.isNone (.hashed h)) = true := rfl
      simp only [List.map_cons, List.flatMap_cons, tchildEnc, List.append_assoc, e, tdecodeKids]
      rw [scaleBytes_enc strict h (by rw [hc.1]; decide)]
      have : ¬ (h.length < 32) := by rw [hc.1]; decide
      simp only [this, if_false, unmarshal_ok quirk h hc, hcs]

theorem tleafVariant_facts (v : TValue) :
    tleafVariant v ∈ nodeVariants ∧ tleafVariant v ≠ emptyV ∧
    (tleafVariant v = leafV ∨ tleafVariant v = leafHashedV) := by
  cases v <;> simp only [tleafVariant] <;> decide

theorem tbranchVariant_facts (v : Option TValue) :
    tbranchVariant v ∈ nodeVariants ∧ tbranchVariant v ≠ emptyV ∧
    ¬ (tbranchVariant v = leafV ∨ tbranchVariant v = leafHashedV) ∧
    (tbranchVariant v = branchV ∨ tbranchVariant v = branchValV ∨ tbranchVariant v = branchHashedV) := by
  cases v with
  | none => decide
  | some x => cases x <;> simp only [tbranchVariant] <;> decide

/-- `quirk`: whether `H256.UnmarshalSCALE` turns the all-zero hash into the empty string, as the code does -/
theorem tnode_roundtrip (quirk strict : Bool) (n : TNode) (r : Bytes) (hwf : TWF quirk n) :
    tdecodeG quirk strict (tencode n ++ r) = .ok n := by
  cases n with
  | empty =>
    have : tencode .empty = [0] := rfl
    rw [this]; simp [tdecodeG, decodeHeader_zero]
  | leaf d o v =>
    simp only [TWF] at hwf
    obtain ⟨ho, hd, hlen, hv⟩ := hwf
    obtain ⟨f1, f2, f3⟩ := tleafVariant_facts v
    simp only [tencode, tencodeLeaf, tencodeHeader, List.append_assoc, tdecodeG]
    rw [header_roundtrip _ f1 _ hlen]
    simp only [f2, if_false]
    rw [tdecodeKey_rt d _ o ho hd]
    simp only [f3, if_true, tdecodeLeaf]
    cases v with
    | inline b => simp [tleafVariant, variants_ne, tvalueEnc, scaleBytes_enc strict b (Nat.lt_trans hv (by decide)) r]
    | hashed h => simp [tleafVariant, tvalueEnc, tdecodeHashedValue_rt quirk h r hv]
  | branch d o v kids =>
    simp only [TWF] at hwf
    obtain ⟨ho, hd, hlen, hv, hk16, hkids⟩ := hwf
    obtain ⟨f1, f2, f3, f4⟩ := tbranchVariant_facts v
    obtain ⟨b0, b1, hbm, hbits⟩ := bitmap_roundtrip (kids.map (fun c => !c.isNone)) (by simp [hk16])
    have hK := tdecodeKids_rt quirk strict kids r hkids
    simp only [tencode, tencodeBranch, tencodeHeader, List.append_assoc, hbm, tdecodeG]
    rw [header_roundtrip _ f1 _ hlen]
    simp only [f2, if_false]
    rw [tdecodeKey_rt d _ o ho hd]
    simp only [f3, f4, if_true, if_false, List.cons_append, List.nil_append, tdecodeBranch, hbits]
    cases v with
    | none => simp [tbranchVariant, variants_ne, hK]
    | some x =>
      cases x with
      | inline b => simp [tbranchVariant, tvalueEnc, scaleBytes_enc strict b (Nat.lt_trans (hv _ rfl) (by decide)), hK]
      | hashed h =>
        simp [tbranchVariant, variants_ne, tvalueEnc, tdecodeHashedValue_rt quirk h _ (hv _ rfl), hK]

/-! ### one child slot of `viewKids`, `WFKids`, `encodeKids` -/

/-- the decoded form of one child slot (the clause of `viewKids`) -/
def viewKid (H : Bytes → Bytes) (c : Node) : Node :=
  match c with
  | .empty => .empty
  | .stub mv => .stub mv
  | _ => if (encode H c).length < 32 then view H c else .stub (H (encode H c))

theorem viewKids_eq_map (H : Bytes → Bytes) : ∀ kids : List Node, viewKids H kids = kids.map (viewKid H)
  | [] => by simp [viewKids]
  | c :: cs => by
    rw [List.map_cons, ← viewKids_eq_map H cs]
    -- `rw` would take the conditional equation of the catch-all clause
    conv => lhs; unfold viewKids
    rfl

/-- what `WFKids` says of one child slot (its clause) -/
def KidOK (c : Node) : Prop :=
  match c with
  | .empty => True
  | .stub mv => mv.length = 32
  | _ => WF c

theorem wfKids_iff : ∀ kids : List Node, WFKids kids ↔ ∀ c ∈ kids, KidOK c
  | [] => by simp [WFKids]
  | c :: cs => by
    rw [List.forall_mem_cons, ← wfKids_iff cs]
    conv => lhs; unfold WFKids
    exact Iff.rfl

/-- contribution of one child slot to its parent's encoding (the clause of `encodeKids`) -/
def kidEnc (H : Bytes → Bytes) (c : Node) : Bytes :=
  match c with
  | .empty => []
  | .stub mv => scaleEncBytes mv
  | _ => scaleEncBytes (merkleValue H (encode H c))

theorem encodeKids_flatMap (H : Bytes → Bytes) : ∀ kids : List Node,
    encodeKids H kids = kids.flatMap (kidEnc H)
  | [] => by simp [encodeKids]
  | c :: cs => by
    rw [List.flatMap_cons, ← encodeKids_flatMap H cs]
    conv => lhs; unfold encodeKids
    rfl

end Gossamer.C07
