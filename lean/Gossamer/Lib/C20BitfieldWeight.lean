/-
C20: `weight(bits.Iter1sEven/Odd(), voters)` and the merged variants of context.go over the bitfield model
equal the mask weights of the round model: Σ of the weights of the voters whose bit (2·voter + phase) is set.
-/
import Gossamer.Lib.C20BitfieldLemmas
import Gossamer.Lib.C20Sum
namespace Gossamer.C20.BF

/-- A sum over an index range beside `wsum` (a recursion over the voter list) because `iter1s` goes through
the bitfield word by word, 32 voters at a time: ranges split (`sumTo_add`), the voter list does not split at word
boundaries without `take`/`drop`.  `wsum_eq_sumTo` is the tie. -/
def sumTo (f : Nat → Nat) : Nat → Nat
  | 0 => 0
  | n + 1 => sumTo f n + f n

theorem sumTo_congr {f g : Nat → Nat} : ∀ n, (∀ j, j < n → f j = g j) → sumTo f n = sumTo g n := by
  intro n
  induction n with
  | zero => intro _; rfl
  | succ n ih => intro h; simp only [sumTo]; rw [ih (fun j hj => h j (by omega)), h n (by omega)]

theorem sumTo_add (f : Nat → Nat) (a : Nat) : ∀ b, sumTo f (a + b) = sumTo f a + sumTo (fun j => f (a + j)) b := by
  intro b
  induction b with
  | zero => rfl
  | succ b ih => rw [← Nat.add_assoc]; simp only [sumTo]; rw [ih]; omega

theorem sumTo_zero (f : Nat → Nat) : ∀ n, (∀ j, j < n → f j = 0) → sumTo f n = 0 := by
  intro n
  induction n with
  | zero => intro _; rfl
  | succ n ih => intro h; simp only [sumTo]; rw [ih (fun j hj => h j (by omega)), h n (by omega)]

theorem sumTo_extend (f : Nat → Nat) (n N : Nat) (hN : n ≤ N) (hz : ∀ j, n ≤ j → f j = 0) :
    sumTo f N = sumTo f n := by
  obtain ⟨d, rfl⟩ : ∃ d, N = n + d := ⟨N - n, by omega⟩
  rw [sumTo_add, sumTo_zero _ d (fun j _ => hz (n + j) (by omega))]
  rfl

theorem sumTo_front (f : Nat → Nat) (n : Nat) : sumTo f (n + 1) = f 0 + sumTo (fun k => f (k + 1)) n := by
  have := sumTo_add f 1 n
  rw [Nat.add_comm 1 n] at this
  rw [this]
  simp only [sumTo, Nat.zero_add]
  congr 1
  exact sumTo_congr n (fun j _ => by rw [Nat.add_comm])

theorem wsumFrom_eq_sumTo (p : Nat → Bool) : ∀ (ws : List Nat) (i : Nat),
    wsumFrom p i ws = sumTo (fun k => if p (i + k) then ws.getD k 0 else 0) ws.length := by
  intro ws
  induction ws with
  | nil => intro i; rfl
  | cons w ws ih =>
    intro i
    simp only [wsumFrom, List.length_cons]
    rw [sumTo_front, ih (i + 1)]
    simp only [Nat.add_zero, List.getD_cons_zero]
    congr 1
    apply sumTo_congr
    intro j _
    have : i + 1 + j = i + (j + 1) := by omega
    rw [this]
    simp only [List.getD_eq_getElem?_getD, List.getElem?_cons_succ]

theorem wsum_eq_sumTo (ws : List Nat) (p : Nat → Bool) (N : Nat) (hN : ws.length ≤ N) :
    wsum ws p = sumTo (fun v => if p v then ws.getD v 0 else 0) N := by
  unfold wsum
  rw [wsumFrom_eq_sumTo, sumTo_extend _ ws.length N hN]
  · simp only [Nat.zero_add]
  · intro j hj
    simp only [List.getD_eq_getElem?_getD, List.getElem?_eq_none hj, Option.getD_none, ite_self]

theorem weight_acc (ws : List Nat) : ∀ (bits : List Nat) (acc : Nat),
    bits.foldl (fun tot pos => if pos / 2 < ws.length then tot + ws.getD (pos / 2) 0 else tot) acc
      = acc + weight ws bits := by
  intro bits
  induction bits with
  | nil => intro acc; simp only [List.getD_eq_getElem?_getD, List.foldl_nil, weight, Nat.add_zero]
  | cons x xs ih =>
    intro acc
    unfold weight
    simp only [List.foldl_cons]
    rw [ih, ih (if x / 2 < ws.length then 0 + ws.getD (x / 2) 0 else 0)]
    split <;> omega

theorem weight_nil (ws : List Nat) : weight ws [] = 0 := rfl

theorem weight_append (ws : List Nat) (a b : List Nat) : weight ws (a ++ b) = weight ws a + weight ws b := by
  unfold weight
  rw [List.foldl_append, weight_acc]
  rfl

/-- the guard `pos / 2 < len(voters)` of `weight` changes nothing: beyond the end `getD` is 0 -/
theorem weight_single (ws : List Nat) (x : Nat) : weight ws [x] = ws.getD (x / 2) 0 := by
  unfold weight
  simp only [List.foldl_cons, List.foldl_nil, Nat.zero_add]
  split
  · rfl
  · rename_i h
    simp only [List.getD_eq_getElem?_getD, List.getElem?_eq_none (Nat.le_of_not_lt h), Option.getD_none]

theorem weight_filterMap_range (ws : List Nat) (g : Nat → Option Nat) : ∀ n,
    weight ws ((List.range n).filterMap g) =
      sumTo (fun j => match g j with | some x => ws.getD (x / 2) 0 | none => 0) n := by
  intro n
  induction n with
  | zero => rfl
  | succ n ih =>
    rw [List.range_succ, List.filterMap_append, weight_append, ih]
    simp only [sumTo, List.filterMap_cons, List.filterMap_nil]
    cases g n
    · rfl
    · exact congrArg _ (weight_single ws _)

theorem get_head (w : Nat) (rest : Words) {r : Nat} (hr : r < 64) : get (w :: rest) r = w.testBit (63 - r) := by
  unfold get
  rw [Nat.div_eq_of_lt hr, Nat.mod_eq_of_lt hr]
  rfl

theorem get_tail (w : Nat) (rest : Words) (q : Nat) : get (w :: rest) (64 + q) = get rest q := by
  unfold get
  rw [Nat.add_div_left _ (by decide), Nat.add_mod_left]
  rfl

theorem weight_iterFrom (ws : List Nat) (ph : Nat) (hph : ph < 2) : ∀ (rest : Words) (i : Nat),
    weight ws (iterFrom ph 1 i rest) =
      sumTo (fun j => if get rest (2 * j + ph) then ws.getD (32 * i + j) 0 else 0) (32 * rest.length) := by
  intro rest
  induction rest with
  | nil => intro i; rfl
  | cons w rest ih =>
    intro i
    simp only [iterFrom, weight_append, List.length_cons]
    rw [show 32 * (rest.length + 1) = 32 + 32 * rest.length by omega, sumTo_add]
    congr 1
    · have hword : ∀ j, j < 32 → get (w :: rest) (2 * j + ph) = w.testBit (63 - (ph + 2 * j)) := by
        intro j hj
        rw [Nat.add_comm]
        exact get_head w rest (by omega)
      by_cases hw : w = 0
      · subst hw
        simp only [if_true, weight_nil]
        symm
        apply sumTo_zero
        intro j hj
        rw [hword j hj]; simp only [Nat.zero_testBit, Bool.false_eq_true, ↓reduceIte]
      · -- the 32 positions `ph, ph + 2, …` of the word
        have h32 : (64 >>> 1) - (ph >>> 1) = 32 := by
          rw [show ph >>> 1 = 0 by rw [Nat.shiftRight_eq_div_pow]; omega]; rfl
        simp only [hw, if_false, iterWord, h32]
        rw [weight_filterMap_range]
        apply sumTo_congr
        intro j hj
        rw [hword j hj, testBitGo_eq, Nat.shiftLeft_eq, show j * 2 ^ 1 = 2 * j by omega]
        cases w.testBit (63 - (ph + 2 * j))
        · rfl
        · exact congrArg (ws.getD · 0) (by omega)
    · rw [ih (i + 1)]
      apply sumTo_congr
      intro j _
      rw [show 2 * (32 + j) + ph = 64 + (2 * j + ph) by omega, get_tail,
        show 32 * (i + 1) + j = 32 * i + (32 + j) by omega]

theorem get_beyond (b : Words) (q : Nat) (h : b.length ≤ q / 64) : get b q = false := by
  unfold get
  simp only [List.getD_eq_getElem?_getD, List.getElem?_eq_none h, Option.getD_none, Nat.zero_testBit]

theorem weight_iter1s (ws : List Nat) (b : Words) (ph : Nat) (hph : ph < 2) :
    weight ws (iter1s b ph 1) = wsum ws (fun v => get b (bitPos v ph)) := by
  have h1 := weight_iterFrom ws ph hph b 0
  simp only [Nat.mul_zero, Nat.zero_add] at h1
  unfold iter1s
  rw [h1]
  let N := max ws.length (32 * b.length)
  rw [wsum_eq_sumTo ws _ N (by omega)]
  rw [← sumTo_extend _ (32 * b.length) N (by omega)]
  · apply sumTo_congr
    intro j _
    rfl
  · intro j hj
    have : get b (2 * j + ph) = false := get_beyond b _ (by omega)
    simp only [this, Bool.false_eq_true, ↓reduceIte]

theorem getD_zipOr : ∀ (a b : Words) (i : Nat), (zipOr a b).getD i 0 = (a.getD i 0 ||| b.getD i 0) := by
  intro a
  induction a with
  | nil => intro b i; simp [zipOr]
  | cons x xs ih =>
    intro b i
    cases b with
    | nil => simp [zipOr]
    | cons y ys =>
      cases i with
      | zero => simp [zipOr]
      | succ i => simpa only [zipOr, List.getD_eq_getElem?_getD, List.getElem?_cons_succ] using ih ys i

theorem get_zipOr (a b : Words) (q : Nat) : get (zipOr a b) q = (get a q || get b q) := by
  unfold get; rw [getD_zipOr, Nat.testBit_or]

theorem weight_iter1sMerged (ws : List Nat) (a b : Words) (ph : Nat) (hph : ph < 2) :
    weight ws (iter1sMerged a b ph 1) = wsum ws (fun v => get a (bitPos v ph) || get b (bitPos v ph)) := by
  unfold iter1sMerged
  rw [weight_iter1s ws _ ph hph]
  exact wsum_congr (fun v _ => get_zipOr a b _)

/-- `roundContext.Weight(node, phase)` of context.go, with its `IsBlank` fast path.  Not in
`Lib/C20Bitfield` because the driver does not run it. -/
def contextWeight (ws : List Nat) (equivocations node : Words) (ph : Nat) : Nat :=
  if isBlank equivocations then weight ws (iter1s node ph 1)
  else weight ws (iter1sMerged node equivocations ph 1)

theorem contextWeight_eq (ws : List Nat) {eb nb : Words} {e n : Nat} (he : Rep eb e) (hn : Rep nb n) (ph : Bool) :
    contextWeight ws eb nb (phN ph) = nodeWeight ws e n ph := by
  have hph : phN ph < 2 := by unfold phN; split <;> omega
  unfold contextWeight nodeWeight maskWeight
  split
  · rename_i hb
    rw [weight_iter1s ws nb _ hph]
    apply wsum_congr
    intro v _
    rw [Nat.testBit_or, ← hn, ← he, isBlank_get hb]; simp only [Bool.or_false]
  · rw [weight_iter1sMerged ws nb eb _ hph]
    apply wsum_congr
    intro v _
    rw [Nat.testBit_or, ← hn, ← he]

end Gossamer.C20.BF
