/-
C20: the memoised fields of the round after importing a history satisfy the relational form of the paper
definitions of `Lib/C20Top` – `IsGhost` (g), `IsFinalized`, `IsEstimate` (E), `SpecCompletable` – on the region the hypotheses
delimit (they are explained at the head of `Props/C20.lean`).  `rel_X_eq_spec_partial` is the relational half of
`C20_X_eq_spec_partial` there: the field of the round satisfies the characterisation; that it equals the executable
`specX` follows with `Lib/C20SpecEq` and the uniqueness of the characterised block.
-/
import Gossamer.Lib.C20Possible
namespace Gossamer.C20

variable {t : Tree} {ws : List Nat}

/-- `Round.PrecommitGHOST()` called on the state after `ops` returns g(precommits); `memo` is whatever earlier calls
memoised: a block with a precommit supermajority, or nothing. -/
theorem rel_precommit_ghost_eq_spec_partial (h : t.WF) (h0 : 0 < total ws) (ops : List Op)
    (htol : tolerant ws ops true = true) (memo : Option Nat)
    (hmemo : ∀ m, memo = some m → superm t ws ops true m = true) :
    IsGhost t ws ops true
      (precommitGhost t ws { run t ws ops with pcGhost := memo }).pcGhost := by
  unfold precommitGhost
  simp only [apply_ite Round.pcGhost]
  exact memo_isGhost h h0 htol memo hmemo

/-- `Round.finalized` is the paper's finalized block, for any precommit set, tolerant or not. -/
theorem rel_finalized_eq_spec_partial (h : t.WF) (h0 : 0 < total ws) (ops : List Op)
    (hv : ValidOps t ops) (htol : tolerant ws ops false = true) :
    IsFinalized t ws ops (run t ws ops).fin := by
  refine run_cases h h0 ops hv htol (fun _ f _ _ => IsFinalized t ws ops f) ?_ ?_ ?_
  · intro hg B hB
    rw [hg B] at hB; exact Bool.noConfusion hB
  · intro g hg _
    -- the blocks with a prevote supermajority are the GHOST and its ancestors
    refine (isFinalized_iff ops _).2 ((findAncestor_isTop h (superm_inGraph h0 htol hg.1) _).congr fun B => ?_)
    rw [supermCond_run, show superm t ws ops false B = t.le B g from Bool.eq_iff_iff.2
      ⟨fun hB => Tree.le_iff.2 (hg.2 B hB), fun hB => superm_anc h (Tree.le_iff.1 hB) hg.1⟩]
  · intro g _ hlt B _
    exact superm_false_of_voteWeight_lt t ws ops true hlt B

theorem possible_of_small (t : Tree) (ws : List Nat) (ops : List Op)
    (hs : voteWeight ws ops true ≤ 2 * faulty ws) (B : Nat) : possible t ws ops true B = true := by
  unfold possible
  have := voteWeight_split t ws ops true B
  have := equivWeight_le_weightFor t ws ops true B
  simp only [decide_eq_true_eq]
  omega

/-- `Round.estimate` is E of the paper relative to the round's prevote GHOST (which is g(V) by `ghost_run`).
False without `NoGap` (`C20_estimate_shortcut_counterexample`) and without precommit tolerance
(`C20_estimate_intolerant_counterexample`). -/
theorem rel_estimate_eq_spec_partial (h : t.WF) (h0 : 0 < total ws) (ops : List Op)
    (hv : ValidOps t ops) (htol : tolerant ws ops false = true) (htolc : tolerant ws ops true = true)
    (hgap : NoGap ws ops) (hov : total ws < MOD) :
    IsEstimate t ws ops (run t ws ops).ghost (run t ws ops).est := by
  refine run_cases h h0 ops hv htol (fun g _ e _ => IsEstimate t ws ops g e) ?_ ?_ ?_
  · exact fun _ => rfl
  · intro g hg _
    exact (isEstimate_iff ops g _).2 ((findAncestor_isTop h (superm_inGraph h0 htol hg.1) _).congr
      fun B => by rw [possible_run t ws ops htolc hov])
  · intro g _ hlt
    have hsmall : voteWeight ws ops true ≤ 2 * faulty ws := by
      rcases hgap with hge | hle
      · omega
      · exact hle
    exact ⟨t.mem_chain_self g, possible_of_small t ws ops hsmall g, fun B hB _ => hB⟩

theorem not_possible_of_not_inGraph (h0 : 0 < total ws) (ops : List Op) {c : Nat}
    (hc : inGraph (run t ws ops).cum c = false) (hct : voteWeight ws ops true ≥ threshold (total ws)) :
    possible t ws ops true c = false := by
  have hw := weightFor_of_not_inGraph t ws ops true hc
  have hs := voteWeight_split t ws ops true c
  have := two_faulty_lt_thr h0
  unfold possible
  simp only [decide_eq_false_iff_not]
  omega

/-- `Round.completable` holds iff the round's GHOST and estimate satisfy `SpecCompletable`, the paper's completability.
False without `NoGap` (`C20_estimate_shortcut_counterexample`); precommit tolerance is what `rel_estimate_eq_spec_partial`
needs. -/
theorem rel_completable_eq_spec_partial (h : t.WF) (h0 : 0 < total ws) (ops : List Op)
    (hv : ValidOps t ops) (htol : tolerant ws ops false = true) (htolc : tolerant ws ops true = true)
    (hgap : NoGap ws ops) (hov : total ws < MOD) :
    (run t ws ops).compl = true ↔ SpecCompletable t ws ops (run t ws ops).ghost (run t ws ops).est := by
  have hest := rel_estimate_eq_spec_partial h h0 ops hv htol htolc hgap hov
  revert hest
  refine run_cases h h0 ops hv htol
    (fun g _ e c => IsEstimate t ws ops g e → (c = true ↔ SpecCompletable t ws ops g e)) ?_ ?_ ?_
  · exact fun _ _ => iff_of_false Bool.false_ne_true (not_specCompletable_none_ghost ops _)
  · intro g hg hct hest
    have hunseen : unseenImpossible ws ops = true := by
      unfold unseenImpossible
      have := two_faulty_lt_thr h0
      simp only [decide_eq_true_eq]; omega
    -- from here on the Go closure is just "a precommit supermajority is possible"
    have hP := possible_run t ws ops htolc hov
    generalize possibleToPrecommit ws ((run t ws ops).cur true) (run t ws ops).eqv = P at hP hest ⊢
    cases hE : findAncestor t (run t ws ops).cum g P with
    | none => exact iff_of_false Bool.false_ne_true (not_specCompletable_none_est ops _)
    | some E =>
      rw [hE] at hest
      dsimp only
      by_cases hEg : E = g
      · subst hEg
        -- estimate = ghost: completable iff the possible-GHOST from it is the ghost itself, i.e. no child is good
        have hcondE : P ((run t ws ops).cum E) = true := by rw [hP]; exact hest.2.1
        have hgood : ∀ c, good (run t ws ops).cum P c = possible t ws ops true c := by
          intro c
          unfold good
          rw [hP]
          cases hin : inGraph (run t ws ops).cum c
          · exact (not_possible_of_not_inGraph h0 ops hin hct).symm
          · rfl
        simp only [bne_self_eq_false, Bool.false_or]
        refine Iff.trans ?_ ((findGhost_stays_iff h (superm_inGraph h0 htol hg.1) hcondE).trans ?_)
        -- the `match` of `update` in the goal and the one in the statement of `findGhost_stays_iff` print alike but are
        -- two auxiliary matchers, which `rw`/`exact` do not identify; they agree on each constructor
        · cases findGhost t (run t ws ops).cum (some E) P <;> exact Iff.rfl
        simp only [specCompletable_some, hgood]
        exact ⟨fun hno => Or.inr ⟨hunseen, hno⟩, fun hor => hor.elim (fun hne => absurd rfl hne) (·.2)⟩
      · have hne : (E != g) = true := by simp [hEg]
        simp only [hne, Bool.true_or, true_iff]
        exact (specCompletable_some ops g E).2 (Or.inl hEg)
  · intro g _ hlt _
    rw [specCompletable_some]
    refine iff_of_false Bool.false_ne_true ?_
    rintro (hne | ⟨hun, _⟩)
    · exact hne rfl
    · unfold unseenImpossible at hun
      simp only [decide_eq_true_eq] at hun
      rcases hgap with hge | hle <;> omega

/-- For a tolerant prevote set the round's prevote GHOST is determined by the votes, not by the order of import:
`IsGhost` has at most one solution. -/
theorem rel_ghost_order_independent_partial (h : t.WF) (h0 : 0 < total ws) {ops ops' : List Op}
    (hp : ops.Perm ops') (hv : ValidOps t ops) (htol : tolerant ws ops false = true) :
    (run t ws ops).ghost = (run t ws ops').ghost := by
  have htol' : tolerant ws ops' false = true := tolerant_perm ws hp false ▸ htol
  have g1 := ghost_run h h0 ops htol
  have g2 := ghost_run h h0 ops' htol'
  exact IsGhost.unique h g1 (IsGhost.congr (congrFun (superm_perm t ws hp false)) g2)

end Gossamer.C20
