/-
C08: `applyToTrie` over the ideal backend does not depend on the iteration order of the Go maps.
-/
import Gossamer.Lib.C08Apply
import Gossamer.Lib.C08DiffSorted
namespace Gossamer.C08
open Gossamer

/-- `o` lists the three maps of `d` (and the two maps of every child change set) in some order -/
structure IsOrderOf (d : Diff) (o : ApplyOrder) : Prop where
  ups : o.ups.Perm d.c.upserts
  dels : o.dels.Perm d.c.deletes
  kidKeys : (o.kids.map (·.1)).Perm (d.kids.map (·.1))
  kid : ∀ e ∈ o.kids, ∃ c, KMap.find e.1 d.kids = some c ∧ e.2.1.Perm c.upserts ∧ e.2.2.Perm c.deletes

theorem sortedOrder_isOrder {d : Diff} (hd : d.SortedD) : IsOrderOf d d.sortedOrder := by
  refine ⟨List.Perm.refl _, List.Perm.refl _, ?_, ?_⟩
  · simp only [Diff.sortedOrder, List.map_map]
    exact List.Perm.of_eq (List.map_congr_left (fun _ _ => rfl))
  · intro e he
    simp only [Diff.sortedOrder, List.mem_map] at he
    obtain ⟨x, hx, rfl⟩ := he
    exact ⟨x.2, KMap.find_of_mem_sorted hd.kids hx, List.Perm.refl _, List.Perm.refl _⟩

section order

variable {d : Diff} {o1 o2 : ApplyOrder}

theorem order_phase1 (hd : d.SortedD) (h1 : IsOrderOf d o1) (h2 : IsOrderOf d o2) {b : Logical}
    (hb : b.WF) : o1.ups.foldl putMain b = o2.ups.foldl putMain b := by
  apply Logical.ext (phase1_wf _ hb) (phase1_wf _ hb)
  · intro k
    have n1 := (KMap.nodupKeys_of_sorted hd.c.ups).perm h1.ups.symm
    have n2 := (KMap.nodupKeys_of_sorted hd.c.ups).perm h2.ups.symm
    rw [phase1_get _ n1, phase1_get _ n2, KMap.find_perm h1.ups n1, KMap.find_perm h2.ups n2]
  · intro ck k
    rw [phase1_kid, phase1_kid]

theorem order_kids_nodup (hd : d.SortedD) (h1 : IsOrderOf d o1) :
    AList.NodupKeys o1.kids ∧ ∀ e ∈ o1.kids, AList.NodupKeys e.2.1 := by
  constructor
  · unfold AList.NodupKeys
    exact (List.Perm.nodup_iff h1.kidKeys).mpr (KMap.nodupKeys_of_sorted hd.kids)
  · intro e he
    obtain ⟨c, hc, hu, _⟩ := h1.kid e he
    exact (KMap.nodupKeys_of_sorted (hd.kid (e.1, c) (KMap.find_some_mem hc)).ups).perm hu.symm

theorem order_kid_get (hd : d.SortedD) (h1 : IsOrderOf d o1) (l : Logical) (ck k : Bytes) :
    OMap.get k (kidOf (o1.kids.foldl applyKidI l) ck) =
      match KMap.find ck d.kids with
      | some c =>
        if k ∈ c.deletes then none else ov (KMap.find k c.upserts) (OMap.get k (kidOf l ck))
      | none => OMap.get k (kidOf l ck) := by
  obtain ⟨n1, u1⟩ := order_kids_nodup hd h1
  rw [phase2_get _ n1 u1]
  cases hf : KMap.find ck o1.kids with
  | some e =>
    obtain ⟨c, hc, hu, hdl⟩ := h1.kid (ck, e) (KMap.find_some_mem hf)
    have hn := KMap.nodupKeys_of_sorted (hd.kid (ck, c) (KMap.find_some_mem hc)).ups
    rw [hc]
    simp only [KMap.find_perm hu (hn.perm hu.symm), List.Perm.mem_iff hdl]
  | none =>
    have : ck ∉ d.kids.map (·.1) := fun hx =>
      (KMap.find_none_iff ck o1.kids).mp hf ((List.Perm.mem_iff h1.kidKeys).mpr hx)
    rw [(KMap.find_none_iff ck d.kids).mpr this]

theorem order_phase2 (hd : d.SortedD) (h1 : IsOrderOf d o1) (h2 : IsOrderOf d o2) {l : Logical}
    (hl : l.WF) : o1.kids.foldl applyKidI l = o2.kids.foldl applyKidI l :=
  Logical.ext (phase2_wf _ hl) (phase2_wf _ hl) (fun k => by rw [phase2_main, phase2_main])
    fun ck k => by rw [order_kid_get hd h1, order_kid_get hd h2]

theorem order_phase3 (hd : d.SortedD) (h1 : IsOrderOf d o1) (h2 : IsOrderOf d o2) {l : Logical}
    (hl : l.WF) : o1.dels.foldl applyDelI l = o2.dels.foldl applyDelI l := by
  have n1 : o1.dels.Nodup := (List.Perm.nodup_iff h1.dels).mpr (KSet.nodup_of_sorted hd.c.dels)
  have n2 : o2.dels.Nodup := (List.Perm.nodup_iff h2.dels).mpr (KSet.nodup_of_sorted hd.c.dels)
  -- both results are read off the set of deleted strings, which is that of the diff
  apply Logical.ext (phase3_wf _ hl) (phase3_wf _ hl)
  · intro k
    rw [phase3_main _ n1 hl, phase3_main _ n2 hl]
    simp only [List.Perm.mem_iff h1.dels, List.Perm.mem_iff h2.dels]
  · intro ck k
    rw [phase3_kid, phase3_kid]
    simp only [List.Perm.mem_iff h1.dels, List.Perm.mem_iff h2.dels]

theorem applyIdeal_order (hd : d.SortedD) (h1 : IsOrderOf d o1) (h2 : IsOrderOf d o2) {b : Logical}
    (hb : b.WF) : applyIdeal b o1 = applyIdeal b o2 := by
  unfold applyIdeal
  rw [order_phase1 hd h1 h2 hb, order_phase2 hd h1 h2 (phase1_wf _ hb),
    order_phase3 hd h1 h2 (phase2_wf _ (phase1_wf _ hb))]

end order

end Gossamer.C08
