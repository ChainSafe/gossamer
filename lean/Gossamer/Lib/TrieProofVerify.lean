/-
C05, what `Verify` does with the proof items when the root hash is that of a trie `t` and no item
collides with a node encoding or stored value of `t` (`Clean`): it is a function of `t` and of which
hashes are present.  `resolved m t` is the node `loadProof` rebuilds from the decoded root of `t` over
the map `m` (`load_eq`), `scan` is `find?`/`eraseP` (`scan_eq`), and `verifyP` under the root hash of
`t` is one equation (`verifyP_root`, with `verifyP_root_ok_iff` for its accepting case).  Soundness reads
`resolved` as an upper bound on what `Get` can answer, completeness as a lower bound.  The file starts
with the collision vocabulary of all of C05 (`Honest`, `CollisionWith`, `InjOn`, `Clean`).
-/
import Gossamer.Model.C05
import Gossamer.Lib.TrieProofBridge
import Gossamer.Lib.TrieEnc
namespace Gossamer.C05
open Gossamer Gossamer.TrieCodec Gossamer.Bridge

/-- every node encoding of the state `t` and every stored value.  More than is ever looked up by hash
    (encodings below 32 bytes travel inlined, short or V0 values are not hashed): one recursion closed
    under children (`honest_child`), at the price of a `CollisionWith` larger than the proofs need. -/
def Honest (ver : Ver) (H : Bytes → Bytes) : Trie → Bytes → Prop
  | .nil, b => b = encodeNode ver H .nil
  | .leaf pk v, b => b = encodeNode ver H (.leaf pk v) ∨ b = v
  | .branch pk v cs, b =>
    b = encodeNode ver H (.branch pk v cs) ∨ v = some b ∨ ∃ i, Honest ver H (cs i) b

theorem honest_self (ver : Ver) (H : Bytes → Bytes) (t : Trie) : Honest ver H t (encodeNode ver H t) := by
  cases t with
  | nil => rfl
  | leaf pk v => exact .inl rfl
  | branch pk v cs => exact .inl rfl

theorem honest_child {ver : Ver} {H : Bytes → Bytes} {pk : Nibs} {v : Option Bytes} {cs : Nib → Trie}
    {i : Nib} {b : Bytes} (h : Honest ver H (cs i) b) : Honest ver H (.branch pk v cs) b :=
  .inr (.inr ⟨i, h⟩)

/-- A collision that matters: an item `a` supplied by the prover (`S a`) and a different honest
    string `b` of the state with the same hash.  (A bare `∃ a ≠ b, H a = H b` holds for every
    hash with 32-byte digests and would make the theorems vacuous.) -/
def CollisionWith (ver : Ver) (H : Bytes → Bytes) (S : Bytes → Prop) (t : Trie) : Prop :=
  ∃ a b : Bytes, S a ∧ Honest ver H t b ∧ a ≠ b ∧ H a = H b

/-- the negation of `CollisionWith` (`injOn_or_collision`): what the lemmas assume; the theorems of
    Props/C05 turn it into the disjunct -/
def InjOn (ver : Ver) (H : Bytes → Bytes) (S : Bytes → Prop) (t : Trie) : Prop :=
  ∀ a b : Bytes, S a → Honest ver H t b → H a = H b → a = b

theorem injOn_or_collision (ver : Ver) (H : Bytes → Bytes) (S : Bytes → Prop) (t : Trie) :
    InjOn ver H S t ∨ CollisionWith ver H S t := by
  by_cases h : CollisionWith ver H S t
  · exact .inr h
  · refine .inl fun a b ha hb hab => ?_
    by_cases e : a = b
    · exact e
    · exact absurd ⟨a, b, ha, hb, e, hab⟩ h

/-- under the hash of an honest string of `t` the map holds nothing but that string.  (Every key is
    the hash of its entry, `NewMemoryDBFromProof` and `digestToEncoding`: so this says that no entry
    collides with an honest string, `clean_pairsOf`.) -/
def Clean (ver : Ver) (H : Bytes → Bytes) (t : Trie) (m : Pairs) : Prop :=
  ∀ p ∈ m, ∀ b, Honest ver H t b → p.1 = H b → p.2 = b

theorem Clean.child {ver : Ver} {H : Bytes → Bytes} {pk : Nibs} {v : Option Bytes} {cs : Nib → Trie}
    {m : Pairs} (h : Clean ver H (.branch pk v cs) m) (i : Nib) : Clean ver H (cs i) m :=
  fun p hp b hb => h p hp b (honest_child hb)

theorem Clean.mono {ver : Ver} {H : Bytes → Bytes} {t : Trie} {m m' : Pairs} (h : Clean ver H t m)
    (hs : m' ⊆ m) : Clean ver H t m' := fun p hp => h p (hs hp)

theorem clean_pairsOf {ver : Ver} {H : Bytes → Bytes} {S : Bytes → Prop} {t : Trie} {nodes : List Bytes}
    (hinj : InjOn ver H S t) (h : ∀ e ∈ nodes, S e) : Clean ver H t (pairsOf H nodes) := by
  intro p hp
  obtain ⟨e, he, rfl⟩ := List.mem_map.mp hp
  exact fun b => hinj e b (h e he)

theorem mapGet_mem {m : Pairs} {d e : Bytes} (h : mapGet m d = some e) : (d, e) ∈ m := by
  obtain ⟨p, hf, rfl⟩ := Option.map_eq_some_iff.mp h
  have hd : p.1 = d := by simpa using List.find?_some hf
  rw [← hd]
  exact List.mem_reverse.mp (List.mem_of_find?_eq_some hf)

theorem mapGet_honest {ver : Ver} {H : Bytes → Bytes} {t : Trie} {m : Pairs} (hm : Clean ver H t m)
    {b e : Bytes} (hb : Honest ver H t b) (h : mapGet m (H b) = some e) : e = b :=
  hm _ (mapGet_mem h) b hb rfl

theorem mapGet_isSome_of_mem {m : Pairs} {d e : Bytes} (h : (d, e) ∈ m) : (mapGet m d).isSome = true := by
  unfold mapGet
  rw [Option.isSome_map, List.find?_isSome]
  exact ⟨(d, e), List.mem_reverse.mpr h, beq_self_eq_true d⟩

theorem mapGet_avail {ver : Ver} {H : Bytes → Bytes} {t : Trie} {m : Pairs} (hm : Clean ver H t m)
    {e : Bytes} (he : Honest ver H t e) (hmem : (H e, e) ∈ m) : mapGet m (H e) = some e := by
  obtain ⟨e', hg⟩ := Option.isSome_iff_exists.mp (mapGet_isSome_of_mem hmem)
  rw [hg, mapGet_honest hm he hg]

/-- what the loop of `loadKids` does with one child slot (its `let r`).  The empty node is tested
    with `isEmpty`, here and in `atRoot`: the model's nested pattern `.ok .empty` compiles to a
    matcher with a case for every constructor of `Node`. -/
def loadKid (strict : Bool) (m : Pairs) (rec : Node → Except VOut Node) : Node → Except VOut Node
  | .stub mv =>
    match mapGet m mv with
    | none => .ok .empty
    | some enc =>
      match decode strict enc with
      | .ok n => if n.isEmpty then .error .childEmpty else rec n
      | .err _ => .error .decodeErr
      | .panic => .error .panic
      | .fuel => .error .fuel
  | other => .ok other

theorem loadKids_cons (strict : Bool) (m : Pairs) (rec : Node → Except VOut Node) (c : Node)
    (cs : List Node) :
    loadKids strict m rec (c :: cs) =
      match loadKid strict m rec c with
      | .error e => .error e
      | .ok c' =>
        match loadKids strict m rec cs with
        | .ok cs' => .ok (c' :: cs')
        | .error e => .error e := by
  cases c with
  | stub mv =>
    rw [loadKids, loadKid]
    cases mapGet m mv with
    | none => rfl
    | some enc =>
      dsimp only
      cases decode strict enc with
      | ok n => cases n <;> rfl
      | err _ => rfl
      | panic => rfl
      | fuel => rfl
  | empty => rfl
  | leaf _ _ _ => rfl
  | branch _ _ _ _ => rfl

/-- what `scan` does with the pair it takes for the root; `m` = the other pairs -/
def atRoot (strict : Bool) (p : Bytes × Bytes) (m : Pairs) : Scan :=
  match decode strict p.2 with
  | .ok n => if n.isEmpty then .emptyTrie else .found n m
  | .err _ => .bad .decodeErr
  | .panic => .bad .panic
  | .fuel => .bad .fuel

theorem scan_cons (strict : Bool) (root : Bytes) (p : Bytes × Bytes) (rest acc : Pairs) :
    scan strict root (p :: rest) acc =
      if p.1 == root then atRoot strict p (acc.reverse ++ rest) else scan strict root rest (p :: acc) := by
  rw [scan, atRoot]
  split
  · cases decode strict p.2 with
    | ok n => cases n <;> rfl
    | err _ => rfl
    | panic => rfl
    | fuel => rfl
  · rfl

theorem scan_eq (strict : Bool) (root : Bytes) : ∀ ps acc : Pairs,
    scan strict root ps acc =
      match ps.find? (fun p => p.1 == root) with
      | none => .noRoot
      | some p => atRoot strict p (acc.reverse ++ ps.eraseP fun p => p.1 == root) := by
  intro ps
  induction ps with
  | nil => intro _; rfl
  | cons p rest ih =>
    intro acc
    rw [scan_cons]
    by_cases hp : (p.1 == root) = true
    · rw [if_pos hp, List.find?_cons_of_pos (p := fun x : Bytes × Bytes => x.1 == root) hp,
        List.eraseP_cons_of_pos (p := fun x : Bytes × Bytes => x.1 == root) hp]
    · rw [if_neg hp, List.find?_cons_of_neg (p := fun x : Bytes × Bytes => x.1 == root) hp,
        List.eraseP_cons_of_neg (p := fun x : Bytes × Bytes => x.1 == root) hp, ih, List.reverse_cons,
        List.append_assoc]
      rfl

theorem enc_child_lt (ver : Ver) (H : Bytes → Bytes) (pk : Nibs) (v : Option Bytes) (cs : Nib → Trie)
    (i : Nib) (hn : (cs i).isNil = false) (hl : (encodeNode ver H (cs i)).length < 32) :
    (encodeNode ver H (cs i)).length < (encodeNode ver H (.branch pk v cs)).length :=
  inline_child_lt ver H pk v cs i hn hl

theorem loadKid_vkid (ver : Ver) (H : Bytes → Bytes) (hH : ∀ m, (H m).length = 32) (strict : Bool)
    {m : Pairs} (rec : Node → Except VOut Node) (c : Trie) (hm : Clean ver H c m) (hw : WFT c) :
    loadKid strict m rec (vkid ver H c) =
      if (encodeNode ver H c).length < 32 then .ok (viewT ver H c)
      else match mapGet m (H (encodeNode ver H c)) with
        | none => .ok .empty
        | some _ => rec (viewT ver H c) := by
  unfold vkid
  split
  · cases c <;> rfl
  · rename_i hl
    rw [loadKid]
    cases hg : mapGet m (H (encodeNode ver H c)) with
    | none => rfl
    | some enc =>
      have hn : (viewT ver H c).isEmpty = false := by
        cases c with
        | nil => exact absurd (by decide : 1 < 32) hl
        | leaf _ _ => rfl
        | branch _ _ _ => rfl
      dsimp only
      rw [mapGet_honest hm (honest_self ver H c) hg, decode_encodeNode ver H hH strict c hw]
      dsimp only
      rw [hn]
      rfl

/-- the child `c` is referenced by a hash the map does not have: `loadProof` clears its slot -/
def cleared (ver : Ver) (H : Bytes → Bytes) (m : Pairs) (c : Trie) : Bool :=
  decide (32 ≤ (encodeNode ver H c).length) && (mapGet m (H (encodeNode ver H c))).isNone

/-- the child `c` is referenced by a hash the map has: `loadProof` goes on there -/
def followed (ver : Ver) (H : Bytes → Bytes) (m : Pairs) (c : Trie) : Bool :=
  decide (32 ≤ (encodeNode ver H c).length) && (mapGet m (H (encodeNode ver H c))).isSome

theorem cleared_eq_false {ver : Ver} {H : Bytes → Bytes} {m : Pairs} {c : Trie}
    (h : 32 ≤ (encodeNode ver H c).length → (mapGet m (H (encodeNode ver H c))).isSome = true) :
    cleared ver H m c = false := by
  rw [cleared, Bool.and_eq_false_iff, decide_eq_false_iff_not, Option.isNone_eq_false_iff]
  by_cases hl : 32 ≤ (encodeNode ver H c).length
  · exact .inr (h hl)
  · exact .inl hl

/-- the node `loadProof` rebuilds from the decoded root of `t` over the map `m` (`load_eq`) -/
def resolved (ver : Ver) (H : Bytes → Bytes) (m : Pairs) : Trie → Node
  | .nil => .empty
  | .leaf pk v => .leaf (nibB pk) (some (storedValue ver H v)) (mustBeHashed ver v)
  | .branch pk v cs =>
    rebuild (nibB pk) (v.map (storedValue ver H)) (hashedFlag ver v)
      ((List.finRange 16).map fun i => vkid ver H (cs i))
      ((List.finRange 16).map fun i => if cleared ver H m (cs i) then .empty else resolved ver H m (cs i))

/-- the fuel `f` lasts for the references below `t` that `loadProof` follows (`fol`, abstract so that
    `fits_len` can count against any set of followed nodes whose encodings are in a list) -/
def fits (fol : Trie → Bool) : Nat → Trie → Bool
  | 0, _ => false
  | f + 1, .branch _ _ cs => (List.finRange 16).all fun i => !fol (cs i) || fits fol f (cs i)
  | _ + 1, _ => true

theorem rebuild_self (pk : Bytes) (v : Option Bytes) (hs : Bool) (kids : List Node) :
    rebuild pk v hs kids kids = .branch pk v hs kids := by
  rw [rebuild, Bool.and_not_self, if_neg Bool.false_ne_true]

theorem resolved_short (ver : Ver) (H : Bytes → Bytes) (hH : ∀ m, (H m).length = 32) (m : Pairs) :
    ∀ t : Trie, (encodeNode ver H t).length < 32 → resolved ver H m t = viewT ver H t := by
  intro t
  induction t with
  | nil | leaf _ _ => intro _; rfl
  | branch pk v cs ih =>
    intro hl
    have hk : ∀ i, (if cleared ver H m (cs i) then Node.empty else resolved ver H m (cs i)) = vkid ver H (cs i) := by
      intro i
      have hs := inline_branch_child hH hl i
      rw [cleared, decide_eq_false (Nat.not_le_of_lt hs), Bool.false_and, if_neg Bool.false_ne_true,
        ih i hs, vkid, if_pos hs]
    rw [viewT_branch, resolved]
    simp only [hk]
    exact rebuild_self ..

/-- the shape `load_eq` needs: every slot loads or fails with one and the same error `e` (below an
    honest root the only error is `.fuel`) -/
theorem loadKids_map {α : Type} (strict : Bool) (m : Pairs) (rec : Node → Except VOut Node) (e : VOut)
    (g h : α → Node) (b : α → Bool) : ∀ l : List α,
    (∀ a ∈ l, loadKid strict m rec (g a) = if b a then .ok (h a) else .error e) →
      loadKids strict m rec (l.map g) = if l.all b then .ok (l.map h) else .error e := by
  intro l
  induction l with
  | nil => intro _; rfl
  | cons a r ih =>
    intro hl
    rw [List.map_cons, loadKids_cons, hl a (List.mem_cons_self ..), ih fun x hx => hl x (List.mem_cons_of_mem _ hx),
      List.all_cons]
    cases b a <;> cases r.all b <;> rfl

theorem load_eq (ver : Ver) (H : Bytes → Bytes) (hH : ∀ m, (H m).length = 32) (strict : Bool) {m : Pairs} :
    ∀ (f : Nat) (t : Trie), WFT t → Clean ver H t m →
      loadF strict m f (viewT ver H t) =
        if fits (followed ver H m) f t then .ok (resolved ver H m t) else .error .fuel := by
  intro f
  induction f with
  | zero => intro t _ _; rfl
  | succ f ih =>
    intro t hw hm
    cases t with
    | nil | leaf _ _ => rfl
    | branch pk v cs =>
      rw [viewT_branch, loadF,
        loadKids_map strict m _ .fuel _
          (fun i => if cleared ver H m (cs i) then .empty else resolved ver H m (cs i))
          (fun i => !followed ver H m (cs i) || fits (followed ver H m) f (cs i))]
      · rw [fits, resolved]
        generalize (List.finRange 16).all _ = b
        cases b <;> rfl
      · intro i _
        rw [loadKid_vkid ver H hH strict _ _ (hm.child i) (hw.2.2 i), cleared, followed]
        by_cases hl : (encodeNode ver H (cs i)).length < 32
        · rw [if_pos hl, decide_eq_false (Nat.not_le_of_lt hl), resolved_short ver H hH m _ hl]
          rfl
        · rw [if_neg hl, decide_eq_true (Nat.le_of_not_lt hl)]
          cases mapGet m (H (encodeNode ver H (cs i))) with
          | none => rfl
          | some _ => exact ih (cs i) (hw.2.2 i) (hm.child i)

theorem pgetKid_eq (db : Pairs) : ∀ (kids : List Node) (i : Nat) (key : Bytes),
    pgetKid db kids i key = pget db (kids.getD i .empty) key
  | [], _, _ => by rw [pgetKid, List.getD_nil, pget]
  | c :: _, 0, _ => by rw [pgetKid, List.getD_cons_zero]
  | _ :: cs, i + 1, key => by rw [pgetKid, List.getD_cons_succ, pgetKid_eq db cs i key]

theorem pget_leaf (db : Pairs) (pk : Nibs) (v : Option Bytes) (hs : Bool) (key : Nibs) :
    pget db (.leaf (nibB pk) v hs) (nibB key) = if pk = key then leafValue db v hs else none := by
  simp only [pget, nibB_eq_iff]

theorem child_key_not_end (pk : Nibs) (i : Nib) (rest : Nibs) :
    (decide ((pk ++ i :: rest).length = 0) || pk == pk ++ i :: rest) = false := by
  rw [Bool.or_eq_false_iff, decide_eq_false_iff_not, beq_eq_false_iff_ne]
  exact ⟨by simp, (append_cons_ne_self pk i rest).symm⟩

/-- Go's `retrieve` at a branch, abstracted over what the value and the children answer: the shape
    `Trie.retrieve` and `pget` share (`retrieve_branch`, `pget_branch`) -/
def descend {α : Type} (pk key : Nibs) (here : Option α) (child : Nib → Nibs → Option α) : Option α :=
  if key.length = 0 || pk == key then here
  else if !(pk.isPrefixOf key) then none
  else
    match key.drop pk.length with
    | i :: rest => child i rest
    | [] => none

theorem descend_self {α : Type} (pk : Nibs) (here : Option α) (child : Nib → Nibs → Option α) :
    descend pk pk here child = here := by
  rw [descend, beq_self_eq_true, Bool.or_true, if_pos rfl]

theorem descend_child {α : Type} (pk : Nibs) (i : Nib) (rest : Nibs) (here : Option α)
    (child : Nib → Nibs → Option α) : descend pk (pk ++ i :: rest) here child = child i rest := by
  rw [descend, child_key_not_end, if_neg Bool.false_ne_true, isPrefixOf_append_self, List.drop_left]
  rfl

theorem descend_mono {α : Type} {pk key : Nibs} {here here' : Option α} {child child' : Nib → Nibs → Option α}
    {y : α} (hv : here = some y → here' = some y)
    (hc : ∀ i rest, child i rest = some y → child' i rest = some y)
    (h : descend pk key here child = some y) : descend pk key here' child' = some y := by
  rw [descend] at h ⊢
  by_cases h1 : (key.length = 0 || pk == key) = true
  · rw [if_pos h1] at h ⊢
    exact hv h
  · rw [if_neg h1] at h ⊢
    by_cases h2 : (!pk.isPrefixOf key) = true
    · rw [if_pos h2] at h; cases h
    · rw [if_neg h2] at h ⊢
      generalize key.drop pk.length = l at h ⊢
      cases l with
      | nil => cases h
      | cons i rest => exact hc i rest h

theorem retrieve_branch (pk : Nibs) (v : Option Bytes) (cs : Nib → Trie) (key : Nibs) :
    Trie.retrieve (.branch pk v cs) key = descend pk key v fun i rest => Trie.retrieve (cs i) rest := by
  rw [Trie.retrieve, descend]
  rfl

theorem pget_branch (db : Pairs) (pk : Nibs) (v : Option Bytes) (hs : Bool) (kids : List Node) (key : Nibs) :
    pget db (.branch (nibB pk) v hs kids) (nibB key) =
      descend pk key (leafValue db v hs) fun i rest => pget db (kids.getD i.val .empty) (nibB rest) := by
  rw [pget, descend, nibB_length, nibB_length, nibB_beq, nibB_isPrefixOf, nibB_drop]
  cases key.drop pk.length with
  | nil => rfl
  | cons i rest => simp only [nibB_cons, pgetKid_eq, nb_toNat]

theorem allEmpty_false_of_getD : ∀ (kids : List Node) (i : Nat),
    (kids.getD i .empty).isEmpty = false → allEmpty kids = false
  | [], _, h => by cases h
  | c :: cs, 0, h => by
    rw [List.getD_cons_zero] at h
    rw [allEmpty, h, Bool.false_and]
  | c :: cs, i + 1, h => by
    rw [List.getD_cons_succ] at h
    rw [allEmpty, allEmpty_false_of_getD cs i h, Bool.and_false]

theorem resolved_isEmpty (ver : Ver) (H : Bytes → Bytes) (m : Pairs) (t : Trie) :
    (resolved ver H m t).isEmpty = t.isNil := by
  cases t with
  | nil | leaf _ _ => rfl
  | branch _ _ _ => rw [resolved, rebuild]; split <;> rfl

theorem pget_resolved_self (ver : Ver) (H : Bytes → Bytes) (m db : Pairs) (pk : Nibs) (v : Option Bytes)
    (cs : Nib → Trie) :
    pget db (resolved ver H m (.branch pk v cs)) (nibB pk) =
      leafValue db (v.map (storedValue ver H)) (hashedFlag ver v) := by
  rw [resolved, rebuild]
  split
  · rw [pget_leaf, if_pos rfl]
  · rw [pget_branch, descend_self]

theorem pget_resolved_child {ver : Ver} {H : Bytes → Bytes} {m : Pairs} (db : Pairs) {pk : Nibs}
    {v : Option Bytes} {cs : Nib → Trie} {i : Nib} {rest : Nibs} (hcl : cleared ver H m (cs i) = false)
    (hnil : (cs i).isNil = false) :
    pget db (resolved ver H m (.branch pk v cs)) (nibB (pk ++ i :: rest)) =
      pget db (resolved ver H m (cs i)) (nibB rest) := by
  have hslot : ((List.finRange 16).map fun j =>
      if cleared ver H m (cs j) then Node.empty else resolved ver H m (cs j)).getD i.val .empty =
        resolved ver H m (cs i) := by
    rw [getD_finRange_map, hcl, if_neg Bool.false_ne_true]
  rw [resolved, rebuild, allEmpty_false_of_getD _ i.val (by rw [hslot, resolved_isEmpty, hnil]),
    Bool.false_and, if_neg Bool.false_ne_true, pget_branch, descend_child, hslot]

theorem leafValue_stored (ver : Ver) (H : Bytes → Bytes) (db : Pairs) (v : Option Bytes) :
    leafValue db (v.map (storedValue ver H)) (hashedFlag ver v) =
      match v with
      | none => none
      | some x => if mustBeHashed ver x then mapGet db (H x) else some x := by
  cases v with
  | none => rfl
  | some x =>
    simp only [leafValue, hashedFlag, Option.map_some, storedValue]
    split <;> rfl

theorem claim_ok_iff (value pv : Bytes) :
    (if value.length > 0 && !(value == pv) then VOut.mismatch else .ok) = .ok ↔ value = [] ∨ value = pv := by
  cases value <;> simp

/-- the empty trie is included: `resolved` of it is the empty node, which answers no key.  The `.fuel`
    branch is dead when no two honest strings collide, whatever the clean items (`fits_map`). -/
theorem verifyP_root (ver : Ver) (H : Bytes → Bytes) (hH : ∀ m, (H m).length = 32)
    (strict : Bool) {pairs : Pairs} {t : Trie} (hpairs : Clean ver H t pairs) (hw : WFT t) (key value : Bytes) :
    verifyP strict pairs (hashTrie ver H t) key value =
      if (pairs.find? fun p => p.1 == hashTrie ver H t).isNone then
        if pairs.isEmpty then .emptyProof else .noRoot
      else if fits (followed ver H (pairs.eraseP fun p => p.1 == hashTrie ver H t)) (pairs.length + 1) t then
        match pget pairs (resolved ver H (pairs.eraseP fun p => p.1 == hashTrie ver H t) t) (nibB (toNibs key)) with
        | none => .notFound
        | some pv => if value.length > 0 && !(value == pv) then .mismatch else .ok
      else .fuel := by
  rw [verifyP, scan_eq, keyLEToNibbles_eq_nibB]
  cases hf : pairs.find? fun p => p.1 == hashTrie ver H t with
  | none => cases pairs.isEmpty <;> rfl
  | some p =>
    have hmem := List.mem_of_find?_eq_some hf
    have hpr : p.1 = hashTrie ver H t :=
      beq_iff_eq.mp (List.find?_some (p := fun x : Bytes × Bytes => x.1 == hashTrie ver H t) hf)
    have hpe : p.2 = encodeNode ver H t := hpairs p hmem _ (honest_self ver H t) hpr
    have hne : pairs.isEmpty = false := List.isEmpty_eq_false_iff_exists_mem.mpr ⟨p, hmem⟩
    rw [hne, if_neg Bool.false_ne_true, Option.isNone_some, if_neg Bool.false_ne_true]
    dsimp only
    rw [atRoot, hpe, decode_encodeNode ver H hH strict t hw, List.reverse_nil, List.nil_append]
    dsimp only
    rw [viewT_isEmpty]
    cases hn : t.isNil with
    | true => rw [(Trie.isNil_iff t).mp hn]; rfl
    | false =>
      rw [if_neg Bool.false_ne_true]
      dsimp only
      rw [load_eq ver H hH strict _ _ hw (hpairs.mono List.eraseP_subset)]
      cases fits (followed ver H _) (pairs.length + 1) t <;> rfl

/-- The items are arbitrary (`Clean` only excludes collisions with `t`); it is the root hash that is
    that of a real trie. -/
theorem verifyP_root_ok_iff (ver : Ver) (H : Bytes → Bytes) (hH : ∀ m, (H m).length = 32)
    (strict : Bool) {pairs : Pairs} {t : Trie} (hpairs : Clean ver H t pairs) (hw : WFT t) (key value : Bytes) :
    verifyP strict pairs (hashTrie ver H t) key value = .ok ↔
      (∃ p ∈ pairs, p.1 = hashTrie ver H t) ∧
      fits (followed ver H (pairs.eraseP fun p => p.1 == hashTrie ver H t)) (pairs.length + 1) t = true ∧
      ∃ pv, pget pairs (resolved ver H (pairs.eraseP fun p => p.1 == hashTrie ver H t) t) (nibB (toNibs key)) = some pv ∧
        (value = [] ∨ value = pv) := by
  have hroot : (∃ p ∈ pairs, p.1 = hashTrie ver H t) ↔
      (pairs.find? fun p => p.1 == hashTrie ver H t).isNone = false := by
    rw [Option.isNone_eq_false_iff, List.find?_isSome]
    exact ⟨fun ⟨p, hp, e⟩ => ⟨p, hp, beq_iff_eq.mpr e⟩, fun ⟨p, hp, e⟩ => ⟨p, hp, beq_iff_eq.mp e⟩⟩
  rw [verifyP_root ver H hH strict hpairs hw, hroot]
  constructor
  · intro h
    cases hr : (pairs.find? fun p => p.1 == hashTrie ver H t).isNone with
    | true => rw [hr, if_pos rfl] at h; split at h <;> cases h
    | false =>
      rw [hr, if_neg Bool.false_ne_true] at h
      cases hfit : fits (followed ver H (pairs.eraseP fun p => p.1 == hashTrie ver H t)) (pairs.length + 1) t with
      | false => rw [hfit, if_neg Bool.false_ne_true] at h; cases h
      | true =>
        rw [hfit, if_pos rfl] at h
        refine ⟨rfl, rfl, ?_⟩
        cases hg : pget pairs (resolved ver H (pairs.eraseP fun p => p.1 == hashTrie ver H t) t)
            (nibB (toNibs key)) with
        | none => rw [hg] at h; cases h
        | some pv => rw [hg] at h; exact ⟨pv, rfl, (claim_ok_iff value pv).mp h⟩
  · rintro ⟨hr, hfit, pv, hg, hv⟩
    rw [hr, hfit, hg]
    exact (claim_ok_iff value pv).mpr hv

end Gossamer.C05
