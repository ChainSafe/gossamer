/-
C05 soundness: whatever proof items are supplied, `Verify` under the root hash of the trie `t` only
confirms what `Get` on `t` returns — provided no supplied item collides under `H` with a node
encoding or stored value of `t` (`InjOn`; `C05_sound` turns this into an explicit collision clause).
-/
import Gossamer.Lib.TrieProofVerify
namespace Gossamer.C05
open Gossamer Gossamer.TrieCodec Gossamer.Bridge

theorem leafValue_sound {ver : Ver} {H : Bytes → Bytes} {t : Trie} {db : Pairs}
    (hdb : Clean ver H t db) {v : Option Bytes} {y : Bytes} (hv : ∀ x, v = some x → Honest ver H t x)
    (h : leafValue db (v.map (storedValue ver H)) (hashedFlag ver v) = some y) : v = some y := by
  rw [leafValue_stored] at h
  cases v with
  | none => cases h
  | some x =>
    dsimp only at h
    split at h
    · rw [mapGet_honest hdb (hv x rfl) h]
    · exact h

theorem pget_resolved (ver : Ver) (H : Bytes → Bytes) {m db : Pairs} :
    ∀ {t : Trie} {key : Nibs} {y : Bytes}, Clean ver H t db →
      pget db (resolved ver H m t) (nibB key) = some y → Trie.retrieve t key = some y := by
  intro t
  induction t with
  | nil => intro key y _ h; rw [resolved, pget] at h; cases h
  | leaf pk v =>
    intro key y hdb h
    rw [resolved, pget_leaf] at h
    rw [Trie.retrieve]
    by_cases hk : pk = key
    · rw [if_pos hk] at h ⊢
      exact leafValue_sound (v := some v) hdb (fun x hx => .inr (Option.some.inj hx).symm) h
    · rw [if_neg hk] at h; cases h
  | branch pk v cs ih =>
    intro key y hdb h
    have hv : leafValue db (v.map (storedValue ver H)) (hashedFlag ver v) = some y → v = some y :=
      leafValue_sound hdb fun x hx => .inr (.inl hx)
    rw [resolved, rebuild] at h
    rw [retrieve_branch]
    generalize (allEmpty _ && !allEmpty _) = b at h
    cases b
    case true =>
      -- converted to a leaf: only its own key is answered
      rw [if_pos rfl, pget_leaf] at h
      by_cases hk : pk = key
      · rw [if_pos hk] at h
        rw [← hk, descend_self]
        exact hv h
      · rw [if_neg hk] at h; cases h
    case false =>
      rw [if_neg Bool.false_ne_true, pget_branch] at h
      refine descend_mono hv (fun i rest h => ?_) h
      rw [getD_finRange_map] at h
      cases hcl : cleared ver H m (cs i)
      · rw [hcl, if_neg Bool.false_ne_true] at h; exact ih i (hdb.child i) h
      · rw [hcl, if_pos rfl, pget] at h; cases h

theorem verify_sound_inj (ver : Ver) (H : Bytes → Bytes) (hH : ∀ m, (H m).length = 32)
    (strict : Bool) (nodes : List Bytes) (t : Trie) (hw : WFT t) (hinj : InjOn ver H (· ∈ nodes) t)
    (key value : Bytes)
    (h : verify H strict nodes (hashTrie ver H t) key value = .ok) :
    ∃ pv, Trie.retrieve t (toNibs key) = some pv ∧ (value = [] ∨ value = pv) := by
  have hpairs : Clean ver H t (pairsOf H nodes) := clean_pairsOf hinj fun _ he => he
  obtain ⟨_, _, pv, hg, hv⟩ := (verifyP_root_ok_iff ver H hH strict hpairs hw key value).mp h
  exact ⟨pv, pget_resolved ver H hpairs hg, hv⟩

end Gossamer.C05
