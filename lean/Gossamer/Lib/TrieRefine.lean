/-
Refinement of the Go trie (model `TrieMem`) by the ordered map `OMap`.  Where each operation is described on
nibble keys, and in which shape:
  Put                `insert`                  TrieLemmas `lookup_insert`, `entriesN_insert`; TrieCanon `canon_insert`
  Get                `retrieve`                TrieLemmas `retrieve_eq_lookup`
  Delete             `deleteAtNode`            TrieCanon  `deleteAtNode_restricts`
  ClearPrefix        `clearPrefixAtNode`       TrieCanon  `clearPrefixAtNode_restricts`
  GetKeysWithPrefix  `getKeysWithPrefix`       here       `getKeysWithPrefix_eq`  (a filter of `entriesN`)
  NextKey            `findNextNode`            here       `findNextNode_eq`       (a `find?` in `entriesN`)
  ClearPrefixLimit   `clearPrefixLimitAtNode`  TrieLimit  `clearPrefixLimitAtNode_spec`
Three shapes, because an insert changes ONE look-up and is said look-up by look-up; a deletion removes a set of
keys and returns a flag, which `Restricts` bundles with canonical form so that the rebuilding of the branch is
argued once; and "the first `n` keys with the prefix" is no property of single look-ups, so the limit is stated
on the ascending content list (`CplSpec`, `dropMatching`).
`Rep t es` carries each to byte keys, one lemma per exported method (`Rep.clearPrefixLimit` is in TrieLimit).
-/
import Gossamer.Lib.TrieBytes
namespace Gossamer
open Rank OMap
namespace Trie

theorem addAllKeys_eq (t : Trie) (pre : Nibs) :
    addAllKeys t pre = (entriesN t).map (fun e => pre ++ e.1) := by
  induction t generalizing pre with
  | nil => rfl
  | leaf pk v => rfl
  | branch pk v cs ih =>
    simp only [addAllKeys, entriesN, List.map_append, List.map_flatMap, List.map_map, ih]
    congr 1
    · cases v <;> rfl
    · congr 1
      funext i
      simp [Function.comp_def]

theorem entriesN_branch_prefix {pk : Nibs} {v : Option Bytes} {cs : Nib → Trie} {e : Nibs × Bytes}
    (h : e ∈ entriesN (branch pk v cs)) : pk.isPrefixOf e.1 = true := by
  have := OMap.get_of_mem_sorted (sorted_entriesN _) (show (e.1, e.2) ∈ _ from h)
  rw [get_entriesN] at this
  exact branch_key_prefix this

/-- both sides are ascending and hold the same keys -/
theorem filter_prefix_branch_child (pk : Nibs) (v : Option Bytes) (cs : Nib → Trie) (i : Nib)
    (rest : Nibs) :
    (entriesN (branch pk v cs)).filter (fun e => (pk ++ i :: rest).isPrefixOf e.1) =
      ((entriesN (cs i)).filter (fun e => rest.isPrefixOf e.1)).map
        (fun e => (pk ++ [i] ++ e.1, e.2)) := by
  apply OMap.sorted_ext (OMap.sorted_filter _ (sorted_entriesN _))
    ((OMap.sorted_iff_pairwise _).mpr (pairwise_map_prefix _ ((pairwise_entriesN _).filter _)))
  intro k
  rw [OMap.get_filter_key (fun x => (pk ++ i :: rest).isPrefixOf x), get_entriesN]
  rcases slot_cases pk i k with ⟨s, rfl⟩ | h
  · rw [lookup_branch_child, isPrefixOf_append_left, List.isPrefixOf_cons_cons, beq_self_eq_true,
      Bool.true_and, ← List.singleton_append, ← List.append_assoc, get_map_prefix,
      OMap.get_filter_key (fun x => rest.isPrefixOf x), get_entriesN]
  · have := isPrefixOf_off_append h rest
    rw [List.append_assoc, List.singleton_append] at this
    rw [get_map_prefix_off _ _ _ h, this]; rfl

theorem getKeysWithPrefix_eq (t : Trie) (pre key : Nibs) :
    getKeysWithPrefix t pre key =
      ((entriesN t).filter (fun e => key.isPrefixOf e.1)).map (fun e => pre ++ e.1) := by
  have h0 : ∀ key pk : Nibs, (key.length = 0 || key.isPrefixOf pk) = key.isPrefixOf pk := by
    intro key pk; cases key <;> simp
  induction t generalizing pre key with
  | nil => rfl
  | leaf pk v =>
    simp only [getKeysWithPrefix, h0, entriesN, List.filter_cons]
    split <;> rfl
  | branch pk v cs ih =>
    simp only [getKeysWithPrefix, h0]
    rcases prefix_cases key pk with hA | ⟨i, rest, rfl⟩ | ⟨h1, h2⟩
    · -- every key below the branch has the prefix
      rw [if_pos hA, addAllKeys_eq, List.filter_eq_self.mpr fun e he =>
        isPrefixOf_trans hA (entriesN_branch_prefix he)]
    · rw [if_neg (by rw [append_cons_isPrefixOf_self]; nofun), isPrefixOf_append_self,
        if_neg (by nofun), List.drop_left]
      dsimp only
      rw [ih, filter_prefix_branch_child, List.map_map]
      exact List.map_congr_left fun e _ => by simp
    · -- the prefix leaves the partial key: nothing matches
      rw [if_neg (by rw [h1]; nofun), h2, Bool.not_false, if_pos rfl]
      symm
      rw [List.map_eq_nil_iff, List.filter_eq_nil_iff]
      exact fun e he => Bool.eq_false_iff.mp (off_of_diverge h1 h2 (entriesN_branch_prefix he))


theorem findSome?_filter_of_none {α β : Type} (p : α → Bool) (g : α → Option β) (l : List α)
    (h : ∀ x ∈ l, p x = false → g x = none) : (l.filter p).findSome? g = l.findSome? g := by
  induction l with
  | nil => rfl
  | cons a r ih =>
    have ih' := ih (fun x hx => h x (by simp [hx]))
    simp only [List.filter_cons]
    cases hp : p a with
    | true => simp only [if_true, List.findSome?_cons]; rw [ih']
    | false =>
      simp only [Bool.false_eq_true, if_false, List.findSome?_cons, h a (by simp) hp]
      exact ih'

theorem klt_ext_of_diverge {full search : Nibs} (h1 : klt search full = false)
    (h2 : full.isPrefixOf search = false) (ext : Nibs) : klt search (full ++ ext) = false := by
  obtain ⟨c, fa, sa, rfl, rfl, _, h4⟩ := lcp_split full search
  rw [klt_append_left] at h1
  rw [List.append_assoc, klt_append_left]
  cases fa with
  | nil => rw [List.append_nil, isPrefixOf_append_self] at h2; cases h2
  | cons x xs =>
    cases sa with
    | nil => cases h1
    | cons y ys =>
      simp only [List.cons_append, klt, Bool.or_eq_false_iff, decide_eq_false_iff_not,
        Bool.and_eq_false_imp, beq_iff_eq] at h1 ⊢
      exact ⟨h1.1, fun h => absurd (rank_inj h).symm (h4 x xs y ys rfl rfl)⟩

theorem findNextNode_eq (t : Trie) (pre search : Nibs) :
    findNextNode t pre search =
      ((entriesN t).find? (fun e => klt search (pre ++ e.1))).map (fun e => pre ++ e.1) := by
  induction t generalizing pre with
  | nil => rfl
  | leaf pk v =>
    simp only [findNextNode, entriesN, List.find?_cons]
    split <;> simp_all
  | branch pk v cs ih =>
    -- a child none of whose keys is above `search` yields nothing
    have hnone : ∀ j : Nib, (∀ ext, klt search (pre ++ pk ++ j :: ext) = false) →
        findNextNode (cs j) (pre ++ pk ++ [j]) search = none := by
      intro j hj
      rw [ih, Option.map_eq_none_iff, List.find?_eq_none]
      intro e _
      rw [List.append_assoc (pre ++ pk), List.singleton_append, hj]; nofun
    -- so the scan may start at child `start` when the children before it are such
    have hfrom : ∀ start : Nat,
        (∀ j : Nib, j.val < start → ∀ ext, klt search (pre ++ pk ++ j :: ext) = false) →
        ((List.finRange 16).filter (fun i => start ≤ i.val)).findSome?
            (fun i => findNextNode (cs i) (pre ++ pk ++ [i]) search) =
          (List.finRange 16).findSome? (fun i => findNextNode (cs i) (pre ++ pk ++ [i]) search) :=
      fun start h => findSome?_filter_of_none _ _ _ fun j _ hj => hnone j (h j (by simpa using hj))
    -- the scan of all children finds the first entry below the branch that is above `search`
    have hall : ((List.finRange 16).findSome? (fun i => findNextNode (cs i) (pre ++ pk ++ [i]) search)) =
        (((List.finRange 16).flatMap (fun i => (entriesN (cs i)).map
            (fun e => (pk ++ i :: e.1, e.2)))).find? (fun e => klt search (pre ++ e.1))).map
          (fun e => pre ++ e.1) := by
      rw [List.find?_flatMap, List.map_findSome?]
      congr 1
      funext i
      simp only [Function.comp]
      rw [ih, List.find?_map]
      simp [Function.comp_def, Option.map_map]
    -- the Go code: the value of the branch if it is above `search`, else the (pruned) scan
    have hgo : findNextNode (branch pk v cs) pre search =
        (if klt search (pre ++ pk) then v.map (fun _ => pre ++ pk) else none).or
          ((List.finRange 16).findSome? (fun i => findNextNode (cs i) (pre ++ pk ++ [i]) search)) := by
      simp only [findNextNode]
      by_cases h1 : klt search (pre ++ pk) = true
      · rw [if_pos h1, if_pos h1, hfrom 0 (fun _ h => absurd h (Nat.not_lt_zero _))]
        cases v <;> rfl
      · rw [if_neg h1, if_neg h1, Option.none_or]
        rcases key_cases (pre ++ pk) search with rfl | ⟨i, s, rfl⟩ | hp
        · rw [if_pos rfl, hfrom 0 (fun _ h => absurd h (Nat.not_lt_zero _))]
        · have hlen : ¬ ((pre ++ pk ++ i :: s).length ≤ (pre ++ pk).length) := by simp
          rw [if_neg (append_cons_ne_self _ i s), if_neg hlen, List.drop_left]
          refine hfrom _ fun j hj ext => ?_
          rw [klt_append_left]
          simp only [klt, Bool.or_eq_false_iff, decide_eq_false_iff_not, Bool.and_eq_false_imp,
            beq_iff_eq, Rank.rank]
          exact ⟨by omega, fun h => by omega⟩
        · -- `search` does not pass through the branch key: it is above every key below
          have hz := fun (j : Nib) ext => klt_ext_of_diverge (Bool.eq_false_iff.mpr h1) hp (j :: ext)
          have hscan := List.findSome?_eq_none_iff.mpr fun (j : Nib) (_ : j ∈ List.finRange 16) => hnone j (hz j)
          rw [if_neg (isPrefixOf_false_ne hp)]
          split
          · exact hscan.symm
          · split
            · rw [hfrom _ fun j _ => hz j]
            · exact hscan.symm
    rw [hgo, hall]
    simp only [entriesN, List.find?_append]
    by_cases h1 : klt search (pre ++ pk) = true <;> cases v <;> simp [h1]


end Trie

open Trie

theorem trimZero_isPrefix (q : Nibs) : (trimZero q).isPrefixOf q = true := by
  unfold trimZero
  split
  · rw [List.isPrefixOf_iff_prefix]; exact List.dropLast_prefix q
  · exact isPrefixOf_self q

theorem trimZero_toNibs {p : Bytes} (h : lowNibbleZero p = false) : trimZero (toNibs p) = toNibs p := by
  unfold trimZero
  rw [getLast?_toNibs]
  unfold lowNibbleZero at h
  cases hl : p.getLast? with
  | none => simp
  | some b =>
    rw [hl] at h
    simp only [Option.map_some, Option.some.injEq]
    rw [if_neg]
    intro e
    have := congrArg Fin.val e
    rw [loNib_val] at this
    simp at h
    simp at this
    omega

theorem trim_agree {p : Bytes} {es : Entries} (h : trimRegion p es = false) :
    ∀ e ∈ es, (trimZero (toNibs p)).isPrefixOf (toNibs e.1) = p.isPrefixOf e.1 := by
  intro e he
  cases hz : lowNibbleZero p with
  | false => rw [trimZero_toNibs hz, isPrefixOf_toNibs]
  | true =>
    simp only [trimRegion, hz, Bool.true_and, List.any_eq_false, Bool.and_eq_true,
      Bool.not_eq_true', not_and, Bool.not_eq_false] at h
    cases hp : p.isPrefixOf e.1 with
    | true =>
      rw [← isPrefixOf_toNibs] at hp
      exact isPrefixOf_trans (trimZero_isPrefix _) hp
    | false =>
      cases ht : (trimZero (toNibs p)).isPrefixOf (toNibs e.1) with
      | false => rfl
      | true => have := h e he ht; rw [hp] at this; cases this

/-- the trie `t` represents the byte-keyed ordered map `es` -/
structure Rep (t : Trie) (es : Entries) : Prop where
  sorted : OMap.Sorted es
  canon : Trie.Canon t
  entries : Trie.entriesN t = OMap.mapK toNibs es

namespace Rep
open Trie

theorem empty : Rep Trie.nil [] := ⟨trivial, trivial, rfl⟩

theorem lookup_eq {t : Trie} {es : Entries} (h : Rep t es) (k : Bytes) :
    lookup t (toNibs k) = OMap.get k es := by
  rw [← get_entriesN, h.entries, OMap.get_mapK toNibs_keyEmb]

theorem lookup_mem {t : Trie} {es : Entries} (h : Rep t es) {k : Nibs} {v : Bytes}
    (hl : lookup t k = some v) : ∃ e ∈ es, toNibs e.1 = k ∧ e.2 = v := by
  rw [← get_entriesN, h.entries] at hl
  obtain ⟨e, he, heq⟩ := List.mem_map.mp (OMap.get_some_mem hl)
  cases heq
  exact ⟨e, he, rfl, rfl⟩

theorem eq_build {t : Trie} {es : Entries} (h : Rep t es) : t = build es := by
  have := eq_buildN_of_canon h.canon
  rw [h.entries] at this
  exact this

/-- what C01 states, at a represented map -/
theorem root (ver : Ver) (H : Bytes → Bytes) {t : Trie} {es : Entries} (h : Rep t es) :
    hashTrie ver H t = specRoot ver H es := by
  rw [specRoot, ← h.eq_build]

theorem put {t : Trie} {es : Entries} (h : Rep t es) (k v : Bytes) :
    Rep (Trie.put t k v) (OMap.upsert k v es) := by
  refine ⟨OMap.sorted_upsert _ _ h.sorted, ?_, ?_⟩
  · exact canon_insert h.canon _ _
  · rw [Trie.put, keyLEToNibbles_eq, entriesN_insert, h.entries, OMap.upsert_mapK toNibs_keyEmb]

/-- The region of the `len(key) == 0` short cut is a predicate of the TRIE: whether the remaining key runs out on
    arrival at a node depends on where the partial keys end, which the map does not tell.  Stored keys are never
    in it (`safe_of_present`).  For `Get` it is larger than needed: at a leaf the short cut answers correctly. -/
theorem get {t : Trie} {es : Entries} (h : Rep t es) (k : Bytes)
    (hk : emptyKeyHit t (toNibs k) = false) : Trie.get t k = OMap.get k es := by
  rw [Trie.get, keyLEToNibbles_eq, retrieve_eq_lookup _ _ hk, h.lookup_eq]

/-- `hPQ` is asked for the STORED keys only: the trimmed prefix selects the keys with the byte prefix among those
    (`trim_agree`, outside the region), not among all. -/
theorem restrict {t : Trie} {es : Entries} (h : Rep t es) {P : Nibs → Bool} {Q : Bytes → Bool}
    {r : Trie × Bool} (hr : Restricts P t r) (hPQ : ∀ e ∈ es, P (toNibs e.1) = Q e.1) :
    Rep r.1 (es.filter (fun e => !Q e.1)) :=
  ⟨OMap.sorted_filter _ h.sorted, hr.canon h.canon, by
    rw [hr.entriesN_eq, h.entries]
    exact OMap.filter_mapK (!P ·) (!Q ·) fun e he => congrArg _ (hPQ e he)⟩

theorem delete {t : Trie} {es : Entries} (h : Rep t es) (k : Bytes)
    (hk : emptyKeyHit t (toNibs k) = false) : Rep (Trie.delete t k) (OMap.erase k es) := by
  obtain ⟨k', hk', hr⟩ := deleteAtNode_restricts t (toNibs k)
  rw [hk' hk] at hr
  rw [Trie.delete, keyLEToNibbles_eq]
  exact h.restrict (Q := (· == k)) hr fun e _ => by
    rw [Bool.eq_iff_iff]; simp [toNibs_keyEmb.eq_iff]

theorem safe_of_present {t : Trie} {es : Entries} (h : Rep t es) {k v : Bytes}
    (hk : OMap.get k es = some v) : emptyKeyHit t (toNibs k) = false :=
  Bool.eq_false_iff.mpr fun he => by
    rw [← h.lookup_eq, lookup_of_emptyKeyHit t _ he] at hk; cases hk

theorem keysWithPrefix {t : Trie} {es : Entries} (h : Rep t es) (p : Bytes)
    (hp : trimRegion p es = false) : Trie.keysWithPrefix t p = OMap.keysWithPrefix p es := by
  have hkey : (if p.length > 0 then trimZero (keyLEToNibbles p) else []) = trimZero (toNibs p) := by
    cases p with
    | nil => rfl
    | cons b r => simp [keyLEToNibbles_eq]
  have hnib : getKeysWithPrefix t [] (trimZero (toNibs p)) =
      OMap.keysWithPrefix (trimZero (toNibs p)) (entriesN t) := by
    rw [getKeysWithPrefix_eq]; rfl
  simp only [Trie.keysWithPrefix, hkey]
  rw [hnib, h.entries, OMap.keysWithPrefix_mapK_of (trim_agree hp), List.map_map]
  exact (List.map_congr_left fun k _ => nibblesToKeyLE_toNibs k).trans (List.map_id' _)

theorem nextKey {t : Trie} {es : Entries} (h : Rep t es) (k : Bytes) :
    Trie.nextKey t k = OMap.nextKey k es := by
  have hnib : findNextNode t [] (toNibs k) = OMap.nextKey (toNibs k) (entriesN t) := by
    rw [findNextNode_eq]; rfl
  rw [Trie.nextKey, keyLEToNibbles_eq, hnib, h.entries, OMap.nextKey_mapK toNibs_keyEmb, Option.map_map]
  cases OMap.nextKey k es with
  | none => rfl
  | some x => exact congrArg some (nibblesToKeyLE_toNibs x)

theorem clearPrefix {t : Trie} {es : Entries} (h : Rep t es) (p : Bytes)
    (hp : trimRegion p es = false) : Rep (Trie.clearPrefix t p) (OMap.clearPrefix p es) := by
  unfold Trie.clearPrefix
  split
  · rename_i h0
    have : p = [] := List.eq_nil_of_length_eq_zero h0
    subst this
    have : OMap.clearPrefix ([] : Bytes) es = [] := by simp [OMap.clearPrefix]
    rw [this]; exact Rep.empty
  · rw [keyLEToNibbles_eq]
    exact h.restrict (clearPrefixAtNode_restricts t _) (trim_agree hp)

theorem entries_eq {t : Trie} {es : Entries} (h : Rep t es) :
    Trie.entries t = es.map (fun e => (e.1, some e.2)) := by
  simp only [Trie.entries, h.entries, OMap.mapK, List.map_map]
  apply List.map_congr_left
  intro e he
  have hg : OMap.get e.1 es = some e.2 := OMap.get_of_mem_sorted h.sorted he
  simp only [Function.comp, nibblesToKeyLE_toNibs]
  rw [h.get e.1 (h.safe_of_present hg), hg]

end Rep
end Gossamer
