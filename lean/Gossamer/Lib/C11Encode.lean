import Gossamer.Model.C11
namespace Gossamer.C11
open Gossamer Gossamer.Scale

theorem numBytesLoop_eq (fuel m nb : Nat) (h1 : (leMin m).length ≤ fuel)
    (h2 : nb + (leMin m).length ≤ 256) : numBytesLoop fuel m nb = nb + (leMin m).length := by
  induction fuel generalizing m nb with
  | zero =>
    have : (leMin m).length = 0 := by omega
    simp [numBytesLoop, this]
  | succ fuel ih =>
    by_cases hm : m = 0
    · subst hm; simp [numBytesLoop, leMin_zero]
    · have e := leMin_pos hm
      rw [e] at h1 h2 ⊢
      simp only [List.length_cons] at h1 h2 ⊢
      have hnb : nb < 256 := by omega
      simp only [numBytesLoop, hnb, hm, ne_eq, not_false_eq_true, and_self, if_true]
      rw [ih (m / 256) (nb + 1) (by omega) (by omega)]; omega

theorem lengthByte_eq (L : Nat) (h4 : 4 ≤ L) (h67 : L ≤ 67) :
    lengthByte L = UInt8.ofNat (4 * (L - 4) + 3) := by
  unfold lengthByte
  rw [Nat.mod_eq_of_lt (a := L - 4) (by omega), Nat.mod_eq_of_lt (by omega), Nat.mod_eq_of_lt (by omega),
    Nat.mul_comm]


/-- `encodeUint` is the canonical compact encoder on the whole range of a Go `uint` -/
theorem C11_encodeUint_canonical (n : Nat) (h : n < 2 ^ 64) : encodeUint n = compactEnc n := by
  rw [pow2_64] at h
  unfold encodeUint compactEnc
  rw [pow2_64]
  by_cases h1 : n < 64
  · rw [if_pos h1, if_pos h1, Nat.mod_eq_of_lt (by omega), Nat.mod_eq_of_lt (by omega), Nat.mul_comm]
  · by_cases h2 : n < 16384
    · rw [if_neg h1, if_pos h2, if_neg h1, if_pos h2, Nat.mod_eq_of_lt (by omega),
        Nat.mod_eq_of_lt (by omega), Nat.mod_eq_of_lt (by omega), Nat.mul_comm]
    · by_cases h3 : n < 1073741824
      · rw [if_neg h1, if_neg h2, if_pos h3, if_neg h1, if_neg h2, if_pos h3, Nat.mod_eq_of_lt (by omega),
          Nat.mod_eq_of_lt (by omega), Nat.mod_eq_of_lt (by omega), Nat.mul_comm]
      · simp only [h1, h2, h3, if_false]
        have h8 : n < 256 ^ 8 := h
        have hl8 : (leMin n).length ≤ 8 := (length_leMin_le n 8).2 h8
        have hl4 := length_leMin_big (Nat.le_of_not_lt h3)
        have hnb : numBytesLoop 256 n 0 = (leMin n).length := by
          rw [numBytesLoop_eq 256 n 0 (by omega) (by omega)]; omega
        simp only [hnb]
        rw [lengthByte_eq _ hl4 (by omega), take_leBytes_leMin 8 n h8]

/-- `encodeBigInt` is the canonical compact encoder for every non-negative integer below 2^536 -/
theorem C11_encodeBigInt_canonical (n : Nat) (h : n < 256 ^ 67) : encodeBigInt n = compactEnc n := by
  unfold encodeBigInt compactEnc
  by_cases h1 : n < 64
  · rw [if_pos h1, if_pos h1, Nat.mod_eq_of_lt (by omega), Nat.mul_comm]
  · by_cases h2 : n < 16384
    · rw [if_neg h1, if_pos h2, if_neg h1, if_pos h2, Nat.mod_eq_of_lt (by omega),
        Nat.mod_eq_of_lt (by omega), Nat.mul_comm]
    · by_cases h3 : n < 1073741824
      · rw [if_neg h1, if_neg h2, if_pos h3, if_neg h1, if_neg h2, if_pos h3, Nat.mod_eq_of_lt (by omega),
          Nat.mod_eq_of_lt (by omega), Nat.mul_comm]
      · simp only [h1, h2, h3, if_false]
        rw [lengthByte_eq _ (length_leMin_big (Nat.le_of_not_lt h3)) ((length_leMin_le n 67).2 h)]

theorem emod_twos (M : Nat) (i : Int) (h1 : -(M:Int) ≤ i) (h2 : i < (M:Int)) :
    (i % (M:Int)).toNat = if 0 ≤ i then i.toNat else (i + (M:Int)).toNat := by
  by_cases hi : 0 ≤ i
  · simp only [hi, if_true]; rw [Int.emod_eq_of_lt hi h2]
  · simp only [hi, if_false]
    have : i % (M:Int) = (i + (M:Int)) % (M:Int) := by simp
    rw [this, Int.emod_eq_of_lt (by omega) (by omega)]

theorem goUnsigned_eq (w : Nat) (i : Int)
    (h1 : - ((256 ^ w / 2 : Nat) : Int) ≤ i) (h2 : i < ((256 ^ w / 2 : Nat) : Int)) :
    goUnsigned w i = Spec.twos w i := by
  unfold goUnsigned Spec.twos
  apply emod_twos <;> omega

theorem encP_canonical (p : Prim) (v : Val) (h : wtKind p.kind v = true) :
    encP p v = Spec.encKind p.kind v := by
  cases p
  case u8 | u16 | u32 | u64 | u128 => obtain ⟨n, rfl, _⟩ := wtKind_uint h; rfl
  case i8 | i16 | i32 | i64 =>
    obtain ⟨i, rfl, h1, h2⟩ := wtKind_sint h
    show leBytes _ (goUnsigned _ i) = _
    rw [goUnsigned_eq _ i h1 h2]; rfl
  case compact =>
    obtain ⟨n, rfl, hn⟩ := wtKind_compact h
    exact C11_encodeUint_canonical n hn
  case big => obtain ⟨n, rfl, hn⟩ := wtKind_compact h; exact C11_encodeBigInt_canonical n hn
  case bool => obtain ⟨b, rfl⟩ := wtKind_bool h; rfl
  case bytes | str =>
    obtain ⟨b, rfl, hb⟩ := wtKind_bytes h
    exact congrArg (· ++ b) (C11_encodeUint_canonical b.length (Nat.lt_of_lt_of_le hb (by decide)))

/-! The body stream: `NewBodyFromEncodedBytes` (dot/types/body.go) writes the number of extrinsics as a
big integer in front of their encodings and hands the bytes to `Unmarshal`. -/

/-- below 2^64 `encodeBigInt` and `encodeUint` write the same bytes -/
theorem marshal_seq_stream (t : Ty) (vs : List Val) (hl : vs.length < maxSeqLen) :
    encodeBigInt vs.length ++ (vs.map (marshal t)).flatten = marshal (.seq t) (.list vs) := by
  rw [flatten_map_encList, C11_encodeBigInt_canonical _ (lt_pow67_of_lt_u64 hl),
    ← C11_encodeUint_canonical _ hl]
  rfl

theorem encodeBigInt_head (k : Nat) (hk : 1 ≤ k) : ∃ b tl, encodeBigInt k = b :: tl ∧ b ≠ 0 := by
  unfold encodeBigInt
  have ne0 : ∀ x : Nat, x % 256 ≠ 0 → UInt8.ofNat x ≠ 0 := by
    intro x hx he
    have := congrArg UInt8.toNat he
    simp [UInt8.toNat_ofNat'] at this; omega
  by_cases h1 : k < 64
  · simp only [h1, if_true]
    exact ⟨_, [], rfl, ne0 _ (by omega)⟩
  · by_cases h2 : k < 16384
    · simp only [h1, h2, if_true, if_false, leBytes_succ]
      exact ⟨_, _, rfl, ne0 _ (by omega)⟩
    · by_cases h3 : k < 1073741824
      · simp only [h1, h2, h3, if_true, if_false, leBytes_succ]
        exact ⟨_, _, rfl, ne0 _ (by omega)⟩
      · simp only [h1, h2, h3, if_false]
        refine ⟨_, _, rfl, ?_⟩
        unfold lengthByte
        exact ne0 _ (by omega)

/-- a bound linear in the VALUE `k` (the proof gives `(leMin k).length + 1`): `k` is the number of
    extrinsics, and Props/C33 adds this to their own sizes -/
theorem length_encodeBigInt_le (k : Nat) : (encodeBigInt k).length ≤ k + 5 := by
  unfold encodeBigInt
  split
  · simp
  · split
    · simp [length_leBytes]
    · split
      · simp [length_leBytes]
      · have := (length_leMin_le k k).2 (Nat.lt_pow_self (by decide))
        simp only [List.length_cons]; omega

end Gossamer.C11
