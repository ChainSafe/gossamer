/-
C23: the relation `Sim` between model state and specification state, and the two halves of an import in scope:
`HandleDigests` on a well-formed header of a block not yet in the block tree against `add_pending_change`
(`sim_addChange`), `ApplyForcedChanges` against `apply_forced_changes` (`sim_enactForced`).  The code fails only with
the two refused imports of finding `failed-import-keeps-block`.
-/
import Gossamer.Lib.C23Inv
namespace Gossamer.C23

structure Sim (t : Tree) (s : St) (p : Spec) : Prop where
  live : p.known = s.live
  root : p.fin = s.root
  setId : p.setId = s.setId
  authsLen : p.auths.length = s.setId + 1
  startsLen : p.starts.length = s.setId + 1
  auths : ∀ i, i ≤ s.setId → lookup s.auths i = p.auths[i]?
  starts : ∀ i, i ≤ s.setId → lookup s.change i = p.starts[i]?
  /-- a permutation, not an equality: where `importChange` puts a forced change is decided by `sort.Search` over a
      predicate that need not be monotone (`forcedImport_ok`); the specification appends -/
  forced : s.forced.Perm p.forced
  /-- `changeTree.pruneChanges` runs only at a finalisation that finds no change due, the specification drops
      abandoned forks at every one: what the code holds beyond the specification's tree is announced by blocks
      the block state has forgotten (`RInv`) -/
  std : p.std = s.roots.filter (fun r => s.live.contains r.ann.blk)

/-- `Sim` while block `b` is being imported: the model already holds `b`, the specification not yet (`preSim_iff`) -/
structure PreSim (t : Tree) (s : St) (p : Spec) (b : Nat) : Prop where
  live : p.known ++ [b] = s.live
  root : p.fin = s.root
  setId : p.setId = s.setId
  authsLen : p.auths.length = s.setId + 1
  startsLen : p.starts.length = s.setId + 1
  auths : ∀ i, i ≤ s.setId → lookup s.auths i = p.auths[i]?
  starts : ∀ i, i ≤ s.setId → lookup s.change i = p.starts[i]?
  forced : s.forced.Perm p.forced
  std : p.std = s.roots.filter (fun r => s.live.contains r.ann.blk)

theorem preSim_iff {t : Tree} {s : St} {p : Spec} {b : Nat} :
    PreSim t s p b ↔ Sim t s { p with known := p.known ++ [b] } :=
  ⟨fun ⟨a, b, c, d, e, f, g, h, i⟩ => ⟨a, b, c, d, e, f, g, h, i⟩,
   fun ⟨a, b, c, d, e, f, g, h, i⟩ => ⟨a, b, c, d, e, f, g, h, i⟩⟩

theorem Sim.inBt {t : Tree} {s : St} {p : Spec} (h : Sim t s p) (x : Nat) :
    (p.known.contains x && anc t p.fin x) = inBt t s x := by
  rw [h.live, h.root]; rfl

theorem sim_init (t : Tree) : Sim t St.init Spec.init := by
  refine ⟨rfl, rfl, rfl, rfl, rfl, ?_, ?_, List.Perm.refl _, rfl⟩ <;>
  · intro i hi
    obtain rfl := Nat.le_zero.1 hi
    rfl

theorem Sim.update {t : Tree} {s : St} {p : Spec} (h : Sim t s p) {live : List Nat} {root : Nat} {forced forced' : List Ann}
    {roots std : List Node} {known : List Nat} {fin : Nat} (hl : known = live) (hr : fin = root)
    (hf : forced.Perm forced') (hs : std = roots.filter (fun r => live.contains r.ann.blk)) :
    Sim t { s with live := live, root := root, forced := forced, roots := roots }
      { p with known := known, fin := fin, forced := forced', std := std } :=
  ⟨hl, hr, h.setId, h.authsLen, h.startsLen, h.auths, h.starts, hf, hs⟩

theorem lookup_enact (m : List (Nat × Nat)) (l : List Nat) (k v : Nat) (hlen : l.length = k + 1)
    (h : ∀ i, i ≤ k → lookup m i = l[i]?) : ∀ i, i ≤ k + 1 → lookup ((k + 1, v) :: m) i = (l ++ [v])[i]? := by
  intro i hi
  rw [lookup_cons]
  by_cases e : k + 1 = i
  · rw [if_pos e, ← e, ← hlen, List.getElem?_concat_length]
  · have hik : i < k + 1 := Nat.lt_of_le_of_ne hi (Ne.symm e)
    rw [if_neg e, h i (Nat.le_of_lt_succ hik), List.getElem?_append_left (hlen ▸ hik)]

theorem Sim.enact {t : Tree} {s : St} {p : Spec} (h : Sim t s p) (tag n : Nat) :
    Sim t (startNext s tag n) (p.enact tag n) :=
  ⟨h.live, h.root, congrArg (· + 1) h.setId,
    (List.length_append.trans (congrArg (· + 1) h.authsLen)), (List.length_append.trans (congrArg (· + 1) h.startsLen)),
    lookup_enact s.auths p.auths s.setId tag h.authsLen h.auths,
    lookup_enact s.change p.starts s.setId n h.startsLen h.starts, h.forced, h.std⟩

theorem forced_filter_perm {t : Tree} (wf : t.WF) {f l : List Ann} (hu : f.Pairwise (Unrel t)) (hp : f.Perm l)
    (x : Nat) (Q : Ann → Bool) :
    l.filter (fun c => anc t c.blk x && Q c) = (f.find? (fun c => anc t c.blk x && Q c)).toList := by
  have h := (hp.filter (fun c => anc t c.blk x && Q c)).symm
  rw [filter_eq_find_toList _ (R := Unrel t)
    (fun a b h h1 h2 => h.not_anc wf (Bool.and_eq_true_iff.1 h1).1 (Bool.and_eq_true_iff.1 h2).1) _ hu] at h
  cases hfind : f.find? (fun c => anc t c.blk x && Q c) with
  | none => rw [hfind] at h; exact h.eq_nil
  | some a => rw [hfind] at h; exact List.perm_singleton.1 h

theorem digests_wellformed (ds : List Ann) (h1 : (ds.filter (fun d : Ann => d.forced)).length ≤ 1)
    (h2 : (ds.filter (fun d : Ann => !d.forced)).length ≤ 1) :
    filterDigests ds =
      (match ds.find? (fun d : Ann => d.forced) with | some f => some f | none => ds.head?).toList := by
  unfold filterDigests
  cases hf : ds.find? (fun d : Ann => d.forced) with
  | none =>
    have hall := List.find?_eq_none.1 hf
    rw [List.filter_eq_self.2 fun a ha => by rw [Bool.eq_false_iff.2 (hall a ha)]; rfl] at h2
    rw [if_neg (Bool.eq_false_iff.1 (List.any_eq_false.2 hall))]
    exact eq_head?_toList h2
  | some f =>
    rw [if_pos (List.any_eq_true.2 ⟨f, List.mem_of_find?_eq_some hf, List.find?_some hf⟩), eq_head?_toList h1,
      List.head?_filter, hf]

theorem digests_of_header (t : Tree) (b : Nat) (h : malformed t b = false) :
    filterDigests (t.anns.filter (·.blk = b)) = (signalled t b).toList := by
  unfold malformed at h
  simp only [Bool.or_eq_false_iff, decide_eq_false_iff_not, Nat.not_lt] at h
  exact digests_wellformed _ h.1 h.2

theorem signalled_blk (t : Tree) (b : Nat) (d : Ann) (h : signalled t b = some d) : d.blk = b := by
  have key : ∀ x ∈ t.anns.filter (·.blk = b), x.blk = b := fun x hx => of_decide_eq_true (List.mem_filter.1 hx).2
  unfold signalled at h
  dsimp only at h
  cases hf : (t.anns.filter (·.blk = b)).find? (·.forced) with
  | some f => rw [hf] at h; exact Option.some.inj h ▸ key _ (List.mem_of_find?_eq_some hf)
  | none => rw [hf] at h; exact key _ (List.mem_of_mem_head? h)

/-- `p` is the specification state before the block, to which `Spec.enactForced` falls back when it refuses -/
theorem sim_enactForced {t : Tree} (wf : t.WF) {s1 : St} {p1 : Spec} {b : Nat} (hp : PreSim t s1 p1 b)
    (m : Mid t s1 b) (p : Spec) :
    match applyForced t s1 b with
    | .error e => e = .pending
    | .ok s2 => (Spec.enactForced t p p1 b).2 = .ok ∧ Sim t s2 (Spec.enactForced t p p1 b).1 := by
  have hs := preSim_iff.1 hp
  have hfind : forcedFind t (isDesc t s1) b (num t b) s1.forced =
      .ok (p1.forced.find? (fun c => anc t c.blk b && decide (eff t c = num t b))) := by
    -- the specification's first match heads its matches, and those are the model's first match
    rw [forcedFind_eq wf _ _ _ _ fun c hc => isDesc_eq_anc wf (Or.inl (m.forced.live hc)) m.inbt,
      ← List.head?_filter (l := p1.forced), forced_filter_perm wf m.forced.2 hp.forced b, Option.head?_toList]
  unfold applyForced Spec.enactForced
  rw [hfind]
  cases hfc : p1.forced.find? (fun c => anc t c.blk b && decide (eff t c = num t b)) with
  | none => exact ⟨rfl, hs⟩
  | some fc =>
    have hfcb : inBt t s1 fc.blk = true := m.forced.1 fc (hp.forced.symm.subset (List.mem_of_find?_eq_some hfc))
    dsimp only
    rw [lookupRoots_pure s1.roots fun r hrm =>
      depCond_eq (isDesc_eq_anc wf (m.roots _ (mem_blocksF_of_mem hrm)) hfcb)]
    cases hd : s1.roots.find? (fun r => decide (eff t r.ann ≤ fc.best) && anc t r.ann.blk fc.blk) with
    | some r => rfl
    | none =>
      dsimp only
      rw [hp.std, List.any_eq_false.2 fun r hr => List.find?_eq_none.1 hd r (List.mem_filter.1 hr).1,
        if_neg Bool.false_ne_true]
      exact ⟨rfl, (hs.enact fc.tag fc.best).update hp.live hp.root (.refl []) rfl⟩

theorem sim_addChange {t : Tree} (wf : t.WF) {s : St} {p : Spec} (hs : Sim t s p) (hi : Inv t s) {b : Nat}
    (hfr : FreshImp t s b) (hhdr : malformed t b = false) :
    match handleDigests t { s with live := s.live ++ [b] } (filterDigests (t.anns.filter (·.blk = b))) with
    | .error e => e = .already
    | .ok s1 => ∃ p1, p.addChange t b = .ok p1 ∧ PreSim t s1 p1 b := by
  have m := mid_add wf hi.live hi.forced hi.roots hfr
  have hnl := freshImp_not_live wf hfr
  have hne := fresh_tracked wf hi.roots hfr
  have hfilt : s.roots.filter (fun r => (s.live ++ [b]).contains r.ann.blk) =
      s.roots.filter (fun r => s.live.contains r.ann.blk) :=
    List.filter_congr fun r hrm => by
      rw [List.contains_append, List.contains_eq_mem, List.contains_eq_mem (a := r.ann.blk) (as := [b]),
        decide_eq_false (fun h => hne _ (mem_blocksF_of_mem hrm) (List.mem_singleton.1 h)), Bool.or_false]
  have base : Sim t { s with live := s.live ++ [b] } { p with known := p.known ++ [b] } :=
    hs.update (congrArg (· ++ [b]) hs.live) hs.root hs.forced (hs.std.trans hfilt.symm)
  rw [digests_of_header t b hhdr]
  unfold Spec.addChange
  cases hsig : signalled t b with
  | none => exact ⟨p, rfl, preSim_iff.2 base⟩
  | some d =>
    have hd := signalled_blk t b d hsig
    rw [Option.toList, handleDigests]
    dsimp only
    cases hdf : d.forced with
    | true =>
      rw [if_pos rfl, if_pos rfl, forcedImport, forcedGuard_eq (t := t) _ d s.forced fun c hc =>
        ⟨fun e => hnl (hd ▸ e ▸ hi.forced.live hc),
          isDesc_eq_anc wf (Or.inl (m.forced.live hc)) (hd ▸ m.inbt)⟩, hd,
        ← hs.forced.any_eq]
      cases s.forced.any (fun c => anc t c.blk b) with
      | true => rfl
      | false =>
        refine ⟨_, rfl, preSim_iff.2 (base.update base.live base.root ?_ base.std)⟩
        exact (List.perm_middle.trans (by rw [List.take_append_drop])).trans
          ((hs.forced.cons d).trans (List.perm_append_singleton d p.forced).symm)
    | false =>
      rw [if_neg Bool.false_ne_true, if_neg Bool.false_ne_true,
        schedImport_eq wf _ d s.roots fun x hx =>
          ⟨isDesc_eq_anc wf (m.roots x hx) (hd ▸ m.inbt), hd ▸ hne x hx⟩]
      dsimp only
      rw [handleDigests]
      refine ⟨_, rfl, preSim_iff.2 (base.update base.live base.root base.forced ?_)⟩
      -- the import commutes with dropping the roots whose block is not known
      rw [hs.std, ← hfilt]
      refine specImportStd_filter d _ (fun _ _ _ => rfl) ?_ s.roots fun r hrm hc => ?_
      · rw [Node.ann, hd, List.contains_eq_mem]
        exact decide_eq_true (List.mem_append_right _ (List.mem_singleton.2 rfl))
      · rw [List.contains_eq_mem, decide_eq_false_iff_not] at hc
        exact Bool.eq_false_iff.2 fun ha =>
          hc (tracked_live wf m.roots (mem_blocksF_of_mem hrm) (freshImp_root wf (s := s) hfr) (hd ▸ ha))

end Gossamer.C23
