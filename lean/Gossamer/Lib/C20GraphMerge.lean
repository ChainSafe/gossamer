/-
C20 layer (b), proofs: `ghostFindMergePoint`.  The inner loop (`mergePass`) finds, for a monotone condition, a block
whose merged vote meets the condition, and when it finds none no merged block does; the outer loop (`mergeLoop`)
walks block by block through the ancestor edges below the current best block and stops exactly where no child meets
the condition – also under the `forceConstrain` of `FindGHOST`, where only the vote-nodes that contain the current
best block take part.
-/
import Gossamer.Lib.C20GraphTop
import Gossamer.Lib.C20GraphContain
namespace Gossamer.C20

variable {t : Tree}

/-- `mergePass` of the model with the per-block accumulator (an association list, looked up by `find?`, updated by
`map` or by appending) replaced by a function `Nat → Option Mask`: the statements about a pass quantify over the
accumulator, and on the list every one of them would carry "`find?` after `map`/`++`"; `mergePass_eq` ties the two
once.  (Go keeps `descendantBlocks` sorted and searches it by bisection; model and Go agree as long as Go's insert
keeps the slice sorted.) -/
def mergePassF (cond : Mask → Bool) (height : Nat) : List Entry → (Nat → Option Mask) → Option Nat
  | [], _ => none
  | d :: ds, bl =>
    match d.ancestorBlock height with
    | none => mergePassF cond height ds bl
    | some blk =>
      match bl blk with
      | some m =>
        if cond (m ||| d.cum) then some blk
        else mergePassF cond height ds (fun x => if x = blk then some (m ||| d.cum) else bl x)
      | none => mergePassF cond height ds (fun x => if x = blk then some d.cum else bl x)

def BlocksCorr (blocks : List (Nat × Mask)) (bl : Nat → Option Mask) : Prop :=
  ∀ x, blocks.find? (fun p => p.1 == x) = (bl x).map (fun m => (x, m))

theorem mergePass_eq (cond : Mask → Bool) (height : Nat) : ∀ (ds : List Entry) (blocks : List (Nat × Mask))
    (bl : Nat → Option Mask), BlocksCorr blocks bl →
    mergePass cond height ds blocks = mergePassF cond height ds bl := by
  intro ds
  induction ds with
  | nil => intro _ _ _; rfl
  | cons d ds ih =>
    intro blocks bl hc
    simp only [mergePass, mergePassF]
    cases hab : d.ancestorBlock height with
    | none => exact ih blocks bl hc
    | some blk =>
      simp only
      have hblk := hc blk
      cases hb : bl blk with
      | none =>
        rw [hb] at hblk
        simp only [Option.map_none] at hblk
        rw [hblk]
        simp only
        apply ih
        intro x
        rw [List.find?_append]
        by_cases hx : x = blk
        · subst hx; rw [hblk]; simp
        · have h1 : ((blk == x) = false) := by simpa using (fun e => hx e.symm)
          rw [hc x]
          simp [hx, h1]
      | some m =>
        rw [hb] at hblk
        simp only [Option.map_some] at hblk
        rw [hblk]
        simp only
        by_cases hcm : cond (m ||| d.cum) = true
        · simp [hcm]
        · simp only [hcm, Bool.false_eq_true, if_false]
          apply ih
          intro x
          rw [List.find?_map]
          have hfun : ((fun p : Nat × Mask => p.1 == x) ∘ fun p => if (p.1 == blk) = true then (p.1, m ||| d.cum) else p)
              = (fun p : Nat × Mask => p.1 == x) := by
            funext p
            simp only [Function.comp]
            split <;> rfl
          rw [hfun, hc x]
          by_cases hx : x = blk
          · subst hx; rw [hb]; simp
          · cases hbx : bl x with
            | none => simp [hx, hbx]
            | some mx => simp [hx, hbx]

theorem mergePass_nil (cond : Mask → Bool) (height : Nat) (ds : List Entry) :
    mergePass cond height ds [] = mergePassF cond height ds (fun _ => none) :=
  mergePass_eq cond height ds [] _ (fun x => by simp)

theorem orCum_super (l : List Entry) (m0 : Mask) : orCum l m0 = m0 ||| orCum l m0 :=
  or_eq_of_testBit_imp fun q hq => by rw [orCum_testBit, hq]; rfl

/-- the `descendantNodes` whose votes one pass merges under `X`, and those the loop keeps when it moves to `X`
(`thru_eq_filter`) -/
def thru (height X : Nat) (l : List Entry) : List Entry :=
  l.filter (fun e => e.ancestorBlock height == some X)

theorem thru_cons_eq {height X : Nat} {d : Entry} (h : d.ancestorBlock height = some X) (l : List Entry) :
    thru height X (d :: l) = d :: thru height X l := by simp [thru, h]

theorem thru_cons_ne {height X : Nat} {d : Entry} (h : d.ancestorBlock height ≠ some X) (l : List Entry) :
    thru height X (d :: l) = thru height X l := by
  have : (d.ancestorBlock height == some X) = false := by simpa using h
  simp [thru, this]

theorem thru_eq_filter (height X : Nat) (l : List Entry) :
    thru height X l = l.filter (fun e => e.inDirectAncestry X height == some true) := by
  unfold thru
  congr 1; funext e
  exact Bool.eq_iff_iff.2 (by rw [beq_iff_eq, beq_iff_eq, Entry.inDirectAncestry_eq_true])

def mergeIn (bl : Nat → Option Mask) (blk : Nat) (d : Entry) : Nat → Option Mask :=
  fun x => if x = blk then some ((bl blk).getD 0 ||| d.cum) else bl x

theorem mergePassF_cons_none {cond : Mask → Bool} {height : Nat} {d : Entry} (hab : d.ancestorBlock height = none)
    (ds : List Entry) (bl : Nat → Option Mask) :
    mergePassF cond height (d :: ds) bl = mergePassF cond height ds bl := by
  simp only [mergePassF, hab]

theorem mergePassF_cons_some {cond : Mask → Bool} {height blk : Nat} {d : Entry}
    (hab : d.ancestorBlock height = some blk) (ds : List Entry) (bl : Nat → Option Mask) :
    mergePassF cond height (d :: ds) bl =
      if (bl blk).isSome = true ∧ cond ((bl blk).getD 0 ||| d.cum) = true then some blk
      else mergePassF cond height ds (mergeIn bl blk d) := by
  simp only [mergePassF, hab]
  cases hb : bl blk with
  | none =>
    have hbu : mergeIn bl blk d = fun x => if x = blk then some d.cum else bl x := by
      funext x; simp [mergeIn, hb]
    simp [hbu]
  | some m =>
    have hbu : mergeIn bl blk d = fun x => if x = blk then some (m ||| d.cum) else bl x := by
      funext x; simp [mergeIn, hb]
    simp [hbu]

theorem orCum_thru_cons {height blk : Nat} {d : Entry} (hab : d.ancestorBlock height = some blk) (X : Nat)
    (ds : List Entry) (bl : Nat → Option Mask) :
    orCum (thru height X (d :: ds)) ((bl X).getD 0) = orCum (thru height X ds) ((mergeIn bl blk d X).getD 0) := by
  by_cases hx : X = blk
  · subst hx; rw [thru_cons_eq hab]; simp [mergeIn, orCum]
  · rw [thru_cons_ne (by rw [hab]; simpa using fun e => hx e.symm)]; simp [mergeIn, hx]

theorem mergePassF_origin (cond : Mask → Bool) (height : Nat) :
    ∀ (ds : List Entry) (bl : Nat → Option Mask) (X : Nat), mergePassF cond height ds bl = some X →
    ∃ e, e ∈ ds ∧ e.ancestorBlock height = some X := by
  intro ds
  induction ds with
  | nil => intro bl X h; cases h
  | cons d ds ih =>
    intro bl X h
    have hrec : ∀ bl', mergePassF cond height ds bl' = some X → ∃ e, e ∈ d :: ds ∧ e.ancestorBlock height = some X :=
      fun bl' h' => by obtain ⟨e, he, hx⟩ := ih bl' X h'; exact ⟨e, List.mem_cons_of_mem _ he, hx⟩
    cases hab : d.ancestorBlock height with
    | none => rw [mergePassF_cons_none hab] at h; exact hrec _ h
    | some blk =>
      rw [mergePassF_cons_some hab] at h
      split at h
      · exact ⟨d, List.mem_cons_self, by rw [hab, Option.some.inj h]⟩
      · exact hrec _ h

theorem mergePassF_some {cond : Mask → Bool} (hm : MonoCond cond) (height : Nat) :
    ∀ (ds : List Entry) (bl : Nat → Option Mask) (X : Nat), mergePassF cond height ds bl = some X →
    cond (orCum (thru height X ds) ((bl X).getD 0)) = true := by
  intro ds
  induction ds with
  | nil => intro bl X h; cases h
  | cons d ds ih =>
    intro bl X h
    cases hab : d.ancestorBlock height with
    | none =>
      rw [mergePassF_cons_none hab] at h
      rw [thru_cons_ne (by rw [hab]; simp)]
      exact ih bl X h
    | some blk =>
      rw [mergePassF_cons_some hab] at h
      rw [orCum_thru_cons hab]
      split at h
      · rename_i hc
        rw [← Option.some.inj h, orCum_super]
        simp only [mergeIn, if_true, Option.getD_some]
        exact hm _ _ hc.2
      · exact ih _ X h

/-- the disjunction says that `X` was merged at least once: `mergePass` checks nothing when it sees a block for the
first time -/
theorem mergePassF_none {cond : Mask → Bool} (height : Nat) :
    ∀ (ds : List Entry) (bl : Nat → Option Mask), mergePassF cond height ds bl = none →
    ∀ X, ((bl X).isSome = true ∧ thru height X ds ≠ []) ∨ 2 ≤ (thru height X ds).length →
      cond (orCum (thru height X ds) ((bl X).getD 0)) = false := by
  intro ds
  induction ds with
  | nil =>
    intro bl _ X hX
    rcases hX with ⟨_, h2⟩ | h2
    · exact absurd rfl h2
    · simp [thru] at h2
  | cons d ds ih =>
    intro bl h X hX
    cases hab : d.ancestorBlock height with
    | none =>
      rw [mergePassF_cons_none hab] at h
      rw [thru_cons_ne (by rw [hab]; simp)] at hX ⊢
      exact ih bl h X hX
    | some blk =>
      rw [mergePassF_cons_some hab] at h
      rw [orCum_thru_cons hab]
      split at h
      · cases h
      · rename_i hc
        by_cases hx : X = blk
        · subst hx
          rw [thru_cons_eq hab] at hX
          by_cases hlen : thru height X ds = []
          · -- `d` is the only entry of `X`: it was seen before, and the check just failed
            rw [hlen] at hX ⊢
            have hs : (bl X).isSome = true := by
              rcases hX with ⟨h1, _⟩ | h2
              · exact h1
              · simp at h2
            simp only [orCum, List.foldl_nil, mergeIn, if_true, Option.getD_some]
            cases hcm : cond ((bl X).getD 0 ||| d.cum)
            · rfl
            · exact absurd ⟨hs, hcm⟩ hc
          · exact ih _ h X (Or.inl ⟨by simp [mergeIn], hlen⟩)
        · rw [thru_cons_ne (by rw [hab]; simpa using fun e => hx e.symm)] at hX
          exact ih _ h X (by simpa [mergeIn, hx] using hX)

/-- `mergeLoop` at its current best block `B` with the retained entries `L`.  The idea of the merge proof is `fail`:
no retained entry meets the condition alone (the breadth-first descent stopped), so a child of `B` whose cumulative
vote meets it is passed by at least two of them (`EntriesOn.two_le`), and `mergePass`, which checks nothing at first
sight, still finds it (`mergePassF_none`). -/
structure MLInv (t : Tree) (ins : Ins) (g : Graph) (cond : Mask → Bool) (B : Nat) (L : List Entry) : Prop where
  on : EntriesOn t ins g B L
  fail : ∀ e, e ∈ L → cond e.cum = false

theorem MLInv.sound {ins : Ins} {g : Graph} {cond : Mask → Bool} {B : Nat} {L : List Entry}
    (ml : MLInv t ins g cond B L) : ∀ e, e ∈ L → ∃ d, g.entries d = some e ∧ B ∈ edge t (isNode ins) d :=
  fun e he => by obtain ⟨d, hc, hd⟩ := (ml.on e).1 he; exact ⟨d, hd, hc.2⟩

theorem MLInv.compl {ins : Ins} {g : Graph} {cond : Mask → Bool} {B : Nat} {L : List Entry} (inv : GInv t ins g)
    (ml : MLInv t ins g cond B L) :
    ∀ d, isNode ins d = true → B ∈ edge t (isNode ins) d → ∃ e, e ∈ L ∧ g.entries d = some e :=
  fun _ hN hB => ml.on.complete inv ⟨hN, hB⟩

/-- `L.length` counts positions of the list, not distinct entries: that is what the second-sight check of `mergePass`
counts -/
theorem EntriesOn.two_le (h : t.WF) {ins : Ins} {g : Graph} (inv : GInv t ins g) {X : Nat} {L : List Entry}
    (hL : EntriesOn t ins g X L) (hN : isNode ins X = false) {cond : Mask → Bool}
    (hfail : ∀ e, e ∈ L → cond e.cum = false) (hok : cond (cumOf t ins X) = true)
    (hex : ∃ d, Containing t ins X d) : 2 ≤ L.length := by
  have hcum := orCum_containing h inv hN L hL
  cases hLc : L with
  | nil =>
    obtain ⟨d, hd⟩ := hex
    obtain ⟨e, he, _⟩ := hL.complete inv hd
    rw [hLc] at he; cases he
  | cons e1 rest =>
    cases rest with
    | nil =>
      exfalso
      rw [hLc] at hcum
      have hc1 : e1.cum = cumOf t ins X := by rw [← hcum]; simp [orCum]
      have := hfail e1 (by rw [hLc]; simp)
      rw [hc1, hok] at this; cases this
    | cons e2 rest2 => simp

theorem EntriesOn.child (h : t.WF) {ins : Ins} {g : Graph} (inv : GInv t ins g) {B X : Nat} {L : List Entry}
    (hL : EntriesOn t ins g B L) (hN : isNode ins X = false) (hp : t.parent X = B) :
    EntriesOn t ins g X (thru (t.num B + 1) X L) := by
  have hnum : t.num X = t.num B + 1 := by rw [Tree.num_pos h (pos_of_not_node (isNode_zero ins) hN), hp]
  intro e
  simp only [thru, List.mem_filter, beq_iff_eq]
  constructor
  · rintro ⟨heL, hab⟩
    obtain ⟨d, hc, hd⟩ := (hL e).1 heL
    exact ⟨d, ⟨hc.1, ((inv.ancestorBlock_iff h hd _ X).1 hab).1⟩, hd⟩
  · rintro ⟨d, hc, hd⟩
    exact ⟨(hL e).2 ⟨d, ⟨hc.1, hp ▸ parent_mem_edge_of_mem h (isNode_zero ins) hc.2 hN⟩, hd⟩,
      (inv.ancestorBlock_iff h hd _ X).2 ⟨hc.2, hnum⟩⟩

theorem MLInv.child (h : t.WF) {ins : Ins} {g : Graph} (inv : GInv t ins g) {cond : Mask → Bool} {B X : Nat}
    {L : List Entry} (ml : MLInv t ins g cond B L) (hXN : isNode ins X = false) (hXp : t.parent X = B) :
    MLInv t ins g cond X (L.filter (fun d => d.inDirectAncestry X (t.num B + 1) == some true)) :=
  ⟨thru_eq_filter _ X L ▸ ml.on.child h inv hXN hXp, fun e' he' => ml.fail e' (List.mem_filter.1 he').1⟩

/-- one round: the pass finds nothing ⇒ no child of `B` is good (a vote-node child fails by `fail`, a child inside
edges by `two_le`) and the loop stops at `B`; it finds `X` ⇒ `X` is a good non-node child, and the loop goes on there -/
theorem mergeLoop_top (h : t.WF) {ins : Ins} {g : Graph} (inv : GInv t ins g) (key : Nat → Nat)
    {cond : Mask → Bool} (hm : MonoCond cond) : ∀ (f B : Nat) (L : List Entry),
    MLInv t ins g cond B L → B < t.size → inGraph (cumOf t ins) B = true → cond (cumOf t ins B) = true →
    t.size ≤ f + t.num B →
    ∃ D, mergeLoop cond f L B (t.num B) = (D, t.num D) ∧ Top t (cumOf t ins) cond B D := by
  intro f
  induction f with
  | zero =>
    intro B L _ hB _ _ hf
    have := Tree.num_le_self h B
    omega
  | succ f ih =>
    intro B L ml hB hinG hok hf
    simp only [mergeLoop]
    rw [mergePass_nil]
    cases hmp : mergePassF cond (t.num B + 1) L (fun _ => none) with
    | none =>
      refine ⟨B, rfl, t.mem_chain_self B, hB, hinG, hok, ?_⟩
      intro x hx
      obtain ⟨hxlt, hx0, hxp⟩ := Tree.mem_children.1 hx
      have hxpos : 0 < x := by omega
      cases hgood : good (cumOf t ins) cond x with
      | false => rfl
      | true =>
        exfalso
        simp only [good, Bool.and_eq_true] at hgood
        cases hN : isNode ins x with
        | true =>
          have hBe : B ∈ edge t (isNode ins) x := hxp ▸ parent_mem_edge h _ hxpos
          obtain ⟨e, heL, hex⟩ := ml.on.complete inv ⟨hN, hBe⟩
          have := ml.fail e heL
          rw [inv.cum x e hex, hgood.2] at this; cases this
        | false =>
          have hmem := ml.on.child h inv hN hxp
          have hcum := orCum_containing h inv hN _ hmem
          have hex : ∃ d, Containing t ins x d :=
            ((inGraph_cumOf_iff h x).1 hgood.1).resolve_left (by rw [hN]; exact Bool.noConfusion)
          have h2 := hmem.two_le h inv hN (fun e he => ml.fail e (List.mem_filter.1 he).1) hgood.2 hex
          have := mergePassF_none (cond := cond) (t.num B + 1) L (fun _ => none) hmp x (Or.inr h2)
          simp only [Option.getD_none] at this
          rw [hcum, hgood.2] at this; cases this
    | some X =>
      simp only
      obtain ⟨e, heL, heX⟩ := mergePassF_origin cond _ L _ X hmp
      obtain ⟨d, ⟨hdN, hBd⟩, hd⟩ := (ml.on e).1 heL
      obtain ⟨hXe, hXn⟩ := (inv.ancestorBlock_iff h hd _ X).1 heX
      obtain ⟨hXp, hXN⟩ := edge_succ h (isNode_zero ins) hBd hXe hXn
      have hXpos := pos_of_not_node (isNode_zero ins) hXN
      have hXlt : X < t.size := Nat.lt_trans (edge_lt h hXe) (inv.node_lt h hdN)
      have hcum := orCum_containing h inv hXN _ (ml.on.child h inv hXN hXp)
      have hXok : cond (cumOf t ins X) = true := by
        have := mergePassF_some hm (t.num B + 1) L (fun _ => none) X hmp
        simp only [Option.getD_none] at this
        rw [hcum] at this; exact this
      have hXin : inGraph (cumOf t ins) X = true := (inGraph_cumOf_iff h X).2 (Or.inr ⟨d, hdN, hXe⟩)
      obtain ⟨D, hD, hT⟩ := ih X _ (ml.child h inv hXN hXp) hXlt hXin hXok (by omega)
      rw [hXn] at hD
      refine ⟨D, hD, ?_⟩
      have hBX : B ∈ t.chain X := hXp ▸ (Tree.upChain h).parent_mem hXpos
      exact { hT with above := (Tree.upChain h).trans hBX hT.above }

/-- **the merge loop under `forceConstrain`**, started at a block `B` above the current best block `hb` that the edges
of all of `L` pass through.  All of `L` also pass through the next block towards `hb` (an edge is a segment of the
chain, `edge_convex`); their merged vote is the cumulative vote of `hb`, which meets the condition, so the pass must
return that block and the filter keeps all of `L`: the loop walks down the one path to `hb` and continues there as
`mergeLoop_top`. -/
theorem mergeLoop_constrained (h : t.WF) {ins : Ins} {g : Graph} (inv : GInv t ins g) (key : Nat → Nat)
    {cond : Mask → Bool} (hm : MonoCond cond) {hb : Nat} {L : List Entry} (ci : MLInv t ins g cond hb L)
    (hN : isNode ins hb = false) (hlt : hb < t.size) (hok : cond (cumOf t ins hb) = true)
    (hin : inGraph (cumOf t ins) hb = true) (h2 : 2 ≤ L.length) :
    ∀ (f B : Nat), B ∈ t.chain hb → (∀ d, Containing t ins hb d → B ∈ edge t (isNode ins) d) →
    t.size ≤ f + t.num B →
    ∃ D, mergeLoop cond f L B (t.num B) = (D, t.num D) ∧ Top t (cumOf t ins) cond hb D := by
  have N0 := isNode_zero ins
  intro f
  induction f with
  | zero =>
    intro B hB _ hf
    have := Tree.num_le_self h B
    have := (Tree.upChain h).mem_le hB
    omega
  | succ f ih =>
    intro B hB hall hf
    by_cases hBh : B = hb
    · subst hBh
      exact mergeLoop_top h inv key hm (f + 1) B L ci hlt hin hok hf
    · obtain ⟨X, hXc, hX0, hXp⟩ := (Tree.upChain h).child_towards hB hBh
      have hXpos : 0 < X := by omega
      have hXn : t.num X = t.num B + 1 := by rw [Tree.num_pos h hXpos, hXp]
      have hXall : ∀ d, Containing t ins hb d → X ∈ edge t (isNode ins) d := fun d hc =>
        edge_convex h N0 (hall d hc) hc.2 (hXp ▸ (Tree.upChain h).parent_mem hXpos) hXc
      have hab : ∀ e, e ∈ L → e.ancestorBlock (t.num B + 1) = some X := by
        intro e he
        obtain ⟨d, hc, hd⟩ := (ci.on e).1 he
        exact (inv.ancestorBlock_iff h hd _ X).2 ⟨hXall d hc, hXn⟩
      have hthru : thru (t.num B + 1) X L = L := by
        unfold thru
        apply List.filter_eq_self.2
        intro e he
        rw [hab e he]; simp
      simp only [mergeLoop]
      rw [mergePass_nil]
      cases hmp : mergePassF cond (t.num B + 1) L (fun _ => none) with
      | none =>
        exfalso
        have := mergePassF_none (cond := cond) (t.num B + 1) L (fun _ => none) hmp X
          (Or.inr (by rw [hthru]; exact h2))
        simp only [Option.getD_none] at this
        rw [hthru, orCum_containing h inv hN L ci.on, hok] at this
        cases this
      | some X' =>
        obtain ⟨e, heL, heX⟩ := mergePassF_origin cond _ L _ X' hmp
        rw [hab e heL] at heX
        have hXX : X = X' := Option.some.inj heX
        subst hXX
        simp only
        rw [← thru_eq_filter, hthru]
        have := ih X hXc hXall (by omega)
        rw [hXn] at this
        exact this

end Gossamer.C20
