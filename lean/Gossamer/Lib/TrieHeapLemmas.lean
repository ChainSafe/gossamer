/-
Reads after writes in the heap of `TrieHeap`, reachability, and `HNode.strip`: a cell without its two hashing caches
`dirty` and `mv`.  Every relation between two heaps in the files above this one is phrased through it ("the cells
agree up to caches" is `(hp'.get a).strip = (hp.get a).strip`), and what is read below a root (`retrieveF`, `keysF`,
`entries`, `ReachO`) depends on `strip` of the reached cells only (end of the file).
-/
import Gossamer.Lib.TrieHeap
namespace Gossamer
namespace TrieHeap

namespace Heap

theorem get_of_size_le {hp : Heap} {a : Nat} (h : hp.size ≤ a) : hp.get a = default := by
  unfold get size at *
  rw [Array.getElem?_eq_none (by omega)]; rfl

@[simp] theorem size_alloc (hp : Heap) (n : HNode) : (hp.alloc n).1.size = hp.size + 1 := by
  simp [alloc, size]

@[simp] theorem alloc_snd (hp : Heap) (n : HNode) : (hp.alloc n).2 = hp.size := rfl

theorem get_alloc (hp : Heap) (n : HNode) (a : Nat) :
    (hp.alloc n).1.get a = if a = hp.size then n else hp.get a := by
  unfold alloc get size
  simp only [Array.getElem?_push]
  split <;> simp

theorem get_alloc_lt {hp : Heap} {n : HNode} {a : Nat} (h : a < hp.size) :
    (hp.alloc n).1.get a = hp.get a := by
  rw [get_alloc, if_neg (Nat.ne_of_lt h)]

@[simp] theorem get_alloc_self (hp : Heap) (n : HNode) : (hp.alloc n).1.get hp.size = n := by
  rw [get_alloc, if_pos rfl]

theorem get_alloc_snd (hp : Heap) (n : HNode) : (hp.alloc n).1.get (hp.alloc n).2 = n := get_alloc_self hp n

@[simp] theorem size_set (hp : Heap) (a : Nat) (n : HNode) : (hp.set a n).size = hp.size := by
  simp [set, size]

theorem get_set (hp : Heap) (a : Nat) (n : HNode) (b : Nat) :
    (hp.set a n).get b = if b = a ∧ a < hp.size then n else hp.get b := by
  unfold set get size
  simp only [Array.getElem?_setIfInBounds]
  by_cases h : a = b
  · subst h
    by_cases h2 : a < hp.cells.size
    · simp [h2]
    · simp only [h2, and_false, if_false, if_true]
      rw [Array.getElem?_eq_none (Nat.le_of_not_lt h2)]
  · have : ¬ (b = a) := fun e => h e.symm
    simp [h, this]

theorem get_set_ne {hp : Heap} {a b : Nat} (n : HNode) (h : b ≠ a) : (hp.set a n).get b = hp.get b := by
  rw [get_set, if_neg (fun c => h c.1)]

theorem get_set_self {hp : Heap} {a : Nat} (n : HNode) (h : a < hp.size) : (hp.set a n).get a = n := by
  rw [get_set, if_pos ⟨rfl, h⟩]

theorem set_oob {hp : Heap} {a : Nat} (n : HNode) (h : hp.size ≤ a) : hp.set a n = hp := by
  unfold set; rw [Array.setIfInBounds_eq_of_size_le h]

@[simp] theorem size_modify (hp : Heap) (a : Nat) (f : HNode → HNode) : (hp.modify a f).size = hp.size := by
  simp [modify]

theorem get_modify (hp : Heap) (a : Nat) (f : HNode → HNode) (b : Nat) :
    (hp.modify a f).get b = if b = a ∧ a < hp.size then f (hp.get a) else hp.get b := by
  simp [modify, get_set]

theorem get_modify_ne {hp : Heap} {a b : Nat} (f : HNode → HNode) (h : b ≠ a) :
    (hp.modify a f).get b = hp.get b := by
  rw [get_modify, if_neg (fun c => h c.1)]

theorem get_modify_self {hp : Heap} {a : Nat} (f : HNode → HNode) (h : a < hp.size) :
    (hp.modify a f).get a = f (hp.get a) := by
  rw [get_modify, if_pos ⟨rfl, h⟩]

theorem get_modify_cases (hp : Heap) (a : Nat) (f : HNode → HNode) (b : Nat) :
    (b = a ∧ (hp.modify a f).get b = f (hp.get b)) ∨ (hp.modify a f).get b = hp.get b := by
  rw [get_modify]; split
  · rename_i h; exact Or.inl ⟨h.1, by rw [h.1]⟩
  · exact Or.inr rfl

theorem modify_oob {hp : Heap} {a : Nat} (f : HNode → HNode) (h : hp.size ≤ a) : hp.modify a f = hp := by
  simp [modify, set_oob _ h]

end Heap

/-- the fields of a cell other than the hashing caches `Dirty` and `MerkleValue` -/
def HNode.strip (n : HNode) : HNode := { n with dirty := false, mv := none }

@[simp] theorem strip_mv (n : HNode) (m : Option Bytes) : ({ n with mv := m } : HNode).strip = n.strip := rfl
@[simp] theorem strip_dirty (n : HNode) (d : Bool) : ({ n with dirty := d } : HNode).strip = n.strip := rfl
@[simp] theorem strip_setDirty (n : HNode) : n.setDirty.strip = n.strip := rfl

theorem strip_gen {n m : HNode} (h : n.strip = m.strip) : n.gen = m.gen := (congrArg HNode.gen h :)
theorem strip_kids {n m : HNode} (h : n.strip = m.strip) : n.kids = m.kids := (congrArg HNode.kids h :)
theorem strip_isBranch {n m : HNode} (h : n.strip = m.strip) : n.isBranch = m.isBranch := (congrArg HNode.isBranch h :)
theorem strip_pk {n m : HNode} (h : n.strip = m.strip) : n.pk = m.pk := (congrArg HNode.pk h :)
theorem strip_val {n m : HNode} (h : n.strip = m.strip) : n.val = m.val := (congrArg HNode.val h :)
theorem strip_mbh {n m : HNode} (h : n.strip = m.strip) : n.mbh = m.mbh := (congrArg HNode.mbh h :)

theorem hnode_ext {n n' : HNode} (hs : n'.strip = n.strip) (hd : n'.dirty = n.dirty) (hm : n'.mv = n.mv) :
    n' = n := by
  cases n; cases n'
  simp only [HNode.strip, HNode.mk.injEq] at hs
  simp only at hd hm
  simp only [HNode.mk.injEq]
  exact ⟨hs.1, hs.2.1, hs.2.2.1, hs.2.2.2.1, hs.2.2.2.2.1, hs.2.2.2.2.2.1, hs.2.2.2.2.2.2.1, hd, hm⟩

theorem dirty_lt {hp : Heap} {a : Nat} (h : (hp.get a).dirty = true) : a < hp.size :=
  Nat.lt_of_not_le (fun hle => by rw [Heap.get_of_size_le hle] at h; exact nomatch h)

theorem kid_lt {hp : Heap} {a : Nat} {i : Nib} {x : Nat} (h : (hp.get a).kids i = some x) : a < hp.size :=
  Nat.lt_of_not_le (fun hle => by rw [Heap.get_of_size_le hle] at h; exact nomatch h)

/-- `b` is reachable from `a` through child pointers (reflexive).  It follows `kids` of every cell, branch or
    not, while hashing follows `encKids` (no children at a leaf); `encKids_sub` leads from the latter to the former. -/
inductive Reach (hp : Heap) : Nat → Nat → Prop where
  | refl (a : Nat) : Reach hp a a
  | step {a c b : Nat} (i : Nib) : (hp.get a).kids i = some c → Reach hp c b → Reach hp a b

theorem Reach.trans {hp : Heap} {a b c : Nat} (h1 : Reach hp a b) (h2 : Reach hp b c) : Reach hp a c := by
  induction h1 with
  | refl => exact h2
  | step i hk _ ih => exact Reach.step i hk (ih h2)

theorem Reach.tail {hp : Heap} {a b c : Nat} (i : Nib) (h1 : Reach hp a b)
    (hk : (hp.get b).kids i = some c) : Reach hp a c :=
  h1.trans (Reach.step i hk (Reach.refl c))

def ReachO (hp : Heap) : Option Nat → Nat → Prop
  | none, _ => False
  | some r, a => Reach hp r a

theorem reachO_iff {hp : Heap} {root : Option Nat} {a : Nat} :
    ReachO hp root a ↔ ∃ r, root = some r ∧ Reach hp r a := by
  cases root with
  | none => exact ⟨False.elim, fun ⟨_, e, _⟩ => nomatch e⟩
  | some r => exact ⟨fun h => ⟨r, rfl, h⟩, fun ⟨_, e, h⟩ => Option.some.inj e ▸ h⟩

theorem Reach.congr {hp hp' : Heap} {a b : Nat} (h : Reach hp a b)
    (hk : ∀ x, Reach hp a x → Reach hp' a x → (hp'.get x).kids = (hp.get x).kids) : Reach hp' a b := by
  induction h with
  | refl => exact Reach.refl _
  | @step a c b i hki _ ih =>
    have h1 : (hp'.get a).kids i = some c := by rw [hk a (Reach.refl a) (Reach.refl a)]; exact hki
    exact Reach.step i h1 (ih (fun x hx hx' => hk x (Reach.step i hki hx) (Reach.step i h1 hx')))

/-- child pointers of allocated cells are allocated -/
def HeapWF (hp : Heap) : Prop := ∀ a, a < hp.size → ∀ i x, (hp.get a).kids i = some x → x < hp.size

/-! ### what is read below a root depends on `strip` of the cells it reaches only -/

theorem reachO_kid {hp : Heap} {a b : Nat} (i : Nib) (h : ReachO hp ((hp.get a).kids i) b) : Reach hp a b := by
  obtain ⟨c, hk, h⟩ := reachO_iff.mp h
  exact Reach.step i hk h

theorem retrieveF_congr {hp hp' : Heap} : ∀ (f : Nat) (x : Option Nat) (key : Nibs),
    (∀ a, ReachO hp x a → (hp'.get a).strip = (hp.get a).strip) →
    retrieveF f hp' x key = retrieveF f hp x key
  | f, none, key, _ => by rw [retrieveF, retrieveF]
  | 0, some a, key, _ => rfl
  | f + 1, some a, key, h => by
    have hs := h a (Reach.refl a)
    have ih : ∀ i rest, retrieveF f hp' ((hp.get a).kids i) rest = retrieveF f hp ((hp.get a).kids i) rest :=
      fun i rest => retrieveF_congr f _ rest (fun b hb => h b (reachO_kid i hb))
    unfold retrieveF
    simp only [strip_isBranch hs, strip_pk hs, strip_val hs, strip_kids hs, ih]

theorem keysF_congr {hp hp' : Heap} : ∀ (f : Nat) (x : Option Nat) (pre : Nibs),
    (∀ a, ReachO hp x a → (hp'.get a).strip = (hp.get a).strip) →
    keysF f hp' x pre = keysF f hp x pre
  | f, none, pre, _ => by rw [keysF, keysF]
  | 0, some a, pre, _ => rfl
  | f + 1, some a, pre, h => by
    have hs := h a (Reach.refl a)
    have ih : ∀ i pre', keysF f hp' ((hp.get a).kids i) pre' = keysF f hp ((hp.get a).kids i) pre' :=
      fun i pre' => keysF_congr f _ pre' (fun b hb => h b (reachO_kid i hb))
    unfold keysF
    simp only [strip_isBranch hs, strip_pk hs, strip_val hs, strip_kids hs, ih]

theorem entries_congr {hp hp' : Heap} (root : Option Nat)
    (h : ∀ a, ReachO hp root a → (hp'.get a).strip = (hp.get a).strip) :
    entries hp' root = entries hp root := by
  unfold entries get
  rw [keysF_congr bigFuel root [] h]
  apply List.map_congr_left
  intro k _
  simp only []
  rw [retrieveF_congr _ root _ h]

theorem reachO_congr {hp hp' : Heap} (root : Option Nat)
    (h : ∀ a, ReachO hp root a → (hp'.get a).strip = (hp.get a).strip) {b : Nat}
    (hb : ReachO hp root b) : ReachO hp' root b := by
  obtain ⟨r, rfl, hb⟩ := reachO_iff.mp hb
  exact Reach.congr hb (fun x hx _ => strip_kids (h x hx))

theorem reachO_iff_of_strip {hp hp' : Heap} {root : Option Nat}
    (h : ∀ a, ReachO hp root a → (hp'.get a).strip = (hp.get a).strip) (b : Nat) :
    ReachO hp' root b ↔ ReachO hp root b := by
  refine ⟨fun hb => ?_, reachO_congr root h⟩
  obtain ⟨r, rfl, hr⟩ := reachO_iff.mp hb
  exact hr.congr (fun x _ hx => (strip_kids (h x hx)).symm)

end TrieHeap
end Gossamer
