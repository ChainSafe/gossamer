/-
The exits of `allocate` and `deallocate` (of `bump`: the successful one), each with what it establishes, and
the equations of `Run.step`.  The invariant proof uses these and does not unfold the allocator.
-/
import Gossamer.Lib.C28Mem
namespace Gossamer.C28
variable {S : Store}

theorem pagesFromSize_some {n v : Nat} (h : pagesFromSize n = some v) : v = (PAGE - 1 + n) / PAGE := by
  unfold pagesFromSize at h
  simp only at h
  split at h
  · cases h
  · exact (Option.some.inj h).symm

theorem pagesFromSize_cover {n v : Nat} (h : pagesFromSize n = some v) : n ≤ PAGE * v := by
  have := Nat.div_add_mod (PAGE - 1 + n) PAGE
  have := Nat.mod_lt (PAGE - 1 + n) (show 0 < PAGE by decide)
  rw [← pagesFromSize_some h] at *
  simp only [PAGE] at *
  omega

theorem pages_of_size (m : Mem S) : (PAGE - 1 + m.size) / PAGE = m.pages := by
  rw [Mem.size, Nat.add_mul_div_left _ _ (by decide), Nat.div_eq_of_lt (by decide), Nat.zero_add]

theorem pagesFromSize_size (m : Mem S) (h : m.pages ≤ 4294967295) : pagesFromSize m.size = some m.pages := by
  rw [pagesFromSize, pages_of_size, if_neg (Nat.not_lt.mpr h)]

theorem grow_some {m m' : Mem S} {d : Nat} (h : m.grow d = some m') : m' = { m with pages := m.pages + d } := by
  unfold Mem.grow at h
  split at h
  · exact (Option.some.inj h).symm
  · cases h

theorem bump_ok {bumper size : Nat} {m : Mem S} {res b' : Nat} {m' : Mem S}
    (h : bump bumper size m = .ok (res, b', m')) :
    res = bumper ∧ b' = bumper + size ∧ bumper + size ≤ 4294967295 ∧
    ∃ pg, m' = { m with pages := pg } ∧ bumper + size ≤ PAGE * pg ∧ m.pages ≤ pg ∧
      (pg = m.pages ∨ pg ≤ MAX_PAGES) := by
  unfold bump at h
  simp only at h
  by_cases h32 : bumper + size > 4294967295
  · rw [if_pos h32] at h; cases h
  rw [if_neg h32] at h
  have h32 : bumper + size ≤ 4294967295 := Nat.le_of_not_lt h32
  rw [Nat.mod_eq_of_lt (Nat.lt_succ_of_le h32)] at h
  by_cases hgt : bumper + size > m.size
  · rw [if_pos hgt] at h
    cases hrp : pagesFromSize (bumper + size) with
    | none => rw [hrp] at h; cases h
    | some rp =>
      cases hcp : pagesFromSize m.size with
      | none => rw [hrp, hcp] at h; cases h
      | some cp =>
        rw [hrp, hcp] at h
        simp only at h
        by_cases h1 : cp ≥ MAX_PAGES
        · rw [if_pos h1] at h; cases h
        by_cases hrpm : rp > MAX_PAGES
        · rw [if_neg h1, if_pos hrpm] at h; cases h
        rw [if_neg h1, if_neg hrpm] at h
        cases hg : m.grow ((U32 + max (min (2 * cp % U32) MAX_PAGES) rp - cp) % U32) with
        | none => rw [hg] at h; cases h
        | some mg =>
          rw [hg] at h
          simp only [Except.ok.injEq, Prod.mk.injEq] at h
          obtain ⟨rfl, rfl, rfl⟩ := h
          obtain rfl : cp = m.pages := (pagesFromSize_some hcp).trans (pages_of_size m)
          have hrp := pagesFromSize_cover hrp
          have hg := grow_some hg
          generalize hn : max (min (2 * m.pages % U32) MAX_PAGES) rp = np at hg
          have n1 : rp ≤ np := hn ▸ Nat.le_max_right _ _
          have n2 : np ≤ MAX_PAGES := hn ▸ Nat.max_le.mpr ⟨Nat.min_le_right _ _, Nat.le_of_not_lt hrpm⟩
          -- `size < required ≤ PAGE * rp` gives `m.pages < rp ≤ np`: the uint32 difference does not wrap
          have cn : m.pages ≤ np :=
            Nat.le_of_lt (Nat.lt_of_lt_of_le (Nat.lt_of_mul_lt_mul_left (Nat.lt_of_lt_of_le hgt hrp)) n1)
          rw [Nat.add_sub_assoc cn, Nat.add_mod_left,
            Nat.mod_eq_of_lt (Nat.lt_of_le_of_lt (Nat.sub_le _ _) (Nat.lt_of_le_of_lt n2 (by decide))),
            Nat.add_sub_cancel' cn] at hg
          exact ⟨rfl, rfl, h32, np, hg, Nat.le_trans hrp (Nat.mul_le_mul_left _ n1), cn, Or.inr n2⟩
  · rw [if_neg hgt] at h
    simp only [Except.ok.injEq, Prod.mk.injEq] at h
    obtain ⟨rfl, rfl, rfl⟩ := h
    exact ⟨rfl, rfl, h32, m.pages, rfl, Nat.le_of_not_lt hgt, Nat.le_refl _, Or.inl rfl⟩

theorem readHeader_free_of_lt (m : Mem S) (a : Nat) (h1 : a + 8 ≤ m.size) (h2 : le64 m.bytes a < U32) :
    readHeader m a = .ok (.free (le64 m.bytes a)) := by
  unfold readHeader Mem.read64
  rw [if_pos h1]
  simp only
  have : le64 m.bytes a / OCC = 0 := Nat.div_eq_of_lt h2
  rw [this, Nat.mod_eq_of_lt h2]
  simp

theorem readHeader_occ_of_eq (m : Mem S) (a o : Nat) (h1 : a + 8 ≤ m.size) (ho : o < 23)
    (h2 : le64 m.bytes a = OCC + o) : readHeader m a = .ok (.occupied o) := by
  have ho' : o < OCC := Nat.lt_trans ho (by decide)
  have e1 : (OCC + o) / OCC % 2 = 1 := by
    rw [Nat.add_div_left _ (by decide), Nat.div_eq_of_lt ho']
  have e2 : (OCC + o) % U32 = o := (Nat.add_mod_left OCC o).trans (Nat.mod_eq_of_lt ho')
  unfold readHeader Mem.read64
  rw [if_pos h1]
  simp only
  rw [h2, e1, e2, if_pos rfl, if_pos ho]

/-- the header in front of `p` is a well-formed occupied header (what `Deallocate` accepts) -/
def OccAt (m : Mem S) (p : Nat) : Prop :=
  8 ≤ p ∧ p ≤ m.size ∧ (le64 m.bytes (p - 8) / OCC) % 2 = 1 ∧ le64 m.bytes (p - 8) % U32 < 23

theorem readHeader_occ_iff (m : Mem S) (p o : Nat) (hp : 8 ≤ p) :
    readHeader m (p - 8) = .ok (.occupied o) ↔ OccAt m p ∧ o = le64 m.bytes (p - 8) % U32 := by
  unfold readHeader Mem.read64 OccAt
  rw [Nat.sub_add_cancel hp]
  by_cases h1 : p ≤ m.size
  · rw [if_pos h1]
    simp only
    by_cases h2 : le64 m.bytes (p - 8) / OCC % 2 = 1
    · rw [if_pos h2]
      by_cases h3 : le64 m.bytes (p - 8) % U32 < NUM_ORDERS
      · rw [if_pos h3]
        simp only [Except.ok.injEq, Header.occupied.injEq]
        exact ⟨fun h => ⟨⟨hp, h1, h2, h3⟩, h.symm⟩, fun h => h.2.symm⟩
      · rw [if_neg h3]; exact ⟨nofun, fun h => absurd h.1.2.2.2 h3⟩
    · rw [if_neg h2]; exact ⟨nofun, fun h => absurd h.1.2.2.1 h2⟩
  · rw [if_neg h1]; exact ⟨nofun, fun h => absurd h.1.2.1 h1⟩

theorem allocFinish_ok (s : St) (m : Mem S) (o hp : Nat) (h : hp + 8 ≤ m.size) :
    ∃ s', allocFinish s m o hp = (s', { m with bytes := put64 m.bytes hp (OCC + o) }, .ok ((hp + 8) % U32)) ∧
      s'.poisoned = s.poisoned ∧ s'.base = s.base ∧ s'.bumper = s.bumper ∧ s'.heads = s.heads := by
  unfold allocFinish Mem.write64
  rw [if_pos h]
  exact ⟨_, rfl, rfl, rfl, rfl, rfl⟩

theorem allocate_cases (s : St) (m : Mem S) (n : Nat) :
    -- (1) failure: the allocator is (or stays) poisoned, nothing else that matters changes
    (∃ s' e, allocate s m n = (s', m, .error e) ∧ s'.poisoned = true ∧ s'.base = s.base ∧
        s'.bumper = s.bumper) ∨
    -- (2) the head of the free list of the order is handed out (that the pointer does not wrap needs the
    --     invariant: `alloc_sim`; in (3) `bump`'s guard gives it)
    (∃ s' o next, allocate s m n = (s', { m with bytes := put64 m.bytes (s.heads o) (OCC + o) },
          .ok ((s.heads o + 8) % U32)) ∧ s.poisoned = false ∧
        orderFromSize n = some o ∧ s.heads o ≠ NIL ∧ s.heads o + osize o + 8 ≤ m.size ∧
        readHeader m (s.heads o) = .ok (.free next) ∧
        s'.poisoned = false ∧ s'.base = s.base ∧ s'.bumper = s.bumper ∧
        s'.heads = setHead s.heads o next) ∨
    -- (3) a new block is carved at the bumper
    (∃ s' pg o, allocate s m n =
          (s', { m with pages := pg, bytes := put64 m.bytes s.bumper (OCC + o) }, .ok (s.bumper + 8)) ∧
        s.poisoned = false ∧
        orderFromSize n = some o ∧ s.heads o = NIL ∧ s.bumper + (osize o + 8) ≤ 4294967295 ∧
        s.bumper + (osize o + 8) ≤ PAGE * pg ∧ m.pages ≤ pg ∧ (pg = m.pages ∨ pg ≤ MAX_PAGES) ∧
        s'.poisoned = false ∧ s'.base = s.base ∧ s'.bumper = s.bumper + (osize o + 8) ∧
        s'.heads = s.heads) := by
  generalize hr : allocate s m n = r
  unfold allocate at hr
  cases hp : s.poisoned with
  | true => rw [hp, if_pos rfl] at hr; exact Or.inl ⟨s, _, hr.symm, hp, rfl, rfl⟩
  | false =>
    rw [hp, if_neg Bool.false_ne_true] at hr
    unfold allocCore at hr
    by_cases hsh : m.size < s.lastSize
    · rw [if_pos hsh] at hr; exact Or.inl ⟨_, _, hr.symm, rfl, rfl, rfl⟩
    rw [if_neg hsh] at hr
    simp only at hr
    cases ho : orderFromSize n with
    | none => rw [ho] at hr; exact Or.inl ⟨_, _, hr.symm, rfl, rfl, rfl⟩
    | some o =>
      rw [ho] at hr
      simp only at hr
      have hos := osize_ge8 o
      by_cases hlink : s.heads o = NIL
      · -- `(osize o + HDR) % U32` is `osize o + 8`: a block of a valid order is at most 32 MiB
        rw [if_neg (fun h => h hlink), Nat.mod_eq_of_lt (Nat.lt_of_le_of_lt
          (Nat.add_le_add_right (osize_le o (orderFromSize_lt ho)) 8) (by decide))] at hr
        cases hb : bump s.bumper (osize o + HDR) m with
        | error e => rw [hb] at hr; exact Or.inl ⟨_, _, hr.symm, rfl, rfl, rfl⟩
        | ok r =>
          obtain ⟨res, b', m'⟩ := r
          obtain ⟨rfl, rfl, h3, pg, rfl, h4, h6, h8⟩ := bump_ok hb
          obtain ⟨s', e, hpo, hba, hbu, hhe⟩ := allocFinish_ok
            { s with lastSize := m.size, bumper := s.bumper + (osize o + HDR) } { m with pages := pg } o
            s.bumper (Nat.le_trans (by omega) h4)
          rw [hb] at hr
          simp only at hr
          -- `(bumper + HDR) % U32` of `allocFinish`: `bumper + 8 ≤ bumper + size ≤ 2^32 - 1` by `bump`'s guard
          rw [e, Nat.mod_eq_of_lt (Nat.lt_of_le_of_lt (Nat.add_le_add_left (Nat.le_add_left ..) _)
            (Nat.lt_succ_of_le h3))] at hr
          subst hr
          exact Or.inr (Or.inr ⟨s', pg, o, rfl, rfl, rfl, hlink, h3, h4, h6, h8, hpo.trans hp, hba, hbu, hhe⟩)
      · rw [if_pos hlink] at hr
        by_cases hfit : s.heads o + osize o + HDR > m.size
        · rw [if_pos hfit] at hr; exact Or.inl ⟨_, _, hr.symm, rfl, rfl, rfl⟩
        rw [if_neg hfit] at hr
        have hfit : s.heads o + osize o + 8 ≤ m.size := Nat.le_of_not_lt hfit
        cases hrd : readHeader m (s.heads o) with
        | error e => rw [hrd] at hr; exact Or.inl ⟨_, _, hr.symm, rfl, rfl, rfl⟩
        | ok hd =>
          rw [hrd] at hr
          cases hd with
          | occupied _ => exact Or.inl ⟨_, _, hr.symm, rfl, rfl, rfl⟩
          | free next =>
            obtain ⟨s', e, hpo, hba, hbu, hhe⟩ := allocFinish_ok
              { s with lastSize := m.size, heads := setHead s.heads o next } m o (s.heads o) (by omega)
            simp only at hr
            rw [e] at hr
            subst hr
            exact Or.inr (Or.inl ⟨s', o, next, rfl, rfl, rfl, hlink, hfit, hrd, hpo.trans hp, hba, hbu, hhe⟩)

theorem deallocate_cases (s : St) (m : Mem S) (p : Nat) :
    -- (1) refused before anything is written
    (∃ s' e, deallocate s m p = (s', m, .error e) ∧ s'.poisoned = true ∧ s'.base = s.base ∧
        s'.bumper = s.bumper) ∨
    -- (2) accepted: the block is pushed on the free list of the order found in its header
    --     (`r` is an error if the statistics underflow afterwards: the write stays, the allocator is poisoned)
    (∃ s' o r, deallocate s m p =
          (s', { m with bytes := put64 m.bytes (p - 8) (s.heads o) }, r) ∧ s.poisoned = false ∧
        OccAt m p ∧ o = le64 m.bytes (p - 8) % U32 ∧
        s'.base = s.base ∧ s'.bumper = s.bumper ∧ s'.heads = setHead s.heads o (p - 8) ∧
        ((r = .ok () ∧ s'.poisoned = false) ∨ (r = .error .underflow ∧ s'.poisoned = true))) := by
  generalize hr : deallocate s m p = r
  unfold deallocate at hr
  cases hp : s.poisoned with
  | true => rw [hp, if_pos rfl] at hr; exact Or.inl ⟨s, _, hr.symm, hp, rfl, rfl⟩
  | false =>
    rw [hp, if_neg Bool.false_ne_true] at hr
    unfold deallocCore at hr
    by_cases hsh : m.size < s.lastSize
    · rw [if_pos hsh] at hr; exact Or.inl ⟨_, _, hr.symm, rfl, rfl, rfl⟩
    rw [if_neg hsh] at hr
    simp only at hr
    by_cases h8 : p < HDR
    · rw [if_pos h8] at hr; exact Or.inl ⟨_, _, hr.symm, rfl, rfl, rfl⟩
    rw [if_neg h8] at hr
    have h8 : 8 ≤ p := Nat.le_of_not_lt h8
    cases hrd : readHeader m (p - HDR) with
    | error e => rw [hrd] at hr; exact Or.inl ⟨_, _, hr.symm, rfl, rfl, rfl⟩
    | ok hd =>
      rw [hrd] at hr
      cases hd with
      | free _ => exact Or.inl ⟨_, _, hr.symm, rfl, rfl, rfl⟩
      | occupied o =>
        obtain ⟨hocc, ho⟩ := (readHeader_occ_iff m p o h8).mp hrd
        simp only [Mem.write64] at hr
        rw [if_pos (Nat.le_trans (Nat.le_of_eq (Nat.sub_add_cancel h8)) hocc.2.1)] at hr
        simp only at hr
        refine Or.inr ?_
        split at hr
        · subst hr; exact ⟨_, o, _, rfl, rfl, hocc, ho, rfl, rfl, rfl, Or.inr ⟨rfl, rfl⟩⟩
        · subst hr; exact ⟨_, o, _, rfl, rfl, hocc, ho, rfl, rfl, rfl, Or.inl ⟨rfl, hp⟩⟩

theorem step_alloc_ok {r : Run S} {n : Nat} {s' : St} {m' : Mem S} {p : Nat}
    (h : allocate r.s r.m n = (s', m', .ok p)) :
    r.step (.alloc n) = ({ s := s', m := m', live := (p, (orderFromSize n).getD 0) :: r.live,
                           freed := r.freed.filter (· ≠ p) }, .ptr p) := by
  simp only [Run.step, h]

theorem step_alloc_err {r : Run S} {n : Nat} {s' : St} {m' : Mem S} {e : Err}
    (h : allocate r.s r.m n = (s', m', .error e)) :
    r.step (.alloc n) = ({ r with s := s', m := m' }, .err e) := by
  simp only [Run.step, h]

theorem step_free_ok {r : Run S} {p : Nat} {s' : St} {m' : Mem S}
    (h : deallocate r.s r.m p = (s', m', .ok ())) :
    r.step (.free p) = ({ s := s', m := m', live := eraseLive p r.live, freed := p :: r.freed }, .ok) := by
  simp only [Run.step, h]

theorem step_free_err {r : Run S} {p : Nat} {s' : St} {m' : Mem S} {e : Err}
    (h : deallocate r.s r.m p = (s', m', .error e)) :
    r.step (.free p) = ({ r with s := s', m := m' }, .err e) := by
  simp only [Run.step, h]

theorem step_alloc_m (r : Run S) (n : Nat) : (r.step (.alloc n)).1.m = (allocate r.s r.m n).2.1 := by
  rcases h : allocate r.s r.m n with ⟨s', m', e | q⟩ <;> simp only [Run.step, h]

theorem step_free_m (r : Run S) (p : Nat) : (r.step (.free p)).1.m = (deallocate r.s r.m p).2.1 := by
  rcases h : deallocate r.s r.m p with ⟨s', m', e | q⟩ <;> simp only [Run.step, h]

theorem step_poke {r : Run S} {a v : Nat} :
    (r.step (.poke a v)).1 = if a + 8 ≤ r.m.size then { r with m := { r.m with bytes := put64 r.m.bytes a v } } else r := by
  by_cases h : a + 8 ≤ r.m.size <;> simp only [Run.step, Mem.write64, h, reduceIte]

theorem step_grow {r : Run S} {d : Nat} :
    (r.step (.grow d)).1 = if r.m.pages + d ≤ r.m.maxPages then { r with m := { r.m with pages := r.m.pages + d } } else r := by
  by_cases h : r.m.pages + d ≤ r.m.maxPages <;> simp only [Run.step, Mem.grow, h, reduceIte]

end Gossamer.C28
