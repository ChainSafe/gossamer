/-
C06: database keys.  `prefixBytes` packs a nibble path two nibbles per byte and pads an odd path
with a zero nibble, so it determines the path up to that padding; a row key splits into the packed
path and the 32-byte hash.
-/
import Gossamer.Lib.TrieBytes
import Gossamer.Model.C06
namespace Gossamer.C06
open Gossamer

theorem prefixBytes_toNibs (b : Bytes) : prefixBytes (toNibs b) = b := by
  induction b with
  | nil => rfl
  | cons x r ih => simp only [toNibs, prefixBytes, ih, byteOf_hi_lo]

theorem prefixBytes_snoc (a : Bytes) (h : Nib) : prefixBytes (toNibs a ++ [h]) = a ++ [byteOf h 0] := by
  induction a with
  | nil => rfl
  | cons x r ih => simp only [toNibs, List.cons_append, prefixBytes, ih, byteOf_hi_lo]

/-- the zero nibble that fills the last byte of an odd path -/
def padNib (n : Nat) : Nibs := if n % 2 = 1 then [0] else []

theorem toNibs_prefixBytes : ∀ p : Nibs, toNibs (prefixBytes p) = p ++ padNib p.length
  | [] => rfl
  | [a] => by simp only [prefixBytes, toNibs, hi_byteOf, lo_byteOf]; rfl
  | a :: b :: r => by
    have e : padNib (a :: b :: r).length = padNib r.length := by
      simp only [padNib, List.length_cons, Nat.add_assoc, Nat.add_mod_right]
    simp only [prefixBytes, toNibs, hi_byteOf, lo_byteOf, toNibs_prefixBytes r, e, List.cons_append]

theorem prefixBytes_eq (p q : Nibs) (h : prefixBytes p = prefixBytes q) :
    p = q ∨ (q.length % 2 = 1 ∧ p = q ++ [0]) ∨ (p.length % 2 = 1 ∧ q = p ++ [0]) := by
  have e := congrArg toNibs h
  rw [toNibs_prefixBytes, toNibs_prefixBytes] at e
  have hl := congrArg List.length e
  simp only [List.length_append] at hl
  unfold padNib at e hl
  by_cases hp : p.length % 2 = 1 <;> by_cases hq : q.length % 2 = 1 <;>
    simp only [hp, hq, if_true, if_false, List.append_nil, List.length_singleton, List.length_nil,
      Nat.add_zero] at e hl
  · exact Or.inl (List.append_inj_left' e rfl)
  · exact Or.inr (Or.inr ⟨hp, e.symm⟩)
  · exact Or.inr (Or.inl ⟨hq, e⟩)
  · exact Or.inl e

theorem rowKey_split {H : Bytes → Bytes} (hlen : ∀ x, (H x).length = 32) {p q : Nibs} {x y : Bytes}
    (h : rowKey p (H x) = rowKey q (H y)) : prefixBytes p = prefixBytes q ∧ H x = H y :=
  List.append_inj' h (by rw [hlen, hlen])

end Gossamer.C06
