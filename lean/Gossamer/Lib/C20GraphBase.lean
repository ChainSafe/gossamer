/-
C20 layer (b), proofs: chains as indexed lists (heads, tails, block numbers, no repetition) and `takeThrough`, the
list operation behind the ancestor edges.
-/
import Gossamer.Lib.C20Graph
import Gossamer.Lib.C20Tree
namespace Gossamer.C20

variable {t : Tree}

theorem getElem?_lt {α : Type} {l : List α} {i : Nat} {x : α} (h : l[i]? = some x) : i < l.length :=
  (List.getElem?_eq_some_iff.1 h).1

theorem getLast?_take_succ {l : List Nat} {i : Nat} (hi : i < l.length) :
    (l.take (i + 1)).getLast? = l[i]? := by
  rw [List.getLast?_eq_getElem?]
  have : (l.take (i + 1)).length - 1 = i := by simp; omega
  rw [this, List.getElem?_take]
  simp

theorem Tree.chain_head (t : Tree) (b : Nat) : (t.chain b)[0]? = some b := by
  unfold Tree.chain
  cases b <;> simp [chainUp]

theorem Tree.chain_tail_pos (h : t.WF) {b : Nat} (hb : 0 < b) : (t.chain b).tail = t.chain (t.parent b) := by
  rw [Tree.chain_pos h hb]; rfl

theorem Tree.chain_ne_nil (t : Tree) (b : Nat) : t.chain b ≠ [] :=
  List.ne_nil_of_mem (t.mem_chain_self b)

theorem Tree.chain_nodup (h : t.WF) : ∀ b, (t.chain b).Nodup := (Tree.upChain h).nodup

theorem chain_find_unfold (h : t.WF) (p : Nat → Bool) (b : Nat) :
    (t.chain b).find? p = if p b then some b else if b = 0 then none else (t.chain (t.parent b)).find? p := by
  by_cases hb : b = 0
  · subst hb; simp [Tree.chain_zero, List.find?_cons]
    cases p 0 <;> simp
  · rw [Tree.chain_pos h (by omega), List.find?_cons]
    cases p b <;> simp [hb]

theorem Tree.num_zero (t : Tree) : t.num 0 = 0 := rfl

theorem Tree.num_pos (h : t.WF) {b : Nat} (hb : 0 < b) : t.num b = t.num (t.parent b) + 1 := (Tree.upChain h).depth_pos hb

theorem Tree.num_le_self (h : t.WF) : ∀ b, t.num b ≤ b := (Tree.upChain h).depth_le_self

theorem Tree.chain_getElem (h : t.WF) : ∀ (b i : Nat) (x : Nat), (t.chain b)[i]? = some x →
    t.chain x = (t.chain b).drop i := fun _ _ _ => (Tree.upChain h).getElem

theorem Tree.num_getElem (h : t.WF) {b i x : Nat} (hx : (t.chain b)[i]? = some x) :
    t.num x + i = t.num b := (Tree.upChain h).depth_getElem hx

theorem Tree.num_le_of_mem (h : t.WF) {a b : Nat} (ha : a ∈ t.chain b) : t.num a ≤ t.num b := (Tree.upChain h).depth_le ha

theorem Tree.num_lt_of_mem (h : t.WF) {a b : Nat} (ha : a ∈ t.chain b) (hne : a ≠ b) : t.num a < t.num b :=
  (Tree.upChain h).depth_lt ha hne

theorem Tree.chain_num_inj (h : t.WF) {b x y : Nat} (hx : x ∈ t.chain b) (hy : y ∈ t.chain b)
    (hn : t.num x = t.num y) : x = y := (Tree.upChain h).depth_inj hx hy hn

def takeThrough (p : Nat → Bool) : List Nat → List Nat
  | [] => []
  | x :: xs => if p x then [x] else x :: takeThrough p xs

theorem takeThrough_cons_pos {p : Nat → Bool} {x : Nat} (hp : p x = true) (xs : List Nat) :
    takeThrough p (x :: xs) = [x] := if_pos hp

theorem takeThrough_cons_neg {p : Nat → Bool} {x : Nat} (hp : p x = false) (xs : List Nat) :
    takeThrough p (x :: xs) = x :: takeThrough p xs := if_neg (by rw [hp]; exact Bool.false_ne_true)

theorem takeThrough_prefix (p : Nat → Bool) : ∀ l, takeThrough p l <+: l := by
  intro l
  induction l with
  | nil => exact List.prefix_refl _
  | cons x xs ih =>
    cases hp : p x with
    | true => rw [takeThrough_cons_pos hp]; exact ⟨xs, rfl⟩
    | false => rw [takeThrough_cons_neg hp]; exact (List.prefix_cons_inj x).2 ih

theorem take_findIdx_eq (p : Nat → Bool) : ∀ (l : List Nat) (i : Nat), l.findIdx? p = some i →
    l.take (i + 1) = takeThrough p l ∧ p (l.getD i 0) = true := by
  intro l
  induction l with
  | nil => intro i h; simp at h
  | cons x xs ih =>
    intro i h
    rw [List.findIdx?_cons] at h
    cases hp : p x with
    | true =>
      rw [hp, if_pos rfl] at h
      cases h
      rw [takeThrough_cons_pos hp]
      exact ⟨rfl, hp⟩
    | false =>
      rw [hp, if_neg Bool.false_ne_true] at h
      obtain ⟨j, hf, rfl⟩ := Option.map_eq_some_iff.1 h
      obtain ⟨i1, i2⟩ := ih j hf
      rw [takeThrough_cons_neg hp, List.take_succ_cons, i1]
      exact ⟨rfl, by simpa using i2⟩

theorem takeThrough_spec (p : Nat → Bool) : ∀ (l : List Nat), (∃ x, x ∈ l ∧ p x = true) →
    ∃ pre last, takeThrough p l = pre ++ [last] ∧ p last = true ∧ ∀ x, x ∈ pre → p x = false := by
  intro l
  induction l with
  | nil => rintro ⟨x, hx, _⟩; simp at hx
  | cons x xs ih =>
    intro hex
    cases hp : p x with
    | true => exact ⟨[], x, takeThrough_cons_pos hp xs, hp, by simp⟩
    | false =>
      obtain ⟨y, hy, hpy⟩ := hex
      have : ∃ z, z ∈ xs ∧ p z = true := by
        rcases List.mem_cons.1 hy with rfl | hy
        · rw [hp] at hpy; cases hpy
        · exact ⟨y, hy, hpy⟩
      obtain ⟨pre, last, e, hl, hpre⟩ := ih this
      refine ⟨x :: pre, last, by rw [takeThrough_cons_neg hp, e]; rfl, hl, ?_⟩
      intro z hz
      rcases List.mem_cons.1 hz with rfl | hz
      · exact hp
      · exact hpre z hz

theorem takeThrough_congr {p q : Nat → Bool} : ∀ (l : List Nat),
    (∀ x, x ∈ takeThrough p l → q x = p x) → takeThrough q l = takeThrough p l := by
  intro l
  induction l with
  | nil => intro _; rfl
  | cons x xs ih =>
    intro hq
    cases hp : p x with
    | true =>
      rw [takeThrough_cons_pos hp] at hq ⊢
      exact takeThrough_cons_pos ((hq x (by simp)).trans hp) xs
    | false =>
      rw [takeThrough_cons_neg hp] at hq ⊢
      rw [takeThrough_cons_neg ((hq x (by simp)).trans hp), ih (fun y hy => hq y (List.mem_cons_of_mem _ hy))]

theorem takeThrough_add (p : Nat → Bool) (hash : Nat) : ∀ (l : List Nat) (i : Nat), l.Nodup →
    (takeThrough p l)[i]? = some hash → p hash = false →
    takeThrough (fun b => p b || b == hash) l = (takeThrough p l).take (i + 1) ∧
    takeThrough p (l.drop (i + 1)) = (takeThrough p l).drop (i + 1) := by
  intro l
  induction l with
  | nil => intro i _ h _; simp [takeThrough] at h
  | cons x xs ih =>
    intro i hnd hi hp
    cases hpx : p x with
    | true =>
      rw [takeThrough_cons_pos hpx] at hi
      cases i with
      | zero => simp at hi; subst hi; rw [hp] at hpx; cases hpx
      | succ i => simp at hi
    | false =>
      rw [takeThrough_cons_neg hpx] at hi ⊢
      cases i with
      | zero =>
        simp at hi; subst hi
        rw [takeThrough_cons_pos (by simp)]
        simp
      | succ i =>
        rw [List.getElem?_cons_succ] at hi
        have hmem : hash ∈ xs := (takeThrough_prefix p xs).subset (List.mem_of_getElem? hi)
        have hne : x ≠ hash := fun e => (List.nodup_cons.1 hnd).1 (e ▸ hmem)
        obtain ⟨i1, i2⟩ := ih i (List.nodup_cons.1 hnd).2 hi hp
        rw [takeThrough_cons_neg (by simp [hpx, hne]), List.take_succ_cons, List.drop_succ_cons, i1]
        exact ⟨rfl, i2⟩

end Gossamer.C20
