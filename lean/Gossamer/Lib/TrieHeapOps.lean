/-
The mutating functions of the heap model of `in_memory.go` keep the write discipline `Good` (`TrieHeapGood`).  Every
case is a composition of the primitive steps `Good.alloc`, `Good.modify`, `Good.of_calc`, packaged as `Step` (a
function that returns a node pointer) and `PostG` (one that returns a prepared node).
The proofs follow the function's own case tree by `fun_induction`/`fun_cases`.  Its alternatives `case1`, `case2`, …
are the leaves of the definition in the order in which they are written there (TrieHeap.lean); each is labelled
below with what the function does at that leaf, and `rename_i` names, from the end of the context, the
hypotheses of the branch conditions met on the way and the induction hypothesis.
`with dsimp only` reduces the `let`s of the model in every case first: unifying through them is far slower to check.
-/
import Gossamer.Lib.TrieHeapGood
namespace Gossamer
namespace TrieHeap
open Trie

def Frame.ctx (F : Frame) (ver : Ver) : Ctx := { H := F.H, g := F.g, ver := ver, troot := F.r0 }

structure Step (F : Frame) (hp hp' : Heap) (y : Option Nat) : Prop where
  good : Good F hp'
  size_le : hp.size ≤ hp'.size
  inw : ∀ a, y = some a → InW F hp' a

theorem Step.refl {F : Frame} {hp : Heap} (hg : Good F hp) {y : Option Nat}
    (hy : ∀ a, y = some a → InW F hp a) : Step F hp hp y := ⟨hg, Nat.le_refl _, hy⟩

theorem Step.of_some {F : Frame} {hp hp' : Heap} {b : Nat} (hg : Good F hp') (hm : hp.size ≤ hp'.size)
    (hb : InW F hp' b) : Step F hp hp' (some b) := ⟨hg, hm, fun a ha => by cases ha; exact hb⟩

theorem Step.inw' {F : Frame} {hp hp' : Heap} {b : Nat} (s : Step F hp hp' (some b)) : InW F hp' b :=
  s.inw b rfl

/-- the `!mutated` branches: the caller drops the pointer the recursive call returned and returns its own node `a` -/
theorem Step.keep {F : Frame} {hp hp' : Heap} {y : Option Nat} {a : Nat} (s : Step F hp hp' y)
    (ha : InW F hp a) : Step F hp hp' (some a) := Step.of_some s.good s.size_le (ha.mono s.size_le)

theorem setKid_some {ks : Nib → Option Nat} {i j : Nib} {y : Option Nat} {x : Nat}
    (h : setKid ks i y j = some x) : y = some x ∨ ks j = some x := by
  unfold setKid at h
  split at h
  · exact Or.inl h
  · exact Or.inr h

theorem inw_noKids {F : Frame} {hp : Heap} (j : Nib) (x : Nat) (h : noKids j = some x) : InW F hp x :=
  nomatch h

theorem inw_some {F : Frame} {hp : Heap} {b : Nat} (hb : InW F hp b) (x : Nat) (h : some b = some x) :
    InW F hp x := Option.some.inj h ▸ hb

theorem inw_setKid {F : Frame} {hp : Heap} {ks : Nib → Option Nat} {i : Nib} {y : Option Nat}
    (hks : ∀ j x, ks j = some x → InW F hp x) (hy : ∀ x, y = some x → InW F hp x) (j : Nib) (x : Nat)
    (h : setKid ks i y j = some x) : InW F hp x :=
  (setKid_some h).elim (hy x) (hks j x)

theorem ensureMV_some (c : Ctx) (hp : Heap) (a : Nat) :
    ensureMV c hp (some a) =
      if c.troot = some a then (calcRootMV c.H hp a).1 else (calcMV c.H (bigFuel + 1) hp a).1 := rfl

theorem good_calcRootMV {F : Frame} {hp : Heap} (hg : Good F hp) (r : Nat) (hr : F.r0 = some r) :
    Good F (calcRootMV F.H hp r).1 :=
  hg.of_mvOnly (mvOnly_calcRootMV F.H hp r) (fun _ _ ad v => calcRootMV_vp v r (ad.root r hr))

theorem good_ensureMV {F : Frame} {hp : Heap} (hg : Good F hp) (ver : Ver) (x : Option Nat) :
    Good F (ensureMV (F.ctx ver) hp x) := by
  cases x with
  | none => exact hg
  | some a =>
    rw [ensureMV_some]
    by_cases h : (F.ctx ver).troot = some a
    · rw [if_pos h]; exact good_calcRootMV hg a h
    · rw [if_neg h]
      exact hg.of_calc (calcMV_ok F.H (bigFuel + 1) hp a).tr

theorem mvOnly_ensureMV (c : Ctx) (hp : Heap) (x : Option Nat) : MvOnly hp (ensureMV c hp x) := by
  cases x with
  | none => exact MvOnly.refl hp
  | some a =>
    rw [ensureMV_some]
    split
    · exact mvOnly_calcRootMV c.H hp a
    · exact (calcMV_ok c.H (bigFuel + 1) hp a).tr.mvOnly

theorem ensureMV_step {F : Frame} {hp : Heap} (hg : Good F hp) (ver : Ver) (x : Option Nat) :
    Step F hp (ensureMV (F.ctx ver) hp x) none :=
  ⟨good_ensureMV hg ver x, Nat.le_of_eq (mvOnly_ensureMV (F.ctx ver) hp x).size.symm, fun _ h => nomatch h⟩

structure PostG (F : Frame) (hp : Heap) (r : Heap × Nat) : Prop where
  step : Step F hp r.1 (some r.2)
  gen : (r.1.get r.2).gen = F.g

theorem PostG.refl {F : Frame} {hp : Heap} {a : Nat} (hg : Good F hp) (ha : InW F hp a)
    (hgen : (hp.get a).gen = F.g) : PostG F hp (hp, a) := ⟨Step.of_some hg (Nat.le_refl _) ha, hgen⟩

theorem Step.then {F : Frame} {hp hp1 : Heap} {y : Option Nat} {r : Heap × Nat} (s : Step F hp hp1 y)
    (p : PostG F hp1 r) : PostG F hp r :=
  ⟨⟨p.step.good, Nat.le_trans s.size_le p.step.size_le, p.step.inw⟩, p.gen⟩

theorem alloc_post {F : Frame} {hp : Heap} (hg : Good F hp) (n : HNode) (hgen : n.gen = F.g)
    (hk : ∀ i x, n.kids i = some x → InW F hp x) : PostG F hp (hp.alloc n) := by
  obtain ⟨hga, hin⟩ := hg.alloc n hgen hk
  exact ⟨Step.of_some hga (Nat.le_of_lt (by simp)) hin, by rw [Heap.alloc_snd, Heap.get_alloc_self]; exact hgen⟩

theorem prep_eq (c : Ctx) (cv : Bool) (hp : Heap) (a : Nat) :
    prepForMutation c cv hp a =
      if (hp.get a).gen = c.g then (hp.modify a HNode.setDirty, a)
      else (registerDeleted c hp a).alloc
        { (registerDeleted c hp a).get a with
          val := if cv then ((registerDeleted c hp a).get a).val else none,
          gen := c.g, dirty := true, mv := none } := rfl

theorem PostG.modify {F : Frame} {hp : Heap} {r : Heap × Nat} (p : PostG F hp r) (f : HNode → HNode)
    (hf : ∀ x, (f x).gen = x.gen) (hk : ∀ i x, (f (r.1.get r.2)).kids i = some x → InW F r.1 x) :
    PostG F hp (r.1.modify r.2 f, r.2) := by
  have hb := p.step.inw'
  refine ⟨Step.of_some (p.step.good.modify hb p.gen f (hf _) hk) (by simpa using p.step.size_le)
    ⟨hb.1, by simpa using hb.2⟩, ?_⟩
  show ((r.1.modify r.2 f).get r.2).gen = F.g
  rw [Heap.get_modify_self f hb.2, hf]; exact p.gen

theorem PostG.fields {F : Frame} {hp : Heap} {r : Heap × Nat} (p : PostG F hp r) (f : HNode → HNode)
    (hf : ∀ x, (f x).gen = x.gen := by intro; rfl) (hk : ∀ x, (f x).kids = x.kids := by intro; rfl) :
    PostG F hp (r.1.modify r.2 f, r.2) :=
  p.modify f hf (fun i x hx => p.step.good.kids r.2 p.step.inw'.1 i x (by rw [hk] at hx; exact hx))

theorem PostG.kid {F : Frame} {hp : Heap} {r : Heap × Nat} (p : PostG F hp r) (i : Nib) (y : Option Nat)
    (hy : ∀ x, y = some x → InW F r.1 x) :
    PostG F hp (r.1.modify r.2 (fun x => { x with kids := setKid x.kids i y }), r.2) :=
  p.modify _ (fun _ => rfl) (inw_setKid (p.step.good.kids r.2 p.step.inw'.1) hy)

theorem prep_post {F : Frame} {hp : Heap} (hg : Good F hp) (ver : Ver) (cv : Bool) {a : Nat}
    (ha : InW F hp a) : PostG F hp (prepForMutation (F.ctx ver) cv hp a) := by
  rw [prep_eq]
  split
  · rename_i hgen
    exact (PostG.refl hg ha hgen).fields HNode.setDirty
  · have s := ensureMV_step hg ver (some a)
    exact s.then (alloc_post s.good _ rfl (s.good.kids a ha.1))

theorem Step.relink {F : Frame} {hp hp1 : Heap} {y : Option Nat} (s : Step F hp hp1 y) (ver : Ver)
    {a : Nat} (ha : InW F hp a) (i : Nib) :
    PostG F hp (((prepForMutation (F.ctx ver) true hp1 a).1.modify (prepForMutation (F.ctx ver) true hp1 a).2
      (fun x => { x with kids := setKid x.kids i y })), (prepForMutation (F.ctx ver) true hp1 a).2) := by
  have p := prep_post s.good ver true (ha.mono s.size_le)
  exact s.then (p.kid i y (fun x hx => (s.inw x hx).mono p.step.size_le))

theorem kidIdx_mem {ks : Nib → Option Nat} {i : Nib} (h : i ∈ kidIdx ks) : (ks i).isSome := by
  unfold kidIdx at h
  exact (List.mem_filter.mp h).2

theorem PostG.handleDeletion {F : Frame} {hp : Heap} {r : Heap × Nat} (p : PostG F hp r) (ver : Ver)
    (key : Nibs) : PostG F hp (handleDeletion (F.ctx ver) r.1 r.2 key) := by
  have hg := p.step.good
  fun_cases TrieHeap.handleDeletion (F.ctx ver) r.1 r.2 key
  · -- no child, a value: the branch becomes a leaf
    exact p.step.then (alloc_post hg _ p.gen inw_noKids)
  · -- one child, no value: the child is merged into the branch
    exact p.step.then ((ensureMV_step hg ver _).then (alloc_post (good_ensureMV hg ver _) _ p.gen inw_noKids))
  · -- the same with a branch as the single child (`hch`: slot `i` holds `ch`)
    rename_i i _ _ ch hch _ _ _
    have s := ensureMV_step hg ver (some ch)
    exact p.step.then (s.then (alloc_post s.good _ p.gen (s.good.kids ch (hg.kids r.2 p.step.inw'.1 i ch hch).1)))
  · exact p  -- a single child but the slot is nil: unreachable
  · exact p  -- anything else: the branch stays

theorem newLeaf_gen (F : Frame) (ver : Ver) (k : Nibs) (v : Bytes) : (newLeaf (F.ctx ver) k v).gen = F.g := rfl
theorem newLeaf_kids (c : Ctx) (k : Nibs) (v : Bytes) : (newLeaf c k v).kids = noKids := rfl
theorem newBranch_gen (F : Frame) (ver : Ver) (k : Nibs) : (newBranch (F.ctx ver) k).gen = F.g := rfl

theorem insertInLeaf_post {F : Frame} {hp : Heap} (hg : Good F hp) (ver : Ver) {a : Nat}
    (ha : InW F hp a) (key : Nibs) (value : Bytes) :
    Step F hp (insertInLeaf (F.ctx ver) hp a key value).1 (some (insertInLeaf (F.ctx ver) hp a key value).2.1) := by
  fun_cases insertInLeaf (F.ctx ver) hp a key value with dsimp only
  -- same key and same value (1); the three `[]` arms that cannot occur (4, 7, 9): nothing is written
  | case1 | case4 | case7 | case9 => exact Step.of_some hg (Nat.le_refl _) ha
  | case2 =>
    -- same key, new value
    exact ((prep_post hg ver false ha).fields
      (fun x => { x with mbh := mustBeHashed (F.ctx ver).ver value, val := some value })).step
  | case3 =>
    -- the key ends inside the key of the leaf: the leaf hangs below the new branch
    rename_i rest _ _ _ _
    have p := (prep_post hg ver true ha).fields (fun x => { x with pk := rest })
    exact (p.step.then (alloc_post p.step.good _ rfl (inw_setKid inw_noKids (inw_some p.step.inw')))).step
  -- `key.length = cl` but the key is not shorter than the leaf key (then the keys are equal; Go has the arm): a new branch alone
  | case5 => exact (alloc_post hg _ rfl inw_noKids).step
  | case6 =>
    -- the key of the leaf ends inside the key: its value moves to the new branch
    rename_i krest _ _ _
    have l := alloc_post hg (newLeaf (F.ctx ver) krest value) rfl inw_noKids
    exact (l.step.then (alloc_post l.step.good _ rfl (inw_setKid inw_noKids (inw_some l.step.inw')))).step
  | case8 =>
    -- the keys diverge: both leaves hang below the new branch
    rename_i rest _ krest _ _ _ _ _ _
    have p := (prep_post hg ver true ha).fields (fun x => { x with pk := rest })
    have l := p.step.then (alloc_post p.step.good (newLeaf (F.ctx ver) krest value) rfl inw_noKids)
    exact (l.step.then (alloc_post l.step.good _ rfl (inw_setKid
      (inw_setKid inw_noKids (inw_some (p.step.inw'.mono (Nat.le_of_lt (by simp))))) (inw_some l.step.inw')))).step

theorem insertF_post {F : Frame} (ver : Ver) (f : Nat) {hp : Heap} (hg : Good F hp) (x : Option Nat)
    (hx : ∀ a, x = some a → InW F hp a) (key : Nibs) (value : Bytes) :
    Step F hp (insertF (F.ctx ver) f hp x key value).1 (insertF (F.ctx ver) f hp x key value).2.1 := by
  fun_induction insertF (F.ctx ver) f hp x key value with dsimp only
  -- out of fuel (2); a branch with the same key and value (4); the `[]` arms that cannot occur (9, 12, 13)
  | case2 | case4 | case9 | case12 | case13 => exact Step.refl hg hx
  -- nil pointer: a new leaf
  | case1 => exact (alloc_post hg _ rfl inw_noKids).step
  -- a leaf
  | case3 => exact insertInLeaf_post hg ver (hx _ rfl) _ _
  | case5 f hp a value =>
    -- a branch with the same key, new value
    exact ((prep_post hg ver true (hx _ rfl)).fields
      (fun x => { x with mbh := mustBeHashed (F.ctx ver).ver value, val := some value })).step
  | case6 =>
    -- the key goes on below the branch; no child there yet
    exact ((alloc_post hg _ rfl inw_noKids).step.relink ver (hx _ rfl) _).step
  | case7 =>
    -- the key goes on below the branch, into the child of the slot (`hch`); the child reports no change
    rename_i hch _ _ ih
    exact (ih hg (inw_some (hg.kids _ (hx _ rfl).1 _ _ hch))).keep (hx _ rfl)
  | case8 =>
    -- the same, the child was mutated: the branch is prepared and the slot rewritten
    rename_i hch _ _ _ ih
    exact ((ih hg (inw_some (hg.kids _ (hx _ rfl).1 _ _ hch))).relink ver (hx _ rfl) _).step
  | case10 =>
    -- branch out where the keys diverge; the key ends there
    rename_i rest _ _ _ _ _ _
    have p := (prep_post hg ver true (hx _ rfl)).fields (fun x => { x with pk := rest })
    exact (p.step.then (alloc_post p.step.good _ rfl (inw_setKid inw_noKids (inw_some p.step.inw')))).step
  | case11 f hp a key value =>
    -- branch out, with a new leaf for the rest of the key
    rename_i rest _ _ _ _ _ _ krest _ _ _
    have p := (prep_post hg ver true (hx _ rfl)).fields (fun x => { x with pk := rest })
    have l := p.step.then (alloc_post p.step.good (newLeaf (F.ctx ver) krest value) rfl inw_noKids)
    exact (l.step.then (alloc_post l.step.good _ rfl (inw_setKid
      (inw_setKid inw_noKids (inw_some (p.step.inw'.mono (Nat.le_of_lt (by simp))))) (inw_some l.step.inw')))).step

theorem registerDeleted_step {F : Frame} {hp : Heap} (hg : Good F hp) (ver : Ver) (a : Nat) :
    Step F hp (registerDeleted (F.ctx ver) hp a) none := ensureMV_step hg ver (some a)

theorem deleteF_post {F : Frame} (ver : Ver) (f : Nat) {hp : Heap} (hg : Good F hp) (x : Option Nat)
    (hx : ∀ a, x = some a → InW F hp a) (key : Nibs) :
    Step F hp (deleteF (F.ctx ver) f hp x key).1 (deleteF (F.ctx ver) f hp x key).2.1 := by
  fun_induction deleteF (F.ctx ver) f hp x key with dsimp only
  -- nil pointer (1); out of fuel (2); a leaf with another key (3); the key ends inside or leaves the branch key (6); `[]` (9)
  | case1 | case2 | case3 | case6 | case9 => exact Step.refl hg hx
  -- the leaf with this key goes
  | case4 => exact registerDeleted_step hg ver _
  -- the value of the branch goes
  | case5 => exact (((prep_post hg ver false (hx _ rfl)).fields (fun x => { x with val := none })).handleDeletion ver _).step
  | case7 =>
    -- the key goes on below the branch; nothing was deleted there
    rename_i ih
    exact (ih hg (hg.kids _ (hx _ rfl).1 _)).keep (hx _ rfl)
  | case8 =>
    -- the same, something was deleted: the branch is prepared, the slot rewritten, `handleDeletion`
    rename_i _ _ _ ih
    exact (((ih hg (hg.kids _ (hx _ rfl).1 _)).relink ver (hx _ rfl) _).handleDeletion ver _).step

theorem gen_stable {F : Frame} {hp hp' : Heap} (hg : Good F hp) (hg' : Good F hp') {b : Nat}
    (hb : b < hp.size) (hs : hp.size ≤ hp'.size) (hgen : (hp.get b).gen = F.g) : (hp'.get b).gen = F.g := by
  by_cases h : b < F.hp0.size
  · rw [hg'.gen b h, ← hg.gen b h]; exact hgen
  · exact hg'.fresh b (by omega) (by omega)

theorem PostG.after {F : Frame} {hp hp1 hp2 : Heap} {b : Nat} {y : Option Nat} (p : PostG F hp (hp1, b))
    (s : Step F hp1 hp2 y) : PostG F hp (hp2, b) :=
  ⟨Step.of_some s.good (Nat.le_trans p.step.size_le s.size_le) (p.step.inw'.mono s.size_le),
    gen_stable p.step.good s.good p.step.inw'.2 s.size_le p.gen⟩

theorem clearPrefixF_post {F : Frame} (ver : Ver) (f : Nat) {hp : Heap} (hg : Good F hp) (x : Option Nat)
    (hx : ∀ a, x = some a → InW F hp a) (pre : Nibs) :
    Step F hp (clearPrefixF (F.ctx ver) f hp x pre).1 (clearPrefixF (F.ctx ver) f hp x pre).2.1 := by
  fun_induction clearPrefixF (F.ctx ver) f hp x pre with dsimp only
  -- nil pointer (1); out of fuel (2); a leaf without the prefix (4); the prefix names an empty slot (5); the
  -- prefix leaves the branch key (8); `[]` (7, 11)
  | case1 | case2 | case4 | case5 | case7 | case8 | case11 => exact Step.refl hg hx
  -- the whole node has the prefix: it goes, after its Merkle value is recorded
  | case3 => exact ensureMV_step hg ver _
  | case6 =>
    -- the prefix is one of the children of the branch
    have p := prep_post hg ver true (hx _ rfl)
    exact (((p.after (registerDeleted_step p.step.good ver _)).kid _ none (fun _ h => nomatch h)).handleDeletion
      ver _).step
  | case9 =>
    -- the prefix goes on below the branch; nothing was removed there
    rename_i ih
    exact (ih hg (hg.kids _ (hx _ rfl).1 _)).keep (hx _ rfl)
  | case10 =>
    -- the same, something was removed
    rename_i _ _ _ ih
    exact (((ih hg (hg.kids _ (hx _ rfl).1 _)).relink ver (hx _ rfl) _).handleDeletion ver _).step

/-- invariant of the loop of `deleteNodesLimit` on the prepared branch at `b` -/
structure DnlInv (F : Frame) (hp : Heap) (b : Nat) (s : DnlSt) : Prop where
  post : PostG F hp (s.hp, b)
  res : ∀ r, s.result = some r → ∀ a, r.1 = some a → InW F s.hp a

theorem dnlTail_inv {F : Frame} (ver : Ver) {hp hp1 : Heap} {b : Nat} (p : PostG F hp (hp1, b)) (l d : Nat) :
    DnlInv F hp b (dnlTail (F.ctx ver) b hp1 l d) := by
  have pd := (PostG.refl p.step.good p.step.inw' p.gen).handleDeletion ver (hp1.get b).pk
  have pb := p.after pd.step
  unfold dnlTail
  simp only []
  split
  · exact ⟨pb, fun r hr a ha => by cases hr; cases ha⟩
  · split
    · exact ⟨pb, fun r hr a ha => by cases hr; cases ha; exact pd.step.inw'⟩
    · exact ⟨pb, fun r hr => by cases hr⟩

theorem dnlStep_inv {F : Frame} (ver : Ver) {hp : Heap} {b : Nat}
    (rec : Heap → Option Nat → Nat → Heap × Option Nat × Nat)
    (hrec : ∀ {hp : Heap}, Good F hp → ∀ (x : Option Nat), (∀ a, x = some a → InW F hp a) → ∀ (l : Nat),
      Step F hp (rec hp x l).1 (rec hp x l).2.1)
    (s : DnlSt) (i : Nib) (hs : DnlInv F hp b s) : DnlInv F hp b (dnlStep (F.ctx ver) b rec s i) := by
  unfold dnlStep
  split
  · exact hs
  · split
    · exact hs
    · rename_i ch hch
      have sr := hrec hs.post.step.good (some ch)
        (inw_some (hs.post.step.good.kids b hs.post.step.inw'.1 i ch hch)) s.limit
      simp only []
      split
      · exact ⟨hs.post.after sr, fun r hr a ha => by cases hr; cases ha⟩
      · exact dnlTail_inv ver ((hs.post.after sr).kid i _ sr.inw) _ _

theorem dnlLoop_inv {F : Frame} (ver : Ver) {hp : Heap}
    (rec : Heap → Option Nat → Nat → Heap × Option Nat × Nat)
    (hrec : ∀ {hp : Heap}, Good F hp → ∀ (x : Option Nat), (∀ a, x = some a → InW F hp a) → ∀ (l : Nat),
      Step F hp (rec hp x l).1 (rec hp x l).2.1)
    {r : Heap × Nat} (limit : Nat) (p : PostG F hp r) :
    DnlInv F hp r.2 (dnlLoop (F.ctx ver) r.2 rec r.1 limit) := by
  rw [dnlLoop_eq]
  exact foldl_pres (DnlInv F hp r.2) _ (dnlStep_inv ver rec hrec) _ ⟨p, fun r hr => by cases hr⟩

/-- By hand and not by `fun_induction`: `dnlF` hands itself to the loop `dnlLoop` as the function `rec`, so the
    induction hypothesis has to be the whole ∀-statement for the smaller fuel (`dnlF_post ver f`, passed to
    `dnlLoop_inv`). -/
theorem dnlF_post {F : Frame} (ver : Ver) : ∀ (f : Nat) {hp : Heap}, Good F hp →
    ∀ (x : Option Nat), (∀ a, x = some a → InW F hp a) → ∀ (limit : Nat),
      Step F hp (dnlF (F.ctx ver) f hp x limit).1 (dnlF (F.ctx ver) f hp x limit).2.1
  | f, hp, hg, none, hx, limit => by
    rw [dnlF]; exact Step.refl hg hx
  | 0, hp, hg, some a, hx, limit => Step.refl hg hx
  | f + 1, hp, hg, some a, hx, limit => by
    unfold dnlF
    simp only []
    by_cases h0 : limit = 0
    · rw [if_pos h0]; exact Step.refl hg hx
    rw [if_neg h0]
    by_cases hb : (!(hp.get a).isBranch) = true
    · rw [if_pos hb]; exact registerDeleted_step hg ver a
    rw [if_neg hb]
    by_cases hk : (kidIdx (hp.get a).kids).isEmpty = true
    · rw [if_pos hk]; exact Step.refl hg hx
    rw [if_neg hk]
    have inv := dnlLoop_inv ver (dnlF (F.ctx ver) f) (dnlF_post ver f) limit (prep_post hg ver true (hx a rfl))
    generalize dnlLoop (F.ctx ver) (prepForMutation (F.ctx ver) true hp a).2 (dnlF (F.ctx ver) f)
      (prepForMutation (F.ctx ver) true hp a).1 limit = fin at inv ⊢
    cases hr : fin.result with
    | some r => exact ⟨inv.post.step.good, inv.post.step.size_le, inv.res r hr⟩
    | none => exact ⟨inv.post.step.good, inv.post.step.size_le, fun b hb => nomatch hb⟩

theorem cplF_post {F : Frame} (ver : Ver) (f : Nat) {hp : Heap} (hg : Good F hp) (x : Option Nat)
    (hx : ∀ a, x = some a → InW F hp a) (pre : Nibs) (limit : Nat) :
    Step F hp (cplF (F.ctx ver) f hp x pre limit).1 (cplF (F.ctx ver) f hp x pre limit).2.1 := by
  fun_induction cplF (F.ctx ver) f hp x pre limit with dsimp only
  -- nil pointer (1); out of fuel (2); a leaf without the prefix (4); the prefix names an empty slot (6); the
  -- prefix leaves the branch key (10); `[]` (9, 13)
  | case1 | case2 | case4 | case6 | case9 | case10 | case13 => exact Step.refl hg hx
  -- a leaf with the prefix goes
  | case3 => exact registerDeleted_step hg ver _
  -- a branch with the prefix: `deleteNodesLimit` on it
  | case5 => exact dnlF_post ver bigFuel hg _ hx _
  | case7 =>
    -- the prefix is one of the children (`hch`): `deleteNodesLimit` on that child deleted nothing
    rename_i hch _ _
    exact (dnlF_post ver bigFuel hg _ (inw_some (hg.kids _ (hx _ rfl).1 _ _ hch)) _).keep (hx _ rfl)
  | case8 =>
    -- the same, something was deleted: the branch is prepared, the slot rewritten, `handleDeletion`
    rename_i hch _ _ _ _ _
    exact (((dnlF_post ver bigFuel hg _ (inw_some (hg.kids _ (hx _ rfl).1 _ _ hch)) _).relink ver (hx _ rfl)
      _).handleDeletion ver _).step
  | case11 =>
    -- the prefix goes on below the branch; nothing was deleted there
    rename_i ih
    exact (ih hg (hg.kids _ (hx _ rfl).1 _)).keep (hx _ rfl)
  | case12 =>
    -- the same, something was deleted
    rename_i _ _ _ ih
    exact (((ih hg (hg.kids _ (hx _ rfl).1 _)).relink ver (hx _ rfl) _).handleDeletion ver _).step

end TrieHeap
end Gossamer
