/-
C06: the database and what is stored in it.  `HashOK` is the hypothesis on the hash; `viewOf` is what
`codec.Decode` must return for the encoding of a trie node (the round-trip hypothesis on the decoder
is stated with it); `Stored`: every row that a lookup below a node needs is in the database.
-/
import Gossamer.Lib.TrieDBSim
import Gossamer.Lib.TrieDBKeys
import Gossamer.Lib.TrieEnc
namespace Gossamer.C06
open Gossamer Gossamer.Trie

/-- the database is a first-match association list: `Lib/AList` has its laws -/
theorem find_eq_lookup (db : DB) (k : Bytes) : db.find k = db.lookup k :=
  AssocLookup.eq_lookup (lk := fun k (db : DB) => db.find k) ⟨fun _ => rfl, fun _ _ _ => rfl⟩ k db

theorem find_del (db : DB) (k k' : Bytes) :
    (DB.del db k).find k' = if k' = k then none else db.find k' := by
  rw [find_eq_lookup, find_eq_lookup, DB.del, AList.lookup_erase]

theorem find_put (db : DB) (k v k' : Bytes) :
    (DB.put db k v).find k' = if k' = k then some v else db.find k' := by
  rw [find_eq_lookup, find_eq_lookup, DB.put, DB.del, AList.lookup_put]

theorem applyW_append (db : DB) (a b : List WOp) : applyW db (a ++ b) = applyW (applyW db a) b := by
  induction a generalizing db with
  | nil => rfl
  | cons op r ih => cases op <;> simp [applyW, ih]

theorem find_applyW_dels (db : DB) (l : List Bytes) (k : Bytes) (hk : k ∉ l) :
    (applyW db (l.map WOp.del)).find k = db.find k := by
  induction l generalizing db with
  | nil => rfl
  | cons a r ih =>
    simp only [List.map_cons, applyW]
    rw [ih _ (fun h => hk (List.mem_cons_of_mem _ h)), find_del]
    have : k ≠ a := fun e => hk (by rw [e]; exact List.mem_cons_self ..)
    simp [this]

def InjOn (H : Bytes → Bytes) (Dom : Bytes → Prop) : Prop :=
  ∀ a b, Dom a → Dom b → H a = H b → a = b

/-- what the theorems need of the hash on the strings of `Dom` (the node encodings and hashed values
    that occur along a history, and the empty node `[0]`): 32-byte digests, no collision among
    them, and no cycle of hash references among them (the relation "the digest of `y` occurs inside
    `x`" is decreased by a rank `rk`).  The last clause is what keeps rows apart (`rows_inj`): the key
    of a row is the PACKED path followed by the hash, and `Prefix.JoinedBytes` pads an odd path `q`
    with a zero nibble, so `q` and `q ++ [0]` have the same packed form; the rows of a node and of the
    node (or hashed value) one zero nibble below it differ only if their contents do, i.e. if nothing
    is referred to by hash from inside itself.  `commit_new` and the one-session theorems need only
    `len`, `inj`, `zero` and take them one by one. -/
structure HashOK (H : Bytes → Bytes) (Dom : Bytes → Prop) : Prop where
  len : ∀ x, (H x).length = 32
  inj : InjOn H Dom
  rank : ∃ rk : Bytes → Nat, ∀ x y, Dom x → Dom y → H y <:+: x → rk y < rk x
  zero : Dom [0]

/-- a write that stores `x ∈ Dom` under a key ending in `H x` -/
def ContentPut (H : Bytes → Bytes) (Dom : Bytes → Prop) : WOp → Prop
  | .put k x => (∃ q, k = rowKey q (H x)) ∧ Dom x
  | .del _ => False

theorem find_applyW_keep {H : Bytes → Bytes} {Dom : Bytes → Prop} (hlen : ∀ x, (H x).length = 32)
    (hinj : InjOn H Dom) (w : List WOp) (hw : ∀ op ∈ w, ContentPut H Dom op) :
    ∀ (db : DB) (q : Nibs) (x : Bytes), Dom x → db.find (rowKey q (H x)) = some x →
      (applyW db w).find (rowKey q (H x)) = some x := by
  induction w with
  | nil => intro db q x _ h; exact h
  | cons op r ih =>
    intro db q x hx h
    have hr : ∀ op ∈ r, ContentPut H Dom op := fun o ho => hw o (List.mem_cons_of_mem _ ho)
    cases op with
    | del k => exact absurd (hw _ (List.mem_cons_self ..)) (by simp [ContentPut])
    | put k y =>
      obtain ⟨⟨q', hk⟩, hy⟩ := hw _ (List.mem_cons_self ..)
      simp only [applyW]
      apply ih hr _ _ _ hx
      rw [find_put]
      by_cases he : rowKey q (H x) = k
      · rw [hk] at he
        have := hinj _ _ hx hy (rowKey_split hlen he).2
        subst this
        rw [hk, if_pos he]
      · rw [if_neg he]; exact h

theorem find_applyW_mem {H : Bytes → Bytes} {Dom : Bytes → Prop} (hlen : ∀ x, (H x).length = 32)
    (hinj : InjOn H Dom) (w : List WOp) (hw : ∀ op ∈ w, ContentPut H Dom op) :
    ∀ (db : DB) (k x : Bytes), WOp.put k x ∈ w → (applyW db w).find k = some x := by
  induction w with
  | nil => intro db k x h; simp at h
  | cons op r ih =>
    intro db k x h
    have hr : ∀ op ∈ r, ContentPut H Dom op := fun o ho => hw o (List.mem_cons_of_mem _ ho)
    by_cases hin : WOp.put k x ∈ r
    · cases op with
      | put k' y => simp only [applyW]; exact ih hr _ k x hin
      | del k' => simp only [applyW]; exact ih hr _ k x hin
    · have hop : op = WOp.put k x := by
        rcases List.mem_cons.mp h with h1 | h1
        · exact h1.symm
        · exact absurd h1 hin
      subst hop
      obtain ⟨⟨q, hk⟩, hx⟩ := hw _ (List.mem_cons_self ..)
      simp only [applyW]
      rw [hk]
      apply find_applyW_keep hlen hinj r hr _ _ _ hx
      rw [find_put]; simp

theorem hasSuffix_self (k : Bytes) : hasSuffix k k = true := by
  simp [hasSuffix]

theorem hasSuffix_rowKey {H : Bytes → Bytes} (hlen : ∀ x, (H x).length = 32) (q : Nibs) (x y : Bytes) :
    hasSuffix (rowKey q (H x)) (H y) = decide (H x = H y) := by
  simp [hasSuffix, rowKey, hlen]
  by_cases h : H x = H y <;> simp [h]

/-- `2 ≤ x.length`: `dbGet` answers `[0]` for every key that ends in `H [0]`, so a row is read back as
    stored only if its content is not the empty node; node encodings and hashed values have at least two
    bytes (`content_size`). -/
theorem dbGet_row {H : Bytes → Bytes} {Dom : Bytes → Prop} (hlen : ∀ x, (H x).length = 32)
    (hinj : InjOn H Dom) (h0 : Dom [0]) (db : DB) (q : Nibs) (x : Bytes) (hd : Dom x)
    (hx : 2 ≤ x.length)
    (hf : db.find (rowKey q (H x)) = some x) : dbGet H db (rowKey q (H x)) = some x := by
  unfold dbGet
  rw [hasSuffix_rowKey hlen]
  have : ¬ H x = H [0] := by
    intro e
    have := hinj _ _ hd h0 e
    rw [this] at hx
    simp at hx
  simp [this, hf]

theorem dbGet_find {H : Bytes → Bytes} {db : DB} {k x : Bytes} (h : dbGet H db k = some x)
    (hx : 2 ≤ x.length) : db.find k = some x := by
  unfold dbGet at h
  split at h
  · cases h; simp at hx
  · exact h

def viewVal (ver : Ver) (H : Bytes → Bytes) (v : Bytes) : EVal :=
  if mustBeHashed ver v then .hashed (H v) else .inl v

def viewKid (ver : Ver) (H : Bytes → Bytes) (c : Trie) : EKid :=
  if c.isNil then .none
  else if (encodeNode ver H c).length < 32 then .inl (encodeNode ver H c)
  else .hashed (H (encodeNode ver H c))

/-- the decoded form (`codec.EncodedNode`) of the encoding of a trie node: values inline or by
    hash, children inlined (shorter than 32 bytes) or by hash -/
def viewOf (ver : Ver) (H : Bytes → Bytes) : Trie → ENode
  | nil => .empty
  | leaf pk v => .leaf pk (viewVal ver H v)
  | branch pk v cs => .branch pk (v.map (viewVal ver H)) (fun i => viewKid ver H (cs i))

/-- `n` is a non-nil node of the trie `t` (`t` itself, or a node below one of its children) -/
def NodeOf (n : Trie) : Trie → Prop
  | nil => False
  | leaf pk v => n = leaf pk v
  | branch pk v cs => n = branch pk v cs ∨ ∃ i, NodeOf n (cs i)

theorem nodeOf_self {t : Trie} (h : t ≠ nil) : NodeOf t t := by
  cases t with
  | nil => exact absurd rfl h
  | leaf pk v => rfl
  | branch pk v cs => exact Or.inl rfl

theorem nodeOf_child {n : Trie} {pk : Nibs} {v : Option Bytes} {cs : Nib → Trie} (i : Nib)
    (h : NodeOf n (cs i)) : NodeOf n (branch pk v cs) := Or.inr ⟨i, h⟩

theorem nodeOf_trans {a b : Trie} (hab : NodeOf a b) : ∀ {c : Trie}, NodeOf b c → NodeOf a c := by
  intro c
  induction c with
  | nil => intro h; exact h.elim
  | leaf pk v => intro h; simp only [NodeOf] at h; subst h; exact hab
  | branch pk v cs ih =>
    intro h
    rcases h with h | ⟨i, h⟩
    · subst h; exact hab
    · exact Or.inr ⟨i, ih i h⟩

/-- all rows below the node `t` at path `pre` can be read with `get`: hashed values under their
    full key, hashed children under their path.  The threshold `32 ≤ |encoding|` for a child row is
    the one of `merkleValue` (spec encoding), `viewKid`, and of the model's `kidRef` (`commitChild`) and
    `decKids`. -/
def Stored (ver : Ver) (H : Bytes → Bytes) (get : Bytes → Option Bytes) : Trie → Nibs → Prop
  | nil, _ => True
  | leaf pk v, pre => mustBeHashed ver v = true → get (rowKey (pre ++ pk) (H v)) = some v
  | branch pk v cs, pre =>
    (∀ x, v = some x → mustBeHashed ver x = true → get (rowKey (pre ++ pk) (H x)) = some x) ∧
    ∀ i, ((cs i).isNil = false → 32 ≤ (encodeNode ver H (cs i)).length →
            get (rowKey (pre ++ pk ++ [i]) (H (encodeNode ver H (cs i)))) =
              some (encodeNode ver H (cs i))) ∧
         Stored ver H get (cs i) (pre ++ pk ++ [i])

/-- the database invariant: every row that reading the committed trie `T0` needs is there, and the
    decoder is right on the nodes of `T0` -/
structure DbOk (e : Env) (T0 : Trie) : Prop where
  root : T0 ≠ nil →
    dbGet e.H e.db (rowKey [] (e.H (encodeNode e.ver e.H T0))) = some (encodeNode e.ver e.H T0)
  stored : Stored e.ver e.H (dbGet e.H e.db) T0 []
  dec : ∀ n, NodeOf n T0 → e.dec (encodeNode e.ver e.H n) = some (viewOf e.ver e.H n)
  dec0 : e.dec [0] = some .empty
  hlen : ∀ x, (e.H x).length = 32

theorem dbOk_nil (e : Env) (hdec0 : e.dec [0] = some .empty) (hlen : ∀ x, (e.H x).length = 32) :
    DbOk e nil :=
  ⟨fun x => absurd rfl x, trivial, fun _ hn => hn.elim, hdec0, hlen⟩

/-- `Dom` contains the encoding of every node and every hashed value of the trie -/
def Covers (ver : Ver) (H : Bytes → Bytes) (Dom : Bytes → Prop) (t : Trie) : Prop :=
  (∀ n, NodeOf n t → Dom (encodeNode ver H n)) ∧
  (∀ k v, lookup t k = some v → mustBeHashed ver v = true → Dom v)

theorem covers_nil (ver : Ver) (H : Bytes → Bytes) (Dom : Bytes → Prop) : Covers ver H Dom nil :=
  ⟨fun _ hn => hn.elim, fun k v hl => by simp at hl⟩

theorem fetchE_viewVal (e : Env) (full : Bytes) (fk : Nibs) (v : Bytes) (hfk : fk = toNibs full)
    (hs : mustBeHashed e.ver v = true → dbGet e.H e.db (rowKey fk (e.H v)) = some v) :
    fetchE e full (viewVal e.ver e.H v) = some v := by
  unfold viewVal
  cases hm : mustBeHashed e.ver v with
  | false => simp [fetchE]
  | true =>
    have := hs hm
    rw [hfk, rowKey, prefixBytes_toNibs] at this
    simp [fetchE, this]

theorem lookupData_eq (e : Env) (full : Bytes) (t : Trie) :
    (∀ n, NodeOf n t → e.dec (encodeNode e.ver e.H n) = some (viewOf e.ver e.H n)) → t ≠ nil →
    ∀ (fuel : Nat) (pre key : Nibs), key.length < fuel → pre ++ key = toNibs full →
      Stored e.ver e.H (dbGet e.H e.db) t pre →
      lookupData e full fuel (encodeNode e.ver e.H t) pre key = lookup t key := by
  induction t with
  | nil => intro _ h; exact absurd rfl h
  | leaf pk v =>
    intro hdec _ fuel pre key hf hfull hst
    obtain ⟨f, rfl⟩ := Nat.exists_eq_add_one_of_ne_zero (Nat.ne_of_gt (Nat.zero_lt_of_lt hf))
    have hd := hdec _ (nodeOf_self (by simp))
    simp only [lookupData, hd, viewOf, lookup_leaf]
    by_cases hk : key = pk
    · subst hk
      simp only [if_true]
      exact fetchE_viewVal e full _ v hfull hst
    · simp [hk]
  | branch pk v cs ih =>
    intro hdec _ fuel pre key hf hfull hst
    obtain ⟨f, rfl⟩ := Nat.exists_eq_add_one_of_ne_zero (Nat.ne_of_gt (Nat.zero_lt_of_lt hf))
    have hd := hdec _ (nodeOf_self (by simp))
    obtain ⟨hsv, hsc⟩ := hst
    simp only [lookupData, hd, viewOf]
    rcases key_cases pk key with rfl | ⟨i, rest, rfl⟩ | hoff
    · simp only [isPrefixOf_self, Bool.not_true, Bool.false_eq_true, if_false, if_true,
        lookup_branch_self]
      cases v with
      | none => rfl
      | some x =>
        simp only [Option.map_some]
        exact fetchE_viewVal e full _ x hfull (hsv x rfl)
    · have hne : ¬ (pk ++ i :: rest = pk) := append_cons_ne_self pk i rest
      simp only [isPrefixOf_append_self, Bool.not_true, Bool.false_eq_true, if_false, hne,
        List.drop_left, lookup_branch_child]
      have hflen : rest.length < f := by simp at hf; omega
      have hfull' : pre ++ pk ++ [i] ++ rest = toNibs full := by rw [← hfull]; simp
      by_cases hc : cs i = nil
      · rw [hc]
        simp [viewKid, Trie.isNil]
      · have hn' := isNil_false_of_ne hc
        have hIH := ih i (fun n hn => hdec n (nodeOf_child i hn)) hc f (pre ++ pk ++ [i]) rest hflen
          hfull' (hsc i).2
        by_cases hl : (encodeNode e.ver e.H (cs i)).length < 32
        · simp only [viewKid, hn', Bool.false_eq_true, if_false, hl, if_true]
          exact hIH
        · have hrow := (hsc i).1 hn' (by omega)
          simp only [viewKid, hn', Bool.false_eq_true, if_false, hl, hrow]
          exact hIH
    · have : ¬ key = pk := isPrefixOf_false_ne hoff
      simp [hoff, lookup_branch_off _ _ _ _ hoff]

end Gossamer.C06
