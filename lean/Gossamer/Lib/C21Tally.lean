/-
The C21 library speaks of ONE stage at a time: its stored votes `votes` and the number `e` of its equivocators, so the
weight of a block is `cnt t votes b + e` (`total_eq`).  The model's `pvTotal` and `pcTotal`, in which the property
theorems are stated, are that weight for the prevotes and for the precommits (`C21_total_eq_weight`).
-/
import Gossamer.Lib.C21Tree
import Gossamer.Lib.C21Map
namespace Gossamer.C21

theorem mem_keys_dvAdd {dv : List (Vote × Nat)} {v w : Vote} :
    w ∈ (dvAdd dv v).map (·.1) ↔ w = v ∨ w ∈ dv.map (·.1) := by
  induction dv with
  | nil => simp [dvAdd]
  | cons p rest ih =>
    unfold dvAdd
    by_cases hu : p.1 = v
    · rw [if_pos hu, List.map_cons, List.map_cons, List.mem_cons, hu, or_self_left]
    · rw [if_neg hu, List.map_cons, List.map_cons, List.mem_cons, List.mem_cons, ih, or_left_comm]

theorem mem_keys_directVotes {votes : List (Nat × Vote)} {w : Vote} :
    w ∈ (directVotes votes).map (·.1) ↔ ∃ kv ∈ votes, kv.2 = w := by
  induction votes with
  | nil => simp [directVotes]
  | cons kv rest ih =>
    rw [directVotes, mem_keys_dvAdd, ih, eq_comm]
    simp only [List.mem_cons, exists_eq_or_imp]

theorem directVotes_eq_nil {votes : List (Nat × Vote)} : directVotes votes = [] ↔ votes = [] := by
  refine ⟨fun h => ?_, fun h => h ▸ rfl⟩
  cases votes with
  | nil => rfl
  | cons kv rest =>
    have : kv.2 ∈ (directVotes (kv :: rest)).map (·.1) :=
      mem_keys_directVotes.2 ⟨kv, List.mem_cons_self, rfl⟩
    rw [h] at this
    cases this

theorem votesFor_dvAdd (t : Tree) (b : Nat) (dv : List (Vote × Nat)) (v : Vote) :
    votesFor t b (dvAdd dv v) = votesFor t b dv + (if isDesc t b v.blk = .yes then 1 else 0) := by
  induction dv with
  | nil => exact Nat.add_comm _ _
  | cons p rest ih =>
    obtain ⟨u, c⟩ := p
    unfold dvAdd
    by_cases hu : u = v
    · rw [if_pos hu, hu]
      by_cases hd : isDesc t b v.blk = .yes
      · simp only [votesFor, hd, if_true]; omega
      · simp only [votesFor, hd, if_false]; omega
    · rw [if_neg hu, votesFor, votesFor, ih, Nat.add_assoc]

def cnt (t : Tree) (votes : List (Nat × Vote)) (b : Nat) : Nat :=
  votes.countP (fun kv => isDesc t b kv.2.blk = .yes)

/-- `getVotesForBlock` over the Go map of direct votes -/
theorem votesFor_directVotes (t : Tree) (b : Nat) (votes : List (Nat × Vote)) :
    votesFor t b (directVotes votes) = cnt t votes b := by
  induction votes with
  | nil => simp [directVotes, votesFor, cnt]
  | cons kv rest ih =>
    unfold directVotes cnt
    rw [votesFor_dvAdd, ih, List.countP_cons]
    unfold cnt
    by_cases h : isDesc t b kv.2.blk = .yes <;> simp [h]

theorem total_eq (t : Tree) (votes : List (Nat × Vote)) (e b : Nat) :
    total t (directVotes votes) e b = cnt t votes b + e := by
  unfold total
  rw [votesFor_directVotes]

theorem isDesc_yes_mem {t : Tree} {p c : Nat} (h : isDesc t p c = .yes) : p ∈ t.chain c := by
  unfold isDesc at h
  by_cases h1 : p = c
  · exact h1 ▸ t.mem_chain_self _
  rw [if_neg h1] at h
  by_cases h2 : t.size ≤ p
  · rw [if_pos h2] at h; cases h
  rw [if_neg h2] at h
  by_cases h3 : t.size ≤ c
  · rw [if_pos h3] at h; cases h
  rw [if_neg h3] at h
  by_cases h4 : t.le p c = true
  · exact Tree.le_iff.1 h4
  · rw [if_neg h4] at h; cases h

theorem isDesc_of_known {t : Tree} {p c : Nat} (hp : p < t.size) (hc : c < t.size) :
    isDesc t p c = if p ∈ t.chain c then .yes else .no := by
  unfold isDesc
  by_cases h : p = c
  · rw [if_pos h, if_pos (h ▸ t.mem_chain_self p)]
  · rw [if_neg h, if_neg (Nat.not_le.2 hp), if_neg (Nat.not_le.2 hc)]
    by_cases hl : t.le p c = true
    · rw [if_pos hl, if_pos (Tree.le_iff.1 hl)]
    · rw [if_neg hl, if_neg (fun hm => hl (Tree.le_iff.2 hm))]

theorem isDesc_yes_iff {t : Tree} {b v : Nat} (hb : b < t.size) (hv : v < t.size) :
    isDesc t b v = .yes ↔ b ∈ t.chain v :=
  ⟨isDesc_yes_mem, fun h => by rw [isDesc_of_known hb hv, if_pos h]⟩

def KnownVotes (t : Tree) (votes : List (Nat × Vote)) : Prop := ∀ kv ∈ votes, kv.2.blk < t.size

/-- The number clause is there because the first loop of `psb` stores the number found in the VOTE and the ancestor search
the header's, and `SelOK.num` wants the header's of both.  The unchanged code never checks it (known finding
c21-wrong-number-vote-counted), so reachable states have it only under a hypothesis on the messages (`hnum`). -/
def GoodVotes (c : Cfg) (votes : List (Nat × Vote)) : Prop :=
  ∀ kv ∈ votes, kv.2.blk < c.t.size ∧ c.fin ∈ c.t.chain kv.2.blk ∧ kv.2.num = c.number kv.2.blk

theorem GoodVotes.known {c : Cfg} {votes : List (Nat × Vote)} (h : GoodVotes c votes) : KnownVotes c.t votes :=
  fun kv hkv => (h kv hkv).1

theorem GoodVotes.aset {c : Cfg} {votes : List (Nat × Vote)} (h : GoodVotes c votes) (k : Nat) {v : Vote}
    (hv : v.blk < c.t.size ∧ c.fin ∈ c.t.chain v.blk ∧ v.num = c.number v.blk) : GoodVotes c (aset votes k v) :=
  fun kv hkv => (mem_aset hkv).elim (fun e => e ▸ hv) (h kv)

theorem cnt_mono {t : Tree} (hw : t.WF) {votes : List (Nat × Vote)} (hk : KnownVotes t votes) {a b : Nat}
    (hb : b < t.size) (hab : a ∈ t.chain b) : cnt t votes b ≤ cnt t votes a := by
  refine List.countP_mono_left fun kv hkv hy => ?_
  have hv := hk kv hkv
  have ha := Nat.lt_of_le_of_lt ((Tree.upChain hw).mem_le hab) hb
  rw [decide_eq_true_eq] at hy ⊢
  exact (isDesc_yes_iff ha hv).2 ((Tree.upChain hw).trans hab ((isDesc_yes_iff hb hv).1 hy))

theorem exists_vote_of_cnt_lt {t : Tree} {votes : List (Nat × Vote)} {a b : Nat}
    (h : cnt t votes b < cnt t votes a) :
    ∃ kv ∈ votes, isDesc t a kv.2.blk = .yes ∧ isDesc t b kv.2.blk ≠ .yes := by
  apply Classical.byContradiction
  intro hn
  refine Nat.not_le.2 h (List.countP_mono_left fun kv hkv hy => ?_)
  rw [decide_eq_true_eq] at hy ⊢
  exact Classical.byContradiction fun hq => hn ⟨kv, hkv, hy, hq⟩

end Gossamer.C21
