/-
C33: the step counter of the SCALE walk is linear in the bytes the walk consumes.

`minSize t`  : every successful decode at `t` consumes at least this many bytes;
`seqOk t`    : every sequence element type inside `t` has `minSize ≥ 1` (a sequence of zero-size
               elements would loop for its declared count without consuming anything);
`sA t, sB t` : the bound  steps ≤ sA t * consumed + sB t  (success)  /  sA t * |input| + sB t (failure);
               a sequence has slope `sA t + sB t`: its length comes from the input, so the constant
               of each element is charged to a byte that element consumed (`costN_seq`).
-/
import Gossamer.Model.C33
import Gossamer.Lib.C12Walk
namespace Gossamer.C33
open Gossamer Gossamer.Scale

def minSizeK : PKind → Nat
  | .uint w => w
  | .sint w => w
  | .compact _ => 1
  | .bool => 1
  | .bytes => 1

def minSize : Ty → Nat
  | .prim p => minSizeK p.kind
  | .unit => 0
  | .pair a b => minSize a + minSize b
  | .option _ => 1
  | .result _ _ => 1
  | .array n t => n * minSize t
  | .seq _ => 1
  | .enumNil => 1
  | .enumCons _ _ _ => 1

def seqOk : Ty → Bool
  | .prim _ => true
  | .unit => true
  | .pair a b => seqOk a && seqOk b
  | .option t => seqOk t
  | .result a b => seqOk a && seqOk b
  | .array _ t => seqOk t
  | .seq t => decide (1 ≤ minSize t) && seqOk t
  | .enumNil => true
  | .enumCons _ t rest => seqOk t && seqOk rest

def sB : Ty → Nat
  | .prim _ => 1
  | .unit => 1
  | .pair a b => 1 + sB a + sB b
  | .option t => 1 + sB t
  | .result a b => 1 + max (sB a) (sB b)
  | .array n t => 1 + n * sB t
  | .seq t => 1 + sB t
  | .enumNil => 1
  | .enumCons _ t rest => max (1 + sB t) (sB rest)

def sA : Ty → Nat
  | .prim _ => 0
  | .unit => 0
  | .pair a b => max (sA a) (sA b)
  | .option t => sA t
  | .result a b => max (sA a) (sA b)
  | .array _ t => sA t
  | .seq t => sA t + sB t
  | .enumNil => 0
  | .enumCons _ t rest => max (sA t) (sA rest)

theorem prim_consume (p : Prim) (bs : Bytes) (v : Val) (r : Bytes)
    (h : (C11.decPA p bs).res = some (v, r)) : r.length + minSizeK p.kind ≤ bs.length := by
  cases p <;> simp only [C11.decPA] at h <;> simp only [Prim.kind, minSizeK]
  case compact =>
    unfold C11.decCompact at h
    split at h
    · cases h
    · cases h; have := C11.decodeUintV_length_lt bs _ _ ‹_›; omega
  case big =>
    unfold C11.decBig at h
    split at h
    · cases h
    · cases h; have := C11.decBigV_length_lt bs _ _ ‹_›; omega
  case bool =>
    unfold C11.decBool at h
    split at h
    · cases h
    · split at h
      · cases h; exact Nat.le_refl _
      · split at h
        · cases h; exact Nat.le_refl _
        · cases h
  case bytes | str => exact C11.decBytes_length_lt bs v r h
  all_goals have := C12.decFixed_consume _ _ _ _ _ h; omega

theorem lin_add {s1 s2 A1 A2 c1 c2 B1 B2 : Nat} (h1 : s1 ≤ A1 * c1 + B1) (h2 : s2 ≤ A2 * c2 + B2) :
    s1 + s2 ≤ max A1 A2 * (c1 + c2) + (B1 + B2) := by
  have := Nat.mul_le_mul_right c1 (Nat.le_max_left A1 A2)
  have := Nat.mul_le_mul_right c2 (Nat.le_max_right A1 A2)
  rw [Nat.mul_add]; omega

theorem lin_mono {s A A' c c' B : Nat} (h : s ≤ A * c + B) (hA : A ≤ A') (hc : c ≤ c') :
    s ≤ A' * c' + B :=
  Nat.le_trans h (Nat.add_le_add_right (Nat.mul_le_mul hA hc) B)

/-- the invariant carried through every type former: `succ` bounds the steps of a success by the bytes
    it consumed (at least `m` of them), `total` those of any input, accepted or not, by its length.
    Stated of whole types (`steps_ok`) and of the element loops (`costN_array`, `costN_seq`), not of
    elements only. -/
structure ElemOk {α : Type} (d : Bytes → Option (α × Bytes)) (cst : Bytes → Cost) (m A B : Nat) : Prop where
  succ : ∀ bs v r, d bs = some (v, r) →
    ∃ c, bs.length = c + r.length ∧ m ≤ c ∧ (cst bs).steps ≤ A * c + B
  total : ∀ bs, (cst bs).steps ≤ A * bs.length + B

/-- for an array `n` is a constant of the type, so `n * B` may go into the constant term
    (contrast `costN_seq`) -/
theorem costN_array {d : Bytes → Option (Val × Bytes)} {cst : Bytes → Cost} {m A B : Nat}
    (E : ElemOk d cst m A B) : ∀ n : Nat, ElemOk (decN d n) (costN d cst n) (n * m) A (n * B) := by
  intro n
  induction n with
  | zero =>
    refine ⟨fun bs vs r h => ?_, fun bs => Nat.zero_le _⟩
    cases h
    exact ⟨0, by simp, by simp, Nat.zero_le _⟩
  | succ n ih =>
    rw [Nat.succ_mul, Nat.succ_mul]
    constructor
    · intro bs vs r h
      obtain ⟨v, r1, ws, hv, hws, rfl⟩ := decN_succ_some h
      obtain ⟨c1, hc1, hm1, hs1⟩ := E.succ bs v r1 hv
      obtain ⟨c2, hc2, hm2, hs2⟩ := ih.succ r1 ws r hws
      refine ⟨c1 + c2, by omega, by omega, ?_⟩
      simp only [costN, hv, Cost.add]
      rw [Nat.mul_add]; omega
    · intro bs
      simp only [costN]
      split
      · have := E.total bs; omega
      · rename_i v r1 hv
        obtain ⟨c1, hc1, _, hs1⟩ := E.succ bs v r1 hv
        have := ih.total r1
        simp only [Cost.add]
        rw [hc1, Nat.mul_add]; omega

theorem costN_seq {d : Bytes → Option (Val × Bytes)} {cst : Bytes → Cost} {m A B : Nat}
    (E : ElemOk d cst m A B) (hm : 1 ≤ m) : ∀ n : Nat, ElemOk (decN d n) (costN d cst n) 0 (A + B) B := by
  intro n
  induction n with
  | zero =>
    refine ⟨fun bs vs r h => ?_, fun bs => Nat.zero_le _⟩
    cases h
    exact ⟨0, by simp, Nat.le_refl _, Nat.zero_le _⟩
  | succ n ih =>
    constructor
    · intro bs vs r h
      obtain ⟨v, r1, ws, hv, hws, rfl⟩ := decN_succ_some h
      obtain ⟨c1, hc1, hm1, hs1⟩ := E.succ bs v r1 hv
      obtain ⟨c2, hc2, _, hs2⟩ := ih.succ r1 ws r hws
      refine ⟨c1 + c2, by omega, Nat.zero_le _, ?_⟩
      -- an element pays for its own constant with the byte it consumed
      have hB : B ≤ B * c1 := Nat.le_mul_of_pos_right B (by omega)
      simp only [costN, hv, Cost.add]
      rw [Nat.mul_add, Nat.add_mul A B c1]; omega
    · intro bs
      simp only [costN]
      split
      · have := E.total bs
        rw [Nat.add_mul]; omega
      · rename_i v r1 hv
        obtain ⟨c1, hc1, hm1, hs1⟩ := E.succ bs v r1 hv
        have := ih.total r1
        have hB : B ≤ B * c1 := Nat.le_mul_of_pos_right B (by omega)
        simp only [Cost.add]
        rw [hc1, Nat.mul_add, Nat.add_mul A B c1]; omega

section
variable {a b t rest : Ty} {m ma mb A Aa Ab B Ba Bb : Nat}

theorem steps_prim (p : Prim) :
    ElemOk (Scale.decode C11.codec (.prim p)) (cost (.prim p)) (minSizeK p.kind) 0 1 where
  succ bs v r h := by
    have := prim_consume p bs v r h
    exact ⟨bs.length - r.length, by omega, by omega, by simp [cost]⟩
  total bs := by simp [cost]

theorem steps_unit : ElemOk (Scale.decode C11.codec .unit) (cost .unit) 0 0 1 where
  succ bs v r h := by cases h; exact ⟨0, by simp, Nat.le_refl _, by simp [cost]⟩
  total bs := by simp [cost]

theorem steps_pair (Ea : ElemOk (Scale.decode C11.codec a) (cost a) ma Aa Ba)
    (Eb : ElemOk (Scale.decode C11.codec b) (cost b) mb Ab Bb) :
    ElemOk (Scale.decode C11.codec (.pair a b)) (cost (.pair a b)) (ma + mb) (max Aa Ab) (1 + Ba + Bb) where
  succ bs v r h := by
    obtain ⟨x, r1, y, ha, hb, rfl⟩ := decode_pair_some h
    obtain ⟨c1, hc1, hm1, hs1⟩ := Ea.succ bs x r1 ha
    obtain ⟨c2, hc2, hm2, hs2⟩ := Eb.succ r1 y r hb
    refine ⟨c1 + c2, by omega, by omega, ?_⟩
    have := lin_add hs1 hs2
    simp only [cost, ha, Cost.add]; omega
  total bs := by
    simp only [cost]
    split
    · have := lin_mono (Ea.total bs) (Nat.le_max_left Aa Ab) (Nat.le_refl _)
      simp only [Cost.add]; omega
    · rename_i x r1 ha
      obtain ⟨c1, hc1, _, hs1⟩ := Ea.succ bs x r1 ha
      have := lin_add hs1 (Eb.total r1)
      simp only [Cost.add]
      rw [hc1]; omega

/-- one tag byte, then possibly a payload of type `t` -/
theorem steps_tagged (E : ElemOk (Scale.decode C11.codec t) (cost t) m A B) {A' B' : Nat} (hA : A ≤ A')
    (hB : 1 + B ≤ B') (tag : UInt8) (r0 : Bytes) :
    (∀ x r, Scale.decode C11.codec t r0 = some (x, r) →
      ∃ c, (tag :: r0).length = c + r.length ∧ 1 ≤ c ∧ (cost t r0).steps + 1 ≤ A' * c + B') ∧
    (cost t r0).steps + 1 ≤ A' * (tag :: r0).length + B' := by
  constructor
  · intro x r hd
    obtain ⟨c, hc, _, hst⟩ := E.succ r0 x r hd
    have := lin_mono hst hA (Nat.le_add_left c 1)
    exact ⟨1 + c, by rw [List.length_cons]; omega, by omega, by omega⟩
  · have := lin_mono (E.total r0) hA (Nat.le_add_right r0.length 1)
    rw [List.length_cons]; omega

theorem steps_option (E : ElemOk (Scale.decode C11.codec t) (cost t) m A B) :
    ElemOk (Scale.decode C11.codec (.option t)) (cost (.option t)) 1 A (1 + B) where
  succ bs v r h := by
    obtain ⟨tag, r0, rfl, ⟨rfl, rfl, rfl⟩ | ⟨rfl, x, hd, rfl⟩⟩ := decode_option_some h
    · exact ⟨1, by rw [List.length_cons]; omega, Nat.le_refl _, by simp [cost]; omega⟩
    · simpa [cost, Cost.add] using (steps_tagged E (Nat.le_refl A) (Nat.le_refl _) 1 r0).1 x r hd
  total bs := by
    cases bs with
    | nil => simp [cost]
    | cons tag r0 =>
      simp only [cost]
      split
      · exact (steps_tagged E (Nat.le_refl A) (Nat.le_refl _) tag r0).2
      · simp only; omega

theorem steps_result (Ea : ElemOk (Scale.decode C11.codec a) (cost a) ma Aa Ba)
    (Eb : ElemOk (Scale.decode C11.codec b) (cost b) mb Ab Bb) :
    ElemOk (Scale.decode C11.codec (.result a b)) (cost (.result a b)) 1 (max Aa Ab) (1 + max Ba Bb) := by
  have ta := steps_tagged Ea (Nat.le_max_left Aa Ab) (Nat.add_le_add_left (Nat.le_max_left Ba Bb) 1)
  have tb := steps_tagged Eb (Nat.le_max_right Aa Ab) (Nat.add_le_add_left (Nat.le_max_right Ba Bb) 1)
  constructor
  · intro bs v r h
    obtain ⟨tag, r0, rfl, ⟨rfl, x, hd, rfl⟩ | ⟨rfl, x, hd, rfl⟩⟩ := decode_result_some h
    · obtain ⟨c, hc, h1, hst⟩ := (ta 0 r0).1 x r hd
      exact ⟨c, hc, h1, by simp only [cost, if_true, Cost.add]; exact hst⟩
    · obtain ⟨c, hc, h1, hst⟩ := (tb 1 r0).1 x r hd
      exact ⟨c, hc, h1, by simp [cost, Cost.add]; exact hst⟩
  · intro bs
    cases bs with
    | nil => simp [cost]
    | cons tag r0 =>
      simp only [cost]
      split
      · exact (ta tag r0).2
      · split
        · exact (tb tag r0).2
        · simp only; omega

theorem steps_array (n : Nat) (E : ElemOk (Scale.decode C11.codec t) (cost t) m A B) :
    ElemOk (Scale.decode C11.codec (.array n t)) (cost (.array n t)) (n * m) A (1 + n * B) where
  succ bs v r h := by
    obtain ⟨vs, hd, rfl⟩ := decode_array_some h
    obtain ⟨c, hc, hm, hst⟩ := (costN_array E n).succ bs vs r hd
    exact ⟨c, hc, hm, by simp only [cost, Cost.add]; omega⟩
  total bs := by
    have := (costN_array E n).total bs
    simp only [cost, Cost.add]; omega

theorem steps_seq (E : ElemOk (Scale.decode C11.codec t) (cost t) m A B) (hm : 1 ≤ m) :
    ElemOk (Scale.decode C11.codec (.seq t)) (cost (.seq t)) 1 (A + B) (1 + B) where
  succ bs v r h := by
    obtain ⟨n, r0, vs, hl, hd, rfl⟩ := decode_seq_some h
    have hlt := C11.decodeUintV_length_lt bs n r0 hl
    obtain ⟨c, hc, _, hst⟩ := (costN_seq E hm n).succ r0 vs r hd
    refine ⟨bs.length - r.length, by omega, by omega, ?_⟩
    have := lin_mono hst (Nat.le_refl _) (show c ≤ bs.length - r.length by omega)
    simp only [cost, show C11.decodeUintV bs = some (n, r0) from hl, Cost.add]; omega
  total bs := by
    simp only [cost]
    split
    · simp only; omega
    · rename_i n r0 hl
      have hlt := C11.decodeUintV_length_lt bs n r0 hl
      have := lin_mono ((costN_seq E hm n).total r0) (Nat.le_refl _) (Nat.le_of_lt hlt)
      simp only [Cost.add]; omega

theorem steps_enumNil : ElemOk (Scale.decode C11.codec .enumNil) (cost .enumNil) 1 0 1 where
  succ bs v r h := by cases h
  total bs := by simp [cost]

theorem steps_enumCons (i : Nat) (E : ElemOk (Scale.decode C11.codec t) (cost t) m A B)
    (Er : ElemOk (Scale.decode C11.codec rest) (cost rest) 1 Ab Bb) :
    ElemOk (Scale.decode C11.codec (.enumCons i t rest)) (cost (.enumCons i t rest)) 1
      (max A Ab) (max (1 + B) Bb) := by
  have tg := steps_tagged E (Nat.le_max_left A Ab) (Nat.le_max_left (1 + B) Bb)
  have hB := Nat.le_max_right (1 + B) Bb
  constructor
  · intro bs v r h
    obtain ⟨tag, r0, rfl, ⟨ht, x, hd, rfl⟩ | ⟨ht, hd⟩⟩ := decode_enumCons_some h
    · obtain ⟨c, hc, h1, hst⟩ := (tg tag r0).1 x r hd
      exact ⟨c, hc, h1, by simp only [cost, ht, if_true, Cost.add]; exact hst⟩
    · obtain ⟨c, hc, h1, hst⟩ := Er.succ _ v r hd
      have := lin_mono hst (Nat.le_max_right A Ab) (Nat.le_refl c)
      exact ⟨c, hc, h1, by simp only [cost, ht, if_false]; omega⟩
  · intro bs
    cases bs with
    | nil => have := Nat.le_max_left (1 + B) Bb; simp only [cost]; omega
    | cons tag r0 =>
      simp only [cost]
      split
      · exact (tg tag r0).2
      · have := lin_mono (Er.total (tag :: r0)) (Nat.le_max_right A Ab) (Nat.le_refl _)
        omega

end

theorem sB_pos (t : Ty) : 1 ≤ sB t := by
  cases t <;> simp only [sB] <;> omega

theorem minSize_enum {t : Ty} (h : t.isEnum = true) : minSize t = 1 := by
  cases t <;> simp [Ty.isEnum] at h <;> rfl

/-- the `unmarshal` calls of the SCALE walk at a well-formed type without zero-size sequence
    elements are linear in the bytes consumed, with the slope and offset computed from the type -/
theorem steps_ok (t : Ty) : t.wf = true → seqOk t = true →
    ElemOk (Scale.decode C11.codec t) (cost t) (minSize t) (sA t) (sB t) := by
  induction t with
  | prim p => intro _ _; exact steps_prim p
  | unit => intro _ _; exact steps_unit
  | pair a b iha ihb =>
    intro hwf hs
    simp only [Ty.wf, seqOk, Bool.and_eq_true] at hwf hs
    exact steps_pair (iha hwf.1 hs.1) (ihb hwf.2 hs.2)
  | option t ih => intro hwf hs; exact steps_option (ih hwf hs)
  | result a b iha ihb =>
    intro hwf hs
    simp only [Ty.wf, seqOk, Bool.and_eq_true] at hwf hs
    exact steps_result (iha hwf.1 hs.1) (ihb hwf.2 hs.2)
  | array n t ih => intro hwf hs; exact steps_array n (ih hwf hs)
  | seq t ih =>
    intro hwf hs
    simp only [seqOk, Bool.and_eq_true, decide_eq_true_eq] at hs
    exact steps_seq (ih hwf hs.2) hs.1
  | enumNil => intro _ _; exact steps_enumNil
  | enumCons i t rest iht ihr =>
    intro hwf hs
    simp only [Ty.wf, seqOk, Bool.and_eq_true] at hwf hs
    have Er := ihr hwf.2 hs.2
    rw [minSize_enum hwf.1.2] at Er
    exact steps_enumCons i (iht hwf.1.1 hs.1) Er

theorem steps_le_input (t : Ty) (hwf : t.wf = true) (hs : seqOk t = true) (bs : Bytes) :
    (cost t bs).steps ≤ sA t * bs.length + sB t :=
  (steps_ok t hwf hs).total bs

theorem sum_le_max_mul {a1 a2 q1 q2 s1 s2 : Nat} (h1 : a1 ≤ q1 * s1) (h2 : a2 ≤ q2 * s2) :
    a1 + a2 ≤ max q1 q2 * (s1 + s2) :=
  lin_add (B1 := 0) (B2 := 0) h1 h2

theorem costN_alloc_le {f : Bytes → C12.DRes} {cst : Bytes → Cost}
    (h : ∀ bs, (cst bs).alloc ≤ (f bs).req * (cst bs).steps) :
    ∀ (n : Nat) (bs : Bytes), (costN (fun b => (f b).res) cst n bs).alloc ≤
      (C12.decNA f n bs).req * (costN (fun b => (f b).res) cst n bs).steps := by
  intro n
  induction n with
  | zero => intro bs; exact Nat.zero_le _
  | succ n ih =>
    intro bs
    simp only [costN, C12.decNA]
    rcases (f bs).res with _ | ⟨v, r⟩
    · exact h bs
    · exact sum_le_max_mul (h bs) (ih r)

/-- `cost` adds up the read buffers of which `C12.decodeA` keeps the largest, so the buffer bounds of
    Lib/C12Walk carry over to the allocation counter -/
theorem alloc_le_req_mul_steps (t : Ty) :
    ∀ bs, (cost t bs).alloc ≤ (C12.decodeA t bs).req * (cost t bs).steps := by
  -- a tag byte in front: one more step, one more byte
  have one : ∀ {a q s : Nat}, a ≤ q * s → a + 1 ≤ max 1 q * (s + 1) := fun h => by
    have := sum_le_max_mul h (Nat.le_of_eq (Nat.mul_one 1).symm); rwa [Nat.max_comm]
  induction t with
  | prim p => intro bs; exact Nat.le_of_eq (Nat.mul_one _).symm
  | unit => intro bs; exact Nat.zero_le _
  | pair a b iha ihb =>
    intro bs
    simp only [cost, C12.decodeA, ← C12.C12_decodeA_res]
    rcases (C12.decodeA a bs).res with _ | ⟨x, r⟩
    · exact Nat.le_trans (iha bs) (Nat.mul_le_mul_left _ (Nat.le_succ _))
    · simp only [Cost.add, Nat.add_zero]
      exact Nat.le_trans (sum_le_max_mul (iha bs) (ihb r)) (Nat.mul_le_mul_left _ (Nat.le_succ _))
  | option t ih =>
    intro bs
    rcases bs with _ | ⟨tag, r⟩
    · exact Nat.le_refl _
    · simp only [cost, C12.decodeA]
      by_cases h0 : tag = 0
      · subst h0; exact Nat.le_refl _
      · rw [if_neg h0]; split
        · exact one (ih r)
        · exact Nat.le_refl _
  | result a b iha ihb =>
    intro bs
    rcases bs with _ | ⟨tag, r⟩
    · exact Nat.le_refl _
    · simp only [cost, C12.decodeA]
      split
      · exact one (iha r)
      · split
        · exact one (ihb r)
        · exact Nat.le_refl _
  | array n t ih =>
    intro bs
    have := costN_alloc_le ih n bs
    simp only [cost, C12.decodeA, Cost.add, ← funext (C12.C12_decodeA_res t)]
    exact Nat.le_trans this (Nat.mul_le_mul_left _ (Nat.le_succ _))
  | seq t ih =>
    intro bs
    simp only [cost, C12.decodeA]
    rcases C11.decodeUintV bs with _ | ⟨n, r⟩
    · exact Nat.le_of_eq (Nat.mul_one _).symm
    · have := costN_alloc_le ih n r
      simp only [Cost.add, ← funext (C12.C12_decodeA_res t)]
      rw [Nat.add_comm, Nat.add_comm _ 1]
      exact sum_le_max_mul (Nat.le_of_eq (Nat.mul_one _).symm) this
  | enumNil => intro bs; exact Nat.le_refl _
  | enumCons i t rest iht ihr =>
    intro bs
    rcases bs with _ | ⟨tag, r⟩
    · exact Nat.le_refl _
    · simp only [cost, C12.decodeA]
      split
      · exact one (iht r)
      · exact ihr (tag :: r)

/-- 67: the largest buffer of a walk without byte strings, the big-integer payload
    (`C12.decodeA_req_le`) -/
theorem alloc_le_steps (t : Ty) : C12.noBytes t = true →
    ∀ bs, (cost t bs).alloc ≤ 67 * (cost t bs).steps :=
  fun h bs => Nat.le_trans (alloc_le_req_mul_steps t bs)
    (Nat.mul_le_mul_right _ (C12.decodeA_req_le t h bs))

end Gossamer.C33
