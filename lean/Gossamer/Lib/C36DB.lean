/-
C36, database level: the invariant "every referenced key was written before its referrer" (`DBInv`; a database
satisfying it can be restarted: `DBInv.good`), the notion of a SAFE write (one that keeps the invariant) and of a
safe log segment, what safe writes preserve (`Keeps`), and the fact that every prefix of a safe segment replayed
on a database satisfying the invariant satisfies it again (`DBInv.take`).
-/
import Gossamer.Model.C36
import Gossamer.Lib.AList
namespace Gossamer.C36

/-- what the property demands of a restart: Service.Start succeeds with a finalised head whose header, body and
    state are readable, the finalised header of round 0 / set 0 is readable, and the current set id, its
    authorities, its activation block and the latest round are present -/
def Good (db : DB) : Prop :=
  ∃ hd r s cur a c lr, restart db = .ok hd r s true true (some cur) (some a) (some c) (some lr)

/-- block `h` is fully stored: header, body and the state trie of the header's state root -/
def HdrOK (db : DB) (h : Nat) : Prop :=
  ∃ hd, db.hdr h = some hd ∧ db.node hd.root = true ∧ db.blb h = true

/-- set id of the highest finalised round (0 when there is none) -/
def setOf (db : DB) : Nat :=
  match db.hrs with
  | some (_, s) => s
  | none => 0

/-- an announced next-epoch datum is not lost: it is still on disk (NewEpochState restores it) or the epoch
    definition of the same or a later epoch has been persisted -/
def NedOK (db : DB) (e h : Nat) : Prop := db.ned e h = true ∨ ∃ e', e ≤ e' ∧ db.einfo e' = true
def NcdOK (db : DB) (e h : Nat) : Prop := db.ncd e h = true ∨ ∃ e', e ≤ e' ∧ db.cinfo e' = true

/-- every reference can be followed -/
structure DBInv (db : DB) : Prop where
  hsh0 : ∃ g, db.hsh 0 = some g
  skipto : db.skipto = true
  hrs : ∃ r s h, db.hrs = some (r, s) ∧ db.fin r s = some h
  fin : ∀ r s h, db.fin r s = some h → HdrOK db h
  fin00 : ∃ h, db.fin 0 0 = some h
  cur : ∃ cs a c, db.curSet = some cs ∧ db.auth cs = some a ∧ db.change cs = some c
  lfr : ∃ r, db.lfr = some r

theorem DBInv.restart_ok {db : DB} (h : DBInv db) {r s x : Nat} {hd : Hdr} (hrs : db.hrs = some (r, s))
    (hfin : db.fin r s = some x) (hhd : db.hdr x = some hd) :
    ∃ cur a c lr, C36.restart db = .ok hd r s true true (some cur) (some a) (some c) (some lr) := by
  obtain ⟨g, hg⟩ := h.hsh0
  obtain ⟨hd', hhd', hnode, hblb⟩ := h.fin r s x hfin
  obtain rfl : hd' = hd := Option.some.inj (hhd'.symm.trans hhd)
  obtain ⟨h0, hf0⟩ := h.fin00
  obtain ⟨hd0, hhd0, _, _⟩ := h.fin 0 0 h0 hf0
  obtain ⟨cs, a, c, hcs, ha, hc⟩ := h.cur
  obtain ⟨lr, hlr⟩ := h.lfr
  refine ⟨cs, a, c, lr, ?_⟩
  simp [C36.restart, hg, hrs, hfin, hhd, hnode, h.skipto, hblb, hf0, hhd0, hcs, ha, hc, hlr]

theorem DBInv.good {db : DB} (h : DBInv db) : Good db :=
  let ⟨r, s, x, hrs, hfin⟩ := h.hrs
  let ⟨hd, hhd, _, _⟩ := h.fin r s x hfin
  let ⟨cur, a, c, lr, e⟩ := h.restart_ok hrs hfin hhd
  ⟨hd, r, s, cur, a, c, lr, e⟩

/-- a write that keeps the invariant: what the written key refers to is stored already; the highest round/set never
    moves to a lower set id; an announced next-epoch datum / configuration is deleted only after an epoch /
    configuration definition of the same or a later epoch -/
def SafeW (db : DB) : W → Prop
  | .hdr hd => db.node hd.root = true
  | .fin _ _ h => HdrOK db h
  | .hrs r s => (∃ h, db.fin r s = some h) ∧ setOf db ≤ s
  | .curSet s => (∃ a, db.auth s = some a) ∧ (∃ c, db.change s = some c)
  | .delNed e _ => ∃ e', e ≤ e' ∧ db.einfo e' = true
  | .delNcd e _ => ∃ e', e ≤ e' ∧ db.cinfo e' = true
  | _ => True

/-- a batch is asked to be safe write by write in its own order: more than its atomicity needs, and enough here,
    since the batches of the model hold `hsh`, `node` or `del*` writes only -/
def SafeWs (db : DB) : List W → Prop
  | [] => True
  | w :: ws => SafeW db w ∧ SafeWs (db.write w) ws

def SafeE (db : DB) : Entry → Prop
  | .put w => SafeW db w
  | .batch ws => SafeWs db ws

def SafeSeg (db : DB) : List Entry → Prop
  | [] => True
  | e :: es => SafeE db e ∧ SafeSeg (db.apply e) es

/-- what a safe write / entry / segment preserves.  `node`, `jcp`, `pv`, `pc` hold of every write (flags are only
    set); they are here so that `keeps_replay` carries them along a segment; the others need `SafeW`. -/
structure Keeps (db db' : DB) : Prop where
  node : ∀ x, db.node x = true → db'.node x = true
  hdrok : ∀ h, HdrOK db h → HdrOK db' h
  inv : DBInv db → DBInv db'
  set : setOf db ≤ setOf db'
  nedok : ∀ e h, NedOK db e h → NedOK db' e h
  ncdok : ∀ e h, NcdOK db e h → NcdOK db' e h
  jcp : ∀ h, db.jcp h = true → db'.jcp h = true
  pv : ∀ r s, db.pv r s = true → db'.pv r s = true
  pc : ∀ r s, db.pc r s = true → db'.pc r s = true

theorem Keeps.refl (db : DB) : Keeps db db :=
  ⟨fun _ h => h, fun _ h => h, fun h => h, Nat.le_refl _, fun _ _ h => h, fun _ _ h => h, fun _ h => h,
   fun _ _ h => h, fun _ _ h => h⟩

theorem Keeps.trans {a b c : DB} (h1 : Keeps a b) (h2 : Keeps b c) : Keeps a c :=
  ⟨fun x h => h2.node x (h1.node x h), fun x h => h2.hdrok x (h1.hdrok x h), fun h => h2.inv (h1.inv h),
   Nat.le_trans h1.set h2.set, fun e x h => h2.nedok e x (h1.nedok e x h), fun e x h => h2.ncdok e x (h1.ncdok e x h),
   fun x h => h2.jcp x (h1.jcp x h), fun r s h => h2.pv r s (h1.pv r s h), fun r s h => h2.pc r s (h1.pc r s h)⟩

/-! Every lemma about one write is a case distinction on the key class written.  A write leaves the fields
of the other key classes as they are by definitional unfolding, so those cases are closed by the unchanged
hypothesis itself; only the writes to a key class the statement reads need an argument. -/

theorem ite_true_of {c : Prop} [Decidable c] {b : Bool} (h : b = true) : (if c then true else b) = true := by
  split
  · rfl
  · exact h

theorem ite_some {α : Type} {c : Prop} [Decidable c] {x : α} {o : Option α} (h : ∃ y, o = some y) :
    ∃ y, (if c then some x else o) = some y := by
  split
  · exact ⟨x, rfl⟩
  · exact h

theorem node_write {db : DB} (w : W) {x : Nat} (h : db.node x = true) : (db.write w).node x = true := by
  cases w <;> first | exact h | exact ite_true_of h

theorem hdrok_write {db : DB} {w : W} (hs : SafeW db w) {h : Nat} (hk : HdrOK db h) :
    HdrOK (db.write w) h := by
  obtain ⟨hd, h1, h2, h3⟩ := hk
  cases w with
  | hdr x =>
    by_cases hx : h = x.id
    · exact ⟨x, if_pos hx, hs, h3⟩
    · exact ⟨hd, (if_neg hx).trans h1, h2, h3⟩
  | node st => exact ⟨hd, h1, ite_true_of h2, h3⟩
  | blb i => exact ⟨hd, h1, h2, ite_true_of h3⟩
  | _ => exact ⟨hd, h1, h2, h3⟩

theorem setOf_write {db : DB} {w : W} (hs : SafeW db w) : setOf db ≤ setOf (db.write w) := by
  cases w with
  | hrs r s => exact hs.2
  | _ => exact Nat.le_refl _

theorem inv_write {db : DB} {w : W} (hs : SafeW db w) (h : DBInv db) : DBInv (db.write w) := by
  have hfin : ∀ r s x, db.fin r s = some x → HdrOK (db.write w) x :=
    fun r s x hx => hdrok_write hs (h.fin r s x hx)
  obtain ⟨r, s, hh, hrs, hf⟩ := h.hrs
  obtain ⟨cs, a, c, hcs, ha, hc⟩ := h.cur
  cases w with
  | hsh n i => exact ⟨ite_some h.hsh0, h.skipto, h.hrs, hfin, h.fin00, h.cur, h.lfr⟩
  | skipto => exact ⟨h.hsh0, rfl, h.hrs, hfin, h.fin00, h.cur, h.lfr⟩
  | lfr r => exact ⟨h.hsh0, h.skipto, h.hrs, hfin, h.fin00, h.cur, ⟨r, rfl⟩⟩
  | fin r' s' y =>
    obtain ⟨hh', hf'⟩ := ite_some (c := r = r' ∧ s = s') (x := y) ⟨hh, hf⟩
    refine ⟨h.hsh0, h.skipto, ⟨r, s, hh', hrs, hf'⟩, ?_, ite_some h.fin00, h.cur, h.lfr⟩
    intro r s x hx
    by_cases hc : r = r' ∧ s = s'
    · -- the new key points at `y`, which is fully stored
      cases (if_pos hc).symm.trans hx
      exact hdrok_write hs hs
    · exact hfin r s x ((if_neg hc).symm.trans hx)
  | hrs r' s' => exact ⟨h.hsh0, h.skipto, ⟨r', s', hs.1.choose, rfl, hs.1.choose_spec⟩, hfin, h.fin00, h.cur, h.lfr⟩
  | curSet s' =>
    obtain ⟨⟨a', ha'⟩, ⟨c', hc'⟩⟩ := hs
    exact ⟨h.hsh0, h.skipto, h.hrs, hfin, h.fin00, ⟨s', a', c', rfl, ha', hc'⟩, h.lfr⟩
  | auth s' t =>
    obtain ⟨a', ha'⟩ := ite_some (c := cs = s') (x := t) ⟨a, ha⟩
    exact ⟨h.hsh0, h.skipto, h.hrs, hfin, h.fin00, ⟨cs, a', c, hcs, ha', hc⟩, h.lfr⟩
  | change s' m =>
    obtain ⟨c', hc'⟩ := ite_some (c := cs = s') (x := m) ⟨c, hc⟩
    exact ⟨h.hsh0, h.skipto, h.hrs, hfin, h.fin00, ⟨cs, a, c', hcs, ha, hc'⟩, h.lfr⟩
  | _ => exact ⟨h.hsh0, h.skipto, h.hrs, hfin, h.fin00, h.cur, h.lfr⟩

theorem einfo_write {db : DB} (w : W) {e : Nat} (h : db.einfo e = true) : (db.write w).einfo e = true := by
  cases w <;> first | exact h | exact ite_true_of h

theorem cinfo_write {db : DB} (w : W) {e : Nat} (h : db.cinfo e = true) : (db.write w).cinfo e = true := by
  cases w <;> first | exact h | exact ite_true_of h

theorem nedok_write {db : DB} {w : W} (hs : SafeW db w) {e h : Nat} (hk : NedOK db e h) :
    NedOK (db.write w) e h := by
  rcases hk with hk | ⟨e', he, hk⟩
  · cases w with
    | delNed e2 h2 =>
      by_cases hc : e = e2 ∧ h = h2
      · obtain ⟨e', he', hk'⟩ := hs
        exact Or.inr ⟨e', hc.1 ▸ he', hk'⟩
      · exact Or.inl ((if_neg hc).trans hk)
    | ned e2 h2 => exact Or.inl (ite_true_of hk)
    | _ => exact Or.inl hk
  · exact Or.inr ⟨e', he, einfo_write w hk⟩

theorem ncdok_write {db : DB} {w : W} (hs : SafeW db w) {e h : Nat} (hk : NcdOK db e h) :
    NcdOK (db.write w) e h := by
  rcases hk with hk | ⟨e', he, hk⟩
  · cases w with
    | delNcd e2 h2 =>
      by_cases hc : e = e2 ∧ h = h2
      · obtain ⟨e', he', hk'⟩ := hs
        exact Or.inr ⟨e', hc.1 ▸ he', hk'⟩
      · exact Or.inl ((if_neg hc).trans hk)
    | ncd e2 h2 => exact Or.inl (ite_true_of hk)
    | _ => exact Or.inl hk
  · exact Or.inr ⟨e', he, cinfo_write w hk⟩

theorem jcp_write {db : DB} (w : W) {h : Nat} (hk : db.jcp h = true) : (db.write w).jcp h = true := by
  cases w <;> first | exact hk | exact ite_true_of hk

theorem pv_write {db : DB} (w : W) {r s : Nat} (hk : db.pv r s = true) : (db.write w).pv r s = true := by
  cases w <;> first | exact hk | exact ite_true_of hk

theorem pc_write {db : DB} (w : W) {r s : Nat} (hk : db.pc r s = true) : (db.write w).pc r s = true := by
  cases w <;> first | exact hk | exact ite_true_of hk

theorem keeps_write {db : DB} {w : W} (hs : SafeW db w) : Keeps db (db.write w) :=
  ⟨fun _ h => node_write w h, fun _ h => hdrok_write hs h, inv_write hs, setOf_write hs,
   fun _ _ h => nedok_write hs h, fun _ _ h => ncdok_write hs h, fun _ h => jcp_write w h,
   fun _ _ h => pv_write w h, fun _ _ h => pc_write w h⟩

theorem keeps_writes : ∀ {ws : List W} {db : DB}, SafeWs db ws → Keeps db (ws.foldl DB.write db)
  | [], db, _ => Keeps.refl db
  | _ :: ws, _, ⟨h1, h2⟩ => (keeps_write h1).trans (keeps_writes (ws := ws) h2)

theorem keeps_apply {db : DB} {e : Entry} (hs : SafeE db e) : Keeps db (db.apply e) := by
  cases e with
  | put w => exact keeps_write hs
  | batch ws => exact keeps_writes hs

theorem keeps_replay : ∀ {l : List Entry} {db : DB}, SafeSeg db l → Keeps db (replay db l)
  | [], db, _ => Keeps.refl db
  | _ :: es, _, ⟨h1, h2⟩ => (keeps_apply h1).trans (keeps_replay (l := es) h2)

theorem replay_append (db : DB) (a b : List Entry) : replay db (a ++ b) = replay (replay db a) b := by
  simp [replay, List.foldl_append]

theorem SafeSeg.append_iff : ∀ {a : List Entry} {db : DB} {b : List Entry},
    SafeSeg db (a ++ b) ↔ SafeSeg db a ∧ SafeSeg (replay db a) b
  | [], _, _ => ⟨fun h => ⟨trivial, h⟩, fun h => h.2⟩
  | _ :: es, _, _ => (and_congr_right fun _ => SafeSeg.append_iff (a := es)).trans and_assoc.symm

theorem SafeSeg.append : ∀ {a : List Entry} {db : DB} {b : List Entry},
    SafeSeg db a → SafeSeg (replay db a) b → SafeSeg db (a ++ b) :=
  fun h1 h2 => SafeSeg.append_iff.mpr ⟨h1, h2⟩

theorem SafeSeg.drop {a b : List Entry} {db : DB} (h : SafeSeg db (a ++ b)) : SafeSeg (replay db a) b :=
  (SafeSeg.append_iff.mp h).2

theorem SafeSeg.take {l : List Entry} {db : DB} (k : Nat) (h : SafeSeg db l) : SafeSeg db (l.take k) :=
  (SafeSeg.append_iff.mp ((List.take_append_drop k l).symm ▸ h)).1

theorem DBInv.take {db : DB} {l : List Entry} (h : DBInv db) (hs : SafeSeg db l) (k : Nat) :
    DBInv (replay db (l.take k)) :=
  (keeps_replay (hs.take k)).inv h

/-- for the `hsh` puts of handleFinalisedBlock and the storage nodes of a trie -/
theorem safeWs_of_forall : ∀ {ws : List W} (db : DB), (∀ w ∈ ws, ∀ db, SafeW db w) → SafeWs db ws
  | [], _, _ => trivial
  | w :: _, db, h =>
    ⟨h w (List.mem_cons_self ..) db, safeWs_of_forall _ fun x hx => h x (List.mem_cons_of_mem _ hx)⟩

theorem apply_pres {P : DB → Prop} (hP : ∀ db w, P db → P (db.write w)) {db : DB} (e : Entry) (h : P db) :
    P (db.apply e) := by
  cases e with
  | put w => exact hP db w h
  | batch ws => exact foldl_pres P DB.write hP ws h

/-- for the batches that delete the announcements of an epoch once a definition is persisted (`P`) -/
theorem safeWs_map {P : DB → Prop} (hP : ∀ db w, P db → P (db.write w)) (f : Nat → W)
    (hf : ∀ db h, P db → SafeW db (f h)) : ∀ (hs : List Nat) (db : DB), P db → SafeWs db (hs.map f)
  | [], _, _ => trivial
  | h :: hs, db, hp => ⟨hf db h hp, safeWs_map hP f hf hs _ (hP db (f h) hp)⟩

theorem base_inv : DBInv base := by
  refine ⟨⟨0, by decide⟩, by decide, ⟨0, 0, 0, by decide, by decide⟩, ?_, ⟨0, by decide⟩,
    ⟨0, 0, 0, by decide, by decide, by decide⟩, ⟨0, by decide⟩⟩
  intro r s h hf
  have hf' : (if r = 0 ∧ s = 0 then some 0 else none) = some h := hf
  by_cases hc : r = 0 ∧ s = 0
  · have : h = 0 := by simpa [hc] using hf'.symm
    subst this
    exact ⟨genesisHdr, by decide, by decide, by decide⟩
  · simp [hc] at hf'

end Gossamer.C36
