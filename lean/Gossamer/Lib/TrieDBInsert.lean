/-
C06: `inspect` and the insert inspector on a handle tree that is consistent with the committed trie
`T0` (persisted, cached and new nodes mixed): `insertAt` computes the image of the in-memory trie's
`Trie.insert` (TrieMem), keeps consistency, and schedules for deletion only rows of positions the new
tree no longer refers to.
-/
import Gossamer.Lib.TrieDBLoad
namespace Gossamer.C06
open Gossamer Gossamer.Trie

/-- the stored node with the hash `h` kept (`CachedStoredNode{node, hash}`) -/
def Hd.withCache (h : Bytes) : Hd → Hd
  | .empty _ => .empty (some h)
  | .leaf _ pk v => .leaf (some h) pk v
  | .branch _ pk v cs => .branch (some h) pk v cs
  | x => x

theorem afterInspect_none {old : Hd} (h : old.cached = none) (pre : Nibs) (d : Death) (ch : Bool)
    (n : Hd) : afterInspect old pre d ch n = (n.asNew, ch, d) := by
  simp [afterInspect, h]

theorem afterInspect_changed {old : Hd} {hh : Bytes} (h : old.cached = some hh) (pre : Nibs)
    (d : Death) (n : Hd) : afterInspect old pre d true n = (n.asNew, true, rowKey pre hh :: d) := by
  simp [afterInspect, h]

theorem afterInspect_same {old : Hd} {hh : Bytes} (h : old.cached = some hh) (pre : Nibs)
    (d : Death) (n : Hd) : afterInspect old pre d false n = (n.withCache hh, false, d) := by
  simp only [afterInspect, h, Bool.false_eq_true, if_false]
  cases n <;> rfl

/-- the position whose row `replaceOldValue` schedules: that of a value stored by hash -/
def refNews (fk : Nibs) (bv : Option DVal) : List Pos := if optIsRef bv then [.val fk] else []

theorem replaceOldValue_spec (ver : Ver) (H : Bytes → Bytes) (T0 : Trie) (d : Death) (fk : Nibs)
    (bv : Option DVal) (hv : ∀ dv, bv = some dv → OkV ver H T0 fk dv) :
    replaceOldValue d fk bv = (refNews fk bv).map (rowOf ver H T0) ++ d := by
  cases bv with
  | none => rfl
  | some dv =>
    cases dv with
    | inl x => rfl
    | fresh x => rfl
    | ref h =>
      obtain ⟨v, hl, _, rfl⟩ := hv _ rfl
      simp [replaceOldValue, refNews, optIsRef, DVal.isRef, rowOf, hl]

theorem validPos_of_ref {ver : Ver} {H : Bytes → Bytes} {T0 : Trie} {fk : Nibs} {dv : DVal}
    (hv : OkV ver H T0 fk dv) (hr : dv.isRef = true) : ValidPos ver H T0 (.val fk) := by
  cases dv with
  | inl x => cases hr
  | fresh x => cases hr
  | ref h => obtain ⟨v, h1, h2, _⟩ := hv; exact ⟨v, h1, h2⟩

theorem mem_refNews {fk : Nibs} {bv : Option DVal} {pos : Pos} (h : pos ∈ refNews fk bv) :
    pos = .val fk ∧ optIsRef bv = true := by
  unfold refNews at h
  split at h
  · exact ⟨List.mem_singleton.mp h, ‹_›⟩
  · cases h

theorem refNews_valid {ver : Ver} {H : Bytes → Bytes} {T0 : Trie} {fk : Nibs} {bv : Option DVal}
    (hv : ∀ dv, bv = some dv → OkV ver H T0 fk dv) : ∀ pos ∈ refNews fk bv, ValidPos ver H T0 pos := by
  intro pos hpos
  obtain ⟨rfl, hr⟩ := mem_refNews hpos
  cases bv with
  | none => cases hr
  | some dv => exact validPos_of_ref (hv dv rfl) hr

/-- `nodeValue.equal` returning `true` against a `NewValue` means the same bytes, unless both are
    `newValueRef`s (which always compare equal) -/
theorem equal_new (ver : Ver) (T0 : Trie) (fk : Nibs) (bv : Option DVal) (value : Bytes)
    (h : optEqual bv (newValue ver value) = true) :
    refNews fk bv = [] ∧ ∃ dv, bv = some dv ∧ (dv.isFresh = false →
      absV T0 fk dv = value ∧ (newValue ver value).isFresh = false) := by
  cases bv with
  | none => cases h
  | some dv =>
    simp only [optEqual] at h
    rw [newValue_eq] at h ⊢
    split at h <;>
      cases dv <;> simp_all [DVal.equal, DVal.isRef, DVal.isFresh, absV, refNews, optIsRef]

theorem Hd.setKid_forall {P : Nib → Hd → Prop} {cs : Nib → Hd} {idx : Nib} {c : Hd}
    (h1 : ∀ i, P i (cs i)) (h2 : P idx c) : ∀ i, P i (Hd.setKid cs idx c i) := by
  intro i
  by_cases h : i = idx
  · subst h; simpa [Hd.setKid] using h2
  · simpa [Hd.setKid, h] using h1 i

theorem ok_setKid {ver : Ver} {H : Bytes → Bytes} {T0 : Trie} {cs : Nib → Hd} {q : Nibs} {idx : Nib}
    {c : Hd} (h1 : ∀ i, Ok ver H T0 (cs i) (q ++ [i])) (h2 : Ok ver H T0 c (q ++ [idx])) :
    ∀ i, Ok ver H T0 (Hd.setKid cs idx c i) (q ++ [i]) :=
  Hd.setKid_forall (P := fun i hd => Ok ver H T0 hd (q ++ [i])) h1 h2

theorem ok_noKids {ver : Ver} {H : Bytes → Bytes} {T0 : Trie} (q : Nibs) :
    ∀ i, Ok ver H T0 (Hd.noKids i) (q ++ [i]) := fun _ => trivial

theorem abs_setKid (T0 : Trie) (cs : Nib → Hd) (q : Nibs) (idx : Nib) (c : Hd) :
    (fun i => abs T0 (Hd.setKid cs idx c i) (q ++ [i])) =
      setChild (fun i => abs T0 (cs i) (q ++ [i])) idx (abs T0 c (q ++ [idx])) := by
  funext i
  by_cases h : i = idx
  · subst h; simp [Hd.setKid, setChild]
  · simp [Hd.setKid, setChild, h]

theorem abs_noKids (T0 : Trie) (q : Nibs) :
    (fun i => abs T0 (Hd.noKids i) (q ++ [i])) = noChildren := by
  funext i; rfl

theorem needs_setKid {cs : Nib → Hd} {q : Nibs} {idx : Nib} {c : Hd} {pos : Pos} {i : Nib}
    (h : Needs (Hd.setKid cs idx c i) (q ++ [i]) pos) :
    (i = idx ∧ Needs c (q ++ [idx]) pos) ∨ (i ≠ idx ∧ Needs (cs i) (q ++ [i]) pos) := by
  by_cases hi : i = idx
  · subst hi; left; simpa [Hd.setKid] using h
  · right; exact ⟨hi, by simpa [Hd.setKid, hi] using h⟩

theorem ok_leaf_new {ver : Ver} {H : Bytes → Bytes} {T0 : Trie} {pre pk : Nibs} {dv : DVal}
    (hv : OkV ver H T0 (pre ++ pk) dv) : Ok ver H T0 (.leaf none pk dv) pre :=
  ⟨hv, fun _ hh => by cases hh⟩

theorem ok_branch_new {ver : Ver} {H : Bytes → Bytes} {T0 : Trie} {pre pk : Nibs} {dvo : Option DVal}
    {cs : Nib → Hd} (hv : ∀ dv, dvo = some dv → OkV ver H T0 (pre ++ pk) dv)
    (hk : ∀ i, Ok ver H T0 (cs i) (pre ++ pk ++ [i])) : Ok ver H T0 (.branch none pk dvo cs) pre :=
  ⟨hv, hk, fun _ hh => by cases hh⟩

theorem needs_leaf_new {pk pre : Nibs} {dv : DVal} {pos : Pos} :
    Needs (.leaf none pk dv) pre pos ↔ dv.isRef = true ∧ pos = .val (pre ++ pk) := by
  simp [Needs]

theorem needs_branch_new {pk pre : Nibs} {dvo : Option DVal} {cs : Nib → Hd} {pos : Pos} :
    Needs (.branch none pk dvo cs) pre pos ↔
      (optIsRef dvo = true ∧ pos = .val (pre ++ pk)) ∨ ∃ i, Needs (cs i) (pre ++ pk ++ [i]) pos := by
  simp [Needs]

section
variable {pre pk : Nibs} {c : Option Bytes} {bv bv' : Option DVal} {cs : Nib → Hd} {idx : Nib} {c' : Hd}
  {pos : Pos}

theorem needs_kid_mono (h : ∀ pos, Needs c' (pre ++ pk ++ [idx]) pos → Needs (cs idx) (pre ++ pk ++ [idx]) pos) :
    ∀ pos, Needs (.branch none pk bv (Hd.setKid cs idx c')) pre pos → Needs (.branch c pk bv cs) pre pos := by
  intro pos hn
  rcases needs_branch_new.mp hn with hv | ⟨i, hi⟩
  · exact Or.inr (Or.inl hv)
  · rcases needs_setKid hi with ⟨rfl, h'⟩ | ⟨_, h'⟩
    · exact Or.inr (Or.inr ⟨_, h pos h'⟩)
    · exact Or.inr (Or.inr ⟨i, h'⟩)

theorem not_needs_kid (hb : Below (pre ++ pk ++ [idx]) pos) (hn : ¬ Needs c' (pre ++ pk ++ [idx]) pos) :
    ¬ Needs (.branch none pk bv (Hd.setKid cs idx c')) pre pos := by
  intro h
  rcases needs_branch_new.mp h with ⟨_, hp⟩ | ⟨i, hi⟩
  · exact below_child_ne_val hb hp
  · rcases needs_setKid hi with ⟨_, h'⟩ | ⟨hne, h'⟩
    · exact hn h'
    · exact hne (below_disjoint (needs_below _ _ _ h') hb)

theorem needs_value_mono (h : optIsRef bv' = false) :
    ∀ pos, Needs (.branch none pk bv' cs) pre pos → Needs (.branch c pk bv cs) pre pos := by
  intro pos hn
  rcases needs_branch_new.mp hn with ⟨hr, _⟩ | hi
  · rw [h] at hr; cases hr
  · exact Or.inr (Or.inr hi)

theorem not_needs_value (h : optIsRef bv' = false) :
    ¬ Needs (.branch none pk bv' cs) pre (.val (pre ++ pk)) := by
  intro hn
  rcases needs_branch_new.mp hn with ⟨hr, _⟩ | ⟨i, hi⟩
  · rw [h] at hr; cases hr
  · exact below_child_ne_val (needs_below _ _ _ hi) rfl
end

theorem not_needs_newLeaf (ver : Ver) (pk : Nibs) (v : Bytes) (pre : Nibs) (pos : Pos) :
    ¬ Needs (.leaf none pk (newValue ver v)) pre pos := ofTrie_needs ver (leaf pk v) pre pos

theorem ok_newLeaf (ver : Ver) (H : Bytes → Bytes) (T0 : Trie) (pk : Nibs) (v : Bytes) (pre : Nibs) :
    Ok ver H T0 (.leaf none pk (newValue ver v)) pre := ok_ofTrie ver H T0 (leaf pk v) pre

/-- postcondition of an inspector run on the stored node `old` at `pre`: the returned node `n`
    is a consistent NEW node that stands for `target`; `news` are the positions whose rows were
    scheduled for deletion.  `same`: an unchanged result has the same content, unless a `newValueRef`
    was involved (`noFresh`).  `fresh` says that the newly scheduled positions are no longer needed; it
    has nothing to do with `DVal.fresh`. -/
structure InspPost (ver : Ver) (H : Bytes → Bytes) (T0 : Trie) (pre : Nibs) (old : Hd) (target : Trie)
    (ch : Bool) (n : Hd) (news : List Pos) : Prop where
  ok : Ok ver H T0 n pre
  abs : abs T0 n pre = target
  cached : n.cached = none
  mem : n.isMem = true
  fresh : ∀ pos ∈ news, Below pre pos ∧ ¬ Needs n pre pos
  mono : ∀ pos, Needs n pre pos → Needs old pre pos
  same : ch = false → news = [] ∧ (noFresh old → noFresh n ∧ target = C06.abs T0 old pre)
  valid : ∀ pos ∈ news, ValidPos ver H T0 pos

theorem inspPost_new {ver : Ver} {H : Bytes → Bytes} {T0 : Trie} {pre : Nibs} {old n : Hd}
    {target : Trie} (hok : Ok ver H T0 n pre) (habs : abs T0 n pre = target) (hc : n.cached = none)
    (hm : n.isMem = true) (hmono : ∀ pos, Needs n pre pos → Needs old pre pos) :
    InspPost ver H T0 pre old target true n [] :=
  ⟨hok, habs, hc, hm, (fun _ h => nomatch h), hmono, (fun h => nomatch h), (fun _ h => nomatch h)⟩

theorem asNew_of_cached_none {n : Hd} (h : n.cached = none) (hm : n.isMem = true) : n.asNew = n := by
  cases n <;> simp_all [Hd.asNew, Hd.cached, Hd.isMem]

theorem abs_withCache (T0 : Trie) (h : Bytes) (n : Hd) (pre : Nibs) (hm : n.isMem = true) :
    abs T0 (n.withCache h) pre = abs T0 n pre := by
  cases n <;> simp_all [Hd.withCache, abs, Hd.isMem]

theorem noFresh_withCache (h : Bytes) (n : Hd) (hm : n.isMem = true) :
    noFresh (n.withCache h) ↔ noFresh n := by
  cases n <;> simp_all [Hd.withCache, noFresh, Hd.isMem]

theorem needs_withCache {h : Bytes} {n : Hd} {pre : Nibs} {pos : Pos} (hm : n.isMem = true)
    (hn : Needs (n.withCache h) pre pos) : Below pre pos ∨ Needs n pre pos := by
  cases n with
  | leaf c pk dv =>
    simp only [Hd.withCache, Needs] at hn ⊢
    rcases hn with ⟨_, hp⟩ | hr
    · exact Or.inl hp
    · exact Or.inr (Or.inr hr)
  | branch c pk dvo cs =>
    simp only [Hd.withCache, Needs] at hn ⊢
    rcases hn with ⟨_, hp⟩ | hr
    · exact Or.inl hp
    · exact Or.inr (Or.inr hr)
  | none => cases hm
  | persisted _ => cases hm
  | empty _ => cases hm

theorem not_needs_self {n : Hd} {pre : Nibs} (hc : n.cached = none) (hm : n.isMem = true) :
    ¬ Needs n pre (.node pre) := by
  intro hn
  cases n with
  | leaf c pk dv =>
    cases hc
    exact absurd (needs_leaf_new.mp hn).2 (by simp)
  | branch c pk dvo cs =>
    cases hc
    rcases needs_branch_new.mp hn with ⟨_, h⟩ | ⟨i, hi⟩
    · cases h
    · exact below_child_ne_node (needs_below _ _ _ hi) rfl
  | none => cases hm
  | persisted _ => cases hm
  | empty _ => cases hm

theorem needs_self_of_cached {n : Hd} {pre : Nibs} {h : Bytes} (hc : n.cached = some h)
    (hm : n.isMem = true) {pos : Pos} (hb : Below pre pos) : Needs n pre pos := by
  cases n with
  | leaf c pk dv => cases hc; exact Or.inl ⟨rfl, hb⟩
  | branch c pk dvo cs => cases hc; exact Or.inl ⟨rfl, hb⟩
  | none => cases hm
  | persisted _ => cases hm
  | empty _ => cases hm

theorem ok_withCache {ver : Ver} {H : Bytes → Bytes} {T0 : Trie} {n : Hd} {pre : Nibs} {h : Bytes}
    (hok : Ok ver H T0 n pre) (hm : n.isMem = true) (hh : HashAt ver H T0 pre h)
    (habs : abs T0 n pre = subAt T0 pre) (hnf : noFresh n) : Ok ver H T0 (n.withCache h) pre := by
  cases n with
  | leaf c pk dv => exact ⟨hok.1, fun h' hh' => by cases hh'; exact ⟨hh, habs, hnf⟩⟩
  | branch c pk dvo cs => exact ⟨hok.1, hok.2.1, fun h' hh' => by cases hh'; exact ⟨hh, habs, hnf⟩⟩
  | none => cases hm
  | persisted _ => cases hm
  | empty _ => cases hm

/-- postcondition of `insertAt` / of a surviving `removeAt` on the handle `hd` at `pre`: `InspPost`
    without `cached = none`.  The inspector returns a new node; `inspect` (`wrap_post`) may then put
    the old hash back on an unchanged cached node (`restoreNode`), so after it the node is in memory
    but not necessarily new. -/
structure OpPost (ver : Ver) (H : Bytes → Bytes) (T0 : Trie) (pre : Nibs) (hd : Hd) (target : Trie)
    (ch : Bool) (hd' : Hd) (news : List Pos) : Prop where
  ok : Ok ver H T0 hd' pre
  abs : abs T0 hd' pre = target
  mem : hd'.isMem = true
  fresh : ∀ pos ∈ news, Below pre pos ∧ ¬ Needs hd' pre pos
  mono : ∀ pos, Needs hd' pre pos → Needs hd pre pos
  same : ch = false → news = [] ∧ (noFresh hd → noFresh hd' ∧ target = C06.abs T0 hd pre)
  valid : ∀ pos ∈ news, ValidPos ver H T0 pos

theorem wrap_post {ver : Ver} {H : Bytes → Bytes} {T0 : Trie} {pre : Nibs} {stored : Hd}
    (hok : Ok ver H T0 stored pre) (hm : stored.isMem = true) {target : Trie} {ch : Bool} {n : Hd}
    {newsI : List Pos} (hp : InspPost ver H T0 pre stored target ch n newsI) (d : Death) :
    ∃ hd' ch' news, afterInspect stored pre (newsI.map (rowOf ver H T0) ++ d) ch n =
        (hd', ch', news.map (rowOf ver H T0) ++ d) ∧
      OpPost ver H T0 pre stored target ch' hd' news := by
  cases hc : stored.cached with
  | none =>
    exact ⟨_, _, newsI, by rw [afterInspect_none hc, asNew_of_cached_none hp.cached hp.mem],
      hp.ok, hp.abs, hp.mem, hp.fresh, hp.mono, hp.same, hp.valid⟩
  | some h =>
    obtain ⟨hh, habs, hnf⟩ := ok_cached hok hc hm
    cases ch with
    | true =>
      refine ⟨_, true, .node pre :: newsI,
        by rw [afterInspect_changed hc, asNew_of_cached_none hp.cached hp.mem]; simp [rowOf, hh.2.1],
        hp.ok, hp.abs, hp.mem, ?_, hp.mono, (fun h => nomatch h), ?_⟩
      · intro pos hpos
        rcases List.mem_cons.mp hpos with rfl | hpos
        · exact ⟨List.prefix_refl _, not_needs_self hp.cached hp.mem⟩
        · exact hp.fresh pos hpos
      · intro pos hpos
        rcases List.mem_cons.mp hpos with rfl | hpos
        · exact validPos_of_hashAt hh
        · exact hp.valid pos hpos
    | false =>
      obtain ⟨hnews, hsame⟩ := hp.same rfl
      obtain ⟨hnf', htar⟩ := hsame hnf
      subst hnews
      refine ⟨_, _, [], afterInspect_same hc pre _ n, ?_, ?_, ?_, (fun _ h => nomatch h), ?_, ?_,
        (fun _ h => nomatch h)⟩
      · exact ok_withCache hp.ok hp.mem hh (by rw [hp.abs, htar, habs]) hnf'
      · rw [abs_withCache T0 h n pre hp.mem, hp.abs]
      · have hmem := hp.mem
        cases n <;> first | rfl | cases hmem
      · intro pos hn
        rcases needs_withCache hp.mem hn with hb | hn
        · exact needs_self_of_cached hc hm hb
        · exact hp.mono pos hn
      · intro _
        exact ⟨rfl, fun _ => ⟨(noFresh_withCache h n hp.mem).mpr hnf', htar⟩⟩

theorem inspPost_value {ver : Ver} {H : Bytes → Bytes} {T0 : Trie} {pre pk : Nibs} {old n : Hd}
    {bv : Option DVal} {value : Bytes}
    (hv : ∀ dv, bv = some dv → OkV ver H T0 (pre ++ pk) dv)
    (hok : Ok ver H T0 n pre) (hc : n.cached = none) (hm : n.isMem = true)
    (hnv : ¬ Needs n pre (.val (pre ++ pk))) (hmono : ∀ pos, Needs n pre pos → Needs old pre pos)
    {target : Trie} (habs : abs T0 n pre = target)
    (hsame : ∀ dv, bv = some dv → (dv.isFresh = false →
        absV T0 (pre ++ pk) dv = value ∧ (newValue ver value).isFresh = false) →
      noFresh old → noFresh n ∧ target = abs T0 old pre) :
    InspPost ver H T0 pre old target (!(optEqual bv (newValue ver value))) n (refNews (pre ++ pk) bv) := by
  refine ⟨hok, habs, hc, hm, ?_, hmono, ?_, refNews_valid hv⟩
  · intro pos hpos
    rw [(mem_refNews hpos).1]
    exact ⟨List.prefix_append _ _, hnv⟩
  · intro hch
    obtain ⟨h1, dv, h2, h3⟩ := equal_new ver T0 (pre ++ pk) bv value (by simpa using hch)
    exact ⟨h1, hsame dv h2 h3⟩

theorem inspPost_setKid {ver : Ver} {H : Bytes → Bytes} {T0 : Trie} {pre pk : Nibs} {c : Option Bytes}
    {bv : Option DVal} {cs : Nib → Hd} {idx : Nib} {c' : Hd} {ch : Bool} {news : List Pos} {tc : Trie}
    (hvals : ∀ dv, bv = some dv → OkV ver H T0 (pre ++ pk) dv)
    (hkids : ∀ i, Ok ver H T0 (cs i) (pre ++ pk ++ [i]))
    (hpc : OpPost ver H T0 (pre ++ pk ++ [idx]) (cs idx) tc ch c' news) :
    InspPost ver H T0 pre (.branch c pk bv cs)
      (branch pk (bv.map (absV T0 (pre ++ pk))) (setChild (fun i => abs T0 (cs i) (pre ++ pk ++ [i])) idx tc))
      ch (.branch none pk bv (Hd.setKid cs idx c')) news := by
  refine ⟨ok_branch_new hvals (ok_setKid hkids hpc.ok), ?_, rfl, rfl, ?_, ?_, ?_, hpc.valid⟩
  · simp only [abs, abs_setKid, hpc.abs]
  · exact fun pos hpos => ⟨below_child (hpc.fresh pos hpos).1, not_needs_kid (hpc.fresh pos hpos).1 (hpc.fresh pos hpos).2⟩
  · exact needs_kid_mono hpc.mono
  · intro hch
    obtain ⟨hn0, hs⟩ := hpc.same hch
    refine ⟨hn0, fun hnf => ?_⟩
    obtain ⟨hnc, htc⟩ := hs (hnf.2 idx)
    exact ⟨⟨hnf.1, Hd.setKid_forall (P := fun _ => noFresh) hnf.2 hnc⟩, by rw [htc, setChild_self]; rfl⟩

theorem opPost_newLeaf (ver : Ver) (H : Bytes → Bytes) (T0 : Trie) (q krest : Nibs) (value : Bytes) :
    OpPost ver H T0 q Hd.none (leaf krest value) true (.leaf none krest (newValue ver value)) [] :=
  ⟨ok_newLeaf ver H T0 _ _ _, abs_ofTrie ver T0 (leaf krest value) q, rfl, (fun _ h => nomatch h),
    fun pos h => absurd h (not_needs_newLeaf ver _ _ _ pos), (fun h => nomatch h), (fun _ h => nomatch h)⟩

/-- the keys diverge inside the partial key of the old node: it moves, as `lower`, into slot `ix` of a
    new branch that holds the new value itself or, in a second slot `j`, a new leaf with it -/
theorem inspPost_split {ver : Ver} {H : Bytes → Bytes} {T0 : Trie} {old lower : Hd} {pre cc : Nibs}
    {ix : Nib} (hlo : Ok ver H T0 lower (pre ++ cc ++ [ix]))
    (hlN : ∀ pos, Needs lower (pre ++ cc ++ [ix]) pos → Needs old pre pos) (value : Bytes) :
    InspPost ver H T0 pre old
      (branch cc (some value) (setChild noChildren ix (abs T0 lower (pre ++ cc ++ [ix])))) true
      (.branch none cc (some (newValue ver value)) (Hd.setKid Hd.noKids ix lower)) [] ∧
    ∀ j krest, InspPost ver H T0 pre old
      (branch cc none (setChild (setChild noChildren ix (abs T0 lower (pre ++ cc ++ [ix]))) j (leaf krest value)))
      true (.branch none cc none (Hd.setKid (Hd.setKid Hd.noKids ix lower) j
        (.leaf none krest (newValue ver value)))) [] := by
  have h1 : ∀ i pos, Needs (Hd.setKid Hd.noKids ix lower i) (pre ++ cc ++ [i]) pos → Needs old pre pos := by
    intro i pos hi
    rcases needs_setKid hi with ⟨_, h⟩ | ⟨_, h⟩
    · exact hlN pos h
    · exact h.elim
  refine ⟨inspPost_new
      (ok_branch_new (fun dv hdv => by cases hdv; exact okV_new ver H T0 _ value) (ok_setKid (ok_noKids _) hlo))
      (by simp only [abs, Option.map_some, abs_setKid, abs_noKids, absV_new]) rfl rfl fun pos hn => ?_,
    fun j krest => inspPost_new
      (ok_branch_new (fun dv hdv => nomatch hdv)
        (ok_setKid (ok_setKid (ok_noKids _) hlo) (ok_newLeaf ver H T0 _ _ _)))
      (by simp only [abs, Option.map_none, abs_setKid, abs_noKids, absV_new]) rfl rfl fun pos hn => ?_⟩
  · rcases needs_branch_new.mp hn with ⟨h, _⟩ | ⟨i, hi⟩
    · rw [optIsRef, newValue_notRef] at h; cases h
    · exact h1 i pos hi
  · rcases needs_branch_new.mp hn with ⟨h, _⟩ | ⟨i, hi⟩
    · cases h
    · rcases needs_setKid hi with ⟨_, h⟩ | ⟨_, h⟩
      · exact absurd h (not_needs_newLeaf ver _ _ _ pos)
      · exact h1 i pos h

theorem path3 (pre cc : Nibs) (ix : Nib) (prest : Nibs) :
    pre ++ cc ++ [ix] ++ prest = pre ++ (cc ++ ix :: prest) := by simp

/-- `c` is the hash the stored leaf may carry; the inspector does not see it, it only names the `old`
    node of the postcondition. -/
theorem insertLeaf_sim (ver : Ver) (H : Bytes → Bytes) (T0 : Trie) (c : Option Bytes) (pre pk : Nibs)
    (lv : DVal) (key : Nibs) (value : Bytes) (d : Death) (hv : OkV ver H T0 (pre ++ pk) lv) :
    ∃ news, (insertLeaf ver pre pk lv key value d).2.2 = news.map (rowOf ver H T0) ++ d ∧
      InspPost ver H T0 pre (.leaf c pk lv) (Trie.insertInLeaf pk (absV T0 (pre ++ pk) lv) key value)
        (insertLeaf ver pre pk lv key value d).1 (insertLeaf ver pre pk lv key value d).2.1 news := by
  have hvo : ∀ dv, some lv = some dv → OkV ver H T0 (pre ++ pk) dv := fun dv h => by cases h; exact hv
  unfold insertLeaf
  rw [lcpLen_eq]
  obtain ⟨cc, pa, ka, rfl, rfl, h3, h4⟩ := lcp_split pk key
  rw [h3]
  cases pa with
  | nil =>
    rw [List.append_nil] at hv hvo ⊢
    cases ka with
    | nil =>
      -- the key of the leaf: the value is replaced
      simp only [List.append_nil, and_self, if_true]
      rw [insertInLeaf_self]
      refine ⟨_, replaceOldValue_spec ver H T0 d _ _ hvo, ?_⟩
      refine inspPost_value (bv := some lv) hvo (ok_newLeaf ver H T0 _ _ _) rfl rfl
        (not_needs_newLeaf ver _ _ _ _) (fun pos h => absurd h (not_needs_newLeaf ver _ _ _ pos))
        (by simp only [abs, absV_new]) fun dv hdv h hnf => ?_
      cases hdv
      obtain ⟨h5, h6⟩ := h hnf
      exact ⟨h6, by simp only [abs, h5]⟩
    | cons j krest =>
      -- the new key extends the key of the leaf
      simp only [length_ne_append_cons, and_false, Nat.lt_irrefl, if_false, List.drop_left']
      rw [insertInLeaf_below]
      refine ⟨[], rfl, inspPost_new (ok_branch_new hvo (ok_setKid (ok_noKids _) (ok_newLeaf ver H T0 _ _ _)))
        ?_ rfl rfl fun pos hn => ?_⟩
      · simp only [abs, Option.map_some, abs_setKid, abs_noKids, absV_new]
      rcases needs_branch_new.mp hn with h | ⟨i, hi⟩
      · exact Or.inr h
      · rcases needs_setKid hi with ⟨_, h⟩ | ⟨_, h⟩
        · exact absurd h (not_needs_newLeaf ver _ _ _ pos)
        · exact h.elim
  | cons i prest =>
    have hfk := path3 pre cc i prest
    have hmoved : Ok ver H T0 (.leaf none prest lv) (pre ++ cc ++ [i]) :=
      ok_leaf_new (by rw [hfk]; exact hv)
    have hmovedN : ∀ pos, Needs (.leaf none prest lv) (pre ++ cc ++ [i]) pos →
        Needs (.leaf c (cc ++ i :: prest) lv) pre pos := fun pos hn =>
      Or.inr (by rw [← hfk]; exact needs_leaf_new.mp hn)
    obtain ⟨hs1, hs2⟩ := inspPost_split hmoved hmovedN value
    simp only [abs, hfk] at hs1 hs2
    simp only [length_ne_append_cons, false_and, length_lt_append_cons, if_false, if_true, List.drop_left',
      List.take_left']
    cases ka with
    | nil =>
      -- the new key ends where the keys diverge: the new branch holds the value
      simp only [List.append_nil, if_true]
      rw [insertInLeaf_above]
      exact ⟨[], rfl, hs1⟩
    | cons j krest =>
      simp only [append_cons_length_ne, if_false]
      rw [insertInLeaf_fork cc (h4 i prest j krest rfl rfl).symm]
      exact ⟨[], rfl, hs2 j krest⟩

/-- `rec` does what `insertAt` should on keys shorter than `bound`: on a consistent non-nil handle it
    succeeds and returns the image of `Trie.insert`, with `OpPost`.  Assumed of the recursive call of an
    inspector (`insertNode_sim`), proved of `insertAt` for every fuel (`insertAt_sim`). -/
def RecInsert (ver : Ver) (H : Bytes → Bytes) (T0 : Trie) (value : Bytes) (bound : Nat)
    (rec : Hd → Nibs → Nibs → Bytes → Death → Res (Hd × Bool × Death)) : Prop :=
  ∀ (hd : Hd) (q k : Nibs) (d0 : Death), k.length < bound → Ok ver H T0 hd q → hd.isNone = false →
    ∃ hd' ch news, rec hd q k value d0 = .ok (hd', ch, news.map (rowOf ver H T0) ++ d0) ∧
      OpPost ver H T0 q hd (Trie.insert (abs T0 hd q) k value) ch hd' news

theorem insertNode_sim (e : Env) (T0 : Trie)
    (rec : Hd → Nibs → Nibs → Bytes → Death → Res (Hd × Bool × Death))
    (stored : Hd) (pre key : Nibs) (value : Bytes) (d : Death)
    (hm : stored.isMem = true) (hok : Ok e.ver e.H T0 stored pre)
    (hrec : RecInsert e.ver e.H T0 value key.length rec) :
    ∃ hd' ch news, insertNode e rec stored pre key value d =
        .ok (hd', ch, news.map (rowOf e.ver e.H T0) ++ d) ∧
      OpPost e.ver e.H T0 pre stored (Trie.insert (abs T0 stored pre) key value) ch hd' news := by
  cases stored with
  | none => cases hm
  | persisted _ => cases hm
  | empty _ => cases hm
  | leaf c pk lv =>
    obtain ⟨newsI, hd1, hp⟩ := insertLeaf_sim e.ver e.H T0 c pre pk lv key value d hok.1
    obtain ⟨hd', ch', news, he, hpost⟩ := wrap_post hok hm hp d
    exact ⟨hd', ch', news, by simp only [insertNode, hd1, he], hpost⟩
  | branch c pk bv cs =>
    obtain ⟨hvals, hkids, hcl⟩ := hok
    have hok' : Ok e.ver e.H T0 (.branch c pk bv cs) pre := ⟨hvals, hkids, hcl⟩
    -- every case: the inspector's postcondition, then `inspect`
    suffices hI : ∃ (ch : Bool) (n : Hd) (newsI : List Pos),
        insertNode e rec (.branch c pk bv cs) pre key value d =
          .ok (afterInspect (.branch c pk bv cs) pre (newsI.map (rowOf e.ver e.H T0) ++ d) ch n) ∧
        InspPost e.ver e.H T0 pre (.branch c pk bv cs)
          (Trie.insert (abs T0 (.branch c pk bv cs) pre) key value) ch n newsI by
      obtain ⟨ch, n, newsI, heq, hp⟩ := hI
      obtain ⟨hd', ch', news, he, hpost⟩ := wrap_post hok' hm hp d
      exact ⟨hd', ch', news, by rw [heq, he], hpost⟩
    simp only [insertNode, abs]
    rw [lcpLen_eq]
    obtain ⟨cc, ka, pa, rfl, rfl, h3, h4⟩ := lcp_split key pk
    rw [h3]
    cases pa with
    | nil =>
      rw [List.append_nil] at hvals hkids ⊢
      cases ka with
      | nil =>
        -- the key of the branch: the value is replaced
        simp only [List.append_nil, and_self, if_true]
        rw [insert_branch_self]
        refine ⟨_, _, _, by rw [replaceOldValue_spec e.ver e.H T0 d _ bv hvals], ?_⟩
        refine inspPost_value hvals
          (ok_branch_new (fun dv hdv => by cases hdv; exact okV_new e.ver e.H T0 _ value) hkids) rfl rfl
          (not_needs_value (bv' := some _) (newValue_notRef e.ver value))
          (needs_value_mono (bv' := some _) (newValue_notRef e.ver value))
          (by simp only [abs, Option.map_some, absV_new]) fun lv hlv h hnf => ?_
        subst hlv
        obtain ⟨h5, h6⟩ := h (hnf.1 lv rfl)
        exact ⟨⟨fun dv hdv => by cases hdv; exact h6, hnf.2⟩, by simp only [abs, Option.map_some, h5]⟩
      | cons idx krest =>
        -- the key leads into child `idx`
        simp only [length_ne_append_cons, and_false, Nat.lt_irrefl, if_false, List.drop_left']
        rw [insert_branch_child]
        by_cases hnil : (cs idx).isNone = true
        · -- no child there: a new leaf
          have hc : cs idx = Hd.none := Hd.isNone_iff.mp hnil
          rw [if_pos hnil]
          have := inspPost_setKid (c := c) hvals hkids
            (hc ▸ opPost_newLeaf e.ver e.H T0 (pre ++ cc ++ [idx]) krest value)
          rw [hc]
          exact ⟨true, _, [], rfl, this⟩
        · -- descend into the child
          have hnil' : (cs idx).isNone = false := Bool.eq_false_iff.mpr hnil
          obtain ⟨c', ch, newsC, hrc, hpc⟩ := hrec (cs idx) (pre ++ cc ++ [idx]) krest d
            (by rw [List.length_append]; exact Nat.lt_add_left _ (Nat.lt_succ_self _)) (hkids idx) hnil'
          simp only [hnil', Bool.false_eq_true, if_false, hrc]
          exact ⟨ch, _, newsC, rfl, inspPost_setKid hvals hkids hpc⟩
    | cons ix prest =>
      -- the keys diverge inside the partial key: a new branch in between
      have hp3 := path3 pre cc ix prest
      have hlower : Ok e.ver e.H T0 (.branch none prest bv cs) (pre ++ cc ++ [ix]) :=
        ok_branch_new (by rw [hp3]; exact hvals) (fun i => by rw [hp3]; exact hkids i)
      have hlowerN : ∀ pos, Needs (.branch none prest bv cs) (pre ++ cc ++ [ix]) pos →
          Needs (.branch c (cc ++ ix :: prest) bv cs) pre pos := fun pos hn =>
        Or.inr (by rw [← hp3]; exact needs_branch_new.mp hn)
      obtain ⟨hs1, hs2⟩ := inspPost_split hlower hlowerN value
      simp only [abs, hp3] at hs1 hs2
      simp only [length_ne_append_cons, false_and, length_lt_append_cons, if_false, if_true, List.drop_left',
      List.take_left']
      cases ka with
      | nil =>
        simp only [List.append_nil, if_true]
        rw [insert_branch_above]
        exact ⟨true, _, [], rfl, hs1⟩
      | cons j krest =>
        simp only [append_cons_length_ne, if_false]
        rw [insert_branch_fork cc (h4 j krest ix prest rfl rfl)]
        exact ⟨true, _, [], rfl, hs2 j krest⟩

theorem resolve_sim (e : Env) (T0 : Trie) (hl : Loads e T0) (hd : Hd) (q : Nibs)
    (hok : Ok e.ver e.H T0 hd q) (hn : hd.isNone = false) :
    ∃ stored, e.resolve q hd = .ok stored ∧ stored.isMem = true ∧ Ok e.ver e.H T0 stored q ∧
      abs T0 stored q = abs T0 hd q ∧ (∀ pos, Needs stored q pos → Needs hd q pos) ∧
      (noFresh hd → noFresh stored) := by
  cases hd with
  | none => cases hn
  | empty c => exact hok.elim
  | persisted h =>
    obtain ⟨n, hn, hm, h1, h2, h3⟩ := hl q h hok
    exact ⟨n, by simp only [Env.resolve, hn], hm, h1, h2, fun pos hp => needs_below _ _ _ hp, fun _ => h3⟩
  | leaf c pk dv => exact ⟨_, rfl, rfl, hok, rfl, fun _ h => h, fun h => h⟩
  | branch c pk dvo cs => exact ⟨_, rfl, rfl, hok, rfl, fun _ h => h, fun h => h⟩

theorem opPost_resolved {ver : Ver} {H : Bytes → Bytes} {T0 : Trie} {q : Nibs} {hd stored : Hd}
    {target : Trie} {ch : Bool} {hd' : Hd} {news : List Pos}
    (hmono : ∀ pos, Needs stored q pos → Needs hd q pos) (hnf : noFresh hd → noFresh stored)
    (habs : abs T0 stored q = abs T0 hd q) (hp : OpPost ver H T0 q stored target ch hd' news) :
    OpPost ver H T0 q hd target ch hd' news :=
  ⟨hp.ok, hp.abs, hp.mem, hp.fresh, fun pos h => hmono pos (hp.mono pos h), fun hch =>
    ⟨(hp.same hch).1, fun hh => habs ▸ (hp.same hch).2 (hnf hh)⟩, hp.valid⟩

theorem insertAt_sim (e : Env) (T0 : Trie) (hl : Loads e T0) (value : Bytes) :
    ∀ fuel, RecInsert e.ver e.H T0 value fuel (insertAt e fuel) := by
  intro fuel
  induction fuel with
  | zero => intro hd q k d0 hk; cases hk
  | succ f ih =>
    intro hd q k d0 hk hok hn
    obtain ⟨stored, hres, hm, hoks, habs, hmono, hnf⟩ := resolve_sim e T0 hl hd q hok hn
    obtain ⟨hd', ch, news, heq, hp⟩ := insertNode_sim e T0 (insertAt e f) stored q k value d0 hm hoks
      (fun hd' q' k' d' hk' => ih hd' q' k' d' (Nat.lt_of_lt_of_le hk' (Nat.le_of_lt_succ hk)))
    exact ⟨hd', ch, news, by simp only [insertAt, hres, heq], opPost_resolved hmono hnf habs (habs ▸ hp)⟩

end Gossamer.C06
