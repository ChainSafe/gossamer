/-
C08: rollback restores the state exactly — for EVERY backend (the proof never looks at the trie):
inside a transaction every operation changes only the innermost diff; `start` pushes a copy,
`commit` of an inner transaction replaces the parent, `rollback` pops.
-/
import Gossamer.Model.C08
namespace Gossamer.C08
open Gossamer

def isTx : Op → Bool
  | .start => true
  | .commit => true
  | .rollback => true
  | _ => false

/-- nesting depth after `xs`, relative to a transaction that is open when `xs` starts (depth 0 =
    that transaction is the innermost); `none` when `xs` closes that transaction itself -/
def walk : Nat → List Op → Option Nat
  | d, [] => some d
  | d, op :: r =>
    match op with
    | .start => walk (d + 1) r
    | .commit => match d with | 0 => none | d' + 1 => walk d' r
    | .rollback => match d with | 0 => none | d' + 1 => walk d' r
    | _ => walk d r

/-- every `start` in `xs` is closed inside `xs`, nothing else is closed -/
def Balanced (xs : List Op) : Prop := walk 0 xs = some 0

section
variable {β τ : Type} (B : Backend β τ) (D : Dumper β) (ord : Diff → ApplyOrder)

/-- what a call other than start/commit/rollback can do to the innermost diff: one constructor per
    `storageDiff` method.  The frame lemmas below only need that it is the innermost diff that changes;
    the cases are for invariants of all reachable diffs (`Diff.Step.sorted` in Lib/C08DiffSorted). -/
inductive Diff.Step : Diff → Diff → Prop
  | same (d) : Step d d
  | upsert (d k v) : Step d (d.upsert k v)
  | delete (d k) : Step d (d.delete k)
  | clearPrefix (d p tk lim) : Step d (d.clearPrefix p tk lim).1
  | upsertChild (d ck k v) : Step d (d.upsertChild ck k v)
  | deleteFromChild (d ck k) : Step d (d.deleteFromChild ck k)
  | clearPrefixInChild (d ck p tk lim) : Step d (d.clearPrefixInChild ck p tk lim).1
  | deleteChildLimit (d ck cur lim) : Step d (d.deleteChildLimit ck cur lim).1

theorem stepTS_tx (base : β) (t : Diff) (r : List Diff) (op : Op) (hop : isTx op = false) :
    ∃ t', Diff.Step t t' ∧
      (stepTS B D ord { base := base, txs := t :: r } op).1 = { base := base, txs := t' :: r } := by
  cases op
  case put k v => exact ⟨_, .upsert .., rfl⟩
  case del k | kill c => exact ⟨_, .delete .., rfl⟩
  case clr p | clrl p n => exact ⟨_, .clearPrefix .., rfl⟩
  case cput c k v => exact ⟨_, .upsertChild .., rfl⟩
  case cdel c k => exact ⟨_, .deleteFromChild .., rfl⟩
  case cclr c p | cclrl c p n =>
    simp only [stepTS, clearPrefixInChildTS, clearPrefixInChildLimitTS]
    split
    · exact ⟨_, .clearPrefixInChild .., rfl⟩
    · exact ⟨_, .same _, rfl⟩
    · exact ⟨_, .clearPrefixInChild .., rfl⟩
  case killl c n =>
    simp only [stepTS, deleteChildLimitTS]
    split
    · split
      · exact ⟨_, .same _, rfl⟩
      · exact ⟨_, .deleteChildLimit .., rfl⟩
    · exact ⟨_, .same _, rfl⟩
    · exact ⟨_, .deleteChildLimit .., rfl⟩
  case start | commit | rollback => cases hop
  all_goals exact ⟨_, .same _, rfl⟩

theorem stepTS_nil (base : β) (op : Op) :
    (stepTS B D ord { base := base, txs := [] } op).1.txs = [] ∨
      (stepTS B D ord { base := base, txs := [] } op).1.txs = [Diff.empty] := by
  cases op
  case start => exact Or.inr rfl
  case cput c k v => left; simp only [stepTS, setChildStorageTS]; split <;> rfl
  case cclr c p | cclrl c p n =>
    left; simp only [stepTS, clearPrefixInChildTS, clearPrefixInChildLimitTS]; split <;> rfl
  case killl c n =>
    left
    simp only [stepTS, deleteChildLimitTS]
    split
    · rfl
    · rfl
    · split <;> rfl
  all_goals exact Or.inl rfl

theorem step_start (base : β) (txs : List Diff) :
    (stepTS B D ord { base := base, txs := txs } .start).1 =
      { base := base, txs := (txs.head?.getD Diff.empty) :: txs } := rfl

theorem step_rollback (base : β) (t : Diff) (r : List Diff) :
    (stepTS B D ord { base := base, txs := t :: r } .rollback).1 = { base := base, txs := r } := rfl

theorem step_commit_inner (base : β) (t u : Diff) (r : List Diff) :
    (stepTS B D ord { base := base, txs := t :: u :: r } .commit).1 =
      { base := base, txs := t :: r } := rfl

theorem step_frame (op : Op) (xs : List Op) (d d' : Nat) (base : β) (pre rest : List Diff)
    (hl : pre.length = d + 1) (hw : walk d (op :: xs) = some d') :
    ∃ pre1 d1, pre1.length = d1 + 1 ∧ walk d1 xs = some d' ∧
      (stepTS B D ord { base := base, txs := pre ++ rest } op).1 =
        { base := base, txs := pre1 ++ rest } := by
  match pre, hl with
  | t :: pre0, hl =>
    cases hop : isTx op with
    | false =>
      obtain ⟨t', _, ht'⟩ := stepTS_tx B D ord base t (pre0 ++ rest) op hop
      refine ⟨t' :: pre0, d, hl, ?_, ht'⟩
      cases op <;> first | exact hw | cases hop
    | true =>
      cases op <;> try exact Bool.noConfusion hop
      case start => exact ⟨t :: t :: pre0, d + 1, congrArg (· + 1) hl, hw, rfl⟩
      case commit =>
        match d, pre0, hl, hw with
        | d0 + 1, u :: pre1, hl, hw => exact ⟨t :: pre1, d0, Nat.succ.inj hl, hw, rfl⟩
      case rollback =>
        match d, hl, hw with
        | d0 + 1, hl, hw => exact ⟨pre0, d0, Nat.succ.inj hl, hw, rfl⟩

theorem run_frame (xs : List Op) : ∀ (d d' : Nat) (base : β) (pre rest : List Diff),
    pre.length = d + 1 → walk d xs = some d' →
    ∃ pre', pre'.length = d' + 1 ∧
      (runTS B D ord { base := base, txs := pre ++ rest } xs).1 = { base := base, txs := pre' ++ rest } := by
  induction xs with
  | nil =>
    intro d d' base pre rest hl hw
    cases hw
    exact ⟨pre, hl, rfl⟩
  | cons op r ih =>
    intro d d' base pre rest hl hw
    obtain ⟨pre1, d1, hl1, hw1, hs⟩ := step_frame B D ord op r d d' base pre rest hl hw
    obtain ⟨pre', hl', hr⟩ := ih d1 d' base pre1 rest hl1 hw1
    exact ⟨pre', hl', by simp only [runTS]; rw [hs]; exact hr⟩

theorem runTS_append (a : TS β) (l1 l2 : List Op) :
    (runTS B D ord a (l1 ++ l2)).1 = (runTS B D ord (runTS B D ord a l1).1 l2).1 := by
  induction l1 generalizing a with
  | nil => rfl
  | cons o r ih => simp only [List.cons_append, runTS]; exact ih _

/-- A rollback restores exactly the state at the matching start, at any nesting depth and
    whatever happened in between (nested transactions that were committed or rolled back,
    panicking calls, limits, child-trie operations). -/
theorem rollback_exact (s : TS β) (xs : List Op) (hb : Balanced xs) :
    (runTS B D ord s ([Op.start] ++ xs ++ [Op.rollback])).1 = s := by
  obtain ⟨base, txs⟩ := s
  rw [runTS_append, runTS_append]
  simp only [runTS, step_start]
  obtain ⟨pre', hl', hr⟩ :=
    run_frame B D ord xs 0 0 base [txs.head?.getD Diff.empty] txs (by simp) hb
  simp only [List.singleton_append] at hr
  rw [hr]
  match pre', hl' with
  | [t], _ => simp only [List.singleton_append, step_rollback]

end

end Gossamer.C08
