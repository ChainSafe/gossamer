/-
The tree of C22 (`par` with its `min`, `up`, `anc` of Model/C22) is not an instance of Lib/UpChain: the `min`
makes EVERY table a tree, so that `parentOrder ps` needs no well-formedness hypothesis.
-/
import Gossamer.Model.C22
namespace Gossamer.C22

theorem par_le (ps : List Nat) (b : Nat) : par ps b ≤ b - 1 := by
  cases b with
  | zero => simp [par]
  | succ k => simp only [par]; omega

theorem up_add (ps : List Nat) (j : Nat) : ∀ (k b : Nat), up ps (j + k) b = up ps j (up ps k b) := by
  intro k
  induction k with
  | zero => intro b; simp [up]
  | succ k ih => intro b; rw [← Nat.add_assoc]; simp only [up]; exact ih (par ps b)

theorem up_le (ps : List Nat) : ∀ (k b : Nat), up ps k b ≤ b - k := by
  intro k
  induction k with
  | zero => intro b; simp [up]
  | succ k ih =>
    intro b
    simp only [up]
    have h1 := ih (par ps b)
    have h2 := par_le ps b
    omega

theorem anc_iff (ps : List Nat) (a b : Nat) : anc ps a b = true ↔ ∃ k, up ps k b = a := by
  unfold anc
  constructor
  · intro h
    have ⟨k, _, hk⟩ := List.any_eq_true.mp h
    exact ⟨k, by simpa using hk⟩
  · intro ⟨k, hk⟩
    apply List.any_eq_true.mpr
    by_cases hkb : k ≤ b
    · exact ⟨k, by simp; omega, by simpa using hk⟩
    · refine ⟨b, by simp, ?_⟩
      have h1 := up_le ps k b
      have h2 := up_le ps b b
      have : up ps b b = a := by omega
      simpa using this

def parentOrder (ps : List Nat) : BlockOrder Nat where
  le := anc ps
  refl := fun a => (anc_iff ps a a).mpr ⟨0, rfl⟩
  trans := by
    intro a b c hab hbc
    have ⟨j, hj⟩ := (anc_iff ps a b).mp hab
    have ⟨k, hk⟩ := (anc_iff ps b c).mp hbc
    exact (anc_iff ps a c).mpr ⟨j + k, by rw [up_add, hk, hj]⟩
  chain := by
    intro a b c hac hbc
    have ⟨j, hj⟩ := (anc_iff ps a c).mp hac
    have ⟨k, hk⟩ := (anc_iff ps b c).mp hbc
    by_cases hjk : j ≤ k
    · right
      refine (anc_iff ps b a).mpr ⟨k - j, ?_⟩
      have : k - j + j = k := by omega
      rw [← hj, ← up_add, this, hk]
    · left
      refine (anc_iff ps a b).mpr ⟨j - k, ?_⟩
      have : j - k + k = j := by omega
      rw [← hk, ← up_add, this, hj]

theorem BlockOrder.comparable_of_common {B : Type} (O : BlockOrder B) {a b c : B}
    (h1 : O.le a c = true) (h2 : O.le b c = true) : O.comparable a b := O.chain a b c h1 h2

theorem BlockOrder.comparable_symm {B : Type} (O : BlockOrder B) {a b : B}
    (h : O.comparable a b) : O.comparable b a := h.symm

/-- a concrete tree with a fork: 0 ← 1 ← 2, 1 ← 3 (blocks 2 and 3 are on different forks) -/
example : (parentOrder [0, 1, 1]).le 1 2 = true ∧ (parentOrder [0, 1, 1]).le 1 3 = true ∧
    ¬ (parentOrder [0, 1, 1]).comparable 2 3 := by decide

end Gossamer.C22
