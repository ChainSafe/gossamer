/-
C06: the `triedb` operations on the plain `Trie` type.

The insert inspector of `triedb.go` computes the in-memory trie's `Trie.insert` (TrieMem).  `tRemove`
is the remove inspector with `fix`.  It has no `len(key) == 0` short cut; on canonical tries, away
from that short cut, it is the in-memory trie's `deleteAtNode` (`tRemove_eq`), and on an absent key it
changes nothing (`tRemove_absent`), so the whole C01 development (`Canon`, `Rep`) carries over to
both.  The model's own `C06.lcpLen` is `Trie.lcpLen` (`lcpLen_eq`: every proof about
`insertNode`/`removeNode` starts by rewriting with it).
-/
import Gossamer.Lib.TrieRefine
import Gossamer.Model.C06
namespace Gossamer.C06
open Gossamer Gossamer.Trie

/-! a list is shorter than its proper extensions: what decides the branches of the insert inspectors
once the common prefix `c` of the two keys is known -/

theorem length_lt_append_cons {α : Type} (c : List α) (x : α) (xs : List α) :
    c.length < (c ++ x :: xs).length := by
  rw [List.length_append]; exact Nat.lt_add_of_pos_right (Nat.succ_pos _)

theorem length_ne_append_cons {α : Type} (c : List α) (x : α) (xs : List α) :
    c.length ≠ (c ++ x :: xs).length := Nat.ne_of_lt (length_lt_append_cons c x xs)

theorem append_cons_length_ne {α : Type} (c : List α) (x : α) (xs : List α) :
    (c ++ x :: xs).length ≠ c.length := (length_ne_append_cons c x xs).symm

theorem lcpLen_eq (a b : Nibs) : C06.lcpLen a b = Trie.lcpLen a b := by
  induction a generalizing b with
  | nil => cases b <;> rfl
  | cons x xs ih => cases b with
    | nil => rfl
    | cons y ys => simp [C06.lcpLen, Trie.lcpLen, ih]

/-- `tRemove` at the branch's own key: the value goes and `fix` runs; a branch without value is restored
    as it is, without `fix` -/
def tDropValue (pk : Nibs) (bv : Option Bytes) (cs : Nib → Trie) : Trie :=
  match bv with
  | some _ => handleDeletion pk none cs pk
  | none => branch pk none cs

/-- `removeInspector` + `fix` on the plain trie (`fix` is `handleDeletion` of the in-memory trie
    called with the branch's own partial key) -/
def tRemove : Trie → Nibs → Trie
  | nil, _ => nil
  | leaf pk v, key => if pk = key then nil else leaf pk v
  | branch pk bv cs, key =>
    if key = pk then tDropValue pk bv cs
    else if pk.isPrefixOf key then
      match key.drop pk.length with
      | idx :: krest =>
        if (cs idx).isNil then branch pk bv cs
        else if (tRemove (cs idx) krest).isNil then handleDeletion pk bv (setChild cs idx nil) pk
        else branch pk bv (setChild cs idx (tRemove (cs idx) krest))
      | [] => branch pk bv cs
    else branch pk bv cs

theorem tRemove_self (pk : Nibs) (bv : Option Bytes) (cs : Nib → Trie) :
    tRemove (branch pk bv cs) pk = tDropValue pk bv cs := by
  simp only [tRemove, if_true]

theorem tRemove_child (pk : Nibs) (bv : Option Bytes) (cs : Nib → Trie) (idx : Nib) (krest : Nibs) :
    tRemove (branch pk bv cs) (pk ++ idx :: krest) =
      if (cs idx).isNil then branch pk bv cs
      else if (tRemove (cs idx) krest).isNil then handleDeletion pk bv (setChild cs idx nil) pk
      else branch pk bv (setChild cs idx (tRemove (cs idx) krest)) := by
  simp only [tRemove, append_cons_ne_self pk idx krest, if_false, isPrefixOf_append_self, if_true,
    List.drop_left]

theorem tRemove_off {pk key : Nibs} (bv : Option Bytes) (cs : Nib → Trie) (hoff : pk.isPrefixOf key = false) :
    tRemove (branch pk bv cs) key = branch pk bv cs := by
  simp only [tRemove, isPrefixOf_false_ne hoff, if_false, hoff, Bool.false_eq_true]

theorem tRemove_eq (t : Trie) (key : Nibs) (hc : Canon t) (he : emptyKeyHit t key = false) :
    tRemove t key = (deleteAtNode t key).1 := by
  induction t generalizing key with
  | nil => rfl
  | leaf pk v =>
    simp only [tRemove, deleteAtNode]
    by_cases h : pk = key
    · subst h; simp
    · have hlen : key ≠ [] := by
        rintro rfl
        cases pk with
        | nil => exact h rfl
        | cons a as => cases he
      have : ¬ key = pk := fun e => h e.symm
      simp [h, this, List.length_pos_iff.mpr hlen]
  | branch pk bv cs ih =>
    rcases key_cases pk key with rfl | ⟨idx, krest, rfl⟩ | hoff
    · rw [tRemove_self, deleteAtNode_branch_self]
      cases bv with
      | none => exact (handleDeletion_of_canon hc _).symm
      | some x => rfl
    · rw [emptyKeyHit_branch_child] at he
      have ih := ih idx krest (hc.1 idx) he
      rw [tRemove_child, deleteAtNode_branch_child, ih]
      by_cases hnil : (cs idx).isNil = true
      · rw [if_pos hnil, (isNil_iff _).mp hnil]; rfl
      · rw [if_neg hnil]
        cases hflag : (deleteAtNode (cs idx) krest).2 with
        | false =>
          rw [deleteAtNode_unchanged _ _ hflag, if_neg hnil, setChild_self]; rfl
        | true =>
          by_cases hr : (deleteAtNode (cs idx) krest).1.isNil = true
          · rw [if_pos hr, (isNil_iff _).mp hr, handleDeletion_key]; rfl
          · rw [if_neg hr]
            exact (handleDeletion_of_canon (canon_replace hc idx (canon_deleteAtNode _ _ (hc.1 idx))
              (fun e => hr ((isNil_iff _).mpr e))) _).symm
    · rw [emptyKeyHit_branch_off bv cs hoff, List.isEmpty_eq_false_iff] at he
      rw [tRemove_off bv cs hoff, deleteAtNode_branch_off bv cs hoff he]

theorem tRemove_absent (t : Trie) (key : Nibs) (h : lookup t key = none) : tRemove t key = t := by
  induction t generalizing key with
  | nil => rfl
  | leaf pk v =>
    simp only [tRemove]
    by_cases hk : pk = key
    · subst hk; simp at h
    · rw [if_neg hk]
  | branch pk bv cs ih =>
    rcases key_cases pk key with rfl | ⟨idx, krest, rfl⟩ | hoff
    · rw [lookup_branch_self] at h; subst h; exact tRemove_self _ none cs
    · rw [lookup_branch_child] at h
      rw [tRemove_child, ih idx krest h, setChild_self]
      by_cases hnil : (cs idx).isNil = true
      · rw [if_pos hnil]
      · rw [if_neg hnil, if_neg hnil]
    · exact tRemove_off bv cs hoff

theorem exceeds_eq_mustBeHashed (ver : Ver) (v : Bytes) :
    exceedsInline ver v.length = mustBeHashed ver v := by
  cases ver <;> simp [exceedsInline, mustBeHashed, v1MaxInline]

theorem newValue_eq (ver : Ver) (v : Bytes) :
    newValue ver v = if mustBeHashed ver v then .fresh v else .inl v := by
  unfold newValue; rw [exceeds_eq_mustBeHashed]

theorem rep_insert {t : Trie} {es : Entries} (h : Rep t es) (k v : Bytes) :
    Rep (Trie.insert t (toNibs k) v) (OMap.upsert k v es) := by
  have := h.put k v
  rwa [Trie.put, keyLEToNibbles_eq] at this

theorem rep_tRemove {t : Trie} {es : Entries} (h : Rep t es) (k : Bytes) :
    Rep (tRemove t (toNibs k)) (OMap.erase k es) := by
  cases hl : OMap.get k es with
  | none =>
    rw [tRemove_absent _ _ (by rw [h.lookup_eq]; exact hl), OMap.erase,
      AList.filter_of_lookup_none (OMap.get_eq k es ▸ hl)]
    exact h
  | some v =>
    have hk := h.safe_of_present hl
    rw [tRemove_eq _ _ h.canon hk]
    have := h.delete k hk
    rwa [Trie.delete, keyLEToNibbles_eq] at this

end Gossamer.C06
