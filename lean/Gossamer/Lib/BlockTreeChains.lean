/-
Chains of parent pointers from a node to the root: numbers, uniqueness, suffixes; on them, what
`accumulateHashesInDescedingOrder` (Range) and `GetHashByNumber` (which searches the chain of the best node) answer.
-/
import Gossamer.Lib.BlockTreeSim

namespace Gossamer.BlockTree

theorem takeWhile_eq_take {α : Type} [DecidableEq α] : ∀ (l : List α) (k : Nat) (a : α), l.Nodup →
    (hk : k < l.length) → l[k] = a → l.takeWhile (fun x => decide (x ≠ a)) = l.take k := by
  intro l
  induction l with
  | nil => intro k a _ hk; simp at hk
  | cons x xs ih =>
    intro k a hn hk he
    cases k with
    | zero =>
      simp only [List.getElem_cons_zero] at he
      simp [List.takeWhile, he]
    | succ k =>
      simp only [List.getElem_cons_succ] at he
      simp only [List.length_cons] at hk
      have hxa : x ≠ a := by
        intro h
        rw [List.nodup_cons] at hn
        exact hn.1 (h ▸ he ▸ List.getElem_mem _)
      simp only [List.takeWhile, hxa, ne_eq, not_false_eq_true, decide_true, List.take_succ_cons]
      rw [ih k a (List.nodup_cons.1 hn).2 (by omega) he]

theorem pathF_suffix {h : Hash} : ∀ f q, (descF f).Nodup → pathF h f = some q →
    ∀ j (hj : j < q.length), pathF q[j].hash f = some (q.drop j) := by
  intro f
  induction f using forest_ind with
  | nil => simp [pathF]
  | cons i cs rest ih1 ih2 =>
    intro q hd hq j hj
    simp only [descF, List.nodup_cons, List.mem_append, List.nodup_append, not_or] at hd
    obtain ⟨hi, hcs, hrest, hdis⟩ := hd
    rcases pathF_cons hq with ⟨_, rfl⟩ | ⟨_, q', hq', rfl⟩ | ⟨_, _, hq⟩
    · obtain rfl : j = 0 := by simpa using hj
      simp [pathF]
    · rw [List.length_append, List.length_singleton] at hj
      by_cases hjq : j < q'.length
      · have := ih1 q' hcs hq' j hjq
        have hne : ¬ i.hash = q'[j].hash := fun e => hi.1 (e ▸ pathF_mem this)
        rw [List.getElem_append_left hjq, pathF, if_neg hne, this, List.drop_append_of_le_length (by omega)]
      · obtain rfl : j = q'.length := by omega
        simp [pathF]
    · have := ih2 q hrest hq j hj
      have hmem : q[j].hash ∈ descF rest := pathF_mem this
      have hne : ¬ i.hash = q[j].hash := fun e => hi.2 (e ▸ hmem)
      rw [pathF, if_neg hne, pathF_none.2 (fun hc => hdis _ hc _ hmem rfl), this]

/-- what Range, LowestCommonAncestor and GetHashByNumber use of the chain `up = bt.up h` of a held block
    (`nums`: `pathF_numbers` with the root's number put in) -/
structure UpFacts (bt : BT) (h : Hash) (up : List Info) : Prop where
  ne : up ≠ []
  head : up[0]?.map (·.hash) = some h
  last : up.getLast? = some bt.root.info
  nums : ∀ j (hj : j < up.length), up[j].number + j = bt.root.info.number + (up.length - 1)
  mem : ∀ x ∈ up, x ∈ infosF [bt.root]
  suffix : ∀ j (hj : j < up.length), bt.up up[j].hash = up.drop j

theorem up_facts {bt : BT} (hi : Inv bt) {h : Hash} (hh : h ∈ descF [bt.root]) : UpFacts bt h (bt.up h) := by
  unfold BT.up
  cases hq : pathF h [bt.root] with
  | none => exact absurd hh (pathF_none.1 hq)
  | some q =>
    rw [Option.getD_some]
    obtain ⟨i', r, hqe, hi'⟩ := pathF_head hq
    refine ⟨by rw [hqe]; simp, by rw [hqe]; simp [hi'], ?_, fun j hj => ?_,
      fun x hx => (pathF_sublist hq).subset (List.mem_reverse.2 hx), fun j hj => ?_⟩
    · rw [pathF_node] at hq
      split at hq
      · cases hq; rfl
      · obtain ⟨p, _, rfl⟩ := Option.map_eq_some_iff.1 hq
        simp
    · have := pathF_numbers _ _ q hi.numOK hq j hj
      omega
    · show (pathF q[j].hash [bt.root]).getD [] = q.drop j
      rw [pathF_suffix [bt.root] _ hi.nodup hq j hj]; rfl

theorem up_hashes_nodup {bt : BT} (hi : Inv bt) (h : Hash) : ((bt.up h).map (·.hash)).Nodup := by
  unfold BT.up
  cases hq : pathF h [bt.root] with
  | none => exact List.nodup_nil
  | some q =>
    have := ((pathF_sublist hq).map (·.hash)).nodup (descF_eq_map_infos _ ▸ hi.nodup)
    rw [List.map_reverse] at this
    exact (List.reverse_perm _).nodup_iff.1 this

theorem up_head_info {bt : BT} (hi : Inv bt) {e : Hash} {en : Node} (he : findF e [bt.root] = some en) :
    (bt.up e)[0]? = some en.info := by
  have hu := up_facts hi (findF_mem he)
  obtain ⟨x, hx, hxe⟩ := Option.map_eq_some_iff.1 hu.head
  rw [hx, info_unique hi.nodup (hu.mem x (List.mem_of_getElem? hx)) (mem_infos_of_subs (findF_some he).1)
    (hxe.trans (findF_some he).2.symm)]

theorem up_length {bt : BT} (hi : Inv bt) {e : Hash} {en : Node} (he : findF e [bt.root] = some en) :
    en.info.number + 1 = bt.root.info.number + (bt.up e).length := by
  obtain ⟨hlen, h0⟩ := List.getElem?_eq_some_iff.1 (up_head_info hi he)
  have := (up_facts hi (findF_mem he)).nums 0 hlen
  rw [h0] at this
  omega

theorem accumulate_spec {bt : BT} {S : Spec} (hi : Inv bt) (hsim : Sim bt S) {s' e : Hash} {sn en : Node}
    (hs : findF s' [bt.root] = some sn) (he : findF e [bt.root] = some en) :
    accumulate (bt.up e) en.info sn.info =
      if sn.info.number > en.info.number then .error .startGreater
      else if S.isAnc s' e then .ok (S.pathDown s' e)
      else .error .notAncestor := by
  obtain ⟨hsn, hsh⟩ := findF_some hs
  have hem : e ∈ descF [bt.root] := findF_mem he
  have hu := up_facts hi hem
  have hanc : S.ancestors e = (bt.up e).map (·.hash) := hsim.ancestors hi hem
  have hsni : sn.info ∈ infosF [bt.root] := mem_infos_of_subs hsn
  have hn0 := up_length hi he
  have hnd := up_hashes_nodup hi e
  generalize bt.up e = up at *
  have hsge := hi.number_ge _ hsni
  unfold accumulate
  by_cases hgt : sn.info.number > en.info.number
  · rw [if_pos hgt, if_pos hgt]
  · rw [if_neg hgt, if_neg hgt]
    -- the place of the start block on the chain, if it is there: as many steps up as the numbers differ
    generalize en.info.number = N at *
    obtain ⟨k, rfl⟩ := Nat.exists_eq_add_of_le (Nat.le_of_not_gt hgt)
    dsimp only
    rw [Nat.add_sub_cancel_left]
    have hk : k < up.length := by omega
    rw [List.getElem?_eq_getElem hk]
    dsimp only
    have hnk := hu.nums _ hk
    by_cases hx : up[k].hash = sn.info.hash
    · have hisAnc : S.isAnc s' e := by
        unfold Spec.isAnc
        rw [hanc, ← hsh, ← hx]
        exact List.mem_map.2 ⟨_, List.getElem_mem hk, rfl⟩
      rw [if_neg (not_not_intro hx), if_pos hisAnc]
      unfold Spec.pathDown
      rw [hsh, hanc, takeWhile_eq_take (up.map (·.hash)) k s'
        hnd (by simpa using hk) (by simp [hx, hsh]), List.map_take]
    · have hnot : ¬ S.isAnc s' e := by
        unfold Spec.isAnc
        rw [hanc]
        intro hm
        obtain ⟨x, hxm, hxh⟩ := List.mem_map.1 hm
        obtain ⟨j, hj, rfl⟩ := List.getElem_of_mem hxm
        have hxe : up[j] = sn.info := info_unique hi.nodup (hu.mem _ hxm) hsni (by rw [hxh, hsh])
        have hnj := hu.nums j hj
        rw [hxe] at hnj
        obtain rfl : j = k := by omega
        exact hx (by rw [hxe])
      rw [if_pos hx, if_neg hnot]

theorem getHashByNumber_spec {bt : BT} (hi : Inv bt) {σ : List Info → List Info} {nb : Node}
    (hnb : findF nb.info.hash [bt.root] = some nb) (hb : bt.best σ = some (some nb.info)) (num : Nat) :
    (nb.info.number < num → bt.getHashByNumber num σ = .greaterThanHighest) ∧
    (num < bt.root.info.number → bt.getHashByNumber num σ = .lowerThanRoot) ∧
    (bt.root.info.number ≤ num → num ≤ nb.info.number →
      ∃ x ∈ bt.up nb.info.hash, bt.getHashByNumber num σ = .ok x.hash ∧ x.number = num) := by
  have hu := up_facts hi (findF_mem hnb)
  have h0 := up_head_info hi hnb
  have hbn := up_length hi hnb
  unfold BT.getHashByNumber
  simp only [hb]
  generalize bt.up nb.info.hash = up at *
  have hlen : 0 < up.length := List.length_pos_iff.2 hu.ne
  refine ⟨fun h => by rw [if_pos h], fun h1 => ?_, fun h1 h2 => ?_⟩
  · rw [if_neg (by omega), if_neg (by omega), if_pos h1]
  · rw [if_neg (Nat.not_lt.2 h2)]
    by_cases he : nb.info.number = num
    · rw [if_pos he]
      exact ⟨_, List.mem_of_getElem? h0, rfl, he⟩
    · rw [if_neg he, if_neg (Nat.not_lt.2 h1)]
      by_cases hr : bt.root.info.number = num
      · rw [if_pos hr]
        exact ⟨_, List.mem_of_getLast? hu.last, rfl, hr⟩
      · rw [if_neg hr]
        -- the element `k + 1` steps up, where `k + 1` is the distance of the numbers, is in the tail
        obtain ⟨k, hk⟩ : ∃ k, nb.info.number = num + (k + 1) := ⟨nb.info.number - num - 1, by omega⟩
        have hj : k + 1 < up.length := by omega
        have hnj := hu.nums _ hj
        have hjt : up[k + 1] ∈ up.tail := by
          cases up with
          | nil => cases hj
          | cons u0 ut => exact List.getElem_mem _
        cases hf : up.tail.find? (fun x => decide (x.number = num)) with
        | none =>
          have := List.find?_eq_none.1 hf _ hjt
          simp only [decide_eq_true_eq] at this
          omega
        | some x =>
          exact ⟨x, List.mem_of_mem_tail (List.mem_of_find?_eq_some hf), rfl, by simpa using List.find?_some hf⟩

end Gossamer.BlockTree
