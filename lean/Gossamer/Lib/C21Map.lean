/-
The Go maps of C21's model are association lists.  `aget` is core's `List.lookup` (`aget_eq_lookup`, the tie to
Lib/AList); `aset` overwrites the first entry IN PLACE, or appends, so that the position of a key is the one Go's map
iteration order is applied to; Lib/AList's writes put the new entry in front or keep the keys sorted, so the facts
about `aset` are proved here.
-/
import Gossamer.Model.C21
import Gossamer.Lib.AList
namespace Gossamer.C21

def keys {α : Type} (l : List (Nat × α)) : List Nat := l.map (·.1)

theorem aget_eq_lookup {α : Type} (l : List (Nat × α)) (k : Nat) : aget l k = l.lookup k :=
  AssocLookup.eq_lookup (lk := fun k l => aget l k) ⟨fun _ => rfl, fun _ _ _ => rfl⟩ k l

theorem aget_none_iff {α : Type} (l : List (Nat × α)) (k : Nat) : aget l k = none ↔ k ∉ keys l := by
  rw [aget_eq_lookup]; exact AList.lookup_eq_none_iff_keys

theorem ahas_iff {α : Type} (l : List (Nat × α)) (k : Nat) : ahas l k = true ↔ k ∈ keys l := by
  rw [ahas, Option.isSome_iff_ne_none, Ne, aget_none_iff, Decidable.not_not]

theorem mem_aset_self {α : Type} (l : List (Nat × α)) (k : Nat) (v : α) : (k, v) ∈ aset l k v := by
  induction l with
  | nil => simp [aset]
  | cons p rest ih =>
    obtain ⟨k', v'⟩ := p
    unfold aset
    split
    · exact List.mem_cons_self
    · exact List.mem_cons_of_mem _ ih

theorem mem_aset {α : Type} {l : List (Nat × α)} {k : Nat} {v : α} {p : Nat × α} (h : p ∈ aset l k v) :
    p = (k, v) ∨ p ∈ l := by
  induction l with
  | nil => simp [aset] at h; exact Or.inl h
  | cons q rest ih =>
    obtain ⟨k', v'⟩ := q
    unfold aset at h
    split at h
    · rcases List.mem_cons.1 h with h | h
      · exact Or.inl h
      · exact Or.inr (List.mem_cons_of_mem _ h)
    · rcases List.mem_cons.1 h with h | h
      · exact Or.inr (h ▸ List.mem_cons_self)
      · rcases ih h with h | h
        · exact Or.inl h
        · exact Or.inr (List.mem_cons_of_mem _ h)

theorem mem_aset_of_mem {α : Type} {l : List (Nat × α)} {k : Nat} {v : α} {p : Nat × α} (h : p ∈ l)
    (hv : p.1 = k → p.2 = v) : p ∈ aset l k v := by
  induction l with
  | nil => cases h
  | cons q rest ih =>
    obtain ⟨k', v'⟩ := q
    unfold aset
    split
    · rename_i hk
      rcases List.mem_cons.1 h with rfl | h
      · obtain rfl : v' = v := hv hk
        exact hk ▸ List.mem_cons_self
      · exact List.mem_cons_of_mem _ h
    · rcases List.mem_cons.1 h with h | h
      · exact h ▸ List.mem_cons_self
      · exact List.mem_cons_of_mem _ (ih h)

theorem aset_ne_nil {α : Type} (l : List (Nat × α)) (k : Nat) (v : α) : aset l k v ≠ [] :=
  List.ne_nil_of_mem (mem_aset_self l k v)

theorem mem_keys_aset {α : Type} {l : List (Nat × α)} {k x : Nat} {v : α} :
    x ∈ keys (aset l k v) ↔ x = k ∨ x ∈ keys l := by
  induction l with
  | nil => simp [aset, keys]
  | cons p rest ih =>
    unfold aset
    by_cases hk : p.1 = k
    · rw [if_pos hk, ← hk]; simp [keys]
    · rw [if_neg hk]
      unfold keys at ih ⊢
      rw [List.map_cons, List.mem_cons, ih, List.map_cons, List.mem_cons, or_left_comm]

theorem nodup_keys_aset {α : Type} {l : List (Nat × α)} (k : Nat) (v : α) (h : (keys l).Nodup) :
    (keys (aset l k v)).Nodup := by
  induction l with
  | nil => simp [aset, keys]
  | cons p rest ih =>
    have hn := List.nodup_cons.1 h
    unfold aset
    by_cases hk : p.1 = k
    · rw [if_pos hk]; exact hk ▸ h
    · rw [if_neg hk]
      exact List.nodup_cons.2 ⟨fun hm => (mem_keys_aset.1 hm).elim hk hn.1, ih hn.2⟩

theorem keys_adel {α : Type} (l : List (Nat × α)) (k : Nat) : keys (adel l k) = (keys l).filter (· != k) :=
  (List.filter_map (f := Prod.fst) (p := (· != k))).symm

end Gossamer.C21
