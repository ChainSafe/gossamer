import Gossamer.Lib.C03Inv
namespace Gossamer.C03
open Gossamer Gossamer.Trie Gossamer.TrieHeap

/-- the cells strictly below `ρ` -/
def PD (hp : Heap) (ρ : Nat) (a : Nat) : Prop := ∃ i c, (hp.get ρ).kids i = some c ∧ Reach hp c a

theorem view_PD (hp : Heap) (ρ : Nat) : View hp (PD hp ρ) ρ where
  closed := by
    rintro a ⟨i, c, hk, hr⟩ j x hx
    exact ⟨i, c, hk, hr.tail j hx⟩
  kids := fun i c hk => ⟨i, c, hk, Reach.refl c⟩

theorem PD_reach {hp : Heap} {ρ a : Nat} (h : PD hp ρ a) : Reach hp ρ a := by
  obtain ⟨i, c, hk, hr⟩ := h
  exact Reach.step i hk hr

/-- What an operation must leave alone for the live handle `k` with info `y`.
    `hash` has a premise: the root of the acting trie does not lie strictly below `ρ`.  It is `Frame.Adm.root`
    (TrieHeapGood, which says why) for the view `PD s.hp ρ`.  No theorem discharges it (`SInv` does not exclude
    such states); the driver tests it in every state (`rootBelowRoot` of the model). -/
structure Same (H : Bytes → Bytes) (s s' : St) (k : Nat) (y : HInfo) (actorRoot : Option Nat) : Prop where
  live : Live s' k y
  entries : entries s'.hp y.t.root = entries s.hp y.t.root
  hash : ∀ ρ, y.t.root = some ρ → (∀ r, actorRoot = some r → ¬ PD s.hp ρ r) →
    ∀ m, RVal H s.hp ρ m ↔ RVal H s'.hp ρ m

theorem same_of_eq {H : Bytes → Bytes} {s s' : St} (hhp : s'.hp = s.hp) {k : Nat} {y : HInfo}
    (hl : Live s' k y) (ar : Option Nat) : Same H s s' k y ar :=
  ⟨hl, by rw [hhp], fun _ _ _ _ => by rw [hhp]⟩

theorem live_setAt {s : St} {h : Nat} (hlt : h < s.hs.length) (hp' : Heap) (x' : HInfo) (i : Nat) (y : HInfo) :
    Live { hp := hp', hs := setAt s.hs h x' } i y ↔ (i = h ∧ y = x' ∧ x'.live = true) ∨ (i ≠ h ∧ Live s i y) := by
  unfold Live
  simp only [getElem?_setAt]
  by_cases hi : i = h
  · subst hi
    rw [if_pos ⟨rfl, hlt⟩]
    constructor
    · rintro ⟨h1, h2⟩
      cases h1; exact Or.inl ⟨rfl, rfl, h2⟩
    · rintro (⟨_, rfl, h2⟩ | ⟨hne, _⟩)
      · exact ⟨rfl, h2⟩
      · exact absurd rfl hne
  · rw [if_neg (fun hh => hi hh.1)]
    exact ⟨fun hh => Or.inr ⟨hi, hh⟩, fun hh => hh.elim (fun c => absurd c.1 hi) (·.2)⟩

theorem parents_setAt {hs : List HInfo} {h : Nat} {x x' : HInfo} (hx : hs[h]? = some x)
    (hp : x'.parent = x.parent) (i : Nat) :
    ((setAt hs h x')[i]?).map HInfo.parent = (hs[i]?).map HInfo.parent := by
  rw [getElem?_setAt]
  split
  · rename_i hc
    obtain ⟨rfl, _⟩ := hc
    rw [hx]; simp [hp]
  · rfl

/-- A mutating method through a handle `h` without a live snapshot below it.  The idea: by `sep` and the guard, what
    another live handle reaches is old and not owned by `h` (`hother`), so `Good.frame` leaves it alone up to caches
    (`hsame`): same reachability, same entries, and `Good.views` gives the hash clause.  What `h` itself reaches
    afterwards lies in the region `W`, its old part was reachable before and its own-generation part is owned or new
    (`hmine`, `hmineGen`): that gives `genBound` and `sep` back. -/
theorem mut_step {H : Bytes → Bytes} {s : St} (hI : SInv s) {h : Nat} {x : HInfo} (hl : Live s h x)
    {hp' : Heap} {t' : Handle} (hok : TopOK H s.hp x.t hp' t')
    (hguard : ∀ j y, Live s j y → ¬ Anc s.hs h j) :
    SInv (s.setHandle hp' h x t') ∧
    ∀ k y, Live s k y → k ≠ h → Same H s (s.setHandle hp' h x t') k y x.t.root := by
  have hlive := live_setAt (live_lt hl) hp' { x with t := t' }
  have hpar := parents_setAt (x' := { x with t := t' }) hl.1 rfl
  have hother : ∀ k y, Live s k y → k ≠ h → ∀ a, ReachO s.hp y.t.root a →
      a < s.hp.size ∧ ¬ (frameOf H s.hp x.t).Own0 a := by
    intro k y hk hne a ha
    refine ⟨reachO_lt hI.wf (hI.roots k y hk) ha, ?_⟩
    rintro ⟨hr0, hgen⟩
    exact hI.sep h x k y hl hk (Ne.symm hne) (hguard k y hk) a hr0 hgen ha
  have hsame : ∀ k y, Live s k y → k ≠ h → ∀ a, ReachO s.hp y.t.root a →
      (hp'.get a).strip = (s.hp.get a).strip := by
    intro k y hk hne a ha
    obtain ⟨h1, h2⟩ := hother k y hk hne a ha
    exact (hok.good.frame a h1 h2).1
  have hreach : ∀ k y, Live s k y → k ≠ h → ∀ a, ReachO hp' y.t.root a ↔ ReachO s.hp y.t.root a :=
    fun k y hk hne a => reachO_iff_of_strip (hsame k y hk hne) a
  have hmine : ∀ a, ReachO hp' t'.root a → a < hp'.size ∧ (a < s.hp.size → ReachO s.hp x.t.root a) := by
    intro a ha
    obtain ⟨r, hr, ha⟩ := reachO_iff.mp ha
    have hw := Reach.closed (fun a ha => hok.good.kids a ha.1) (hok.root r hr) ha
    exact ⟨hw.2, fun hlt => hw.1.resolve_right (fun h1 => Nat.not_lt.mpr h1 hlt)⟩
  have hmineGen : ∀ a, ReachO hp' t'.root a → (hp'.get a).gen ≤ x.t.gen ∧
      ((hp'.get a).gen = x.t.gen → s.hp.size ≤ a ∨ (frameOf H s.hp x.t).Own0 a) := by
    intro a ha
    have hw := hmine a ha
    by_cases hlt : a < s.hp.size
    · have hr0 := hw.2 hlt
      have hg' : (hp'.get a).gen = (s.hp.get a).gen := hok.good.gen a hlt
      refine ⟨by rw [hg']; exact hI.genBound h x hl a hr0, fun he => Or.inr ⟨hr0, ?_⟩⟩
      show (s.hp.get a).gen = x.t.gen
      rw [← hg']; exact he
    · have hf := hok.good.fresh a (by show s.hp.size ≤ a; omega) hw.1
      exact ⟨by rw [hf]; exact Nat.le_refl _, fun _ => Or.inl (by omega)⟩
  refine ⟨⟨hok.good.wf, ?roots, ?genBound, ?sep, ?parentLt⟩, ?others⟩
  case roots =>
    intro i y hy r hr
    rcases (hlive i y).mp hy with ⟨rfl, rfl, _⟩ | ⟨hne, hy'⟩
    · exact (hok.root r hr).2
    · exact Nat.lt_of_lt_of_le (hI.roots i y hy' r hr) hok.good.size
  case genBound =>
    intro i y hy a ha
    rcases (hlive i y).mp hy with ⟨rfl, rfl, _⟩ | ⟨hne, hy'⟩
    · show (hp'.get a).gen ≤ t'.gen
      rw [hok.gen]; exact (hmineGen a ha).1
    · have ha' := (hreach i y hy' hne a).mp ha
      have hlt := (hother i y hy' hne a ha').1
      show (hp'.get a).gen ≤ y.t.gen
      rw [hok.good.gen a hlt]; exact hI.genBound i y hy' a ha'
  case sep =>
    intro i y j z hy hz hij hnanc' a ha hgen hb
    have hnanc : ¬ Anc s.hs i j := fun hc => hnanc' (hc.congr hpar)
    rcases (hlive i y).mp hy with ⟨rfl, rfl, _⟩ | ⟨hne, hy'⟩
    · rcases (hlive j z).mp hz with ⟨rfl, _⟩ | ⟨hnej, hz'⟩
      · exact hij rfl
      · have hb' := (hreach j z hz' hnej a).mp hb
        have hold := hother j z hz' hnej a hb'
        have hgen' : (hp'.get a).gen = x.t.gen := by rw [← hok.gen]; exact hgen
        rcases (hmineGen a ha).2 hgen' with hfr | hown
        · exact absurd hold.1 (by omega)
        · exact hold.2 hown
    · have ha' := (hreach i y hy' hne a).mp ha
      have hlt := (hother i y hy' hne a ha').1
      have hgen' : (s.hp.get a).gen = y.t.gen := by
        have hg' : (hp'.get a).gen = (s.hp.get a).gen := hok.good.gen a hlt
        rw [← hg']; exact hgen
      rcases (hlive j z).mp hz with ⟨rfl, rfl, _⟩ | ⟨hnej, hz'⟩
      · -- the other handle owns `a`, which the operated handle now reaches
        exact hI.sep i y j x hy' hl hij hnanc a ha' hgen' ((hmine a hb).2 hlt)
      · have hb' := (hreach j z hz' hnej a).mp hb
        exact hI.sep i y j z hy' hz' hij hnanc a ha' hgen' hb'
  case parentLt =>
    intro i y p hy hp
    obtain ⟨y0, hy0, e⟩ := parent_congr (fun j => (hpar j).symm) hy
    exact hI.parentLt i y0 p hy0 (e.trans hp)
  case others =>
    intro k y hk hne
    refine ⟨(hlive k y).mpr (Or.inr ⟨hne, hk⟩), entries_congr y.t.root (hsame k y hk hne), ?_⟩
    intro ρ hρ hnk m
    have had : (frameOf H s.hp x.t).Adm (PD s.hp ρ) ρ := by
      refine ⟨view_PD s.hp ρ, ?_, fun r hr => hnk r hr⟩
      intro a ha
      have hra : ReachO s.hp y.t.root a := by
        rw [hρ]
        rcases ha with ha | rfl
        · exact PD_reach ha
        · exact Reach.refl _
      exact hother k y hk hne a hra
    exact (hok.good.views _ ρ had).rval_iff (view_PD s.hp ρ) m

theorem reachO_cacheOnly {hp hp' : Heap} (hc : CacheOnly hp hp') (root : Option Nat) (a : Nat) :
    ReachO hp' root a ↔ ReachO hp root a :=
  reachO_iff_of_strip (fun b _ => hc.cell b) a

theorem cache_inv {s : St} (hI : SInv s) {hp' : Heap} (hc : CacheOnly s.hp hp') :
    SInv { s with hp := hp' } ∧
    ∀ k y, Live s k y → Live { s with hp := hp' } k y ∧ entries hp' y.t.root = entries s.hp y.t.root := by
  refine ⟨⟨hc.wf hI.wf, ?roots, ?genBound, ?sep, hI.parentLt⟩, ?others⟩
  case roots =>
    intro i y hy r hr
    show r < hp'.size
    rw [hc.size]; exact hI.roots i y hy r hr
  case genBound =>
    intro i y hy a ha
    show (hp'.get a).gen ≤ y.t.gen
    rw [strip_gen (hc.cell a)]
    exact hI.genBound i y hy a ((reachO_cacheOnly hc _ a).mp ha)
  case sep =>
    intro i y j z hy hz hij hn a ha hgen hb
    have hgen' : (s.hp.get a).gen = y.t.gen := by rw [← strip_gen (hc.cell a)]; exact hgen
    exact hI.sep i y j z hy hz hij hn a ((reachO_cacheOnly hc _ a).mp ha) hgen'
      ((reachO_cacheOnly hc _ a).mp hb)
  case others =>
    intro k y hk
    exact ⟨hk, entries_congr y.t.root (fun b _ => hc.cell b)⟩

theorem cache_step {H : Bytes → Bytes} {s : St} (hI : SInv s) {hp' : Heap} (hc : CacheOnly s.hp hp')
    (actorRoot : Option Nat)
    (hvp : ∀ ρ, (∀ r, actorRoot = some r → ¬ PD s.hp ρ r) → VP H (PD s.hp ρ) ρ s.hp hp') :
    SInv { s with hp := hp' } ∧ ∀ k y, Live s k y → Same H s { s with hp := hp' } k y actorRoot := by
  obtain ⟨h1, h2⟩ := cache_inv hI hc
  refine ⟨h1, fun k y hk => ⟨(h2 k y hk).1, (h2 k y hk).2, ?_⟩⟩
  intro ρ _ hnk m
  exact (hvp ρ hnk).rval_iff (view_PD s.hp ρ) m

theorem hashAll_go_cacheOnly (H : Bytes → Bytes) : ∀ (l : List HInfo) (i : Nat) (hp : Heap),
    CacheOnly hp (hashAll.go H i hp l).1
  | [], _, hp => CacheOnly.refl hp
  | x :: r, i, hp => by
    unfold hashAll.go
    split
    · exact (mvOnly_hash H hp x.t).cacheOnly.trans (hashAll_go_cacheOnly H r (i + 1) _)
    · exact hashAll_go_cacheOnly H r (i + 1) hp

theorem anc_append_iff {hs : List HInfo} (hlt : ∀ (i : Nat) (x : HInfo) (p : Nat), hs[i]? = some x → x.parent = some p → p < i)
    (nw : HInfo) (a : Nat) {i : Nat} (hi : i < hs.length) : Anc (hs ++ [nw]) a i ↔ Anc hs a i := by
  constructor
  · intro ha
    induction ha with
    | @parent i y hy hp => rw [List.getElem?_append_left hi] at hy; exact Anc.parent hy hp
    | @step p i y hy hp _ ih =>
      rw [List.getElem?_append_left hi] at hy
      have := hlt i y p hy hp
      exact Anc.step hy hp (ih (by omega))
  · intro ha
    induction ha with
    | @parent i y hy hp => exact Anc.parent (by rw [List.getElem?_append_left hi]; exact hy) hp
    | @step p i y hy hp _ ih =>
      have := hlt i y p hy hp
      exact Anc.step (by rw [List.getElem?_append_left hi]; exact hy) hp (ih (by omega))

theorem snap_step {H : Bytes → Bytes} {s : St} (hI : SInv s) {h : Nat} {x : HInfo} (hl : Live s h x) :
    SInv { s with hs := s.hs ++ [{ t := snapshot x.t, parent := some h, live := true }] } ∧
    ∀ k y, Live s k y →
      Same H s { s with hs := s.hs ++ [{ t := snapshot x.t, parent := some h, live := true }] } k y none := by
  have hlt := live_lt hl
  generalize hnw : ({ t := snapshot x.t, parent := some h, live := true } : HInfo) = nw
  have hpar : nw.parent = some h := by rw [← hnw]
  have hlast : (s.hs ++ [nw])[s.hs.length]? = some nw := by simp
  have hanc := fun a {i} hi => anc_append_iff hI.parentLt nw a (i := i) hi
  have hanc_new : ∀ a, Anc (s.hs ++ [nw]) a s.hs.length → a = h ∨ Anc s.hs a h := by
    intro a ha
    generalize hn : s.hs.length = n at ha
    cases ha with
    | parent hy hp =>
      subst hn
      rw [hlast] at hy; cases hy; left; exact (Option.some.inj (hpar.symm.trans hp)).symm
    | step hy hp hr =>
      subst hn
      rw [hlast] at hy; cases hy
      cases hpar.symm.trans hp
      right; exact (hanc a hlt).mp hr
  have hgenB : ∀ a, ReachO s.hp x.t.root a → (s.hp.get a).gen ≤ x.t.gen := hI.genBound h x hl
  refine ⟨⟨hI.wf, ?roots, ?genBound, ?sep, ?parentLt⟩, ?others⟩
  case roots =>
    intro i y hy r hr
    rcases getElem?_snoc hy.1 with ⟨_, h1⟩ | ⟨_, rfl⟩
    · exact hI.roots i y ⟨h1, hy.2⟩ r hr
    · subst hnw; exact hI.roots h x hl r hr
  case genBound =>
    intro i y hy a ha
    rcases getElem?_snoc hy.1 with ⟨_, h1⟩ | ⟨_, rfl⟩
    · exact hI.genBound i y ⟨h1, hy.2⟩ a ha
    · subst hnw; exact Nat.le_succ_of_le (hgenB a ha)
  case sep =>
    intro i y j z hy hz hij hn a ha hgen hb
    rcases getElem?_snoc hy.1 with ⟨hi, h1⟩ | ⟨rfl, rfl⟩
    · rcases getElem?_snoc hz.1 with ⟨hj, h2⟩ | ⟨rfl, rfl⟩
      · exact hI.sep i y j z ⟨h1, hy.2⟩ ⟨h2, hz.2⟩ hij (fun hc => hn ((hanc i hj).mpr hc)) a ha hgen hb
      · -- the new snapshot reaches what its parent reaches
        subst hnw
        by_cases hih : i = h
        · subst hih
          exact hn (Anc.parent hlast rfl)
        · exact hI.sep i y h x ⟨h1, hy.2⟩ hl hih
            (fun hc => hn (Anc.step hlast rfl ((hanc i hlt).mpr hc))) a ha hgen hb
    · -- the new snapshot owns nothing yet
      subst hnw
      have := hgenB a ha
      have hg2 : (s.hp.get a).gen = x.t.gen + 1 := hgen
      omega
  case parentLt =>
    intro i y p hy hp
    rcases getElem?_snoc hy with ⟨_, h1⟩ | ⟨rfl, rfl⟩
    · exact hI.parentLt i y p h1 hp
    · cases hpar.symm.trans hp; exact hlt
  case others =>
    intro k y hk
    exact same_of_eq (by rfl) ⟨by rw [List.getElem?_append_left (live_lt hk)]; exact hk.1, hk.2⟩ none

theorem sinv_of_sub {s s' : St} (hI : SInv s) (hhp : s'.hp = s.hp)
    (hpar : ∀ i : Nat, (s'.hs[i]?).map HInfo.parent = (s.hs[i]?).map HInfo.parent)
    (hsub : ∀ i y, Live s' i y → ∃ y0, Live s i y0 ∧ y.t.root = y0.t.root ∧ y.t.gen = y0.t.gen) :
    SInv s' := by
  refine ⟨by rw [hhp]; exact hI.wf, ?roots, ?genBound, ?sep, ?parentLt⟩
  case roots =>
    intro i y hy r hr
    obtain ⟨y0, h0, hr0, _⟩ := hsub i y hy
    rw [hhp]; exact hI.roots i y0 h0 r (by rw [← hr0]; exact hr)
  case genBound =>
    intro i y hy a ha
    obtain ⟨y0, h0, hr0, hg0⟩ := hsub i y hy
    rw [hhp] at ha ⊢
    rw [hg0]; exact hI.genBound i y0 h0 a (by rw [← hr0]; exact ha)
  case sep =>
    intro i y j z hy hz hij hn a ha hgen hb
    obtain ⟨y0, h0, hr0, hg0⟩ := hsub i y hy
    obtain ⟨z0, h1, hr1, _⟩ := hsub j z hz
    rw [hhp] at ha hgen hb
    refine hI.sep i y0 j z0 h0 h1 hij (fun hc => hn (hc.congr hpar)) a
      (by rw [← hr0]; exact ha) (by rw [← hg0]; exact hgen) (by rw [← hr1]; exact hb)
  case parentLt =>
    intro i y p hy hp
    obtain ⟨y0, hy0, e⟩ := parent_congr (fun j => (hpar j).symm) hy
    exact hI.parentLt i y0 p hy0 (e.trans hp)

/-- `SetVersion`, and dropping the handle (`x'` need not be live) -/
theorem swap_step {H : Bytes → Bytes} {s : St} (hI : SInv s) {h : Nat} {x : HInfo} (hl : Live s h x)
    (x' : HInfo) (hp : x'.parent = x.parent) (hr : x'.t.root = x.t.root) (hg : x'.t.gen = x.t.gen) :
    SInv { s with hs := setAt s.hs h x' } ∧
    ∀ k y, Live s k y → k ≠ h → Same H s { s with hs := setAt s.hs h x' } k y none := by
  have hlive := live_setAt (live_lt hl) s.hp x'
  refine ⟨sinv_of_sub hI rfl (parents_setAt hl.1 hp) ?_,
    fun k y hk hne => same_of_eq (by rfl) ((hlive k y).mpr (Or.inr ⟨hne, hk⟩)) none⟩
  intro i y hy
  rcases (hlive i y).mp hy with ⟨rfl, rfl, _⟩ | ⟨_, hy'⟩
  · exact ⟨x, hl, hr, hg⟩
  · exact ⟨y, hy', rfl, rfl⟩

end Gossamer.C03
