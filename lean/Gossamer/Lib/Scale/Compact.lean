/-
Canonical SCALE compact integers.  `compactEnc` / `compactDec` are the readable reference;
`compactRead ok` is the frame every decoder shares (prefix byte, payload, acceptance test `ok`):
`compactDec` is `compactRead compactCanon` (`compactDec_eq_read`), the Go decoders are `compactRead`
at `C11.goUintOk` and `C11.goBigOk`.  The two laws `compactDec_enc` and `compactDec_sound` go through
the frame: an encoding is a canonical pair (`compactEnc_shape`), a canonical pair is the encoding of
its value (`compactEnc_of_canon`).
-/
import Gossamer.Lib.Scale.Basic
namespace Gossamer.Scale
open Gossamer

/-- meaningful for `n < 256^67 = 2^536` -/
def compactEnc (n : Nat) : Bytes :=
  if n < 64 then [UInt8.ofNat (4 * n)]
  else if n < 16384 then leBytes 2 (4 * n + 1)
  else if n < 1073741824 then leBytes 4 (4 * n + 2)
  else UInt8.ofNat (4 * ((leMin n).length - 4) + 3) :: leMin n

/-- the shortest mode must have been used and the most significant byte of a big-integer payload
    must be non-zero -/
def compactDec : Bytes → Option (Nat × Bytes)
  | [] => none
  | b :: rest =>
    if b.toNat % 4 = 0 then some (b.toNat / 4, rest)
    else if b.toNat % 4 = 1 then
      match rest with
      | [] => none
      | c :: rest' =>
        let v := (b.toNat + 256 * c.toNat) / 4
        if 64 ≤ v then some (v, rest') else none
    else if b.toNat % 4 = 2 then
      if rest.length < 3 then none
      else
        let v := (b.toNat + 256 * natOfLE (rest.take 3)) / 4
        if 16384 ≤ v then some (v, rest.drop 3) else none
    else
      let len := b.toNat / 4 + 4
      if rest.length < len then none
      else
        let v := natOfLE (rest.take len)
        if 1073741824 ≤ v ∧ 256 ^ (b.toNat / 4 + 3) ≤ v then some (v, rest.drop len) else none

/-! A compact integer is a prefix byte `b` and a payload.  The two low bits of `b` select the mode: in
modes 0, 1, 2 the value is the little-endian number `b :: payload` shifted right by two, in mode 3 it
is the payload and the upper six bits of `b` give the payload length minus four.  The Go decoders of
pkg/scale and the canonical decoder read the same bytes and differ only in which (prefix, payload)
pairs they accept. -/

def compactPayload (b : UInt8) : Nat :=
  if b.toNat % 4 = 0 then 0 else if b.toNat % 4 = 1 then 1 else if b.toNat % 4 = 2 then 3
  else b.toNat / 4 + 4

def compactVal (b : UInt8) (p : Bytes) : Nat :=
  if b.toNat % 4 = 3 then natOfLE p else natOfLE (b :: p) / 4

/-- least number for which the mode of `b` is the shortest one -/
def compactMin (b : UInt8) : Nat :=
  if b.toNat % 4 = 0 then 0 else if b.toNat % 4 = 1 then 64 else if b.toNat % 4 = 2 then 16384
  else max 1073741824 (256 ^ (b.toNat / 4 + 3))

def compactCanon (b : UInt8) (p : Bytes) : Bool := decide (compactMin b ≤ compactVal b p)

def compactRead (ok : UInt8 → Bytes → Bool) : Bytes → Option (Nat × Bytes)
  | [] => none
  | b :: rest =>
    if rest.length < compactPayload b then none
    else if ok b (rest.take (compactPayload b)) then
      some (compactVal b (rest.take (compactPayload b)), rest.drop (compactPayload b))
    else none

theorem compactRead_some {ok : UInt8 → Bytes → Bool} {bs : Bytes} {n : Nat} {r : Bytes}
    (h : compactRead ok bs = some (n, r)) :
    ∃ b p, bs = b :: (p ++ r) ∧ p.length = compactPayload b ∧ ok b p = true ∧ n = compactVal b p := by
  cases bs with
  | nil => cases h
  | cons b rest =>
    simp only [compactRead] at h
    split at h
    · cases h
    · split at h
      · cases h
        exact ⟨b, _, by rw [List.take_append_drop], by rw [List.length_take]; omega, ‹_›, rfl⟩
      · cases h

theorem compactRead_append {ok : UInt8 → Bytes → Bool} {b : UInt8} {p : Bytes} (r : Bytes)
    (hp : p.length = compactPayload b) (hok : ok b p = true) :
    compactRead ok (b :: (p ++ r)) = some (compactVal b p, r) := by
  simp [compactRead, ← hp, hok]

theorem compactRead_congr {ok ok' : UInt8 → Bytes → Bool}
    (h : ∀ b p, p.length = compactPayload b → ok b p = ok' b p) (bs : Bytes) :
    compactRead ok bs = compactRead ok' bs := by
  cases bs with
  | nil => rfl
  | cons b rest =>
    simp only [compactRead]
    split
    · rfl
    · rw [h b _ (by rw [List.length_take]; omega)]

theorem compactDec_eq_read (bs : Bytes) : compactDec bs = compactRead compactCanon bs := by
  cases bs with
  | nil => rfl
  | cons b rest =>
    by_cases m0 : b.toNat % 4 = 0
    · simp [compactDec, compactRead, compactPayload, compactVal, compactCanon, compactMin, m0, natOfLE]
    · by_cases m1 : b.toNat % 4 = 1
      · cases rest with
        | nil => simp [compactDec, compactRead, compactPayload, m1]
        | cons c rest' =>
          simp [compactDec, compactRead, compactPayload, compactVal, compactCanon, compactMin, m1, natOfLE]
      · by_cases m2 : b.toNat % 4 = 2
        · simp [compactDec, compactRead, compactPayload, compactVal, compactCanon, compactMin, m2, natOfLE]
        · have m3 : b.toNat % 4 = 3 := by omega
          simp [compactDec, compactRead, compactPayload, compactVal, compactCanon, compactMin, m3,
            Nat.max_le]

theorem compactPayload_big {b : UInt8} (m3 : b.toNat % 4 = 3) : compactPayload b = b.toNat / 4 + 4 := by
  simp [compactPayload, m3]

theorem compactMin_big {b : UInt8} (m3 : b.toNat % 4 = 3) :
    compactMin b = max 1073741824 (256 ^ (b.toNat / 4 + 3)) := by
  simp [compactMin, m3]

theorem compactVal_lt {b : UInt8} {p : Bytes} (hp : p.length = compactPayload b) :
    (b.toNat % 4 = 0 → compactVal b p < 64) ∧ (b.toNat % 4 = 1 → compactVal b p < 16384) ∧
    (b.toNat % 4 = 2 → compactVal b p < 1073741824) ∧
    (b.toNat % 4 = 3 → compactVal b p < 256 ^ (b.toNat / 4 + 4)) := by
  have hd := natOfLE_lt (b :: p)
  rw [List.length_cons, hp] at hd
  refine ⟨fun m => ?_, fun m => ?_, fun m => ?_, fun m => ?_⟩
  · rw [compactPayload, if_pos m, pow256_1] at hd
    rw [compactVal, if_neg (by omega)]; exact Nat.div_lt_of_lt_mul hd
  · rw [compactPayload, if_neg (by omega), if_pos m, pow256_2] at hd
    rw [compactVal, if_neg (by omega)]; exact Nat.div_lt_of_lt_mul hd
  · rw [compactPayload, if_neg (by omega), if_neg (by omega), if_pos m, pow256_4] at hd
    rw [compactVal, if_neg (by omega)]; exact Nat.div_lt_of_lt_mul hd
  · rw [compactVal, if_pos m, ← compactPayload_big m, ← hp]; exact natOfLE_lt p

/-- `n` in mode 0, 1 or 2: `x = 4 * n + mode` written on `k + 1` bytes -/
def FixedMode (k x n : Nat) : Prop :=
  x = 4 * n ∧ k = 0 ∧ n < 64 ∨ x = 4 * n + 1 ∧ k = 1 ∧ 64 ≤ n ∧ n < 16384 ∨
    x = 4 * n + 2 ∧ k = 3 ∧ 16384 ≤ n ∧ n < 1073741824

theorem FixedMode.lt {k x n : Nat} (h : FixedMode k x n) : x < 256 ^ (k + 1) ∧ k + 1 ≤ 67 := by
  rcases h with ⟨rfl, rfl, h⟩ | ⟨rfl, rfl, _, h⟩ | ⟨rfl, rfl, _, h⟩
  · exact ⟨by rw [pow256_1]; omega, by decide⟩
  · exact ⟨by rw [pow256_2]; omega, by decide⟩
  · exact ⟨by rw [pow256_4]; omega, by decide⟩

theorem compactEnc_fixed {k x n : Nat} (h : FixedMode k x n) : compactEnc n = leBytes (k + 1) x := by
  unfold compactEnc
  rcases h with ⟨rfl, rfl, h⟩ | ⟨rfl, rfl, h1, h2⟩ | ⟨rfl, rfl, h1, h2⟩
  · rw [if_pos h, leBytes_succ, Nat.mod_eq_of_lt (by omega)]; rfl
  · rw [if_neg (by omega), if_pos h2]
  · rw [if_neg (by omega), if_neg (by omega), if_pos h2]

theorem mod4_of_mod256 {a x : Nat} (h : a = x % 256) : a % 4 = x % 4 := by
  rw [h, Nat.mod_mod_of_dvd _ (by decide)]

theorem natOfLE_cons_mod4 (b : UInt8) (p : Bytes) : natOfLE (b :: p) % 4 = b.toNat % 4 := by
  rw [natOfLE, show 256 * natOfLE p = 4 * (64 * natOfLE p) by rw [← Nat.mul_assoc],
    Nat.add_mul_mod_self_left]

theorem FixedMode.read {k x n : Nat} {b : UInt8} (h : FixedMode k x n) (hb : b.toNat = x % 256) :
    b.toNat % 4 ≠ 3 ∧ compactPayload b = k ∧ compactMin b ≤ n ∧ x / 4 = n := by
  rcases h with ⟨rfl, rfl, h⟩ | ⟨rfl, rfl, h1, h2⟩ | ⟨rfl, rfl, h1, h2⟩
  · have hm : b.toNat % 4 = 0 := (mod4_of_mod256 hb).trans (Nat.mul_mod_right 4 n)
    exact ⟨by rw [hm]; decide, by rw [compactPayload, if_pos hm],
      by rw [compactMin, if_pos hm]; exact Nat.zero_le n, Nat.mul_div_cancel_left n (by decide)⟩
  · have hm : b.toNat % 4 = 1 := (mod4_of_mod256 hb).trans (Nat.mul_add_mod 4 n 1)
    have m0 : ¬ b.toNat % 4 = 0 := by rw [hm]; decide
    exact ⟨by rw [hm]; decide, by rw [compactPayload, if_neg m0, if_pos hm],
      by rw [compactMin, if_neg m0, if_pos hm]; exact h1, by rw [Nat.mul_add_div (by decide)]; rfl⟩
  · have hm : b.toNat % 4 = 2 := (mod4_of_mod256 hb).trans (Nat.mul_add_mod 4 n 2)
    have m0 : ¬ b.toNat % 4 = 0 := by rw [hm]; decide
    have m1 : ¬ b.toNat % 4 = 1 := by rw [hm]; decide
    exact ⟨by rw [hm]; decide, by rw [compactPayload, if_neg m0, if_neg m1, if_pos hm],
      by rw [compactMin, if_neg m0, if_neg m1, if_pos hm]; exact h1,
      by rw [Nat.mul_add_div (by decide)]; rfl⟩

theorem FixedMode.of_read {b : UInt8} {p : Bytes} (m3 : b.toNat % 4 ≠ 3)
    (hp : p.length = compactPayload b) (hc : compactMin b ≤ natOfLE (b :: p) / 4) :
    FixedMode p.length (natOfLE (b :: p)) (natOfLE (b :: p) / 4) := by
  have hm : b.toNat % 4 = 0 ∨ b.toNat % 4 = 1 ∨ b.toNat % 4 = 2 := by omega
  have hlt := compactVal_lt hp
  simp only [compactVal, if_neg m3] at hlt
  have hs := (Nat.div_add_mod (natOfLE (b :: p)) 4).symm
  rw [natOfLE_cons_mod4] at hs
  unfold compactPayload at hp
  unfold compactMin at hc
  rcases hm with m | m | m <;> rw [m] at hs hp hc
  · exact .inl ⟨hs, hp, hlt.1 m⟩
  · exact .inr (.inl ⟨hs, hp, hc, hlt.2.1 m⟩)
  · exact .inr (.inr ⟨hs, hp, hc, hlt.2.2.1 m⟩)

/-- frame ⇒ encoder: the step of `compactDec_sound` -/
theorem compactEnc_of_canon {b : UInt8} {p : Bytes} (hp : p.length = compactPayload b)
    (hc : compactMin b ≤ compactVal b p) :
    compactVal b p < 256 ^ 67 ∧ compactEnc (compactVal b p) = b :: p := by
  unfold compactVal at hc ⊢
  by_cases m3 : b.toNat % 4 = 3
  · rw [compactPayload_big m3] at hp
    rw [compactMin_big m3, if_pos m3] at hc
    rw [if_pos m3]
    have hq : b.toNat / 4 < 64 := Nat.div_lt_of_lt_mul b.toNat_lt
    have h30 : ¬ natOfLE p < 1073741824 := Nat.not_lt.2 (Nat.le_trans (Nat.le_max_left ..) hc)
    have hne : p ≠ [] := by intro e; rw [e] at hp; cases hp
    have hmin := leMin_natOfLE p fun _ => getLast_ne_zero_of_le p hne (by
      rw [hp]; exact Nat.le_trans (Nat.le_max_right ..) hc)
    refine ⟨lt_pow67 (by rw [hp]; omega) (natOfLE_lt p), ?_⟩
    rw [compactEnc, if_neg (by omega), if_neg (by omega), if_neg h30, hmin, hp, Nat.add_sub_cancel]
    conv => rhs; rw [← UInt8.ofNat_toNat (x := b), ← Nat.div_add_mod b.toNat 4, m3]
  · rw [if_neg m3] at hc ⊢
    have hf := FixedMode.of_read m3 hp hc
    exact ⟨lt_pow67 hf.lt.2 (by have := hf.lt.1; omega),
      by rw [compactEnc_fixed hf, ← List.length_cons, leBytes_natOfLE]⟩

theorem length_leMin_big {n : Nat} (h : 1073741824 ≤ n) : 4 ≤ (leMin n).length :=
  (length_leMin_lt n 3).2 (by rw [pow256_3]; omega)

/-- encoder ⇒ frame: the step of `compactDec_enc` -/
theorem compactEnc_shape (n : Nat) (h : n < 256 ^ 67) :
    ∃ b p, compactEnc n = b :: p ∧ p.length = compactPayload b ∧ compactVal b p = n ∧
      compactMin b ≤ n := by
  by_cases h3 : n < 1073741824
  · have : ∃ k x, FixedMode k x n := by
      by_cases h1 : n < 64
      · exact ⟨0, 4 * n, .inl ⟨rfl, rfl, h1⟩⟩
      · by_cases h2 : n < 16384
        · exact ⟨1, 4 * n + 1, .inr (.inl ⟨rfl, rfl, by omega, h2⟩)⟩
        · exact ⟨3, 4 * n + 2, .inr (.inr ⟨rfl, rfl, by omega, h3⟩)⟩
    obtain ⟨k, x, hf⟩ := this
    obtain ⟨m3, hk, hmin, hn⟩ := hf.read (toNat_ofNat_mod x)
    refine ⟨_, _, (compactEnc_fixed hf).trans (leBytes_succ k x), by rw [length_leBytes, hk], ?_, hmin⟩
    rw [compactVal, if_neg m3, ← leBytes_succ, natOfLE_leBytes_lt hf.lt.1, hn]
  · have hl4 := length_leMin_big (Nat.le_of_not_lt h3)
    have hl67 := (length_leMin_le n 67).2 h
    obtain ⟨q, hq⟩ : ∃ q, (leMin n).length = q + 4 := ⟨(leMin n).length - 4, by omega⟩
    have hb : (UInt8.ofNat (4 * q + 3)).toNat = 4 * q + 3 := toNat_ofNat_lt (by omega)
    have m3 : (UInt8.ofNat (4 * q + 3)).toNat % 4 = 3 := by rw [hb]; exact Nat.mul_add_mod 4 q 3
    have hd : (UInt8.ofNat (4 * q + 3)).toNat / 4 = q := by rw [hb, Nat.mul_add_div (by decide)]; rfl
    refine ⟨UInt8.ofNat (4 * q + 3), leMin n, ?_, ?_, ?_, ?_⟩
    · rw [compactEnc, if_neg (by omega), if_neg (by omega), if_neg h3, hq, Nat.add_sub_cancel]
    · rw [compactPayload_big m3, hd, hq]
    · rw [compactVal, if_pos m3, natOfLE_leMin]
    · rw [compactMin_big m3, hd]
      exact Nat.max_le.2 ⟨Nat.le_of_not_lt h3, (length_leMin_lt n (q + 3)).1 (by omega)⟩

theorem compactDec_enc (n : Nat) (h : n < 256 ^ 67) (r : Bytes) :
    compactDec (compactEnc n ++ r) = some (n, r) := by
  obtain ⟨b, p, he, hp, hv, hmin⟩ := compactEnc_shape n h
  rw [compactDec_eq_read, he, List.cons_append,
    compactRead_append r hp (by rw [compactCanon, hv]; exact decide_eq_true hmin), hv]

theorem compactEnc_inj {a b : Nat} (ha : a < 256 ^ 67) (hb : b < 256 ^ 67)
    (h : compactEnc a = compactEnc b) : a = b := by
  have h1 := compactDec_enc a ha []
  rw [h, compactDec_enc b hb []] at h1
  cases h1; rfl

theorem compactDec_sound {bs : Bytes} {n : Nat} {r : Bytes} (h : compactDec bs = some (n, r)) :
    n < 256 ^ 67 ∧ bs = compactEnc n ++ r := by
  rw [compactDec_eq_read] at h
  obtain ⟨b, p, rfl, hp, hok, rfl⟩ := compactRead_some h
  have ⟨hlt, he⟩ := compactEnc_of_canon hp (of_decide_eq_true hok)
  exact ⟨hlt, by rw [he]; rfl⟩

theorem compactEnc_length_pos (n : Nat) : 0 < (compactEnc n).length := by
  unfold compactEnc
  split
  · simp
  · split
    · simp [leBytes]
    · split
      · simp [leBytes]
      · simp

theorem compactDec_length_lt {bs : Bytes} {n : Nat} {r : Bytes} (h : compactDec bs = some (n, r)) :
    r.length < bs.length := by
  have := compactEnc_length_pos n
  rw [(compactDec_sound h).2, List.length_append]
  omega

end Gossamer.Scale
