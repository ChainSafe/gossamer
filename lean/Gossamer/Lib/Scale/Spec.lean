/-
The canonical SCALE codec `Spec.codec`: the reference that the Go codec of pkg/scale (Model/C11,
Model/C12) is compared with.
-/
import Gossamer.Lib.Scale.Codec
namespace Gossamer.Scale
open Gossamer

namespace Spec

def twos (w : Nat) (i : Int) : Nat := if 0 ≤ i then i.toNat else (i + (256 ^ w : Nat)).toNat

def untwos (w : Nat) (n : Nat) : Int := if n < 256 ^ w / 2 then (n : Int) else (n : Int) - (256 ^ w : Nat)

def encKind : PKind → Val → Bytes
  | .uint w, .nat n => leBytes w n
  | .sint w, .int i => leBytes w (twos w i)
  | .compact _, .nat n => compactEnc n
  | .bool, .bool b => [if b then 1 else 0]
  | .bytes, .bytes b => compactEnc b.length ++ b
  | _, _ => []

def decKind : PKind → Bytes → Option (Val × Bytes)
  | .uint w, bs =>
    if bs.length < w then none else some (.nat (natOfLE (bs.take w)), bs.drop w)
  | .sint w, bs =>
    if bs.length < w then none else some (.int (untwos w (natOfLE (bs.take w))), bs.drop w)
  | .compact m, bs =>
    match compactDec bs with
    | none => none
    | some (n, r) => if n < 256 ^ m then some (.nat n, r) else none
  | .bool, [] => none
  | .bool, b :: r =>
    if b = 0 then some (.bool false, r) else if b = 1 then some (.bool true, r) else none
  | .bytes, bs =>
    match compactDec bs with
    | none => none
    | some (n, r) =>
      if n < maxBytesLen ∧ n ≤ r.length then some (.bytes (r.take n), r.drop n) else none

def decLen (bs : Bytes) : Option (Nat × Bytes) :=
  match compactDec bs with
  | none => none
  | some (n, r) => if n < maxSeqLen then some (n, r) else none

def codec : Codec where
  encP p v := encKind p.kind v
  decP p bs := decKind p.kind bs
  encLen := compactEnc
  decLen := decLen

end Spec

theorem pow256_even (w : Nat) (hw : 0 < w) : 256 ^ w = 2 * (256 ^ w / 2) := by
  cases w with
  | zero => omega
  | succ k => rw [Nat.pow_succ]; omega

theorem Spec.untwos_twos (w : Nat) (hw : 0 < w) (i : Int)
    (h1 : - ((256 ^ w / 2 : Nat) : Int) ≤ i) (h2 : i < ((256 ^ w / 2 : Nat) : Int)) :
    Spec.twos w i < 256 ^ w ∧ Spec.untwos w (Spec.twos w i) = i := by
  have he := pow256_even w hw
  unfold Spec.twos Spec.untwos
  generalize 256 ^ w / 2 = hf at *
  generalize 256 ^ w = M at *
  subst he
  by_cases hi : 0 ≤ i
  · simp only [hi, if_true]
    constructor
    · omega
    · split <;> omega
  · simp only [hi, if_false]
    constructor
    · omega
    · split <;> omega

theorem Spec.twos_untwos (w : Nat) (hw : 0 < w) (n : Nat) (hn : n < 256 ^ w) :
    - ((256 ^ w / 2 : Nat) : Int) ≤ Spec.untwos w n ∧ Spec.untwos w n < ((256 ^ w / 2 : Nat) : Int) ∧
      Spec.twos w (Spec.untwos w n) = n := by
  have he := pow256_even w hw
  unfold Spec.twos Spec.untwos
  generalize 256 ^ w / 2 = hf at *
  generalize 256 ^ w = M at *
  subst he
  by_cases hlt : n < hf
  · simp only [hlt, if_true]
    refine ⟨by omega, by omega, ?_⟩
    have : (0:Int) ≤ (n:Int) := by omega
    simp [this]
  · simp only [hlt, if_false]
    refine ⟨by omega, by omega, ?_⟩
    have : ¬ (0:Int) ≤ (n:Int) - ((2 * hf : Nat) : Int) := by omega
    simp only [this, if_false]; omega

/-- side condition of `rtKind` / `sndKind`, met by every `Prim.kind`: a signed integer needs a byte to
    halve its range (`untwos_twos`), a compact payload must fit the 67 bytes of `compactDec_enc` -/
def PKind.ok : PKind → Prop
  | .sint w => 0 < w
  | .compact m => m ≤ 67
  | _ => True

theorem Prim.kind_ok (p : Prim) : p.kind.ok := by
  cases p <;> simp [Prim.kind, PKind.ok]

theorem Spec.rtKind (k : PKind) (hk : k.ok) (v : Val) (r : Bytes) (h : wtKind k v = true) :
    Spec.decKind k (Spec.encKind k v ++ r) = some (v, r) := by
  cases k with
  | uint w =>
    obtain ⟨n, rfl, hn⟩ := wtKind_uint h
    have ⟨h1, h2, h3⟩ := readLE_leBytes r hn
    rw [Spec.encKind, Spec.decKind, if_neg h1, h2, h3]
  | sint w =>
    obtain ⟨i, rfl, hi⟩ := wtKind_sint h
    have ⟨hlt, he⟩ := Spec.untwos_twos w hk i hi.1 hi.2
    have ⟨h1, h2, h3⟩ := readLE_leBytes r hlt
    rw [Spec.encKind, Spec.decKind, if_neg h1, h2, h3, he]
  | compact m =>
    obtain ⟨n, rfl, hn⟩ := wtKind_compact h
    simp only [Spec.encKind, Spec.decKind, compactDec_enc n (lt_pow67 hk hn) r, hn, if_true]
  | bool =>
    obtain ⟨b, rfl⟩ := wtKind_bool h
    cases b <;> rfl
  | bytes =>
    obtain ⟨b, rfl, hb⟩ := wtKind_bytes h
    simp only [Spec.encKind, Spec.decKind, List.append_assoc,
      compactDec_enc b.length (lt_pow67 (k := 4) (by decide) hb) (b ++ r)]
    simp [hb]

theorem Spec.sndKind (k : PKind) (hk : k.ok) (bs : Bytes) (v : Val) (r : Bytes)
    (h : Spec.decKind k bs = some (v, r)) : wtKind k v = true ∧ bs = Spec.encKind k v ++ r := by
  cases k with
  | uint w =>
    simp only [Spec.decKind] at h
    split at h
    · cases h
    · rename_i hl
      cases h
      have ⟨h1, h2⟩ := leBytes_readLE hl
      exact ⟨decide_eq_true h1, h2⟩
  | sint w =>
    simp only [Spec.decKind] at h
    split at h
    · cases h
    · rename_i hl
      cases h
      have ⟨h1, h2⟩ := leBytes_readLE hl
      have ⟨a, b, c⟩ := Spec.twos_untwos w hk _ h1
      exact ⟨by simp only [wtKind, decide_eq_true_eq]; exact ⟨a, b⟩, by rw [Spec.encKind, c]; exact h2⟩
  | compact m =>
    simp only [Spec.decKind] at h
    split at h
    · cases h
    · split at h
      · cases h; exact ⟨decide_eq_true ‹_›, (compactDec_sound ‹_›).2⟩
      · cases h
  | bool =>
    cases bs with
    | nil => cases h
    | cons b r0 =>
      simp only [Spec.decKind] at h
      split at h
      · cases h; subst b; exact ⟨rfl, rfl⟩
      · split at h
        · cases h; subst b; exact ⟨rfl, rfl⟩
        · cases h
  | bytes =>
    simp only [Spec.decKind] at h
    split at h
    · cases h
    · rename_i n r0 hc
      split at h
      · rename_i hn
        cases h
        have hlen : (r0.take n).length = n := List.length_take_of_le hn.2
        exact ⟨by simp only [wtKind, hlen, decide_eq_true hn.1],
          by rw [Spec.encKind, hlen, List.append_assoc, List.take_append_drop]; exact (compactDec_sound hc).2⟩
      · cases h

theorem Spec.decLen_some {bs : Bytes} {n : Nat} {r : Bytes} :
    Spec.decLen bs = some (n, r) ↔ compactDec bs = some (n, r) ∧ n < maxSeqLen := by
  simp only [Spec.decLen]
  rcases compactDec bs with _ | ⟨m, r'⟩
  · exact ⟨nofun, fun h => nomatch h.1⟩
  · dsimp only
    split
    · exact ⟨fun e => by cases e; exact ⟨rfl, ‹_›⟩, And.left⟩
    · exact ⟨nofun, fun ⟨e, hn⟩ => by cases e; contradiction⟩

theorem Spec.rt : Spec.codec.RT where
  rtP p v r h := Spec.rtKind p.kind p.kind_ok v r h
  rtLen n r h := Spec.decLen_some.2 ⟨compactDec_enc n (lt_pow67_of_lt_u64 h) r, h⟩

theorem Spec.snd : Spec.codec.Snd where
  sndP p bs v r h := Spec.sndKind p.kind p.kind_ok bs v r h
  sndLen _ _ _ h := ⟨(Spec.decLen_some.1 h).2, (compactDec_sound (Spec.decLen_some.1 h).1).2⟩

theorem Spec.lawful : Spec.codec.Lawful := { Spec.rt, Spec.snd with }

theorem Spec.roundtrip (t : Ty) (v : Val) (r : Bytes) (h : wt t v = true) :
    decode Spec.codec t (encode Spec.codec t v ++ r) = some (v, r) :=
  Scale.roundtrip Spec.codec Spec.rt t v r h

theorem Spec.sound (t : Ty) (hwf : t.wf = true) (bs : Bytes) (v : Val) (r : Bytes)
    (h : decode Spec.codec t bs = some (v, r)) :
    wt t v = true ∧ bs = encode Spec.codec t v ++ r :=
  Scale.sound Spec.codec Spec.snd t hwf bs v r h

theorem Spec.truncated (t : Ty) (hwf : t.wf = true) (v : Val) (p s : Bytes)
    (hw : wt t v = true) (he : encode Spec.codec t v = p ++ s) (hs : s ≠ []) :
    decode Spec.codec t p = none :=
  Scale.truncated Spec.codec Spec.lawful t hwf v p s hw he hs

end Gossamer.Scale
