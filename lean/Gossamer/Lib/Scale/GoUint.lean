/-
The (prefix, payload) pairs Go's `decodeUint` (pkg/scale/decode.go) accepts, as a test for
`Scale.compactRead`.  The names are `C11.*` because this is the test of the model function
`C11.decodeUintV` (Lib/C11Decode: `decodeUintV_eq_read`); the file stands below Model/C11 because the
trie codec's `TrieCodec.compactLen` (Lib/TrieCodecLemmas, C07) models the same Go function and is
tied to this test without importing the SCALE model.
-/
import Gossamer.Lib.Scale.Compact
namespace Gossamer.C11
open Gossamer Gossamer.Scale

/-- the values for which `decodeUint` accepts the canonical encoding (known finding uint-5to7:
    [2^32, 2^56) is missing) -/
def uintOk (n : Nat) : Bool :=
  decide (n < 4294967296) || (decide (72057594037927936 ≤ n) && decide (n < 18446744073709551616))

/-- the range checks of `decodeUint` as the Go code writes them; the upper bounds 32767 and
    1073741823 of modes 1 and 2 never fire (a two-byte form is below 16384, a four-byte form below
    2^30: `compactVal_lt`) -/
def goUintOk (b : UInt8) (p : Bytes) : Bool :=
  if b.toNat % 4 = 0 then true
  else if b.toNat % 4 = 1 then !decide (compactVal b p ≤ 63 ∨ compactVal b p > 32767)
  else if b.toNat % 4 = 2 then !decide (compactVal b p ≤ 16383 ∨ compactVal b p > 1073741823)
  else if b.toNat / 4 + 4 ≠ 4 ∧ b.toNat / 4 + 4 ≠ 8 then false
  else if b.toNat / 4 + 4 = 4 then !decide (compactVal b p ≤ 1073741823)
  else !decide (compactVal b p ≤ 72057594037927935)

theorem uintOk_iff (n : Nat) : uintOk n = true ↔
    n < 4294967296 ∨ 72057594037927936 ≤ n ∧ n < 18446744073709551616 := by
  rw [uintOk, Bool.or_eq_true, Bool.and_eq_true, decide_eq_true_eq, decide_eq_true_eq, decide_eq_true_eq]

theorem uintOk_lt_maxSeqLen {n : Nat} (h : uintOk n = true) : n < maxSeqLen := by
  have := (uintOk_iff n).1 h
  rw [maxSeqLen, pow2_64]; omega

theorem goUintOk_eq {b : UInt8} {p : Bytes} (hp : p.length = compactPayload b) :
    goUintOk b p = (compactCanon b p && uintOk (compactVal b p)) := by
  have hlt := compactVal_lt hp
  rw [Bool.eq_iff_iff, Bool.and_eq_true, compactCanon, decide_eq_true_eq, uintOk_iff, goUintOk, compactMin]
  generalize compactVal b p = v at *
  by_cases m0 : b.toNat % 4 = 0
  · have := hlt.1 m0
    rw [if_pos m0, if_pos m0]
    exact ⟨fun _ => ⟨Nat.zero_le _, by omega⟩, fun _ => rfl⟩
  · rw [if_neg m0, if_neg m0]
    by_cases m1 : b.toNat % 4 = 1
    · have := hlt.2.1 m1
      rw [if_pos m1, if_pos m1, Bool.not_eq_true', decide_eq_false_iff_not]
      omega
    · rw [if_neg m1, if_neg m1]
      by_cases m2 : b.toNat % 4 = 2
      · have := hlt.2.2.1 m2
        rw [if_pos m2, if_pos m2, Bool.not_eq_true', decide_eq_false_iff_not]
        omega
      · have hv := hlt.2.2.2 (by omega)
        rw [if_neg m2, if_neg m2, Nat.max_le]
        generalize b.toNat / 4 = q at *
        by_cases k4 : q = 0
        · subst k4
          rw [pow256_4] at hv
          rw [if_neg (by omega), if_pos rfl, Bool.not_eq_true', decide_eq_false_iff_not, pow256_3]
          omega
        · by_cases k8 : q = 4
          · subst k8
            rw [pow256_8] at hv
            rw [if_neg (by omega), if_neg (by omega), Bool.not_eq_true', decide_eq_false_iff_not, pow256_7]
            omega
          · rw [if_pos (by omega)]
            by_cases klt : q < 4
            · -- 5..7 payload bytes: canonical values lie in [2^32, 2^56)
              have lo : 256 ^ 4 ≤ 256 ^ (q + 3) := pow256_mono (by omega)
              have hi : 256 ^ (q + 4) ≤ 256 ^ 7 := pow256_mono (by omega)
              rw [pow256_4] at lo; rw [pow256_7] at hi
              simp only [Bool.false_eq_true, false_iff]; omega
            · -- more than 8 payload bytes: canonical values are at least 2^64
              have lo : 256 ^ 8 ≤ 256 ^ (q + 3) := pow256_mono (by omega)
              rw [pow256_8] at lo
              simp only [Bool.false_eq_true, false_iff]; omega

end Gossamer.C11
