/-
The structural layer of SCALE over a primitive codec `C`: `encode C`, `decode C`, and the laws.
Round trip (`roundtripOn`, relative to a leaf predicate `leavesOk`; `roundtrip`) and `encode_congr`
follow a well-typed value through the type; soundness (`decode_wt`: what a success returns,
`decode_bytes`: what it consumed, `sound`) follows a successful decode; `truncated` and `encode_inj`
are corollaries of the two.  `decode` at a type former is available in two forms: `decode_*_some`
inverts a success (the proofs here and in Lib/C33Cost), `decode_*_eq` writes the decoder as
`Option.bind` / `Option.map`, which is the shape the closure conditions of `C12.Walk` (Lib/C12Walk)
speak of.  What only another subject uses is at the end.
-/
import Gossamer.Lib.Scale.Compact
namespace Gossamer.Scale
open Gossamer

/-- the primitive layer: how leaves and length prefixes are written and read -/
structure Codec where
  encP : Prim → Val → Bytes
  decP : Prim → Bytes → Option (Val × Bytes)
  encLen : Nat → Bytes
  decLen : Bytes → Option (Nat × Bytes)

def decN (f : Bytes → Option (Val × Bytes)) : Nat → Bytes → Option (List Val × Bytes)
  | 0, bs => some ([], bs)
  | n + 1, bs =>
    match f bs with
    | none => none
    | some (v, r) =>
      match decN f n r with
      | none => none
      | some (vs, r') => some (v :: vs, r')

def encList (f : Val → Bytes) : List Val → Bytes
  | [] => []
  | v :: vs => f v ++ encList f vs

def encode (C : Codec) : Ty → Val → Bytes
  | .prim p, v => C.encP p v
  | .unit, _ => []
  | .pair a b, .pair x y => encode C a x ++ encode C b y
  | .option _, .none => [0]
  | .option t, .some v => 1 :: encode C t v
  | .result a _, .ok v => 0 :: encode C a v
  | .result _ b, .err v => 1 :: encode C b v
  | .array _ t, .list vs => encList (encode C t) vs
  | .seq t, .list vs => C.encLen vs.length ++ encList (encode C t) vs
  | .enumCons i t rest, .variant j v =>
      if j = i then UInt8.ofNat i :: encode C t v else encode C rest (.variant j v)
  | _, _ => []

def decode (C : Codec) : Ty → Bytes → Option (Val × Bytes)
  | .prim p, bs => C.decP p bs
  | .unit, bs => some (.unit, bs)
  | .pair a b, bs =>
    match decode C a bs with
    | none => none
    | some (x, r) =>
      match decode C b r with
      | none => none
      | some (y, r') => some (.pair x y, r')
  | .option t, bs =>
    match bs with
    | [] => none
    | tag :: r =>
      if tag = 0 then some (.none, r)
      else if tag = 1 then
        match decode C t r with
        | none => none
        | some (v, r') => some (.some v, r')
      else none
  | .result a b, bs =>
    match bs with
    | [] => none
    | tag :: r =>
      if tag = 0 then
        match decode C a r with
        | none => none
        | some (v, r') => some (.ok v, r')
      else if tag = 1 then
        match decode C b r with
        | none => none
        | some (v, r') => some (.err v, r')
      else none
  | .array n t, bs =>
    match decN (decode C t) n bs with
    | none => none
    | some (vs, r) => some (.list vs, r)
  | .seq t, bs =>
    match C.decLen bs with
    | none => none
    | some (n, r) =>
      match decN (decode C t) n r with
      | none => none
      | some (vs, r') => some (.list vs, r')
  | .enumNil, _ => none
  | .enumCons i t rest, bs =>
    match bs with
    | [] => none
    | tag :: r =>
      if tag.toNat = i then
        match decode C t r with
        | none => none
        | some (v, r') => some (.variant i v, r')
      else decode C rest bs

structure Codec.RT (C : Codec) : Prop where
  rtP : ∀ p v r, wtKind p.kind v = true → C.decP p (C.encP p v ++ r) = some (v, r)
  rtLen : ∀ n r, n < maxSeqLen → C.decLen (C.encLen n ++ r) = some (n, r)

/-- `Snd`, `snd…` abbreviate "sound" -/
structure Codec.Snd (C : Codec) : Prop where
  sndP : ∀ p bs v r, C.decP p bs = some (v, r) → wtKind p.kind v = true ∧ bs = C.encP p v ++ r
  sndLen : ∀ bs n r, C.decLen bs = some (n, r) → n < maxSeqLen ∧ bs = C.encLen n ++ r

structure Codec.Lawful (C : Codec) : Prop extends C.RT, C.Snd

/-- `C11.isVdt` of Model/C11 is the same function -/
def Ty.isEnum : Ty → Bool
  | .enumNil => true
  | .enumCons _ _ _ => true
  | _ => false

/-- well-formed type descriptors: the tail of an enum chain is an enum chain.  Soundness needs it and the
    round trip does not: without it a chain can fall through to a non-enum tail and `decode` returns a
    value that is no variant, which `wt` refuses.  Indices need be neither distinct nor below 256 (the
    first match wins in `encode` and `decode`; an index ≥ 256 has no well-typed value). -/
def Ty.wf : Ty → Bool
  | .prim _ => true
  | .unit => true
  | .pair a b => a.wf && b.wf
  | .option t => t.wf
  | .result a b => a.wf && b.wf
  | .array _ t => t.wf
  | .seq t => t.wf
  | .enumNil => true
  | .enumCons _ t rest => t.wf && rest.isEnum && rest.wf

/-- Restricts leaves only (the default case is `true`; typing is `wt`'s business): the round trip to
    the leaves (`Q`) and sequence lengths (`QL`) on which a defective primitive codec still round-trips (`roundtripOn`; for the Go codec:
    known finding uint-5to7) and says what the leaves of a decoded value are (`decode_wt`). -/
def leavesOk (Q : Prim → Val → Bool) (QL : Nat → Bool) : Ty → Val → Bool
  | .prim p, v => Q p v
  | .pair a b, .pair x y => leavesOk Q QL a x && leavesOk Q QL b y
  | .option t, .some v => leavesOk Q QL t v
  | .result a _, .ok v => leavesOk Q QL a v
  | .result _ b, .err v => leavesOk Q QL b v
  | .array _ t, .list vs => vs.all (leavesOk Q QL t)
  | .seq t, .list vs => QL vs.length && vs.all (leavesOk Q QL t)
  | .enumCons i t rest, .variant j v =>
      if j = i then leavesOk Q QL t v else leavesOk Q QL rest (.variant j v)
  | _, _ => true

/-- the map of the `decode_*_eq` forms: on the value, the rest passes through -/
abbrev onVal {α β : Type} (f : α → β) (p : α × Bytes) : β × Bytes := (f p.1, p.2)

theorem decN_succ_eq (f : Bytes → Option (Val × Bytes)) (n : Nat) (bs : Bytes) :
    decN f (n + 1) bs = (f bs).bind fun p => (decN f n p.2).map (onVal (p.1 :: ·)) := by
  simp only [decN]
  rcases f bs with _ | ⟨v, r⟩
  · rfl
  · dsimp only [Option.bind]; rcases decN f n r with _ | ⟨vs, r'⟩ <;> rfl

theorem decode_pair_eq (C : Codec) (a b : Ty) (bs : Bytes) :
    decode C (.pair a b) bs =
      (decode C a bs).bind fun p => (decode C b p.2).map (onVal (Val.pair p.1)) := by
  simp only [decode]
  rcases decode C a bs with _ | ⟨x, r⟩
  · rfl
  · dsimp only [Option.bind]; rcases decode C b r with _ | ⟨y, r'⟩ <;> rfl

theorem decode_option_eq (C : Codec) (t : Ty) (tag : UInt8) (r : Bytes) :
    decode C (.option t) (tag :: r) =
      if tag = 0 then some (.none, r)
      else if tag = 1 then (decode C t r).map (onVal Val.some) else none := by
  simp only [decode]; rcases decode C t r with _ | ⟨v, r'⟩ <;> rfl

theorem decode_result_eq (C : Codec) (a b : Ty) (tag : UInt8) (r : Bytes) :
    decode C (.result a b) (tag :: r) =
      if tag = 0 then (decode C a r).map (onVal Val.ok)
      else if tag = 1 then (decode C b r).map (onVal Val.err) else none := by
  simp only [decode]
  rcases decode C a r with _ | ⟨v, r'⟩ <;> rcases decode C b r with _ | ⟨w, r''⟩ <;> rfl

theorem decode_array_eq (C : Codec) (n : Nat) (t : Ty) (bs : Bytes) :
    decode C (.array n t) bs = (decN (decode C t) n bs).map (onVal Val.list) := by
  simp only [decode]; rcases decN (decode C t) n bs with _ | ⟨vs, r⟩ <;> rfl

theorem decode_seq_eq (C : Codec) (t : Ty) (bs : Bytes) :
    decode C (.seq t) bs =
      (C.decLen bs).bind fun p => (decN (decode C t) p.1 p.2).map (onVal Val.list) := by
  simp only [decode]
  rcases C.decLen bs with _ | ⟨n, r⟩
  · rfl
  · dsimp only [Option.bind]; rcases decN (decode C t) n r with _ | ⟨vs, r'⟩ <;> rfl

theorem decode_enumCons_eq (C : Codec) (i : Nat) (t rest : Ty) (tag : UInt8) (r : Bytes) :
    decode C (.enumCons i t rest) (tag :: r) =
      if tag.toNat = i then (decode C t r).map (onVal (Val.variant i))
      else decode C rest (tag :: r) := by
  simp only [decode]; rcases decode C t r with _ | ⟨v, r'⟩ <;> rfl

theorem decN_succ_some {f : Bytes → Option (Val × Bytes)} {n : Nat} {bs : Bytes} {vs : List Val}
    {r : Bytes} (h : decN f (n + 1) bs = some (vs, r)) :
    ∃ v r1 ws, f bs = some (v, r1) ∧ decN f n r1 = some (ws, r) ∧ vs = v :: ws := by
  rw [decN_succ_eq] at h
  obtain ⟨⟨v, r1⟩, hv, h⟩ := Option.bind_eq_some_iff.1 h
  obtain ⟨⟨ws, r'⟩, hws, h⟩ := Option.map_eq_some_iff.1 h
  cases h; exact ⟨v, r1, ws, hv, hws, rfl⟩

theorem decode_pair_some {C : Codec} {a b : Ty} {bs : Bytes} {v : Val} {r : Bytes}
    (h : decode C (.pair a b) bs = some (v, r)) :
    ∃ x r1 y, decode C a bs = some (x, r1) ∧ decode C b r1 = some (y, r) ∧ v = .pair x y := by
  rw [decode_pair_eq] at h
  obtain ⟨⟨x, r1⟩, ha, h⟩ := Option.bind_eq_some_iff.1 h
  obtain ⟨⟨y, r'⟩, hb, h⟩ := Option.map_eq_some_iff.1 h
  cases h; exact ⟨x, r1, y, ha, hb, rfl⟩

theorem decode_option_some {C : Codec} {t : Ty} {bs : Bytes} {v : Val} {r : Bytes}
    (h : decode C (.option t) bs = some (v, r)) :
    ∃ tag r0, bs = tag :: r0 ∧
      (tag = 0 ∧ v = .none ∧ r = r0 ∨ tag = 1 ∧ ∃ x, decode C t r0 = some (x, r) ∧ v = .some x) := by
  rcases bs with _ | ⟨tag, r0⟩
  · cases h
  · rw [decode_option_eq] at h
    refine ⟨tag, r0, rfl, ?_⟩
    split at h
    · cases h; exact .inl ⟨‹_›, rfl, rfl⟩
    · split at h
      · obtain ⟨⟨x, r'⟩, hd, h⟩ := Option.map_eq_some_iff.1 h
        cases h; exact .inr ⟨‹_›, x, hd, rfl⟩
      · cases h

theorem decode_result_some {C : Codec} {a b : Ty} {bs : Bytes} {v : Val} {r : Bytes}
    (h : decode C (.result a b) bs = some (v, r)) :
    ∃ tag r0, bs = tag :: r0 ∧
      (tag = 0 ∧ (∃ x, decode C a r0 = some (x, r) ∧ v = .ok x) ∨
       tag = 1 ∧ ∃ x, decode C b r0 = some (x, r) ∧ v = .err x) := by
  rcases bs with _ | ⟨tag, r0⟩
  · cases h
  · rw [decode_result_eq] at h
    refine ⟨tag, r0, rfl, ?_⟩
    split at h
    · obtain ⟨⟨x, r'⟩, hd, h⟩ := Option.map_eq_some_iff.1 h
      cases h; exact .inl ⟨‹_›, x, hd, rfl⟩
    · split at h
      · obtain ⟨⟨x, r'⟩, hd, h⟩ := Option.map_eq_some_iff.1 h
        cases h; exact .inr ⟨‹_›, x, hd, rfl⟩
      · cases h

theorem decode_array_some {C : Codec} {n : Nat} {t : Ty} {bs : Bytes} {v : Val} {r : Bytes}
    (h : decode C (.array n t) bs = some (v, r)) :
    ∃ vs, decN (decode C t) n bs = some (vs, r) ∧ v = .list vs := by
  rw [decode_array_eq] at h
  obtain ⟨⟨vs, r'⟩, hd, h⟩ := Option.map_eq_some_iff.1 h
  cases h; exact ⟨vs, hd, rfl⟩

theorem decode_seq_some {C : Codec} {t : Ty} {bs : Bytes} {v : Val} {r : Bytes}
    (h : decode C (.seq t) bs = some (v, r)) :
    ∃ n r0 vs, C.decLen bs = some (n, r0) ∧ decN (decode C t) n r0 = some (vs, r) ∧ v = .list vs := by
  rw [decode_seq_eq] at h
  obtain ⟨⟨n, r0⟩, hl, h⟩ := Option.bind_eq_some_iff.1 h
  obtain ⟨⟨vs, r'⟩, hd, h⟩ := Option.map_eq_some_iff.1 h
  cases h; exact ⟨n, r0, vs, hl, hd, rfl⟩

theorem decode_enumCons_some {C : Codec} {i : Nat} {t rest : Ty} {bs : Bytes} {v : Val} {r : Bytes}
    (h : decode C (.enumCons i t rest) bs = some (v, r)) :
    ∃ tag r0, bs = tag :: r0 ∧
      (tag.toNat = i ∧ (∃ x, decode C t r0 = some (x, r) ∧ v = .variant i x) ∨
       ¬ tag.toNat = i ∧ decode C rest bs = some (v, r)) := by
  rcases bs with _ | ⟨tag, r0⟩
  · cases h
  · rw [decode_enumCons_eq] at h
    refine ⟨tag, r0, rfl, ?_⟩
    split at h
    · obtain ⟨⟨x, r'⟩, hd, h⟩ := Option.map_eq_some_iff.1 h
      cases h; exact .inl ⟨‹_›, x, hd, rfl⟩
    · exact .inr ⟨‹_›, h⟩

theorem encode_enumCons_eq (C : Codec) {i : Nat} (t rest : Ty) (x : Val) :
    encode C (.enumCons i t rest) (.variant i x) = UInt8.ofNat i :: encode C t x := by
  simp [encode]

theorem encode_enumCons_ne (C : Codec) {i j : Nat} (t rest : Ty) (x : Val) (h : ¬ j = i) :
    encode C (.enumCons i t rest) (.variant j x) = encode C rest (.variant j x) := by
  simp [encode, h]

theorem encode_variant_head (C : Codec) :
    ∀ (t : Ty) (j : Nat) (x : Val), wt t (.variant j x) = true →
      j < 256 ∧ ∃ tl, encode C t (.variant j x) = UInt8.ofNat j :: tl := by
  intro t
  induction t with
  | enumCons i t rest _ ihr =>
    intro j x h
    by_cases hj : j = i
    · subst hj
      rw [wt_enumCons_eq, Bool.and_eq_true, decide_eq_true_eq] at h
      exact ⟨h.1, _, encode_enumCons_eq C t rest x⟩
    · rw [wt_enumCons_ne t rest x hj] at h
      rw [encode_enumCons_ne C t rest x hj]
      exact ihr j x h
  | prim p => intro j x h; simp [wt, wtKind_variant] at h
  | _ => intro j x h; simp [wt] at h

theorem decN_encList (f : Bytes → Option (Val × Bytes)) (g : Val → Bytes) (vs : List Val) (r : Bytes)
    (h : ∀ v ∈ vs, ∀ r, f (g v ++ r) = some (v, r)) :
    decN f vs.length (encList g vs ++ r) = some (vs, r) := by
  induction vs with
  | nil => rfl
  | cons v vs ih =>
    simp only [List.length_cons, decN, encList, List.append_assoc]
    rw [h v (by simp)]
    simp only
    rw [ih (fun w hw => h w (by simp [hw]))]

theorem decN_all (f : Bytes → Option (Val × Bytes)) (P : Val → Prop)
    (hf : ∀ bs v r, f bs = some (v, r) → P v) :
    ∀ (n : Nat) (bs : Bytes) (vs : List Val) (r : Bytes),
      decN f n bs = some (vs, r) → vs.length = n ∧ ∀ v ∈ vs, P v := by
  intro n
  induction n with
  | zero => intro bs vs r h; cases h; simp
  | succ n ih =>
    intro bs vs r h
    obtain ⟨v, r1, ws, hv, hws, rfl⟩ := decN_succ_some h
    have ⟨hl, hall⟩ := ih r1 ws r hws
    exact ⟨by rw [List.length_cons, hl], List.forall_mem_cons.2 ⟨hf bs v r1 hv, hall⟩⟩

theorem decN_length {f : Bytes → Option (Val × Bytes)} {n : Nat} {bs : Bytes} {vs : List Val} {r : Bytes}
    (h : decN f n bs = some (vs, r)) : vs.length = n :=
  (decN_all f (fun _ => True) (fun _ _ _ _ => trivial) n bs vs r h).1

theorem decN_bytes (f : Bytes → Option (Val × Bytes)) (g : Val → Bytes)
    (hf : ∀ bs v r, f bs = some (v, r) → bs = g v ++ r) :
    ∀ (n : Nat) (bs : Bytes) (vs : List Val) (r : Bytes),
      decN f n bs = some (vs, r) → bs = encList g vs ++ r := by
  intro n
  induction n with
  | zero => intro bs vs r h; cases h; rfl
  | succ n ih =>
    intro bs vs r h
    obtain ⟨v, r1, ws, hv, hws, rfl⟩ := decN_succ_some h
    rw [hf bs v r1 hv, ih r1 ws r hws, encList, List.append_assoc]

theorem flatten_map_encList (f : Val → Bytes) (vs : List Val) : (vs.map f).flatten = encList f vs := by
  induction vs with
  | nil => rfl
  | cons v vs ih => simp [encList, ih]

theorem encList_congr (f g : Val → Bytes) (vs : List Val) (h : ∀ v ∈ vs, f v = g v) :
    encList f vs = encList g vs := by
  rw [← flatten_map_encList, ← flatten_map_encList, List.map_congr_left h]

theorem roundtripOn (C : Codec) (Q : Prim → Val → Bool) (QL : Nat → Bool)
    (hP : ∀ p v r, wtKind p.kind v = true → Q p v = true → C.decP p (C.encP p v ++ r) = some (v, r))
    (hL : ∀ n r, n < maxSeqLen → QL n = true → C.decLen (C.encLen n ++ r) = some (n, r)) :
    ∀ (t : Ty) (v : Val) (r : Bytes), wt t v = true → leavesOk Q QL t v = true →
      decode C t (encode C t v ++ r) = some (v, r) := by
  intro t
  induction t with
  | prim p => intro v r h hq; exact hP p v r h hq
  | unit => intro v r h _; cases wt_unit h; rfl
  | pair a b iha ihb =>
    intro v r h hq
    obtain ⟨x, y, rfl, hx, hy⟩ := wt_pair h
    simp only [leavesOk, Bool.and_eq_true] at hq
    simp only [encode, decode, List.append_assoc]
    rw [iha x _ hx hq.1]; simp only
    rw [ihb y _ hy hq.2]
  | option t ih =>
    intro v r h hq
    obtain rfl | ⟨x, rfl, hx⟩ := wt_option h
    · rfl
    · simp only [encode, decode, List.cons_append]
      rw [ih x r hx hq]; rfl
  | result a b iha ihb =>
    intro v r h hq
    obtain ⟨x, rfl, hx⟩ | ⟨x, rfl, hx⟩ := wt_result h
    · simp only [encode, decode, List.cons_append]
      rw [iha x r hx hq]; rfl
    · simp only [encode, decode, List.cons_append]
      rw [ihb x r hx hq]; rfl
  | array n t ih =>
    intro v r h hq
    obtain ⟨vs, rfl, rfl, hall⟩ := wt_array h
    simp only [leavesOk, List.all_eq_true] at hq
    simp only [encode, decode]
    rw [decN_encList _ _ vs r (fun w hw r' => ih w r' (hall w hw) (hq w hw))]
  | seq t ih =>
    intro v r h hq
    obtain ⟨vs, rfl, hl, hall⟩ := wt_seq h
    simp only [leavesOk, Bool.and_eq_true, List.all_eq_true] at hq
    simp only [encode, decode, List.append_assoc]
    rw [hL _ _ hl hq.1]; simp only
    rw [decN_encList _ _ vs r (fun w hw r' => ih w r' (hall w hw) (hq.2 w hw))]
  | enumNil => intro v r h _; rw [wt_enumNil] at h; cases h
  | enumCons i t rest iht ihr =>
    intro v r h hq
    obtain ⟨j, x, rfl⟩ := wt_enum_variant h
    have ⟨hj256, tl, he⟩ := encode_variant_head C _ j x h
    have htag : (UInt8.ofNat j).toNat = j := toNat_ofNat_lt hj256
    rw [he, List.cons_append, decode, htag]
    by_cases hj : j = i
    · subst hj
      rw [wt_enumCons_eq, Bool.and_eq_true] at h
      simp only [leavesOk, if_true] at hq
      rw [encode_enumCons_eq, List.cons.injEq] at he
      rw [if_pos rfl, ← he.2, iht x r h.2 hq]
    · rw [wt_enumCons_ne t rest x hj] at h
      simp only [leavesOk, hj, if_false] at hq
      rw [encode_enumCons_ne C t rest x hj] at he
      rw [if_neg hj, ← List.cons_append, ← he]
      exact ihr _ r h hq

theorem leavesOk_true : ∀ (t : Ty) (v : Val), leavesOk (fun _ _ => true) (fun _ => true) t v = true := by
  intro t
  induction t with
  | pair a b iha ihb => intro v; cases v <;> simp [leavesOk, iha, ihb]
  | option t ih => intro v; cases v <;> simp [leavesOk, ih]
  | result a b iha ihb => intro v; cases v <;> simp [leavesOk, iha, ihb]
  | array n t ih => intro v; cases v <;> simp [leavesOk, ih]
  | seq t ih => intro v; cases v <;> simp [leavesOk, ih]
  | enumCons i t rest iht ihr =>
    intro v; cases v <;> simp only [leavesOk]
    split
    · exact iht _
    · exact ihr _
  | _ => intro v; cases v <;> rfl

theorem roundtrip (C : Codec) (L : C.RT) :
    ∀ (t : Ty) (v : Val) (r : Bytes), wt t v = true → decode C t (encode C t v ++ r) = some (v, r) :=
  fun t v r h => roundtripOn C _ _ (fun p v r hw _ => L.rtP p v r hw) (fun n r hn _ => L.rtLen n r hn)
    t v r h (leavesOk_true t v)

theorem encode_congr (C D : Codec)
    (hP : ∀ p v, wtKind p.kind v = true → C.encP p v = D.encP p v)
    (hL : ∀ n, n < maxSeqLen → C.encLen n = D.encLen n) :
    ∀ (t : Ty) (v : Val), wt t v = true → encode C t v = encode D t v := by
  intro t
  induction t with
  | prim p => intro v h; exact hP p v h
  | unit => intro v _; rfl
  | pair a b iha ihb =>
    intro v h
    obtain ⟨x, y, rfl, hx, hy⟩ := wt_pair h
    simp only [encode, iha x hx, ihb y hy]
  | option t ih =>
    intro v h
    obtain rfl | ⟨x, rfl, hx⟩ := wt_option h
    · rfl
    · simp only [encode, ih x hx]
  | result a b iha ihb =>
    intro v h
    obtain ⟨x, rfl, hx⟩ | ⟨x, rfl, hx⟩ := wt_result h
    · simp only [encode, iha x hx]
    · simp only [encode, ihb x hx]
  | array n t ih =>
    intro v h
    obtain ⟨vs, rfl, _, hall⟩ := wt_array h
    exact encList_congr _ _ vs (fun w hw => ih w (hall w hw))
  | seq t ih =>
    intro v h
    obtain ⟨vs, rfl, hl, hall⟩ := wt_seq h
    simp only [encode, hL _ hl, encList_congr _ _ vs (fun w hw => ih w (hall w hw))]
  | enumNil => intro v h; rw [wt_enumNil] at h; cases h
  | enumCons i t rest iht ihr =>
    intro v h
    obtain ⟨j, x, rfl⟩ := wt_enum_variant h
    by_cases hj : j = i
    · subst hj
      rw [wt_enumCons_eq, Bool.and_eq_true] at h
      rw [encode_enumCons_eq, encode_enumCons_eq, iht x h.2]
    · rw [wt_enumCons_ne t rest x hj] at h
      rw [encode_enumCons_ne C t rest x hj, encode_enumCons_ne D t rest x hj]
      exact ihr _ h

theorem decode_enum_variant (C : Codec) {tag : UInt8} {r0 : Bytes} {v : Val} {r : Bytes} :
    ∀ (t : Ty), t.wf = true → t.isEnum = true → decode C t (tag :: r0) = some (v, r) →
      ∃ x, v = .variant tag.toNat x := by
  intro t
  induction t with
  | enumNil => intro _ _ h; cases h
  | enumCons i t rest _ ihr =>
    intro hwf _ h
    simp only [Ty.wf, Bool.and_eq_true] at hwf
    obtain ⟨_, _, e, ⟨ht, x, _, rfl⟩ | ⟨_, hd⟩⟩ := decode_enumCons_some h
    · cases e; exact ⟨x, by rw [ht]⟩
    · exact ihr hwf.2 hwf.1.2 hd
  | _ => intro _ he; cases he

theorem decode_wt (C : Codec) (Q : Prim → Val → Bool) (QL : Nat → Bool)
    (hP : ∀ p bs v r, C.decP p bs = some (v, r) → wtKind p.kind v = true ∧ Q p v = true)
    (hL : ∀ bs n r, C.decLen bs = some (n, r) → n < maxSeqLen ∧ QL n = true) :
    ∀ (t : Ty), t.wf = true → ∀ (bs : Bytes) (v : Val) (r : Bytes), decode C t bs = some (v, r) →
      wt t v = true ∧ leavesOk Q QL t v = true := by
  intro t
  induction t with
  | prim p => intro _ bs v r h; exact hP p bs v r h
  | unit => intro _ bs v r h; cases h; exact ⟨rfl, rfl⟩
  | pair a b iha ihb =>
    intro hwf bs v r h
    simp only [Ty.wf, Bool.and_eq_true] at hwf
    obtain ⟨x, r1, y, ha, hb, rfl⟩ := decode_pair_some h
    have ⟨w1, l1⟩ := iha hwf.1 bs x r1 ha
    have ⟨w2, l2⟩ := ihb hwf.2 r1 y r hb
    exact ⟨by simp only [wt, w1, w2, Bool.and_self], by simp only [leavesOk, l1, l2, Bool.and_self]⟩
  | option t ih =>
    intro hwf bs v r h
    obtain ⟨tag, r0, rfl, ⟨_, rfl, _⟩ | ⟨_, x, hd, rfl⟩⟩ := decode_option_some h
    · exact ⟨rfl, rfl⟩
    · exact ih hwf r0 x r hd
  | result a b iha ihb =>
    intro hwf bs v r h
    simp only [Ty.wf, Bool.and_eq_true] at hwf
    obtain ⟨tag, r0, rfl, ⟨_, x, hd, rfl⟩ | ⟨_, x, hd, rfl⟩⟩ := decode_result_some h
    · exact iha hwf.1 r0 x r hd
    · exact ihb hwf.2 r0 x r hd
  | array n t ih =>
    intro hwf bs v r h
    obtain ⟨vs, hd, rfl⟩ := decode_array_some h
    have ⟨hl, hall⟩ := decN_all _ _ (ih hwf) n bs vs r hd
    refine ⟨?_, ?_⟩
    · simp only [wt, Bool.and_eq_true, beq_iff_eq, List.all_eq_true]
      exact ⟨hl, fun w hw => (hall w hw).1⟩
    · simp only [leavesOk, List.all_eq_true]
      exact fun w hw => (hall w hw).2
  | seq t ih =>
    intro hwf bs v r h
    obtain ⟨n, r0, vs, hlen, hd, rfl⟩ := decode_seq_some h
    have ⟨hn, hq⟩ := hL bs n r0 hlen
    have ⟨hl, hall⟩ := decN_all _ _ (ih hwf) n r0 vs r hd
    subst hl
    refine ⟨?_, ?_⟩
    · simp only [wt, Bool.and_eq_true, decide_eq_true_eq, List.all_eq_true]
      exact ⟨hn, fun w hw => (hall w hw).1⟩
    · simp only [leavesOk, Bool.and_eq_true, List.all_eq_true]
      exact ⟨hq, fun w hw => (hall w hw).2⟩
  | enumNil => intro _ bs v r h; cases h
  | enumCons i t rest iht ihr =>
    intro hwf bs v r h
    simp only [Ty.wf, Bool.and_eq_true] at hwf
    obtain ⟨tag, r0, rfl, ⟨ht, x, hd, rfl⟩ | ⟨ht, hd⟩⟩ := decode_enumCons_some h
    · have ⟨w, l⟩ := iht hwf.1.1 r0 x r hd
      have htag := tag.toNat_lt
      refine ⟨?_, ?_⟩
      · rw [wt_enumCons_eq, w, Bool.and_true, decide_eq_true_eq]; omega
      · simp only [leavesOk, if_true, l]
    · have ⟨w, l⟩ := ihr hwf.2 _ v r hd
      obtain ⟨x, rfl⟩ := decode_enum_variant C rest hwf.2 hwf.1.2 hd
      exact ⟨by rw [wt_enumCons_ne _ _ _ ht]; exact w, by simp only [leavesOk, ht, if_false, l]⟩

theorem decode_bytes (C : Codec) (L : C.Snd) :
    ∀ (t : Ty), t.wf = true → ∀ (bs : Bytes) (v : Val) (r : Bytes),
      decode C t bs = some (v, r) → bs = encode C t v ++ r := by
  intro t
  induction t with
  | prim p => intro _ bs v r h; exact (L.sndP p bs v r h).2
  | unit => intro _ bs v r h; cases h; rfl
  | pair a b iha ihb =>
    intro hwf bs v r h
    simp only [Ty.wf, Bool.and_eq_true] at hwf
    obtain ⟨x, r1, y, ha, hb, rfl⟩ := decode_pair_some h
    rw [iha hwf.1 bs x r1 ha, ihb hwf.2 r1 y r hb, encode, List.append_assoc]
  | option t ih =>
    intro hwf bs v r h
    obtain ⟨tag, r0, rfl, ⟨rfl, rfl, rfl⟩ | ⟨rfl, x, hd, rfl⟩⟩ := decode_option_some h
    · rfl
    · rw [ih hwf r0 x r hd]; rfl
  | result a b iha ihb =>
    intro hwf bs v r h
    simp only [Ty.wf, Bool.and_eq_true] at hwf
    obtain ⟨tag, r0, rfl, ⟨rfl, x, hd, rfl⟩ | ⟨rfl, x, hd, rfl⟩⟩ := decode_result_some h
    · rw [iha hwf.1 r0 x r hd]; rfl
    · rw [ihb hwf.2 r0 x r hd]; rfl
  | array n t ih =>
    intro hwf bs v r h
    obtain ⟨vs, hd, rfl⟩ := decode_array_some h
    exact decN_bytes _ _ (ih hwf) n bs vs r hd
  | seq t ih =>
    intro hwf bs v r h
    obtain ⟨n, r0, vs, hlen, hd, rfl⟩ := decode_seq_some h
    rw [(L.sndLen bs n r0 hlen).2, decN_bytes _ _ (ih hwf) n r0 vs r hd, encode, decN_length hd,
      List.append_assoc]
  | enumNil => intro _ bs v r h; cases h
  | enumCons i t rest iht ihr =>
    intro hwf bs v r h
    simp only [Ty.wf, Bool.and_eq_true] at hwf
    obtain ⟨tag, r0, rfl, ⟨ht, x, hd, rfl⟩ | ⟨ht, hd⟩⟩ := decode_enumCons_some h
    · rw [encode_enumCons_eq, iht hwf.1.1 r0 x r hd, List.cons_append, ← ht, UInt8.ofNat_toNat]
    · -- the result is the variant named by `tag`, which is not `i`
      obtain ⟨x, rfl⟩ := decode_enum_variant C rest hwf.2 hwf.1.2 hd
      rw [encode_enumCons_ne C t rest x ht]
      exact ihr hwf.2 _ _ r hd

theorem sound (C : Codec) (L : C.Snd) :
    ∀ (t : Ty), t.wf = true → ∀ (bs : Bytes) (v : Val) (r : Bytes),
      decode C t bs = some (v, r) → wt t v = true ∧ bs = encode C t v ++ r :=
  fun t hwf bs v r h =>
    ⟨(decode_wt C (fun _ _ => true) (fun _ => true) (fun p bs v r h => ⟨(L.sndP p bs v r h).1, rfl⟩)
      (fun bs n r h => ⟨(L.sndLen bs n r h).1, rfl⟩) t hwf bs v r h).1, decode_bytes C L t hwf bs v r h⟩

/-- had the prefix `p` decoded to `(v', r')`, it would be `enc v' ++ r'`, and the whole encoding
    `enc v' ++ (r' ++ s)` would decode both to `(v', r' ++ s)` and to `(v, [])`, so `s = []` -/
theorem truncated (C : Codec) (L : C.Lawful) (t : Ty) (hwf : t.wf = true) (v : Val) (p s : Bytes)
    (hw : wt t v = true) (he : encode C t v = p ++ s) (hs : s ≠ []) : decode C t p = none := by
  cases hd : decode C t p with
  | none => rfl
  | some q =>
    obtain ⟨v', r'⟩ := q
    exfalso
    have ⟨w', e'⟩ := sound C L.toSnd t hwf p v' r' hd
    have h1 := roundtrip C L.toRT t v' (r' ++ s) w'
    have h2 := roundtrip C L.toRT t v [] hw
    rw [List.append_nil, he, e', List.append_assoc] at h2
    rw [h1] at h2
    simp only [Option.some.injEq, Prod.mk.injEq, List.append_eq_nil_iff] at h2
    exact hs h2.2.2

theorem encode_inj (C : Codec) (L : C.RT) (t : Ty) (v w : Val)
    (hv : wt t v = true) (hw : wt t w = true) (h : encode C t v = encode C t w) : v = w := by
  have h1 := roundtrip C L t v [] hv
  have h2 := roundtrip C L t w [] hw
  rw [h, h2] at h1
  simp only [Option.some.injEq, Prod.mk.injEq, and_true] at h1
  exact h1.symm

/-- Lib/C33Reencode: a block body with a non-zero count is not empty -/
theorem seq_nil_len (C : Codec) (t : Ty) (bs r : Bytes)
    (h : decode C (.seq t) bs = some (.list [], r)) : ∃ r0, C.decLen bs = some (0, r0) := by
  obtain ⟨n, r0, vs, hl, hd, hv⟩ := decode_seq_some h
  cases hv
  exact ⟨r0, by rw [hl, ← decN_length hd]; rfl⟩

/-- `t'` extends `t`.  Quantified over the primitive codec so that the fact can be used at the Go codec
    and at the canonical one alike; used from a Go declaration `t` to the type `t'` of the
    specification it falls short of (Props/C14, its only user). -/
def Sub (t t' : Ty) : Prop :=
  ∀ v, wt t v = true → wt t' v = true ∧ ∀ C : Codec, encode C t' v = encode C t v

theorem Sub.refl (t : Ty) : Sub t t := fun _ h => ⟨h, fun _ => rfl⟩

theorem Sub.pair {a a' b b' : Ty} (ha : Sub a a') (hb : Sub b b') : Sub (.pair a b) (.pair a' b') := by
  intro v h
  obtain ⟨x, y, rfl, hx, hy⟩ := wt_pair h
  have ⟨w1, e1⟩ := ha x hx
  have ⟨w2, e2⟩ := hb y hy
  exact ⟨by rw [wt, w1, w2]; rfl, fun C => by rw [encode, encode, e1 C, e2 C]⟩

theorem Sub.seq {t t' : Ty} (h : Sub t t') : Sub (.seq t) (.seq t') := by
  intro v hv
  obtain ⟨vs, rfl, hl, hx⟩ := wt_seq hv
  refine ⟨?_, fun C => ?_⟩
  · simp only [wt, Bool.and_eq_true, decide_eq_true_eq, List.all_eq_true]
    exact ⟨hl, fun x hm => (h x (hx x hm)).1⟩
  · rw [encode, encode, encList_congr (encode C t') (encode C t) vs (fun x hm => (h x (hx x hm)).2 C)]

theorem Sub.enumNil (t' : Ty) : Sub .enumNil t' :=
  fun _ h => absurd h (by rw [wt_enumNil]; exact Bool.false_ne_true)

def Ty.indices : Ty → List Nat
  | .enumCons i _ rest => i :: rest.indices
  | _ => []

theorem wt_variant_mem : ∀ (t : Ty) (j : Nat) (x : Val), wt t (.variant j x) = true → j ∈ t.indices := by
  intro t
  induction t with
  | enumCons i t rest _ ihr =>
    intro j x h
    by_cases hj : j = i
    · exact hj ▸ List.mem_cons_self
    · exact List.mem_cons_of_mem _ (ihr j x (wt_enumCons_ne t rest x hj ▸ h))
  | prim p => intro j x h; rw [wt, wtKind_variant] at h; cases h
  | _ => intro j x h; cases h

theorem Sub.enumSkip (i : Nat) (t rest : Ty) (hi : i ∉ rest.indices) (he : rest.isEnum = true) :
    Sub rest (.enumCons i t rest) := by
  intro v h
  have hv : ∃ j x, v = .variant j x := by
    cases rest <;> simp [Ty.isEnum] at he
    · simp [wt] at h
    · exact wt_enum_variant h
  obtain ⟨j, x, rfl⟩ := hv
  have hj : ¬ j = i := fun e => hi (e ▸ wt_variant_mem rest j x h)
  exact ⟨by rw [wt_enumCons_ne t rest x hj]; exact h, fun C => encode_enumCons_ne C t rest x hj⟩

end Gossamer.Scale
