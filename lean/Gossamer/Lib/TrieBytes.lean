/-
`toNibs` embeds byte keys into nibble keys keeping equality, order and the prefix relation (`toNibs_keyEmb`), and
the ordered-map operations commute with such embeddings (`KeyEmb`, `mapK`).  Byte/nibble arithmetic that needs no
ordered map is in `Lib/Nibble` (with `keyLEToNibbles_eq`: the Go key-to-nibbles function is `toNibs`); the index
lemmas on `toNibs` at the end of this file serve the triedb proofs.
-/
import Gossamer.Lib.TrieBuild
import Gossamer.Lib.Nibble
-- as in OMapLemmas: the `variable` line of `namespace OMap` below is taken whole by every statement
set_option linter.unusedSectionVars false
namespace Gossamer
open Rank OMap Trie

theorem ofNibs_toNibs (k : Bytes) : ofNibs (toNibs k) = k := by
  induction k with
  | nil => rfl
  | cons b r ih => simp [toNibs, ofNibs, byteOf_hi_lo, ih]

theorem toNibs_inj {a b : Bytes} (h : toNibs a = toNibs b) : a = b := by
  have := congrArg ofNibs h
  simpa [ofNibs_toNibs] using this

/-- `b`: the outcome of comparing what follows -/
theorem lex_div_mod (x y : Nat) (b : Bool) :
    (decide (x / 16 < y / 16) || (x / 16 == y / 16 && (decide (x % 16 < y % 16) || (x % 16 == y % 16 && b)))) =
      (decide (x < y) || (x == y && b)) := by
  rw [Bool.eq_iff_iff]
  cases b <;> simp only [Bool.or_eq_true, Bool.and_eq_true, decide_eq_true_eq, beq_iff_eq,
    Bool.and_true, Bool.and_false, Bool.or_false] <;> omega

theorem klt_toNibs (a b : Bytes) : klt (toNibs a) (toNibs b) = klt a b := by
  induction a generalizing b with
  | nil => cases b <;> simp [toNibs, klt]
  | cons x xs ih =>
    cases b with
    | nil => simp [toNibs, klt]
    | cons y ys =>
      simp only [toNibs, klt, ih, Rank.rank, hiNib_val, loNib_val]
      exact lex_div_mod _ _ _

theorem isPrefixOf_toNibs (p k : Bytes) : (toNibs p).isPrefixOf (toNibs k) = p.isPrefixOf k := by
  induction p generalizing k with
  | nil => simp [toNibs]
  | cons x xs ih =>
    cases k with
    | nil => simp [toNibs]
    | cons y ys =>
      simp only [toNibs, List.isPrefixOf_cons_cons, ih, ← Bool.and_assoc]
      congr 1
      rw [Bool.eq_iff_iff]
      simp only [Bool.and_eq_true, beq_iff_eq]
      exact ⟨fun h => byte_ext h.1 h.2, fun h => h ▸ ⟨rfl, rfl⟩⟩

theorem packEven_toNibs (k : Bytes) : packEven (toNibs k) = k := by
  induction k with
  | nil => rfl
  | cons b r ih => simp [toNibs, packEven, byteOf_hi_lo, ih]

theorem length_toNibs (k : Bytes) : (toNibs k).length = 2 * k.length := by
  induction k with
  | nil => rfl
  | cons b r ih => simp [toNibs, ih]; omega

theorem getLast?_toNibs (p : Bytes) : (toNibs p).getLast? = p.getLast?.map loNib := by
  induction p with
  | nil => rfl
  | cons b r ih =>
    cases r with
    | nil => simp [toNibs]
    | cons c r' =>
      simp only [toNibs] at ih ⊢
      simp only [List.getLast?_cons_cons] at ih ⊢
      exact ih

theorem nibblesToKeyLE_toNibs (k : Bytes) : nibblesToKeyLE (toNibs k) = k := by
  simp [nibblesToKeyLE, packNibs, length_toNibs, packEven_toNibs]

end Gossamer

-- `open Trie` ends here: below, `get`, `clearPrefix`, `keysWithPrefix`, … are those of `OMap`
namespace Gossamer
namespace OMap
variable {α β : Type} [Rank α] [Rank β] [DecidableEq α] [DecidableEq β]

/-- what the lemmas below use of `toNibs` (bytes ↦ nibbles) -/
structure KeyEmb (f : List α → List β) : Prop where
  inj : ∀ a b, f a = f b → a = b
  lt : ∀ a b, klt (f a) (f b) = klt a b
  pre : ∀ p k, (f p).isPrefixOf (f k) = p.isPrefixOf k

def mapK (f : List α → List β) (es : List (List α × Bytes)) : List (List β × Bytes) :=
  es.map (fun e => (f e.1, e.2))

/-! `q` need not be `f p`: Go descends along the trimmed nibble prefix, which agrees with `p` only on
    the keys present (`trim_agree`) -/
section
variable {f : List α → List β} {q : List β} {p : List α} {es : List (List α × Bytes)}

theorem filter_mapK (P : List β → Bool) (P' : List α → Bool) (h : ∀ e ∈ es, P (f e.1) = P' e.1) :
    (mapK f es).filter (fun e => P e.1) = mapK f (es.filter (fun e => P' e.1)) := by
  simp only [mapK, List.filter_map]
  congr 1
  exact List.filter_congr h

theorem clearPrefix_mapK_of (h : ∀ e ∈ es, q.isPrefixOf (f e.1) = p.isPrefixOf e.1) :
    clearPrefix q (mapK f es) = mapK f (clearPrefix p es) :=
  filter_mapK (!q.isPrefixOf ·) (!p.isPrefixOf ·) fun e he => congrArg _ (h e he)

theorem keysWithPrefix_mapK_of (h : ∀ e ∈ es, q.isPrefixOf (f e.1) = p.isPrefixOf e.1) :
    keysWithPrefix q (mapK f es) = (keysWithPrefix p es).map f := by
  rw [keysWithPrefix, filter_mapK q.isPrefixOf p.isPrefixOf h]
  simp only [keysWithPrefix, mapK, List.map_map]; rfl

theorem dropMatching_mapK_of (n : Nat) (h : ∀ e ∈ es, q.isPrefixOf (f e.1) = p.isPrefixOf e.1) :
    dropMatching q n (mapK f es) = mapK f (dropMatching p n es) := by
  induction es generalizing n with
  | nil => cases n <;> rfl
  | cons e r ih =>
    cases n with
    | zero => rfl
    | succ m =>
      have ih := fun n => ih n fun x hx => h x (List.mem_cons_of_mem _ hx)
      simp only [mapK, List.map_cons, dropMatching, h e List.mem_cons_self] at ih ⊢
      split
      · exact ih m
      · rw [ih (m + 1)]; rfl

end

-- of the laws below the refinement uses `get_mapK`, `upsert_mapK`, `nextKey_mapK` and, because of the trimmed
-- prefix, the `_of` forms above (`Rep.delete` goes through `filter_mapK`); the others complete the set
variable {f : List α → List β} (hf : KeyEmb f)
include hf

theorem KeyEmb.eq_iff (a b : List α) : f a = f b ↔ a = b :=
  ⟨hf.inj a b, fun h => by rw [h]⟩

theorem get_mapK (k : List α) (es : List (List α × Bytes)) : get (f k) (mapK f es) = get k es := by
  induction es with
  | nil => rfl
  | cons e r ih => simp only [mapK, List.map_cons, get, hf.eq_iff] at ih ⊢; rw [ih]

theorem upsert_mapK (k : List α) (v : Bytes) (es : List (List α × Bytes)) :
    upsert (f k) v (mapK f es) = mapK f (upsert k v es) := by
  induction es with
  | nil => rfl
  | cons e r ih =>
    simp only [mapK, List.map_cons, upsert, hf.eq_iff, hf.lt] at ih ⊢
    split
    · rfl
    · split
      · rfl
      · simp [ih]

theorem erase_mapK (k : List α) (es : List (List α × Bytes)) :
    erase (f k) (mapK f es) = mapK f (erase k es) :=
  filter_mapK (!· == f k) (!· == k) fun e _ => by
    rw [Bool.eq_iff_iff]; simp [hf.eq_iff]

theorem clearPrefix_mapK (p : List α) (es : List (List α × Bytes)) :
    clearPrefix (f p) (mapK f es) = mapK f (clearPrefix p es) :=
  clearPrefix_mapK_of fun e _ => hf.pre p e.1

theorem nextKey_mapK (k : List α) (es : List (List α × Bytes)) :
    nextKey (f k) (mapK f es) = (nextKey k es).map f := by
  induction es with
  | nil => rfl
  | cons e r ih =>
    simp only [nextKey, mapK, List.map_cons, List.find?_cons, hf.lt] at ih ⊢
    split
    · rfl
    · exact ih

theorem clearPrefixLimit_mapK (p : List α) (n : Nat) (es : List (List α × Bytes)) :
    clearPrefixLimit (f p) n (mapK f es) =
      (mapK f (clearPrefixLimit p n es).1, (clearPrefixLimit p n es).2) := by
  have h : ∀ e ∈ es, (f p).isPrefixOf (f e.1) = p.isPrefixOf e.1 := fun e _ => hf.pre p e.1
  simp only [clearPrefixLimit]
  split
  · rfl
  · simp [dropMatching_mapK_of n h, keysWithPrefix_mapK_of h]

theorem sorted_mapK (es : List (List α × Bytes)) : Sorted (mapK f es) ↔ Sorted es := by
  simp only [sorted_iff_pairwise, mapK, List.pairwise_map, hf.lt]

end OMap

theorem toNibs_keyEmb : OMap.KeyEmb toNibs :=
  ⟨fun _ _ h => toNibs_inj h, klt_toNibs, isPrefixOf_toNibs⟩

theorem toNibs_append (a b : Bytes) : toNibs (a ++ b) = toNibs a ++ toNibs b := by
  induction a with
  | nil => rfl
  | cons x r ih => simp only [List.cons_append, toNibs, ih]

theorem toNibs_drop (d : Bytes) (s : Nat) : (toNibs d).drop (2 * s) = toNibs (d.drop s) := by
  induction s generalizing d with
  | zero => rfl
  | succ s ih =>
    cases d with
    | nil => rfl
    | cons x r => exact ih r

theorem toNibs_take (d : Bytes) (s : Nat) : (toNibs d).take (2 * s) = toNibs (d.take s) := by
  induction s generalizing d with
  | zero => rfl
  | succ s ih =>
    cases d with
    | nil => rfl
    | cons x r => simp only [Nat.mul_succ, toNibs, List.take_succ_cons, ih]

theorem toNibs_take_odd (d : Bytes) (s : Nat) (hs : s < d.length) :
    (toNibs d).take (2 * s + 1) = toNibs (d.take s) ++ [hiNib (d.getD s 0)] := by
  induction s generalizing d with
  | zero =>
    cases d with
    | nil => cases hs
    | cons x r => rfl
  | succ s ih =>
    cases d with
    | nil => cases hs
    | cons x r =>
      have := ih r (Nat.lt_of_succ_lt_succ hs)
      simp only [Nat.mul_succ, toNibs, List.take_succ_cons, List.getD_cons_succ, List.cons_append] at this ⊢
      rw [this]

theorem toNibs_drop_odd (d : Bytes) (s : Nat) (hs : s < d.length) :
    (toNibs d).drop (2 * s + 1) = loNib (d.getD s 0) :: toNibs (d.drop (s + 1)) := by
  induction s generalizing d with
  | zero =>
    cases d with
    | nil => cases hs
    | cons x r => rfl
  | succ s ih =>
    cases d with
    | nil => cases hs
    | cons x r => exact ih r (Nat.lt_of_succ_lt_succ hs)

theorem toNibs_get (d : Bytes) (j : Nat) (h : j < (toNibs d).length) :
    (toNibs d)[j] = if j % 2 = 0 then hiNib (d.getD (j / 2) 0) else loNib (d.getD (j / 2) 0) := by
  induction d generalizing j with
  | nil => cases h
  | cons x r ih =>
    match j with
    | 0 => rfl
    | 1 => rfl
    | j + 2 =>
      simp only [toNibs, List.getElem_cons_succ, Nat.add_mod_right, Nat.add_div_right _ Nat.two_pos,
        List.getD_cons_succ]
      exact ih j _

end Gossamer
