/-
The flat specification (`Spec`, `chainAux`, `blocksF`) against the tree: the chain of parent links of the flat
view is the chain of parent pointers of the tree.
-/
import Gossamer.Lib.BlockTreeLemmas

namespace Gossamer.BlockTree

@[simp] theorem Info.block_hash (i : Info) (p : Hash) : (i.block p).hash = i.hash := rfl
@[simp] theorem Info.block_parent (i : Info) (p : Hash) : (i.block p).parent = p := rfl
@[simp] theorem Info.block_number (i : Info) (p : Hash) : (i.block p).number = i.number := rfl
@[simp] theorem Info.block_primary (i : Info) (p : Hash) : (i.block p).primary = i.primary := rfl
@[simp] theorem Info.block_arrival (i : Info) (p : Hash) : (i.block p).arrival = i.arrival := rfl
@[simp] theorem Info.block_info (i : Info) (p : Hash) : (i.block p).info = i := rfl

theorem blocksF_map_info : ∀ f p, (blocksF p f).map Block.info = infosF f := by
  intro f
  induction f using forest_ind with
  | nil => simp [blocksF, infosF]
  | cons i cs rest ih1 ih2 => intro p; simp [blocksF, infosF, ih1, ih2]

theorem blocksF_map_hash (f : Forest) (p : Hash) : (blocksF p f).map (·.hash) = descF f := by
  rw [descF_eq_map_infos, ← blocksF_map_info f p, List.map_map]; rfl

theorem blocksF_append (p : Hash) (f g : Forest) : blocksF p (f ++ g) = blocksF p f ++ blocksF p g := by
  induction f using forest_ind with
  | nil => simp [blocksF]
  | cons i cs rest ih1 ih2 => simp [blocksF, ih2]

theorem blocksF_node (p : Hash) (t : Node) : blocksF p [t] = t.info.block p :: (specOfNode t).blocks := by
  cases t; simp [blocksF, specOfNode]

theorem lookup_map_info (p h : Hash) (f : Forest) :
    (lookup (blocksF p f) h).map Block.info = (infosF f).find? (·.hash = h) := by
  rw [lookup, ← blocksF_map_info f p, List.find?_map]; rfl

theorem lookup_some {bs : List Block} {h : Hash} {b : Block} (hl : lookup bs h = some b) :
    b ∈ bs ∧ b.hash = h := by
  unfold lookup at hl
  have h1 := List.mem_of_find?_eq_some hl
  have h2 := List.find?_some hl
  simp at h2
  exact ⟨h1, h2⟩

theorem lookup_none {bs : List Block} {h : Hash} : lookup bs h = none ↔ h ∉ bs.map (·.hash) := by
  unfold lookup
  simp [List.find?_eq_none]

theorem lookup_of_mem {bs : List Block} (hd : (bs.map (·.hash)).Nodup) {b : Block} (hb : b ∈ bs) :
    lookup bs b.hash = some b :=
  find?_of_mem_nodup (fun b : Block => b.hash) hd hb

theorem lookup_eq_some_iff {bs : List Block} (hd : (bs.map (·.hash)).Nodup) {h : Hash} {b : Block} :
    lookup bs h = some b ↔ b ∈ bs ∧ b.hash = h :=
  ⟨lookup_some, fun ⟨hb, e⟩ => e ▸ lookup_of_mem hd hb⟩

/-- the blocks of a chain of payloads; every element hangs under the next one, the last under `p` -/
def linkUp : List Info → Hash → List Block
  | [], _ => []
  | x :: r, p => x.block (match r with | [] => p | y :: _ => y.hash) :: linkUp r p

theorem linkUp_snoc (q : List Info) (i : Info) (p : Hash) :
    linkUp (q ++ [i]) p = linkUp q i.hash ++ [i.block p] := by
  induction q with
  | nil => simp [linkUp]
  | cons x r ih =>
    cases r with
    | nil => simp [linkUp]
    | cons y r' => simp only [List.cons_append, linkUp] at ih ⊢; rw [ih]

theorem linkUp_length (q : List Info) (p : Hash) : (linkUp q p).length = q.length := by
  induction q with
  | nil => rfl
  | cons x r ih => simp [linkUp, ih]

theorem linkUp_map_info (q : List Info) (p : Hash) : (linkUp q p).map Block.info = q := by
  induction q with
  | nil => rfl
  | cons x r ih => simp [linkUp, ih]

theorem linkUp_map_parent (q : List Info) (p : Hash) :
    (linkUp q p).map (·.parent) = (q.map (·.hash)).tail ++ (if q.isEmpty then [] else [p]) := by
  induction q with
  | nil => rfl
  | cons x r ih =>
    cases r with
    | nil => simp [linkUp]
    | cons y r' => simp only [linkUp] at ih ⊢; simp [ih]

theorem chainAux_none {bs : List Block} {h : Hash} (hl : lookup bs h = none) (fuel : Nat) :
    chainAux bs fuel h = [] := by
  cases fuel <;> simp [chainAux, hl]

theorem path_chain {bs : List Block} {h : Hash} {f : Forest} {p : Hash} {q : List Info}
    (hb : ∀ b ∈ blocksF p f, lookup bs b.hash = some b) (hq : pathF h f = some q) (k : Nat) :
    chainAux bs (q.length + k) h = linkUp q p ++ chainAux bs k p := by
  induction f using forest_ind generalizing p q k with
  | nil => simp [pathF] at hq
  | cons i cs rest ih1 ih2 =>
    simp only [blocksF, List.mem_cons, List.mem_append] at hb
    have hhead : lookup bs i.hash = some (i.block p) := hb (i.block p) (.inl rfl)
    rcases pathF_cons hq with ⟨rfl, rfl⟩ | ⟨_, q', hq', rfl⟩ | ⟨_, _, hq⟩
    · rw [List.length_singleton, Nat.add_comm, chainAux, hhead]; rfl
    · rw [List.length_append, List.length_singleton, Nat.add_assoc,
        ih1 (fun b hb' => hb b (.inr (.inl hb'))) hq', linkUp_snoc, Nat.add_comm, chainAux, hhead,
        List.append_assoc]; rfl
    · exact ih2 (fun b hb' => hb b (.inr (.inr hb'))) hq k

theorem specOfNode_nodup {t : Node} (hd : (descF [t]).Nodup) : ((specOfNode t).blocks.map (·.hash)).Nodup := by
  rw [descF_node] at hd
  rw [specOfNode, blocksF_map_hash]
  exact (List.nodup_cons.1 hd).2

theorem lookup_absent {t : Node} {h : Hash} (hh : h ∉ descF t.children) : lookup (specOfNode t).blocks h = none := by
  rw [lookup_none, specOfNode, blocksF_map_hash]; exact hh

theorem lookup_root {t : Node} (hd : (descF [t]).Nodup) : lookup (specOfNode t).blocks t.info.hash = none :=
  lookup_absent (List.nodup_cons.1 (descF_node t ▸ hd)).1

theorem chainAux_eq_linkUp {t : Node} (hd : (descF [t]).Nodup) {h : Hash} {q : List Info}
    (hq : pathF h t.children = some q) {fuel : Nat} (hf : q.length ≤ fuel) :
    chainAux (specOfNode t).blocks fuel h = linkUp q t.info.hash := by
  obtain ⟨k, rfl⟩ := Nat.exists_eq_add_of_le hf
  rw [path_chain (fun b hb => lookup_of_mem (specOfNode_nodup hd) hb) hq k, chainAux_none (lookup_root hd),
    List.append_nil]

theorem pathF_length_le {t : Node} {h : Hash} {q : List Info} (hq : pathF h t.children = some q) :
    q.length ≤ (specOfNode t).blocks.length := by
  have := (pathF_sublist hq).length_le
  rwa [List.length_reverse, ← blocksF_map_info _ t.info.hash, List.length_map] at this

theorem chainAux_fuel {t : Node} (hd : (descF [t]).Nodup) (h : Hash) {fuel : Nat}
    (hf : (specOfNode t).blocks.length ≤ fuel) :
    chainAux (specOfNode t).blocks fuel h = (specOfNode t).chain h := by
  unfold Spec.chain
  cases hq : pathF h t.children with
  | none =>
    have := lookup_absent (t := t) (pathF_none.1 hq)
    rw [chainAux_none this, chainAux_none this]
  | some q =>
    rw [chainAux_eq_linkUp hd hq (Nat.le_trans (pathF_length_le hq) hf),
      chainAux_eq_linkUp hd hq (pathF_length_le hq)]

theorem chain_root {t : Node} (hd : (descF [t]).Nodup) : (specOfNode t).chain t.info.hash = [] :=
  chainAux_none (lookup_root hd) _

theorem chain_absent {t : Node} {h : Hash} (hh : h ∉ descF [t]) : (specOfNode t).chain h = [] := by
  rw [descF_node, List.mem_cons, not_or] at hh
  exact chainAux_none (lookup_absent hh.2) _

theorem chain_eq_up {t : Node} (hd : (descF [t]).Nodup) {h : Hash} (hh : h ∈ descF [t]) :
    ∃ q, pathF h [t] = some (q ++ [t.info]) ∧ (specOfNode t).chain h = linkUp q t.info.hash := by
  rw [pathF_node]
  by_cases hi : t.info.hash = h
  · subst hi
    exact ⟨[], by simp, chain_root hd⟩
  · rw [descF_node, List.mem_cons] at hh
    cases hq : pathF h t.children with
    | none => exact absurd (hh.resolve_left (fun e => hi e.symm)) (pathF_none.1 hq)
    | some q => exact ⟨q, by simp [hi], chainAux_eq_linkUp hd hq (pathF_length_le hq)⟩

theorem ancestors_eq_up {t : Node} (hd : (descF [t]).Nodup) {h : Hash} (hh : h ∈ descF [t]) :
    (specOfNode t).ancestors h = ((pathF h [t]).getD []).map (·.hash) := by
  obtain ⟨q, hq, hc⟩ := chain_eq_up hd hh
  obtain ⟨i', r, hqe, hi'⟩ := pathF_head hq
  rw [Spec.ancestors, hq, hc, linkUp_map_parent, Option.getD_some]
  cases q <;> cases hqe <;> simp [hi']

end Gossamer.BlockTree
