/-
C26 — per state: ancestry through `GetHeader` (`AncI`, `Anc`), the hypotheses on a queried header (`Consistent`, `HdrOK`),
the invariant `WF` (C17's `Inv` with `DbInv`), soundness of `IsDescendantOf` and of the first-slot scan, and soundness,
completeness and termination of `findAncestor` (with the loop as it was: `findAncOld_stuck`).
-/
import Gossamer.Model.C26
import Gossamer.Lib.C26Db
namespace Gossamer.C26
open Gossamer.C17 (Blk findB)

/-- ancestry along the parent links of the headers `GetHeader` answers (unfinalised blocks and the header table).
    "I" for inclusive: `h` itself counts, and must be known; `Anc` below is the form for a header that need not be
    imported yet. -/
inductive AncI (st : St) : Nat → Nat → Prop
  | self {h : Nat} {x : Blk} : getHeader st h = some x → AncI st h h
  | step {a h : Nat} {x : Blk} : getHeader st h = some x → AncI st a x.parent → AncI st a h

/-- `a` lies on `hdr`'s own fork -/
def Anc (st : St) (a : Nat) (hdr : Blk) : Prop := a = hdr.hash ∨ AncI st a hdr.parent

/-- the hash determines the header -/
def Consistent (st : St) (hdr : Blk) : Prop := ∀ x, getHeader st hdr.hash = some x → x = hdr

/-- IF the parent is known its number is one less: what is asked of a queried header that need not be imported
    (every known header has it: `WF.num`) -/
def HdrOK (st : St) (hdr : Blk) : Prop := ∀ p, getHeader st hdr.parent = some p → p.number + 1 = hdr.number

/-- well-formedness of the block state part (holds in every reachable state: `C26_wf_reachable`) -/
structure WF (u : Univ) (st : St) : Prop where
  inv : C17.Inv genesis st.bs
  db : DbInv u.blk genesis st.bs
  ugen : u.blk genesis.hash = genesis

theorem WF.zero {u : Univ} {st : St} (w : WF u st) : getHeader st 0 = none := getHeader_zero w.inv w.db

theorem WF.univ {u : Univ} {st : St} (w : WF u st) {h : Nat} {x : Blk} (hx : getHeader st h = some x) :
    x = u.blk h := getHeader_univ w.inv w.db hx

theorem WF.num {u : Univ} {st : St} (w : WF u st) {h : Nat} {x : Blk} (hx : getHeader st h = some x) :
    HdrOK st x := fun _ hp => getHeader_parent_num w.ugen rfl w.inv w.db hx hp

theorem consistent_of_getHeader {st : St} {h : Nat} {p : Blk} (hp : getHeader st h = some p) :
    Consistent st p := by
  intro x hx
  rw [C17.getHeader_hash hp, hp] at hx
  exact (Option.some.inj hx).symm

theorem WF.consistent {u : Univ} {st : St} (w : WF u st) {h : Nat} (hh : (u.blk h).hash = h) :
    Consistent st (u.blk h) := by
  intro x hx
  rw [hh] at hx
  exact w.univ hx

theorem WF.hdrOK {u : Univ} {st : St} (w : WF u st) {h : Nat} (hk : (getHeader st h).isSome) :
    HdrOK st (u.blk h) := by
  obtain ⟨x, hx⟩ := Option.isSome_iff_exists.mp hk
  have := w.univ hx
  rw [← this]
  exact w.num hx

theorem AncI.inv {st : St} {a h : Nat} (H : AncI st a h) :
    ∃ x, getHeader st h = some x ∧ (a = h ∨ AncI st a x.parent) := by
  cases H with
  | self hx => exact ⟨_, hx, .inl rfl⟩
  | step hx hr => exact ⟨_, hx, .inr hr⟩

theorem ancI_of_up {st : St} (inv : C17.Inv genesis st.bs) {fuel : Nat} {b : Blk} {a : Nat}
    (hb : b ∈ st.bs.tree) (h : a ∈ C17.upList st.bs fuel b) : AncI st a b.hash := by
  fun_induction C17.upList st.bs fuel b with
  | case1 => cases h
  | case2 => rw [List.mem_singleton.mp h]; exact .self (C17.getHeader_tree inv hb)
  | case3 _ b p hp ih =>
    rcases List.mem_cons.mp h with h | h
    · rw [h]; exact .self (C17.getHeader_tree inv hb)
    · obtain ⟨_, hfp, hpt, _⟩ := C17.parentNode_some inv.tree hb hp
      exact .step (C17.getHeader_tree inv hb) (C17.findB_hash hfp ▸ ih hpt h)

-- cases of `headerWalk`: 1 out of fuel, 2 the parent is `a`, 3 the parent is unknown, 4 step to the parent, 5 at or below `a`
theorem headerWalk_sound {st : St} {a n : Nat} (ha : (getHeader st a).isSome) {fuel : Nat} {cur : Blk} {c : Nat}
    (hc : getHeader st c = some cur) (h : headerWalk st a n fuel cur = some true) :
    AncI st a c := by
  fun_induction headerWalk st a n fuel cur generalizing c with
  | case2 _ cur _ hpa =>
    obtain ⟨x, hx⟩ := Option.isSome_iff_exists.mp ha
    exact .step hc (by rw [hpa]; exact .self hx)
  | case4 _ cur _ _ p hp ih => exact .step hc (ih hp h)
  | _ => cases h

theorem isDesc_sound {st : St} (inv : C17.Inv genesis st.bs) {a d : Nat} (h : isDesc st a d = some true) :
    AncI st a d ∨ a = d := by
  unfold isDesc at h
  split at h
  · rename_i had; exact .inr had
  · refine .inl ?_
    split at h
    · -- both in the block tree
      rename_i dn _ htd
      simp only [Option.some.injEq, decide_eq_true_eq] at h
      exact C17.findB_hash htd ▸ ancI_of_up inv (C17.findB_mem htd) h
    · -- the header walk
      split at h
      · rename_i dh ah hd ha
        exact headerWalk_sound (by rw [ha]; rfl) hd h
      · cases h

theorem hit_sound {st : St} (inv : C17.Inv genesis st.bs) {cur : Blk} (hc : Consistent st cur) {e : Nat × Nat}
    (h : hit st cur.hash e = true) : Anc st e.1 cur := by
  unfold hit at h
  simp only [Bool.or_eq_true, decide_eq_true_eq, beq_iff_eq] at h
  rcases h with h | h
  · exact .inl h
  · rcases isDesc_sound inv h with h | h
    · obtain ⟨x, hx, hr⟩ := h.inv
      rcases hr with hr | hr
      · exact .inl hr
      · rw [hc _ hx] at hr; exact .inr hr
    · exact .inl h

-- cases of `findAnc`: 1 out of fuel, 2 candidates at `cur`, 3 `cur.parent` is the zero hash, 4 the parent is unknown,
-- 5 step to the parent
theorem findAnc_found {st : St} {entries : Entries} {f : Nat} {cur : Blk} {c : Entries}
    (h : findAnc st entries f cur = .found c) : c ≠ [] ∧ ∀ x ∈ c, x ∈ entries := by
  fun_induction findAnc st entries f cur with
  | case2 _ _ _ hne => rw [← FA.found.inj h]; exact ⟨hne, fun x hx => (List.mem_filter.mp hx).1⟩
  | case5 _ _ _ _ _ _ _ ih => exact ih h
  | _ => cases h

theorem findAnc_sound {st : St} (inv : C17.Inv genesis st.bs) {entries : Entries} {f : Nat} {cur : Blk}
    {c : Entries} (hc : Consistent st cur) (h : findAnc st entries f cur = .found c) :
    ∀ x ∈ c, Anc st x.1 cur := by
  fun_induction findAnc st entries f cur with
  | case2 => rw [← FA.found.inj h]; exact fun x hx => hit_sound inv hc (List.mem_filter.mp hx).2
  | case5 _ _ _ _ _ p hp ih =>
    intro x hx
    rcases ih (consistent_of_getHeader hp) h x hx with he | he
    · exact .inr (by rw [he, C17.getHeader_hash hp]; exact .self hp)
    · exact .inr (.step hp he)
  | _ => cases h

theorem findAnc_complete {st : St} (hz : getHeader st 0 = none) {entries : Entries} {f : Nat} {cur : Blk}
    (h : findAnc st entries f cur = .errHash) : ∀ x ∈ entries, ¬ Anc st x.1 cur := by
  -- no entry passes `hit` at the current header, so none is announced by it
  have miss : ∀ {cur : Blk}, ¬ entries.filter (hit st cur.hash) ≠ [] → ∀ x ∈ entries, x.1 ≠ cur.hash :=
    fun hnil x hx heq => hnil (List.ne_nil_of_mem (List.mem_filter.mpr ⟨hx, by simp [hit, heq]⟩))
  fun_induction findAnc st entries f cur with
  | case3 _ _ _ hnil hp0 =>
    rintro x hx (ha | ha)
    · exact miss hnil x hx ha
    · rw [hp0] at ha
      obtain ⟨y, hy, _⟩ := ha.inv
      rw [hz] at hy
      cases hy
  | case5 _ _ _ hnil _ p hp ih =>
    rintro x hx (ha | ha)
    · exact miss hnil x hx ha
    · obtain ⟨y, hy, hr⟩ := ha.inv
      rw [hp] at hy
      cases hy
      rcases hr with hr | hr
      · exact ih h x hx (.inl (hr.trans (C17.getHeader_hash hp).symm))
      · exact ih h x hx (.inr hr)
  | _ => cases h

theorem findAnc_fuel {u : Univ} {st : St} (w : WF u st) {entries : Entries} {f : Nat} {cur : Blk}
    (hok : HdrOK st cur) (hlt : cur.number < f) : findAnc st entries f cur ≠ .outOfFuel := by
  fun_induction findAnc st entries f cur with
  | case1 => omega
  | case5 _ _ _ _ _ p hp ih => exact ih (w.num hp) (by have := hok p hp; omega)
  | _ => exact nofun

theorem findAnc_mono (st : St) (entries : Entries) {f : Nat} {cur : Blk}
    (h : findAnc st entries f cur ≠ .outOfFuel) :
    ∀ {f'}, f ≤ f' → findAnc st entries f' cur = findAnc st entries f cur := by
  fun_induction findAnc st entries f cur with
  | case1 => exact absurd rfl h
  | case2 f cur c hne =>
    intro f' hle
    obtain ⟨k, rfl⟩ := Nat.exists_eq_succ_of_ne_zero (Nat.ne_zero_of_lt hle)
    rw [findAnc]; exact if_pos hne
  | case3 f cur c hne hp0 =>
    intro f' hle
    obtain ⟨k, rfl⟩ := Nat.exists_eq_succ_of_ne_zero (Nat.ne_zero_of_lt hle)
    rw [findAnc]; exact (if_neg hne).trans (if_pos hp0)
  | case4 f cur c hne hp0 hp =>
    intro f' hle
    obtain ⟨k, rfl⟩ := Nat.exists_eq_succ_of_ne_zero (Nat.ne_zero_of_lt hle)
    rw [findAnc]; exact (if_neg hne).trans ((if_neg hp0).trans (by rw [hp]))
  | case5 f cur c hne hp0 p hp ih =>
    intro f' hle
    obtain ⟨k, rfl⟩ := Nat.exists_eq_succ_of_ne_zero (Nat.ne_zero_of_lt hle)
    rw [findAnc]; exact (if_neg hne).trans ((if_neg hp0).trans (by rw [hp]; exact ih h (Nat.le_of_succ_le_succ hle)))

theorem findAnc_congr {st st' : St} (h : st'.bs = st.bs) (entries : Entries) (f : Nat) (cur : Blk) :
    findAnc st' entries f cur = findAnc st entries f cur := by
  have hg : getHeader st' = getHeader st := by funext x; unfold getHeader; rw [h]
  have hw : headerWalk st' = headerWalk st := by
    funext a n fuel
    induction fuel with
    | zero => rfl
    | succ k ih =>
      funext c
      unfold headerWalk
      rw [hg, ih]
  have hh : hit st' = hit st := by funext c e; unfold hit isDesc; rw [h, hg, hw]
  induction f generalizing cur with
  | zero => rfl
  | succ k ih => unfold findAnc; simp only [hh, hg, ih]

theorem scanFirst_ok {u : Univ} {st : St} (inv : C17.Inv genesis st.bs) {bh s : Nat} {l : List Nat}
    (h : scanFirst u st bh l = .ok s) : ∃ z ∈ l, (AncI st z bh ∨ z = bh) ∧ s = u.slot z := by
  fun_induction scanFirst u st bh l with
  | case3 x _ hd => exact ⟨x, List.mem_cons_self .., isDesc_sound inv hd, (Slot.ok.inj h).symm⟩
  | case5 _ _ _ ih =>
    obtain ⟨z, hz, hr⟩ := ih h
    exact ⟨z, List.mem_cons_of_mem _ hz, hr⟩
  | _ => cases h

/-- the loop as found: when neither the original header nor its parent `p` yields a candidate or ends the
    walk, every iteration reads `p` again and no amount of fuel suffices -/
theorem findAncOld_stuck {st : St} {es : Entries} {orig p : Blk} (hp : getHeader st orig.parent = some p)
    (hm : ∀ b, b = orig ∨ b = p → es.filter (hit st b.hash) = [] ∧ b.parent ≠ 0) :
    ∀ fuel cur, cur = orig ∨ cur = p → findAncOld st es orig fuel cur = .outOfFuel
  | 0, _, _ => rfl
  | fuel + 1, cur, hc => by
    unfold findAncOld
    simp only [(hm cur hc).1, (hm cur hc).2, hp, ne_eq, not_true_eq_false, if_false]
    exact findAncOld_stuck hp hm fuel p (.inr rfl)

end Gossamer.C26
