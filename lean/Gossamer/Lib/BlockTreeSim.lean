import Gossamer.Lib.BlockTreeInv

namespace Gossamer.BlockTree

/-- why AddBlock must refuse `hd`, if it must -/
def Spec.addErr (s : Spec) (hd : Header) : Option AddErr :=
  match s.infoOf hd.parent with
  | none => some .parentNotFound
  | some pi =>
    if s.present hd.hash then some .blockExists
    else if pi.number + 1 ≠ hd.number then some .unexpectedNumber
    else if hd.kind.isNone then some .primary
    else none

def Spec.addStep (s : Spec) (hd : Header) (arrival : Nat) : Spec :=
  match s.addErr hd, hd.kind with
  | none, some prim => s.add ⟨hd.hash, hd.parent, hd.number, arrival, prim⟩
  | _, _ => s

def Spec.pruneStep (s : Spec) (h : Hash) : Spec :=
  if h = s.root.hash then s
  else match s.infoOf h with
    | some fi => s.prune fi
    | none => s

/-- two flat states that hold the same blocks, each once, in whatever order: the history's `spec … ops` lists
    blocks in insertion order, the tree's own flat view `bt.spec` in pre-order.  Every notion of `Spec` is read through
    `lookup`, membership and the number of blocks, so it is the same in both. -/
structure SpecEq (s s' : Spec) : Prop where
  root : s.root = s'.root
  nodup : (s.blocks.map (·.hash)).Nodup
  nodup' : (s'.blocks.map (·.hash)).Nodup
  mem : ∀ b, b ∈ s.blocks ↔ b ∈ s'.blocks

theorem SpecEq.lookup {s s' : Spec} (e : SpecEq s s') (h : Hash) : lookup s.blocks h = lookup s'.blocks h :=
  Option.ext fun b => by rw [lookup_eq_some_iff e.nodup, lookup_eq_some_iff e.nodup', e.mem]

theorem SpecEq.length {s s' : Spec} (e : SpecEq s s') : s.blocks.length = s'.blocks.length := by
  have h1 : s.blocks.Nodup := nodup_of_map e.nodup
  have h2 : s'.blocks.Nodup := nodup_of_map e.nodup'
  exact ((List.perm_ext_iff_of_nodup h1 h2).2 e.mem).length_eq

theorem chainAux_congr {bs bs' : List Block} (hl : ∀ h, lookup bs h = lookup bs' h) :
    ∀ fuel h, chainAux bs fuel h = chainAux bs' fuel h := by
  intro fuel
  induction fuel with
  | zero => intro h; rfl
  | succ k ih => intro h; simp only [chainAux, hl h]; cases lookup bs' h <;> simp [ih]

theorem SpecEq.chain {s s' : Spec} (e : SpecEq s s') (h : Hash) : s.chain h = s'.chain h := by
  unfold Spec.chain
  rw [e.length]
  exact chainAux_congr e.lookup _ _

theorem SpecEq.present {s s' : Spec} (e : SpecEq s s') (h : Hash) : s.present h ↔ s'.present h := by
  simp only [Spec.present, e.root, e.mem]

theorem SpecEq.ancestors {s s' : Spec} (e : SpecEq s s') (h : Hash) : s.ancestors h = s'.ancestors h := by
  unfold Spec.ancestors; rw [e.chain]

theorem SpecEq.isAnc {s s' : Spec} (e : SpecEq s s') (a d : Hash) : s.isAnc a d ↔ s'.isAnc a d := by
  unfold Spec.isAnc; rw [e.ancestors]

theorem SpecEq.infoOf {s s' : Spec} (e : SpecEq s s') (h : Hash) : s.infoOf h = s'.infoOf h := by
  unfold Spec.infoOf; rw [e.root, e.lookup]

theorem SpecEq.isLeaf {s s' : Spec} (e : SpecEq s s') (h : Hash) : s.isLeaf h ↔ s'.isLeaf h := by
  simp only [Spec.isLeaf, e.present, e.mem]

theorem SpecEq.primaries {s s' : Spec} (e : SpecEq s s') (h : Hash) : s.primaries h = s'.primaries h := by
  unfold Spec.primaries; rw [e.chain]

theorem SpecEq.better {s s' : Spec} (e : SpecEq s s') (x y : Info) : s.better x y ↔ s'.better x y := by
  unfold Spec.better; rw [e.primaries, e.primaries]

theorem SpecEq.isBest {s s' : Spec} (e : SpecEq s s') (b : Info) : s.IsBest b ↔ s'.IsBest b := by
  simp only [Spec.IsBest, e.isLeaf, e.infoOf, e.better]

/-- the tree `bt` and the flat state `s` hold the same blocks with the same parent links: `SpecEq s bt.spec` without
    uniqueness on the tree side, which `Inv` supplies (`Sim.eq`); hence every `Sim.*` lemma takes `Inv bt` too -/
structure Sim (bt : BT) (s : Spec) : Prop where
  root : s.root = bt.root.info
  nodup : (s.blocks.map (·.hash)).Nodup
  mem : ∀ b, b ∈ s.blocks ↔ b ∈ bt.spec.blocks

theorem Sim.eq {bt : BT} {s : Spec} (hs : Sim bt s) (hi : Inv bt) : SpecEq s bt.spec :=
  ⟨hs.root, hs.nodup, specOfNode_nodup hi.nodup, hs.mem⟩

theorem Sim.present {bt : BT} {s : Spec} (hs : Sim bt s) (hi : Inv bt) (x : Hash) :
    s.present x ↔ x ∈ descF [bt.root] := by
  rw [(hs.eq hi).present, BT.spec, present_iff]

theorem Sim.present_of_find {bt : BT} {s : Spec} (hs : Sim bt s) (hi : Inv bt) {x : Hash} {n : Node}
    (h : findF x [bt.root] = some n) : s.present x := (hs.present hi x).2 (findF_mem h)

theorem Sim.not_present {bt : BT} {s : Spec} (hs : Sim bt s) (hi : Inv bt) {x : Hash}
    (h : findF x [bt.root] = none) : ¬ s.present x := fun hp => findF_none.1 h ((hs.present hi x).1 hp)

theorem Sim.infoOf {bt : BT} {s : Spec} (hs : Sim bt s) (hi : Inv bt) (x : Hash) :
    s.infoOf x = (findF x [bt.root]).map (·.info) := by
  rw [(hs.eq hi).infoOf, BT.spec, infoOf_eq]

theorem Sim.infoOf_iff {bt : BT} {s : Spec} (hs : Sim bt s) (hi : Inv bt) {x : Hash} {i : Info} :
    s.infoOf x = some i ↔ i ∈ infosF [bt.root] ∧ i.hash = x := by
  rw [hs.infoOf hi, findF_info_iff hi.nodup]

theorem Sim.ancestors {bt : BT} {s : Spec} (hs : Sim bt s) (hi : Inv bt) {d : Hash} (hd : d ∈ descF [bt.root]) :
    s.ancestors d = (bt.up d).map (·.hash) := by
  rw [(hs.eq hi).ancestors, BT.spec, ancestors_eq_up hi.nodup hd]; rfl

theorem Sim.isAnc {bt : BT} {s : Spec} (hs : Sim bt s) (hi : Inv bt) {a d : Hash} (hd : d ∈ descF [bt.root]) :
    s.isAnc a d ↔ InSubtree [bt.root] a d := by
  rw [(hs.eq hi).isAnc, BT.spec, isAnc_iff hi.nodup hd]

theorem Sim.isLeaf {bt : BT} {s : Spec} (hs : Sim bt s) (hi : Inv bt) (h : Hash) :
    s.isLeaf h ↔ ∃ x ∈ leavesF [bt.root], x.hash = h := by
  rw [(hs.eq hi).isLeaf, BT.spec, isLeaf_iff hi.nodup]

theorem primaries_eq {t : Node} (hd : (descF [t]).Nodup) {h : Hash} (hh : h ∈ descF [t]) :
    (specOfNode t).primaries h = primaryCount t h := by
  obtain ⟨q, hq, hc⟩ := chain_eq_up hd hh
  rw [Spec.primaries, primaryCount, hq, hc]
  show _ = ((q ++ [t.info]).dropLast.filter (·.primary)).length
  -- `q` is the list of payloads of the linked blocks
  conv => rhs; rw [List.dropLast_concat, ← linkUp_map_info q t.info.hash, List.filter_map, List.length_map]
  rfl

theorem Sim.primaries {bt : BT} {s : Spec} (hs : Sim bt s) (hi : Inv bt) {h : Hash} (hh : h ∈ descF [bt.root]) :
    s.primaries h = primaryCount bt.root h := by
  rw [(hs.eq hi).primaries, BT.spec, primaries_eq hi.nodup hh]

theorem sim_init (h n a : Nat) : Sim (NewBlockTreeFromRoot h n a) ⟨⟨h, n, a, false⟩, []⟩ := by
  constructor <;> simp [NewBlockTreeFromRoot, BT.spec, specOfNode, blocksF]

theorem sim_add {bt bt' : BT} {s : Spec} {hd : Header} {arr : Nat} (hi : Inv bt) (hs : Sim bt s)
    (h : bt.addBlock hd arr = .ok bt') :
    s.addErr hd = none ∧ Sim bt' (s.addStep hd arr) := by
  obtain ⟨p, prim, hp, hh, hnum, hk, rfl⟩ := addBlock_ok h
  have hpm : hd.parent ∈ descF [bt.root] := findF_mem hp
  have hinfo : s.infoOf hd.parent = some p.info := by
    rw [hs.infoOf hi, hp]; rfl
  have hpres : ¬ s.present hd.hash := hs.not_present hi hh
  have herr : s.addErr hd = none := by
    simp [Spec.addErr, hinfo, hpres, hnum, hk]
  refine ⟨herr, ?_⟩
  simp only [Spec.addStep, herr, hk, Spec.add]
  constructor
  · simp only [addChild_info]; exact hs.root
  · rw [List.map_append]
    exact nodup_snoc hs.nodup fun ha => hpres (.inr (List.mem_map.1 ha))
  · intro b
    simp only [BT.spec, List.mem_append, List.mem_singleton]
    rw [mem_blocks_addChild hpm, hs.mem]
    rfl

theorem sim_add_err {bt : BT} {s : Spec} {hd : Header} {arr : Nat} {err : AddErr} (hi : Inv bt) (hs : Sim bt s)
    (h : bt.addBlock hd arr = .error err) : s.addErr hd = some err := by
  have hpres : ∀ x, s.present x ↔ (findF x [bt.root]).isSome := by
    intro x; rw [hs.present hi, findF_isSome]
  unfold BT.addBlock BT.getNode at h
  unfold Spec.addErr
  rw [hs.infoOf hi]
  cases hp : findF hd.parent [bt.root] with
  | none => simp only [hp] at h; cases h; rfl
  | some p =>
    simp only [hp, Option.map_some] at h ⊢
    by_cases hex : (findF hd.hash [bt.root]).isSome
    · simp only [hex, if_true] at h; cases h
      simp [(hpres _).2 hex]
    · have hnp : ¬ s.present hd.hash := fun hc => hex ((hpres _).1 hc)
      simp only [hex, Bool.false_eq_true, if_false, hnp] at h ⊢
      by_cases hnum : p.info.number + 1 = hd.number
      · have h0 : hd.number ≠ 0 := by omega
        simp only [hnum, ne_eq, not_true_eq_false, if_false, h0, not_false_eq_true, if_true] at h ⊢
        cases hk : hd.kind with
        | none => simp only [hk] at h; cases h; simp
        | some prim => simp [hk] at h
      · simp only [ne_eq, hnum, not_false_eq_true, if_true] at h ⊢
        cases h; rfl

theorem sim_prune {bt : BT} {s : Spec} (hi : Inv bt) (hs : Sim bt s) (fh : Hash) :
    Sim (bt.prune fh).1 (s.pruneStep fh) := by
  unfold Spec.pruneStep
  rw [hs.root, hs.infoOf hi]
  rcases prune_cases bt fh with ⟨hc, h⟩ | ⟨n, hne, hf, h⟩
  · rw [h]
    rcases hc with hc | hc
    · simp [hc, hs]
    · by_cases hr : fh = bt.root.info.hash <;> simp [hr, hc, hs]
  · rw [h]
    simp only [hne, if_false, hf, Option.map_some]
    obtain ⟨hns, hnh⟩ := findF_some hf
    refine ⟨rfl, (List.filter_sublist.map _).nodup hs.nodup, fun b => ?_⟩
    simp only [Spec.prune, List.mem_filter, decide_eq_true_eq]
    rw [hs.mem, BT.spec, BT.spec, mem_blocks_subtree hi.nodup hns, and_congr_right_iff]
    intro hb
    -- a block of the tree descends strictly from `fh` iff its hash lies strictly below the node of `fh`
    have hnd := (subs_sublist hns).nodup hi.nodup
    rw [hs.isAnc hi (block_hash_mem hb), hnh, inSubtree_of_find hf, descF_node, List.mem_cons]
    rw [descF_node, hnh] at hnd
    exact ⟨fun ⟨hd, hbne⟩ => hd.resolve_left fun e => hbne (e.trans hnh),
      fun hbc => ⟨.inr hbc, fun e => (List.nodup_cons.1 hnd).1 (e ▸ hbc)⟩⟩

end Gossamer.BlockTree
