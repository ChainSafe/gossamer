/-
C23: the invariants of the model along every history in which no block is imported twice (`Fresh`): the known blocks
(`LiveInv`), the pending forced changes (`FInv`: in the block tree, one per fork), the change tree (`RInv`: every
announcing block is known or on an abandoned fork), with the set-id tables (`KeysOK`) together `Inv`.  `Mid` is what
holds while the digests of one import are handled.  Without `Fresh` the forced-change clause fails: `handleBlock`
handles the digests of a re-imported block again (`C23_reimport_counterexample`).  Core Lean only.
-/
import Gossamer.Lib.C23Keys
import Gossamer.Lib.C23Lookup
namespace Gossamer.C23

/-- the finalised block is known; every known block is on its chain or descends from it; parents of known blocks
    are known (so the known blocks are closed under ancestors, `live_anc_closed`) -/
def LiveInv (t : Tree) (s : St) : Prop :=
  s.root ∈ s.live ∧ (∀ x ∈ s.live, cmp t s.root x = true) ∧ (∀ x ∈ s.live, x ≠ 0 → par t x ∈ s.live)

theorem cmp_refl {t : Tree} (wf : t.WF) (b : Nat) : cmp t b b = true := by
  rw [cmp, anc_refl wf]; rfl

theorem cmp_of_anc {t : Tree} {b x : Nat} (h : anc t b x = true) : cmp t b x = true := by
  rw [cmp, h]; rfl

theorem liveInv_init {t : Tree} (wf : t.WF) : LiveInv t St.init :=
  ⟨List.mem_singleton.2 rfl, fun _ hx => List.mem_singleton.1 hx ▸ cmp_refl wf 0,
    fun _ hx h0 => absurd (List.mem_singleton.1 hx) h0⟩

theorem live_anc_closed {t : Tree} (wf : t.WF) {s : St} (hl : LiveInv t s) :
    ∀ (x : Nat), x ∈ s.live → ∀ a, anc t a x = true → a ∈ s.live := by
  refine (Tree.upChain wf).induction (fun hx a ha => anc_zero_right ha ▸ hx) ?_
  intro x hpos ih hx a ha
  by_cases hax : a = x
  · exact hax ▸ hx
  · exact ih (hl.2.2 x hx (Nat.ne_of_gt hpos)) a (anc_par_of_ne wf ha hax)

theorem inBt_iff (t : Tree) (s : St) (b : Nat) : inBt t s b = true ↔ b ∈ s.live ∧ anc t s.root b = true := by
  simp [inBt]

/-- the case in which `importBlock` does anything: the parent is in the block tree, the block is not -/
structure FreshImp (t : Tree) (s : St) (b : Nat) : Prop where
  parent : inBt t s (par t b) = true
  fresh : inBt t s b = false

theorem freshImp_pos {t : Tree} (wf : t.WF) {s : St} {b : Nat} (h : FreshImp t s b) : 0 < b := by
  apply Nat.pos_of_ne_zero
  intro h0
  subst h0
  have hp := h.parent
  rw [Nat.le_zero.1 (par_le wf 0), h.fresh] at hp
  cases hp

theorem freshImp_root {t : Tree} (wf : t.WF) {s : St} {b : Nat} (h : FreshImp t s b) : anc t s.root b = true :=
  anc_trans wf ((inBt_iff t s _).1 h.parent).2 (anc_par wf (freshImp_pos wf h))

theorem freshImp_not_live {t : Tree} (wf : t.WF) {s : St} {b : Nat} (h : FreshImp t s b) : b ∉ s.live := by
  intro hb
  have := (inBt_iff t s b).2 ⟨hb, freshImp_root wf h⟩
  rw [h.fresh] at this
  cases this

theorem liveInv_add {t : Tree} (wf : t.WF) {s : St} (hl : LiveInv t s) {b : Nat} (h : FreshImp t s b) :
    LiveInv t { s with live := s.live ++ [b] } := by
  refine ⟨List.mem_append_left _ hl.1, ?_, ?_⟩
  · intro x hx
    rcases List.mem_append.1 hx with hx | hx
    · exact hl.2.1 x hx
    · obtain rfl := List.mem_singleton.1 hx
      exact cmp_of_anc (freshImp_root wf (s := s) h)
  · intro x hx hx0
    refine List.mem_append_left _ ?_
    rcases List.mem_append.1 hx with hx | hx
    · exact hl.2.2 x hx hx0
    · obtain rfl := List.mem_singleton.1 hx
      exact ((inBt_iff t s _).1 h.parent).1

theorem liveInv_fin {t : Tree} (wf : t.WF) {s : St} (hl : LiveInv t s) {b : Nat} (hb : inBt t s b = true) :
    LiveInv t { s with live := s.live.filter (cmp t b), root := b } := by
  refine ⟨List.mem_filter.2 ⟨((inBt_iff t s b).1 hb).1, cmp_refl wf b⟩, fun x hx => (List.mem_filter.1 hx).2, ?_⟩
  intro x hx hx0
  have hx := List.mem_filter.1 hx
  refine List.mem_filter.2 ⟨hl.2.2 x hx.1 hx0, ?_⟩
  have hpos := Nat.pos_of_ne_zero hx0
  rw [cmp, Bool.or_eq_true] at hx ⊢
  rcases hx.2 with h1 | h1
  · by_cases hbx : b = x
    · subst hbx; exact Or.inr (anc_par wf hpos)
    · exact Or.inl (anc_par_of_ne wf h1 hbx)
  · exact Or.inr (anc_trans wf (anc_par wf hpos) h1)

/-- announced by blocks on different forks: neither is an ancestor of the other -/
def Unrel (t : Tree) (a b : Ann) : Prop := anc t a.blk b.blk = false ∧ anc t b.blk a.blk = false

theorem Unrel.symm {t : Tree} {a b : Ann} (h : Unrel t a b) : Unrel t b a := ⟨h.2, h.1⟩

theorem Unrel.not_anc {t : Tree} (wf : t.WF) {a b : Ann} (h : Unrel t a b) {x : Nat} (ha : anc t a.blk x = true)
    (hb : anc t b.blk x = true) : False := by
  rcases anc_linear wf ha hb with h' | h'
  · rw [h.1] at h'; cases h'
  · rw [h.2] at h'; cases h'

/-- the pending forced changes: all in the block tree, one per fork -/
def FInv (t : Tree) (s : St) : Prop :=
  (∀ c ∈ s.forced, inBt t s c.blk = true) ∧ s.forced.Pairwise (Unrel t)

theorem FInv.live {t : Tree} {s : St} (hf : FInv t s) {c : Ann} (hc : c ∈ s.forced) : c.blk ∈ s.live :=
  ((inBt_iff t s _).1 (hf.1 c hc)).1

theorem forcedGuard_ok (isD : IsD) (pc : Ann) : ∀ (oc : List Ann), forcedGuard isD pc oc = .ok () →
    ∀ c ∈ oc, c.blk ≠ pc.blk ∧ isD c.blk pc.blk = some false
  | [], _, c, hc => nomatch hc
  | x :: xs, h, c, hc => by
    rw [forcedGuard] at h
    by_cases hne : x.blk = pc.blk
    · rw [if_pos hne] at h; cases h
    · rw [if_neg hne] at h
      cases hd : isD x.blk pc.blk with
      | none => rw [hd] at h; cases h
      | some d =>
        rw [hd] at h
        cases d with
        | true => cases h
        | false =>
          rcases List.mem_cons.1 hc with rfl | hc
          · exact ⟨hne, hd⟩
          · exact forcedGuard_ok isD pc xs h c hc

/-- `Perm` only: no proof depends on where in the slice `sort.Search` puts the new change -/
theorem forcedImport_ok {t : Tree} {isD : IsD} {pc : Ann} {oc f : List Ann} (h : forcedImport t isD pc oc = .ok f) :
    f.Perm (pc :: oc) ∧ ∀ c ∈ oc, c.blk ≠ pc.blk ∧ isD c.blk pc.blk = some false := by
  unfold forcedImport at h
  cases hg : forcedGuard isD pc oc with
  | error e => rw [hg] at h; cases h
  | ok u =>
    rw [hg] at h
    refine ⟨Except.ok.inj h ▸ List.perm_middle.trans ?_, forcedGuard_ok isD pc oc hg⟩
    rw [List.take_append_drop]

theorem fInv_empty {t : Tree} {s : St} (h : s.forced = []) : FInv t s :=
  ⟨fun c hc => (by rw [h] at hc; cases hc), h ▸ List.Pairwise.nil⟩

/-- every announcing block of the change tree is known or on an abandoned fork -/
def RInv (t : Tree) (s : St) : Prop := ∀ x ∈ blocksF s.roots, x ∈ s.live ∨ cmp t s.root x = false

theorem dead_anc_false {t : Tree} (wf : t.WF) {root x b : Nat} (hx : cmp t root x = false)
    (hb : anc t root b = true) : anc t x b = false := by
  rw [cmp, Bool.or_eq_false_iff] at hx
  refine Bool.eq_false_iff.2 fun h => ?_
  rcases anc_linear wf hb h with h1 | h1
  · rw [hx.1] at h1; cases h1
  · rw [hx.2] at h1; cases h1

theorem tracked_live {t : Tree} (wf : t.WF) {s : St} (hr : RInv t s) {x b : Nat} (hx : x ∈ blocksF s.roots)
    (hb : anc t s.root b = true) (ha : anc t x b = true) : x ∈ s.live :=
  (hr x hx).resolve_right fun h => by rw [dead_anc_false wf h hb] at ha; cases ha

theorem dead_stays_dead {t : Tree} (wf : t.WF) {root b x : Nat} (hx : cmp t root x = false)
    (hb : anc t root b = true) : cmp t b x = false := by
  rw [cmp, Bool.or_eq_false_iff]
  refine ⟨Bool.eq_false_iff.2 (fun h => ?_), dead_anc_false wf hx hb⟩
  rw [cmp, anc_trans wf hb h] at hx
  cases hx

theorem isDesc_eq_anc {t : Tree} (wf : t.WF) {s : St} {x b : Nat}
    (hx : x ∈ s.live ∨ cmp t s.root x = false) (hb : inBt t s b = true) :
    isDesc t s x b = some (anc t x b) :=
  have hb' := (inBt_iff t s b).1 hb
  isDesc_eq_anc_of wf fun h =>
    dead_anc_false wf (hx.resolve_left (h.resolve_right (not_not_intro hb'.1))) hb'.2

theorem rInv_empty {t : Tree} {s : St} (h : s.roots = []) : RInv t s := by
  intro x hx; rw [h, blocksF_nil] at hx; cases hx

/-- what holds while the digests of a freshly imported tip `b` are handled -/
structure Mid (t : Tree) (s : St) (b : Nat) : Prop where
  live : LiveInv t s
  pos : b ≠ 0
  inbt : inBt t s b = true
  tip : ∀ x ∈ s.live, anc t b x = true → x = b
  forced : FInv t s
  roots : RInv t s

theorem Mid.tip_tracked {t : Tree} (wf : t.WF) {s : St} {b : Nat} (m : Mid t s b) (x : Nat) (hx : x ∈ blocksF s.roots)
    (h : anc t b x = true) : x = b := by
  rcases m.roots x hx with hl | hd
  · exact m.tip x hl h
  · rw [cmp_of_anc (anc_trans wf ((inBt_iff t s b).1 m.inbt).2 h)] at hd
    cases hd

theorem mid_add {t : Tree} (wf : t.WF) {s : St} (hl : LiveInv t s) (hf : FInv t s) (hr : RInv t s) {b : Nat}
    (h : FreshImp t s b) : Mid t { s with live := s.live ++ [b] } b := by
  refine ⟨liveInv_add wf hl h, Nat.ne_of_gt (freshImp_pos wf h), (inBt_iff ..).2 ⟨List.mem_append_right _ (List.mem_singleton.2 rfl), freshImp_root wf (s := s) h⟩,
    ?_, ⟨?_, hf.2⟩, fun x hx => (hr x hx).imp_left (List.mem_append_left _)⟩
  · intro x hx hbx
    rcases List.mem_append.1 hx with hx | hx
    · exact absurd (live_anc_closed wf hl x hx b hbx) (freshImp_not_live wf h)
    · exact List.mem_singleton.1 hx
  · intro c hc
    have := (inBt_iff t s _).1 (hf.1 c hc)
    exact (inBt_iff ..).2 ⟨List.mem_append_left _ this.1, this.2⟩

theorem mid_forced {t : Tree} {s : St} {b : Nat} (m : Mid t s b) {d : Ann} (hd : d.blk = b) {f : List Ann}
    (h : forcedImport t (isDesc t s) d s.forced = .ok f) : Mid t { s with forced := f } b := by
  obtain ⟨hp, hg⟩ := forcedImport_ok h
  have hb := (inBt_iff t s b).1 m.inbt
  refine ⟨m.live, m.pos, m.inbt, m.tip, ⟨fun c hc => ?_, (hp.pairwise_iff Unrel.symm).2 (.cons (fun e he => ?_) m.forced.2)⟩,
    m.roots⟩
  · rcases List.mem_cons.1 (hp.mem_iff.1 hc) with rfl | hc
    · exact hd ▸ m.inbt
    · exact m.forced.1 c hc
  · have hge := hg e he
    have hel := m.forced.live he
    rw [hd] at hge
    rw [isDesc_live hel hb.1 hge.1, Option.some.injEq] at hge
    exact ⟨hd ▸ Bool.eq_false_iff.2 fun hx => hge.1 (m.tip _ hel hx), hd ▸ hge.2⟩

theorem mid_sched {t : Tree} {s : St} {b : Nat} (m : Mid t s b) {d : Ann} (hd : d.blk = b) {r : List Node}
    (h : schedImport t (isDesc t s) d s.roots = .ok r) : Mid t { s with roots := r } b := by
  refine ⟨m.live, m.pos, m.inbt, m.tip, m.forced, fun x hx => ?_⟩
  rcases schedImport_blocks t _ d s.roots r h x hx with rfl | hx
  · exact Or.inl (hd ▸ ((inBt_iff t s b).1 m.inbt).1)
  · exact m.roots x hx

theorem mid_handleDigests {t : Tree} {s s' : St} {b : Nat} {ds : List Ann} (m : Mid t s b) (hds : ∀ d ∈ ds, d.blk = b)
    (h : handleDigests t s ds = .ok s') : Mid t s' b :=
  (handleDigests_ind (P := fun s => Mid t s b) (fun _ d _ hd m => mid_forced m (hds d hd))
    (fun _ d _ hd m => mid_sched m (hds d hd)) s m).2 s' h

theorem fresh_tracked {t : Tree} (wf : t.WF) {s : St} (hr : RInv t s) {b : Nat} (h : FreshImp t s b) :
    ∀ x ∈ blocksF s.roots, x ≠ b := by
  rintro x hx rfl
  rcases hr x hx with hl | hd
  · exact freshImp_not_live wf h hl
  · rw [cmp_of_anc (freshImp_root wf h)] at hd; cases hd

theorem isDesc_fin {t : Tree} (wf : t.WF) {s : St} {b : Nat} (hb : inBt t s b = true) {x : Nat} (hx : x ∈ s.live) :
    isDesc t { s with live := s.live.filter (cmp t b), root := b } b x = some (anc t b x) := by
  have hbl : b ∈ s.live.filter (cmp t b) := List.mem_filter.2 ⟨((inBt_iff t s b).1 hb).1, cmp_refl wf b⟩
  exact isDesc_eq_anc_of wf fun h => Bool.eq_false_iff.2 fun ha =>
    h.resolve_left (not_not_intro hbl) (List.mem_filter.2 ⟨hx, cmp_of_anc ha⟩)

theorem prunedForced_fin {t : Tree} (wf : t.WF) {s : St} (hf : FInv t s) {b : Nat} (hb : inBt t s b = true) :
    prunedForced t { s with live := s.live.filter (cmp t b), root := b } b = s.forced.filter (fun c => anc t b c.blk) :=
  List.filter_congr fun c hc => by
    rw [isDesc_fin wf hb (hf.live hc), Option.some_beq_some, beq_true]

theorem inv_fin {t : Tree} (wf : t.WF) {s : St} (hl : LiveInv t s) (hf : FInv t s) (hr : RInv t s) {b : Nat}
    (hb : inBt t s b = true) {s1 : St} (e : s1 = { s with live := s.live.filter (cmp t b), root := b })
    {roots' : List Node} (hsh : Shrinks s.roots roots') :
    let s2 : St := { s1 with forced := prunedForced t s1 b, roots := roots' }
    LiveInv t s2 ∧ FInv t s2 ∧ RInv t s2 := by
  subst e
  have hb' := (inBt_iff t s b).1 hb
  refine ⟨liveInv_fin wf hl hb, ⟨?_, ?_⟩, ?_⟩
  · intro c hc
    change c ∈ prunedForced t _ b at hc
    rw [prunedForced_fin wf hf hb] at hc
    have hc := List.mem_filter.1 hc
    exact (inBt_iff ..).2 ⟨List.mem_filter.2 ⟨hf.live hc.1, cmp_of_anc hc.2⟩, hc.2⟩
  · exact hf.2.sublist List.filter_sublist
  · intro x hx
    rcases hr x (hsh.blocks hx) with h | h
    · by_cases hc : cmp t b x = true
      · exact Or.inl (List.mem_filter.2 ⟨h, hc⟩)
      · exact Or.inr (Bool.eq_false_iff.2 hc)
    · exact Or.inr (dead_stays_dead wf h hb'.2)

/-- an `imp` names a block that is not in the block tree (`FreshImp` is this together with: its parent is) -/
def FreshOp (t : Tree) (s : St) : Op → Prop
  | .imp b => inBt t s b = false
  | .fin _ => True

instance (t : Tree) (s : St) (op : Op) : Decidable (FreshOp t s op) := by
  cases op <;> unfold FreshOp <;> exact inferInstance

/-- no `imp` names a block that is in the block tree at that moment -/
def Fresh (t : Tree) : St → List Op → Prop
  | _, [] => True
  | s, op :: ops => FreshOp t s op ∧ Fresh t (step t s op).1 ops

instance (t : Tree) : ∀ (s : St) (ops : List Op), Decidable (Fresh t s ops)
  | _, [] => by unfold Fresh; exact inferInstance
  | s, op :: ops => by
    unfold Fresh
    have := instDecidableFresh t (step t s op).1 ops
    exact inferInstance

structure Inv (t : Tree) (s : St) : Prop where
  live : LiveInv t s
  forced : FInv t s
  keys : KeysOK s
  roots : RInv t s

theorem inv_init {t : Tree} (wf : t.WF) : Inv t St.init :=
  ⟨liveInv_init wf, fInv_empty rfl, keysOK_init, rInv_empty rfl⟩

theorem inv_step {t : Tree} (wf : t.WF) {s : St} (hi : Inv t s) (op : Op) (hfresh : FreshOp t s op) :
    Inv t (step t s op).1 := by
  suffices h : LiveInv t (step t s op).1 ∧ FInv t (step t s op).1 ∧ RInv t (step t s op).1 from
    ⟨h.1, h.2.1, keysOK_step t s op hi.keys, h.2.2⟩
  have h0 := And.intro hi.live (And.intro hi.forced hi.roots)
  cases op with
  | imp b =>
    refine importBlock_rule (P := fun s' => LiveInv t s' ∧ FInv t s' ∧ RInv t s') (fun s1 => Mid t s1 b) h0 ?_ (fun _ _ _ hd m => mid_forced m hd)
      (fun _ _ _ hd m => mid_sched m hd) (fun _ m => ⟨m.live, m.forced, m.roots⟩)
      (fun _ _ m => ⟨m.live, fInv_empty rfl, rInv_empty rfl⟩)
    intro hpar
    rw [addBlock_fresh hfresh]
    exact mid_add wf hi.live hi.forced hi.roots ⟨hpar, hfresh⟩
  | fin b =>
    refine finalise_rule (P := fun s' => LiveInv t s' ∧ FInv t s' ∧ RInv t s') h0 fun hb s1 e roots' hsh => ?_
    have := inv_fin wf hi.live hi.forced hi.roots hb e hsh
    -- `startNext` changes only `setId`, `auths`, `change`, which the three invariants do not read
    exact ⟨this, fun _ => this⟩

theorem inv_run {t : Tree} (wf : t.WF) : ∀ (ops : List Op) (s : St), Inv t s → Fresh t s ops → Inv t (run t s ops)
  | [], _, hi, _ => hi
  | op :: ops, _, hi, hf => inv_run wf ops _ (inv_step wf hi op hf.1) hf.2

end Gossamer.C23
