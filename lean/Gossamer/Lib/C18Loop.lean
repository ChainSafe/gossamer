/-
C18: what `verifyCommit`, `verifyAcc`, `handleCommit` and one iteration `stepEntry` can answer (one lemma per function), and the
invariant of the loop of `verifyCommitMessageJustification` over its three maps (`Found`, `Inv`); the predicates of the
property as propositions (`supports_iff`, `onChain_iff`, `entryValid_mem`).
-/
import Gossamer.Model.C18
import Gossamer.Lib.AList
namespace Gossamer.C18

theorem verifyCommit_ok {env : Env} {c : Commit} :
    verifyCommit env c = .ok () ↔ ∃ acc, verifyAcc env c = .ok acc ∧ thr env.n ≤ acc.count := by
  unfold verifyCommit
  cases verifyAcc env c with
  | error x => exact ⟨nofun, fun ⟨_, h, _⟩ => nomatch h⟩
  | ok acc =>
    simp only [Except.ok.injEq, exists_eq_left']
    split
    · exact ⟨nofun, fun h => absurd h (Nat.not_le.2 ‹_›)⟩
    · exact ⟨fun _ => Nat.le_of_not_lt ‹_›, fun _ => rfl⟩

theorem verifyAcc_ok {env : Env} {c : Commit} {acc : Acc} (h : verifyAcc env c = .ok acc) :
    c.lm = 0 ∧ c.set = env.set ∧ env.fault ≠ 1 ∧
      (env.fault ≠ 2 → env.tree.isDescendantOf env.fin c.tblk = .ok true) ∧
      loop env c c.entries Acc.empty = .ok acc := by
  unfold verifyAcc at h
  by_cases h1 : c.lm ≠ 0
  · rw [if_pos h1] at h; exact nomatch h
  by_cases h2 : c.set ≠ env.set
  · rw [if_neg h1, if_pos h2] at h; exact nomatch h
  by_cases h3 : env.fault = 1
  · rw [if_neg h1, if_neg h2, if_pos h3] at h; exact nomatch h
  rw [if_neg h1, if_neg h2, if_neg h3] at h
  refine ⟨Decidable.of_not_not h1, Decidable.of_not_not h2, h3, ?_⟩
  by_cases hf : env.fault = 2
  · rw [if_pos hf] at h; exact nomatch h
  rw [if_neg hf] at h
  cases hd : env.tree.isDescendantOf env.fin c.tblk with
  | error x => rw [hd] at h; exact nomatch h
  | ok b =>
    rw [hd] at h
    cases b
    · exact nomatch h
    · exact ⟨fun _ => rfl, h⟩

/-- `handleCommit`, i.e. `handleCommitG` with `strict = false` (the code); the `strict = true` variant has no case lemma -/
theorem handleCommit_cases (env : Env) (c : Commit) :
    ((handleCommit env c).fin = none ∧ (handleCommit env c).pc = none ∧
        ((handleCommit env c).res ≠ .ok ∨ env.has = true)) ∨
    ((handleCommit env c).fin = some (c.tblk, c.round, env.set) ∧ verifyCommit env c = .ok () ∧
        env.has = false ∧ env.tree.known c.tblk = true ∧ env.tree.depth c.tblk = c.tnum) := by
  -- one occurrence of the unfolded function instead of four; `split` is slow on a nest this deep
  generalize ho : handleCommit env c = o
  unfold handleCommit handleCommitG at ho
  by_cases hk : (!env.tree.known c.tblk) = true
  · rw [if_pos hk] at ho; subst ho; exact Or.inl ⟨rfl, rfl, Or.inl nofun⟩
  by_cases hd : env.tree.depth c.tblk ≠ c.tnum
  · rw [if_neg hk, if_pos hd] at ho; subst ho; exact Or.inl ⟨rfl, rfl, Or.inl nofun⟩
  by_cases h5 : env.fault = 5
  · rw [if_neg hk, if_neg hd, if_pos h5] at ho; subst ho; exact Or.inl ⟨rfl, rfl, Or.inl nofun⟩
  by_cases hh : env.has = true
  · rw [if_neg hk, if_neg hd, if_neg h5, if_pos hh] at ho; subst ho; exact Or.inl ⟨rfl, rfl, Or.inr hh⟩
  rw [if_neg hk, if_neg hd, if_neg h5, if_neg hh] at ho
  cases hv : verifyCommit env c with
  | error x => rw [hv] at ho; subst ho; exact Or.inl ⟨rfl, rfl, Or.inl nofun⟩
  | ok u =>
    refine Or.inr ⟨?_, rfl, Bool.eq_false_iff.2 hh, by simpa using hk, Decidable.of_not_not hd⟩
    rw [hv, if_neg Bool.false_ne_true] at ho
    by_cases h3 : env.fault = 3
    · rw [if_pos h3] at ho; subst ho; rfl
    by_cases h4 : env.fault = 4
    · rw [if_neg h3, if_pos h4] at ho; subst ho; rfl
    · rw [if_neg h3, if_neg h4] at ho; subst ho; rfl

/-- the loop does not skip the entry with a `continue` -/
def seen (env : Env) (c : Commit) (e : Entry) : Bool :=
  entryValid env c e && (match env.tree.isDescendantOf c.tblk e.blk with | .ok _ => true | .error _ => false)

theorem entryValid_mem {env : Env} {c : Commit} {e : Entry} (h : entryValid env c e = true) :
    e.id ∈ env.auths :=
  List.contains_iff_mem.mp (Bool.and_eq_true_iff.mp h).2

theorem supports_iff {env : Env} {c : Commit} {id : Nat} : supports env c id = true ↔
    (∃ e, e ∈ c.entries ∧ e.id = id ∧ entryValid env c e = true ∧ onChain env c e = true) ∨
    ∃ e₁ e₂, e₁ ∈ c.entries ∧ e₂ ∈ c.entries ∧ e₁.id = id ∧ e₂.id = id ∧
      entryValid env c e₁ = true ∧ entryValid env c e₂ = true ∧ e₁.vote ≠ e₂.vote := by
  simp only [supports, hasValidOnChain, hasTwoValid, Bool.or_eq_true, List.any_eq_true, Bool.and_eq_true,
    beq_iff_eq, bne_iff_ne, and_assoc]
  exact or_congr Iff.rfl ⟨fun ⟨e₁, h1, e₂, h2, h⟩ => ⟨e₁, e₂, h1, h2, h⟩, fun ⟨e₁, e₂, h1, h2, h⟩ => ⟨e₁, h1, e₂, h2, h⟩⟩

theorem onChain_iff {env : Env} {c : Commit} {e : Entry} :
    onChain env c e = true ↔ env.tree.isDescendantOf c.tblk e.blk = .ok true := by
  unfold onChain
  split <;> simp_all

theorem stepEntry_ok {env : Env} {c : Commit} {acc acc' : Acc} {e : Entry}
    (h : stepEntry env c acc e = .ok acc') :
    ((seen env c e = false ∨ acc.first.lookup e.id = some e.vote) ∧ acc' = acc) ∨
    (entryValid env c e = true ∧ (∃ v, acc.first.lookup e.id = some v ∧ v ≠ e.vote) ∧
      acc' = { acc with eqv := acc.eqv.insert e.id, sup := acc.sup.erase e.id }) ∨
    (entryValid env c e = true ∧ acc.first.lookup e.id = none ∧
      acc' = { first := (e.id, e.vote) :: acc.first, eqv := acc.eqv,
               sup := if onChain env c e then acc.sup.insert e.id else acc.sup }) := by
  unfold stepEntry at h
  by_cases hval : (!entryValid env c e) = true
  · rw [if_pos hval] at h
    have : entryValid env c e = false := by simpa using hval
    exact Or.inl ⟨Or.inl (by rw [seen, this]; rfl), (Except.ok.inj h).symm⟩
  rw [if_neg hval] at h
  have hval : entryValid env c e = true := by simpa using hval
  cases hd : env.tree.isDescendantOf c.tblk e.blk with
  | error x =>
    rw [hd] at h
    exact Or.inl ⟨Or.inl (by rw [seen, hd]; exact Bool.and_false _), (Except.ok.inj h).symm⟩
  | ok isDesc =>
    simp only [hd] at h
    by_cases hk : (!env.tree.known e.blk) = true
    · rw [if_pos hk] at h; exact nomatch h
    by_cases hn : env.tree.depth e.blk ≠ e.num
    · rw [if_neg hk, if_pos hn] at h; exact nomatch h
    rw [if_neg hk, if_neg hn] at h
    cases hv : acc.first.lookup e.id with
    | some v =>
      simp only [hv] at h
      by_cases hne : v ≠ (e.blk, e.num)
      · rw [if_pos hne] at h
        exact Or.inr (Or.inl ⟨hval, ⟨v, rfl, hne⟩, (Except.ok.inj h).symm⟩)
      · rw [if_neg hne] at h
        exact Or.inl ⟨Or.inr (congrArg some (Decidable.of_not_not hne)), (Except.ok.inj h).symm⟩
    | none =>
      simp only [hv] at h
      have hon : onChain env c e = isDesc := by rw [onChain, hd]; cases isDesc <;> rfl
      exact Or.inr (Or.inr ⟨hval, rfl, hon ▸ (Except.ok.inj h).symm⟩)

/-- the part of the invariant that gives soundness: every key in one of the three maps is there for a reason found
    among the entries `P` -/
structure Found (env : Env) (c : Commit) (P : List Entry) (acc : Acc) : Prop where
  first : ∀ id v, acc.first.lookup id = some v →
    ∃ e, e ∈ P ∧ e.id = id ∧ entryValid env c e = true ∧ e.vote = v
  sup : ∀ id, id ∈ acc.sup →
    ∃ e, e ∈ P ∧ e.id = id ∧ entryValid env c e = true ∧ onChain env c e = true
  eqv : ∀ id, id ∈ acc.eqv →
    ∃ e₁ e₂, e₁ ∈ P ∧ e₂ ∈ P ∧ e₁.id = id ∧ e₂.id = id ∧
      entryValid env c e₁ = true ∧ entryValid env c e₂ = true ∧ e₁.vote ≠ e₂.vote

/-- What the three maps of `verifyCommitMessageJustification` mean once the loop has processed the entries `P` (latest
    first; only membership in `P` is used).  `recd`, `cnt`: every entry of `P` the loop looked at has left its trace
    (completeness of the count; `cnt` speaks of the stored vote, `onChain_iff` ties it to `onChain`).  `eqvKey` serves
    `Inv.fresh` only: a fresh key is no equivocator yet. -/
structure Inv (env : Env) (c : Commit) (P : List Entry) (acc : Acc) : Prop extends Found env c P acc where
  supNodup : acc.sup.Nodup
  eqvNodup : acc.eqv.Nodup
  disj : ∀ id, id ∈ acc.sup → id ∉ acc.eqv
  eqvKey : ∀ id, id ∈ acc.eqv → acc.first.lookup id ≠ none
  recd : ∀ e, e ∈ P → seen env c e = true →
    ∃ v, acc.first.lookup e.id = some v ∧ (e.vote ≠ v → e.id ∈ acc.eqv)
  cnt : ∀ id v, acc.first.lookup id = some v → env.tree.isDescendantOf c.tblk v.1 = .ok true →
    id ∈ acc.sup ∨ id ∈ acc.eqv

theorem inv_empty (env : Env) (c : Commit) : Inv env c [] Acc.empty where
  supNodup := List.nodup_nil
  eqvNodup := List.nodup_nil
  disj := nofun
  eqvKey := nofun
  first := nofun
  sup := nofun
  eqv := nofun
  recd := nofun
  cnt := nofun

theorem Found.cons {env : Env} {c : Commit} {P : List Entry} {acc : Acc} (h : Found env c P acc) (e : Entry) :
    Found env c (e :: P) acc where
  first id v hl := (h.first id v hl).imp fun _ hx => ⟨List.mem_cons_of_mem _ hx.1, hx.2⟩
  sup id hi := (h.sup id hi).imp fun _ hx => ⟨List.mem_cons_of_mem _ hx.1, hx.2⟩
  eqv id hi := (h.eqv id hi).imp fun _ hx => hx.imp fun _ hx =>
    ⟨List.mem_cons_of_mem _ hx.1, List.mem_cons_of_mem _ hx.2.1, hx.2.2⟩

theorem Inv.same {env : Env} {c : Commit} {P : List Entry} {acc : Acc} {e : Entry} (h : Inv env c P acc)
    (hs : seen env c e = false ∨ acc.first.lookup e.id = some e.vote) : Inv env c (e :: P) acc :=
  { h with
    toFound := h.toFound.cons e
    recd := by
      intro x hx hsx
      rcases List.mem_cons.mp hx with rfl | hx
      · rcases hs with hs | hs
        · rw [hs] at hsx; exact absurd hsx (by decide)
        · exact ⟨_, hs, fun hn => absurd rfl hn⟩
      · exact h.recd x hx hsx }

theorem nodup_insert {α : Type} [BEq α] [LawfulBEq α] {l : List α} (a : α) (h : l.Nodup) : (l.insert a).Nodup := by
  by_cases m : a ∈ l
  · rw [List.insert_of_mem m]; exact h
  · rw [List.insert_of_not_mem m]; exact List.nodup_cons.mpr ⟨m, h⟩

theorem Inv.equivocate {env : Env} {c : Commit} {P : List Entry} {acc : Acc} {e : Entry} {v : Nat × Nat}
    (h : Inv env c P acc) (hval : entryValid env c e = true)
    (hv : acc.first.lookup e.id = some v) (hne : v ≠ e.vote) :
    Inv env c (e :: P) { acc with eqv := acc.eqv.insert e.id, sup := acc.sup.erase e.id } where
  supNodup := h.supNodup.erase _
  eqvNodup := nodup_insert _ h.eqvNodup
  disj := by
    intro id hs hq
    have hs' := (h.supNodup.mem_erase_iff).mp hs
    rcases List.mem_insert_iff.mp hq with hq | hq
    · exact hs'.1 hq
    · exact h.disj id hs'.2 hq
  eqvKey := by
    intro id hq
    rcases List.mem_insert_iff.mp hq with rfl | hq
    · rw [hv]; nofun
    · exact h.eqvKey id hq
  first := (h.toFound.cons e).first
  sup := fun id hs => (h.toFound.cons e).sup id ((h.supNodup.mem_erase_iff).mp hs).2
  eqv := by
    intro id hq
    rcases List.mem_insert_iff.mp hq with rfl | hq
    · obtain ⟨e₁, h1, h2, h3, h4⟩ := h.first e.id v hv
      exact ⟨e₁, e, List.mem_cons_of_mem _ h1, List.mem_cons_self, h2, rfl, h3, hval, h4 ▸ hne⟩
    · exact (h.toFound.cons e).eqv id hq
  recd := by
    intro x hx hsx
    rcases List.mem_cons.mp hx with rfl | hx
    · exact ⟨v, hv, fun _ => List.mem_insert_iff.mpr (Or.inl rfl)⟩
    · obtain ⟨w, hw, hq⟩ := h.recd x hx hsx
      exact ⟨w, hw, fun hn => List.mem_insert_iff.mpr (Or.inr (hq hn))⟩
  cnt := by
    intro id w hw hon
    by_cases hid : id = e.id
    · exact Or.inr (List.mem_insert_iff.mpr (Or.inl hid))
    · exact (h.cnt id w hw hon).imp (List.mem_erase_of_ne hid).mpr
        fun hq => List.mem_insert_iff.mpr (Or.inr hq)

theorem Inv.fresh {env : Env} {c : Commit} {P : List Entry} {acc : Acc} {e : Entry}
    (h : Inv env c P acc) (hval : entryValid env c e = true) (hv : acc.first.lookup e.id = none) :
    Inv env c (e :: P) { first := (e.id, e.vote) :: acc.first, eqv := acc.eqv,
                         sup := if onChain env c e then acc.sup.insert e.id else acc.sup } := by
  have hl := AList.lookup_cons_if (e.id, e.vote) acc.first
  have hsup : ∀ id, id ∈ (if onChain env c e then acc.sup.insert e.id else acc.sup) ↔
      (onChain env c e = true ∧ id = e.id) ∨ id ∈ acc.sup := by
    intro id
    split
    · rename_i hon; rw [List.mem_insert_iff]; simp [hon]
    · rename_i hon; simp [hon]
  refine ⟨⟨?_, ?_, (h.toFound.cons e).eqv⟩, ?_, h.eqvNodup, ?_, ?_, ?_, ?_⟩
  · intro id v hlv
    rw [hl] at hlv
    split at hlv
    · rename_i hid
      exact ⟨e, List.mem_cons_self, hid, hval, Option.some.inj hlv⟩
    · exact (h.toFound.cons e).first id v hlv
  · intro id hs
    rcases (hsup id).1 hs with ⟨hon, rfl⟩ | hs
    · exact ⟨e, List.mem_cons_self, rfl, hval, hon⟩
    · exact (h.toFound.cons e).sup id hs
  · split
    · exact nodup_insert _ h.supNodup
    · exact h.supNodup
  · intro id hs hq
    rcases (hsup id).1 hs with ⟨_, rfl⟩ | hs
    · exact h.eqvKey _ hq hv
    · exact h.disj id hs hq
  · intro id hq
    rw [hl]
    split
    · nofun
    · exact h.eqvKey id hq
  · intro x hx hsx
    rw [hl]
    rcases List.mem_cons.mp hx with rfl | hx
    · exact ⟨x.vote, if_pos rfl, fun hn => absurd rfl hn⟩
    · obtain ⟨w, hw, hq⟩ := h.recd x hx hsx
      have hne : x.id ≠ e.id := fun he => by rw [he, hv] at hw; exact nomatch hw
      exact ⟨w, by rw [if_neg (Ne.symm hne)]; exact hw, hq⟩
  · intro id w hw hon
    rw [hl] at hw
    split at hw
    · rename_i hid
      cases Option.some.inj hw
      exact Or.inl ((hsup id).2 (Or.inl ⟨onChain_iff.2 hon, hid.symm⟩))
    · exact (h.cnt id w hw hon).imp (fun hs => (hsup id).2 (Or.inr hs)) fun hq => hq

theorem inv_step {env : Env} {c : Commit} {P : List Entry} {acc acc' : Acc} {e : Entry}
    (h : Inv env c P acc) (hs : stepEntry env c acc e = .ok acc') : Inv env c (e :: P) acc' := by
  rcases stepEntry_ok hs with ⟨h1, rfl⟩ | ⟨hval, ⟨v, hv, hne⟩, rfl⟩ | ⟨hval, hv, rfl⟩
  · exact h.same h1
  · exact h.equivocate hval hv hne
  · exact h.fresh hval hv

theorem inv_loop {env : Env} {c : Commit} :
    ∀ (es P : List Entry) (acc acc' : Acc), Inv env c P acc →
      loop env c es acc = .ok acc' → Inv env c (es.reverse ++ P) acc' := by
  intro es
  induction es with
  | nil =>
    intro P acc acc' h hl
    injection hl with hl
    exact hl ▸ h
  | cons e es ih =>
    intro P acc acc' h hl
    simp only [loop] at hl
    split at hl
    · rename_i a hs
      rw [List.reverse_cons, List.append_assoc]
      exact ih (e :: P) a acc' (inv_step h hs) hl
    · exact nomatch hl

theorem inv_verifyAcc {env : Env} {c : Commit} {acc : Acc} (h : verifyAcc env c = .ok acc) :
    Inv env c c.entries.reverse acc := by
  simpa using inv_loop c.entries [] Acc.empty acc (inv_empty env c) (verifyAcc_ok h).2.2.2.2

end Gossamer.C18
