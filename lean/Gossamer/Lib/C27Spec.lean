import Gossamer.Model.C27
import Gossamer.Lib.AList
open Gossamer Gossamer.C27
namespace Gossamer.C27

theorem run_append {σ ι ο : Type} (step : σ → ι → ο × σ) (s : σ) (a b : List ι) :
    run step s (a ++ b) =
      ((run step s a).1 ++ (run step (run step s a).2 b).1, (run step (run step s a).2 b).2) := by
  induction a generalizing s with
  | nil => rfl
  | cons i is ih => rw [List.cons_append, run, ih]; rfl

section
variable {H S : Type}

/-- the retained window seen by a check -/
def inWindow (st : Spec H S) (o : Op H S) : Prop :=
  o.slotNow - o.slot ≤ 1000 ∧ st.start.getD o.slot ≤ o.slotNow

/-- the start marker after a recording check -/
def newFirst (st : Spec H S) (o : Op H S) : Nat :=
  if o.slotNow - st.start.getD o.slot ≥ 2000 then o.slotNow - 1000 else st.start.getD o.slot

/-- the state written by a recording check -/
def written (st : Spec H S) (o : Op H S) : Spec H S :=
  { start := some (newFirst st o),
    slots := fun n =>
      if st.start.getD o.slot ≤ n ∧ n < newFirst st o then []
      else if n = o.slot then st.slots o.slot ++ [(o.header, o.signer)]
      else st.slots n }

theorem pruned_old {st : Spec H S} {o : Op H S} {n : Nat} (h : st.start.getD o.slot ≤ n ∧ n < newFirst st o) :
    n + 1000 < o.slotNow := by
  unfold newFirst at h
  by_cases hp : o.slotNow - st.start.getD o.slot ≥ 2000
  · rw [if_pos hp] at h; omega
  · rw [if_neg hp] at h; omega

theorem newFirst_le_now {st : Spec H S} {o : Op H S} (h : st.start.getD o.slot ≤ o.slotNow) :
    newFirst st o ≤ o.slotNow := by
  unfold newFirst
  by_cases hp : o.slotNow - st.start.getD o.slot ≥ 2000
  · rw [if_pos hp]; exact Nat.sub_le ..
  · rw [if_neg hp]; exact h

theorem written_slot (st : Spec H S) (o : Op H S) (h : inWindow st o) :
    (written st o).slots o.slot = st.slots o.slot ++ [(o.header, o.signer)] := by
  show (if _ then _ else if _ then _ else _) = _
  rw [if_neg (fun hp => by have := pruned_old hp; have := h.1; omega), if_pos rfl]

theorem written_slots (st : Spec H S) (o : Op H S) (n : Nat) :
    ((st.start.getD o.slot ≤ n ∧ n < newFirst st o) ∧ (written st o).slots n = []) ∨
    (¬ (st.start.getD o.slot ≤ n ∧ n < newFirst st o) ∧
      ((n = o.slot ∧ (written st o).slots n = st.slots o.slot ++ [(o.header, o.signer)]) ∨
       (n ≠ o.slot ∧ (written st o).slots n = st.slots n))) := by
  by_cases hr : st.start.getD o.slot ≤ n ∧ n < newFirst st o
  · exact Or.inl ⟨hr, if_pos hr⟩
  · by_cases hn : n = o.slot
    · exact Or.inr ⟨hr, Or.inl ⟨hn, (if_neg hr).trans (if_pos hn)⟩⟩
    · exact Or.inr ⟨hr, Or.inr ⟨hn, (if_neg hr).trans (if_neg hn)⟩⟩

theorem mem_written {st : Spec H S} {o : Op H S} {n : Nat} {e : H × S}
    (h : e ∈ (written st o).slots n) :
    e ∈ st.slots n ∨ (n = o.slot ∧ e = (o.header, o.signer)) := by
  rcases written_slots st o n with ⟨_, w⟩ | ⟨_, ⟨hn, w⟩ | ⟨_, w⟩⟩ <;> rw [w] at h
  · cases h
  · exact (List.mem_append.1 h).imp (hn ▸ id) fun h => ⟨hn, List.mem_singleton.1 h⟩
  · exact Or.inl h

end

section
variable {H S Hh : Type} [DecidableEq S] [DecidableEq Hh]

theorem sstep_out_of_window (hash : H → Hh) (st : Spec H S) (o : Op H S) (h : ¬ inWindow st o) :
    sstep hash st o = (.none, st) := by
  unfold sstep specStep
  by_cases h1 : o.slotNow - o.slot > 1000
  · rw [if_pos h1]
  · rw [if_neg h1]
    exact if_pos (Nat.lt_of_not_le fun h2 => h ⟨Nat.le_of_not_lt h1, h2⟩)

theorem sstep_in_window (hash : H → Hh) (st : Spec H S) (o : Op H S) (h : inWindow st o) :
    sstep hash st o =
      match (st.slots o.slot).find? (fun e => e.2 = o.signer) with
      | some e => (if hash o.header ≠ hash e.1 then .proof o.slot o.signer e.1 o.header else .none, st)
      | none => (.none, written st o) := by
  unfold sstep specStep
  rw [if_neg (Nat.not_lt_of_le h.1), if_neg (Nat.not_lt_of_le h.2)]
  cases (st.slots o.slot).find? (fun e => e.2 = o.signer) with
  | some e => exact apply_ite (fun x => (x, st)) .. |>.symm
  | none => rfl

theorem sstep_cases (hash : H → Hh) (st : Spec H S) (o : Op H S) :
    (sstep hash st o).2 = st ∨
    (inWindow st o ∧ (st.slots o.slot).find? (fun e => e.2 = o.signer) = none ∧
      sstep hash st o = (.none, written st o)) := by
  by_cases hw : inWindow st o
  · rw [sstep_in_window hash st o hw]
    cases (st.slots o.slot).find? (fun e => e.2 = o.signer) with
    | some e => exact Or.inl rfl
    | none => exact Or.inr ⟨hw, rfl, rfl⟩
  · exact Or.inl (by rw [sstep_out_of_window hash st o hw])

def sst (hash : H → Hh) (ops : List (Op H S)) : Spec H S := (run (sstep hash) Spec.empty ops).2

theorem sst_append (hash : H → Hh) (a b : List (Op H S)) :
    sst hash (a ++ b) = (run (sstep hash) (sst hash a) b).2 := by
  rw [sst, run_append]; rfl

theorem sst_snoc (hash : H → Hh) (ops : List (Op H S)) (o : Op H S) :
    sst hash (ops ++ [o]) = (sstep hash (sst hash ops) o).2 :=
  sst_append hash ops [o]

/-- `e` was put into slot `n` by the check `o` that came after the history `p1` -/
def RecordedBy (hash : H → Hh) (p1 : List (Op H S)) (o : Op H S) (n : Nat) (e : H × S) : Prop :=
  o.slot = n ∧ (o.header, o.signer) = e ∧ inWindow (sst hash p1) o ∧
    (sstep hash (sst hash p1) o).1 = .none

def UniqueSigners (st : Spec H S) : Prop := ∀ n, (st.slots n).Pairwise (fun a b => a.2 ≠ b.2)

structure Inv (hash : H → Hh) (hist : List (Op H S)) : Prop where
  prov : ∀ n e, e ∈ (sst hash hist).slots n →
    ∃ p1 o p2, hist = p1 ++ o :: p2 ∧ RecordedBy hash p1 o n e
  uniq : UniqueSigners (sst hash hist)
  startb : ∀ f, (sst hash hist).start = some f → ∃ o ∈ hist, f ≤ o.slotNow
  empty : (sst hash hist).start = none → ∀ n, (sst hash hist).slots n = []

theorem inv_all (hash : H → Hh) : ∀ hist : List (Op H S), Inv hash hist := by
  refine snoc_induction ⟨fun _ _ h => (nomatch h), fun _ => List.Pairwise.nil, fun _ h => (nomatch h),
    fun _ _ => rfl⟩ ?_
  intro hist o ih
  have hprov : ∀ n e, e ∈ (sst hash hist).slots n →
      ∃ p1 o' p2, hist ++ [o] = p1 ++ o' :: p2 ∧ RecordedBy hash p1 o' n e := fun n e h =>
    let ⟨p1, o', p2, hh, hr⟩ := ih.prov n e h
    ⟨p1, o', p2 ++ [o], by rw [hh, List.append_assoc]; rfl, hr⟩
  rcases sstep_cases hash (sst hash hist) o with hsame | ⟨hw, hfind, hwr⟩
  · have hs : sst hash (hist ++ [o]) = sst hash hist := by rw [sst_snoc, hsame]
    refine ⟨fun n e h => hprov n e (by rwa [hs] at h), fun n => by rw [hs]; exact ih.uniq n, fun f h => ?_,
      fun h n => by rw [hs] at h ⊢; exact ih.empty h n⟩
    rw [hs] at h
    obtain ⟨x, hx, hle⟩ := ih.startb f h
    exact ⟨x, List.mem_append_left _ hx, hle⟩
  · have hs : sst hash (hist ++ [o]) = written (sst hash hist) o := by rw [sst_snoc, hwr]
    refine ⟨fun n e h => ?_, fun n => ?_, fun f h => ?_, fun h => by rw [hs] at h; cases h⟩
    · rw [hs] at h
      rcases mem_written h with h | ⟨hn, he⟩
      · exact hprov n e h
      · exact ⟨hist, o, [], rfl, hn.symm, he.symm, hw, by rw [hwr]⟩
    · rw [hs]
      rcases written_slots (sst hash hist) o n with ⟨_, w⟩ | ⟨_, ⟨_, w⟩ | ⟨_, w⟩⟩ <;> rw [w]
      · exact .nil
      · refine List.pairwise_append.2 ⟨ih.uniq _, List.pairwise_singleton .., fun a ha b hb => ?_⟩
        rw [List.mem_singleton.1 hb]
        exact of_decide_eq_false (Bool.eq_false_iff.2 (List.find?_eq_none.1 hfind a ha))
      · exact ih.uniq n
    · rw [hs] at h
      exact ⟨o, List.mem_append_right _ (List.mem_singleton.2 rfl), Option.some.inj h ▸ newFirst_le_now hw.2⟩

theorem find_of_mem_unique {l : List (H × S)} (hu : l.Pairwise (fun a b => a.2 ≠ b.2)) {a : H} {s : S}
    (hm : (a, s) ∈ l) : l.find? (fun e => e.2 = s) = some (a, s) :=
  find?_of_mem_nodup (·.2) (List.pairwise_map.2 hu) hm

theorem spec_proof_shape (hash : H → Hh) (st : Spec H S) (o : Op H S) {sl : Nat} {off : S} {a b : H}
    (h : (sstep hash st o).1 = .proof sl off a b) :
    sl = o.slot ∧ off = o.signer ∧ b = o.header ∧ hash a ≠ hash b ∧ inWindow st o ∧
      (a, o.signer) ∈ st.slots o.slot := by
  by_cases hw : inWindow st o
  · rw [sstep_in_window hash st o hw] at h
    cases hf : (st.slots o.slot).find? (fun e => e.2 = o.signer) with
    | none => rw [hf] at h; cases h
    | some e =>
      obtain ⟨prev, ps⟩ := e
      rw [hf] at h
      dsimp only at h
      by_cases hh : hash o.header ≠ hash prev
      · rw [if_pos hh] at h
        have hm := List.mem_of_find?_eq_some hf
        have hps := List.find?_some hf
        have hps : ps = o.signer := of_decide_eq_true hps
        rw [hps] at hm
        cases h
        exact ⟨rfl, rfl, rfl, hh.symm, hw, hm⟩
      · rw [if_neg hh] at h; cases h
  · rw [sstep_out_of_window hash st o hw] at h; cases h

theorem spec_exact (hash : H → Hh) (st : Spec H S) (hu : UniqueSigners st) (o : Op H S) (a : H) :
    (sstep hash st o).1 = .proof o.slot o.signer a o.header ↔
      (inWindow st o ∧ (a, o.signer) ∈ st.slots o.slot ∧ hash a ≠ hash o.header) := by
  constructor
  · intro h
    obtain ⟨_, _, _, h4, h5, h6⟩ := spec_proof_shape hash st o h
    exact ⟨h5, h6, h4⟩
  · intro ⟨hw, hm, hh⟩
    rw [sstep_in_window hash st o hw, find_of_mem_unique (hu o.slot) hm]
    dsimp only
    rw [if_pos hh.symm]

theorem spec_recheck_recorded (hash : H → Hh) (st : Spec H S) (hu : UniqueSigners st) (o : Op H S)
    (a : H) (hm : (a, o.signer) ∈ st.slots o.slot) (hh : hash a = hash o.header) :
    sstep hash st o = (.none, st) := by
  by_cases hw : inWindow st o
  · rw [sstep_in_window hash st o hw, find_of_mem_unique (hu o.slot) hm]
    exact congrArg (·, st) (if_neg (not_not_intro hh.symm))
  · exact sstep_out_of_window hash st o hw

theorem spec_idempotent (hash : H → Hh) (st : Spec H S) (o : Op H S)
    (h : (sstep hash st o).1 = .none) :
    sstep hash (sstep hash st o).2 o = (.none, (sstep hash st o).2) := by
  rcases sstep_cases hash st o with hsame | ⟨hw, hfind, hwr⟩
  · rw [hsame]
    exact Prod.ext h hsame
  · rw [hwr]
    have hw' : inWindow (written st o) o := ⟨hw.1, newFirst_le_now hw.2⟩
    rw [sstep_in_window hash _ o hw', written_slot st o hw, List.find?_append, hfind, Option.none_or,
      List.find?_cons, decide_eq_true rfl]
    exact congrArg (·, _) (if_neg (not_not_intro rfl))

theorem spec_retained_step (hash : H → Hh) (st : Spec H S) (o : Op H S) (n : Nat) (e : H × S)
    (hm : e ∈ st.slots n) (hnow : o.slotNow ≤ n + 1000) : e ∈ (sstep hash st o).2.slots n := by
  rcases sstep_cases hash st o with hsame | ⟨hw, hfind, hwr⟩
  · rw [hsame]; exact hm
  · rw [hwr]
    rcases written_slots st o n with ⟨hp, _⟩ | ⟨_, ⟨hn, w⟩ | ⟨_, w⟩⟩
    · exact absurd (pruned_old hp) (Nat.not_lt_of_le hnow)
    · rw [w]; exact List.mem_append_left _ (hn ▸ hm)
    · rw [w]; exact hm

theorem spec_retained (hash : H → Hh) (ops : List (Op H S)) (st : Spec H S) (n : Nat) (e : H × S)
    (hm : e ∈ st.slots n) (hnow : ∀ o ∈ ops, o.slotNow ≤ n + 1000) :
    e ∈ (run (sstep hash) st ops).2.slots n := by
  induction ops generalizing st with
  | nil => exact hm
  | cons o r ih =>
    exact ih _ (spec_retained_step hash st o n e hm (hnow o (List.mem_cons_self ..)))
      (fun x hx => hnow x (List.mem_cons_of_mem _ hx))

theorem uniqueSigners_sst (hash : H → Hh) (hist : List (Op H S)) : UniqueSigners (sst hash hist) :=
  (inv_all hash hist).uniq

theorem start_le_now (hash : H → Hh) (hist : List (Op H S)) (o : Op H S)
    (hfut : o.slot ≤ o.slotNow) (ht : ∀ x ∈ hist, x.slotNow ≤ o.slotNow) :
    (sst hash hist).start.getD o.slot ≤ o.slotNow := by
  cases h : (sst hash hist).start with
  | none => exact hfut
  | some f =>
    obtain ⟨x, hx, hle⟩ := (inv_all hash hist).startb f h
    exact Nat.le_trans hle (ht x hx)

/-- `o'` is the first check of its slot and signer, made inside the window with the clock not behind earlier checks;
    the clock stays monotone up to `o` and has not moved 1000 past the slot, so the entry is recorded and not yet pruned -/
theorem spec_complete_history (hash : H → Hh) (p1 p2 : List (Op H S)) (o' o : Op H S)
    (hfirst : ∀ x ∈ p1, ¬ (x.slot = o'.slot ∧ x.signer = o'.signer))
    (hfut : o'.slot ≤ o'.slotNow) (hcap : o'.slotNow - o'.slot ≤ 1000)
    (ht1 : ∀ x ∈ p1, x.slotNow ≤ o'.slotNow)
    (ht2 : ∀ x ∈ p1 ++ o' :: p2, x.slotNow ≤ o.slotNow)
    (hslot : o.slot = o'.slot) (hsig : o.signer = o'.signer)
    (hrecent : o.slotNow ≤ o'.slot + 1000)
    (hh : hash o'.header ≠ hash o.header) :
    (sstep hash (sst hash (p1 ++ o' :: p2)) o).1 = .proof o.slot o.signer o'.header o.header := by
  have hw1 : inWindow (sst hash p1) o' := ⟨hcap, start_le_now hash p1 o' hfut ht1⟩
  have hnone : ((sst hash p1).slots o'.slot).find? (fun e => e.2 = o'.signer) = none := by
    refine List.find?_eq_none.2 fun e he hs => ?_
    obtain ⟨q1, x, q2, hq, hx1, hx2, _⟩ := (inv_all hash p1).prov _ e he
    refine hfirst x (hq ▸ List.mem_append_right _ (List.mem_cons_self ..)) ⟨hx1, ?_⟩
    rw [← of_decide_eq_true hs, ← hx2]
  have hmem1 : (o'.header, o'.signer) ∈ (sstep hash (sst hash p1) o').2.slots o'.slot := by
    rw [sstep_in_window hash _ o' hw1, hnone]
    dsimp only
    rw [written_slot _ _ hw1]
    exact List.mem_append_right _ (List.mem_singleton.2 rfl)
  have ho'now : o'.slotNow ≤ o.slotNow := ht2 o' (List.mem_append_right _ (List.mem_cons_self ..))
  have hmem : (o'.header, o.signer) ∈ (sst hash (p1 ++ o' :: p2)).slots o.slot := by
    rw [sst_append, hslot, hsig]
    exact spec_retained hash p2 _ _ _ hmem1 fun x hx =>
      Nat.le_trans (ht2 x (List.mem_append_right _ (List.mem_cons_of_mem _ hx))) hrecent
  exact (spec_exact hash _ (uniqueSigners_sst hash _) o o'.header).mpr
    ⟨⟨by omega, start_le_now hash _ o (by omega) ht2⟩, hmem, hh⟩

/-- every check of the history had its slot at or above the start marker of its time -/
def AboveStart (hash : H → Hh) (hist : List (Op H S)) : Prop :=
  ∀ p1 o p2, hist = p1 ++ o :: p2 → ∀ f, (sst hash p1).start = some f → f ≤ o.slot

theorem spec_start_le_stored (hash : H → Hh) : ∀ hist : List (Op H S), AboveStart hash hist →
    ∀ n f, (sst hash hist).slots n ≠ [] → (sst hash hist).start = some f → f ≤ n := by
  refine snoc_induction (fun _ _ _ h => absurd rfl h) ?_
  intro hist o ih ha n f hne hst
  have ha' : AboveStart hash hist := fun p1 x p2 hh => ha p1 x (p2 ++ [o]) (by rw [hh, List.append_assoc]; rfl)
  rcases sstep_cases hash (sst hash hist) o with hsame | ⟨hw, hfind, hwr⟩
  · rw [sst_snoc, hsame] at hne hst
    exact ih ha' n f hne hst
  · rw [sst_snoc, hwr] at hne hst
    -- a slot that is stored and was not pruned is not below the old marker, hence not below the new one
    rcases written_slots (sst hash hist) o n with ⟨_, w⟩ | ⟨hr, hw'⟩
    · exact absurd w hne
    · refine Option.some.inj hst ▸ Nat.le_of_not_lt fun h => hr ⟨?_, h⟩
      rcases hw' with ⟨hn, _⟩ | ⟨_, w⟩
      · cases hstart : (sst hash hist).start with
        | none => exact Nat.le_of_eq hn.symm
        | some f0 => exact hn ▸ ha hist o [] rfl f0 hstart
      · rw [w] at hne
        cases hstart : (sst hash hist).start with
        | none => exact absurd ((inv_all hash hist).empty hstart n) hne
        | some f0 => exact ih ha' n f0 hne hstart

/-- a check of an older slot, still within the capacity, is stored below the start marker (by evaluation: no
    signer is ever compared, both slots are empty when they are checked) -/
theorem sst_below_start (hash : H → Hh) (h : H) (s : S) :
    (sst hash [⟨10, 10, h, s⟩, ⟨10, 5, h, s⟩]).start = some 10 ∧
    (sst hash [⟨10, 10, h, s⟩, ⟨10, 5, h, s⟩]).slots 5 = [(h, s)] := ⟨rfl, rfl⟩

end

/-- without `AboveStart`, `spec_start_le_stored` fails -/
theorem spec_start_le_stored_counterexample :
    let hist : List (Op Nat Nat) := [⟨10, 10, 0, 0⟩, ⟨10, 5, 0, 0⟩]
    (sst (fun x : Nat => x) hist).start = some 10 ∧ (sst (fun x : Nat => x) hist).slots 5 ≠ [] :=
  have h := sst_below_start (fun x : Nat => x) 0 0
  ⟨h.1, h.2 ▸ List.cons_ne_nil _ _⟩

end Gossamer.C27
