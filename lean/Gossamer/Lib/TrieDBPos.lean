/-
C06: positions of the committed trie `T0` (a node by its path, a hashed value by its key),
the database row of a position, and the positions a handle tree still refers to (`Needs`,
over-approximated for `persisted` handles by everything at or below their path).
-/
import Gossamer.Lib.TrieDBAbs
namespace Gossamer.C06
open Gossamer Gossamer.Trie

inductive Pos where
  | node (p : Nibs)
  | val (k : Nibs)
deriving DecidableEq

/-- the database key of the row of a position of `T0` -/
def rowOf (ver : Ver) (H : Bytes → Bytes) (T0 : Trie) : Pos → Bytes
  | .node p => rowKey p (H (encodeNode ver H (subAt T0 p)))
  | .val k => rowKey k (H ((lookup T0 k).getD []))

/-- what the row of a position of `T0` holds -/
def contentOf (ver : Ver) (H : Bytes → Bytes) (T0 : Trie) : Pos → Bytes
  | .node p => encodeNode ver H (subAt T0 p)
  | .val k => (lookup T0 k).getD []

theorem rowOf_eq (ver : Ver) (H : Bytes → Bytes) (T0 : Trie) (pos : Pos) :
    ∃ q, rowOf ver H T0 pos = rowKey q (H (contentOf ver H T0 pos)) := by
  cases pos with
  | node p => exact ⟨p, rfl⟩
  | val k => exact ⟨k, rfl⟩

/-- the position has a row: a node that is referenced by hash (the root, or an encoding of at least
    32 bytes), a value that is stored by hash -/
def ValidPos (ver : Ver) (H : Bytes → Bytes) (T0 : Trie) : Pos → Prop
  | .node p => subAt T0 p ≠ nil ∧ (p ≠ [] → 32 ≤ (encodeNode ver H (subAt T0 p)).length)
  | .val k => ∃ v, lookup T0 k = some v ∧ mustBeHashed ver v = true

theorem validPos_of_hashAt {ver : Ver} {H : Bytes → Bytes} {T0 : Trie} {pre : Nibs} {h : Bytes}
    (hh : HashAt ver H T0 pre h) : ValidPos ver H T0 (.node pre) := ⟨hh.1, hh.2.2⟩

theorem mustBeHashed_size {ver : Ver} {x : Bytes} (h : mustBeHashed ver x = true) : 32 < x.length := by
  cases ver <;> simp [mustBeHashed] at h
  exact h

theorem content_size (ver : Ver) (H : Bytes → Bytes) (hlen : ∀ x, (H x).length = 32) (T0 : Trie)
    (pos : Pos) (hv : ValidPos ver H T0 pos) : 2 ≤ (contentOf ver H T0 pos).length := by
  cases pos with
  | node p => exact encodeNode_length ver H hlen _ hv.1
  | val k =>
    obtain ⟨v, hl, hm⟩ := hv
    simp only [contentOf, hl, Option.getD_some]
    exact Nat.le_trans (by decide) (Nat.le_of_lt (mustBeHashed_size hm))

theorem content_dom {ver : Ver} {H : Bytes → Bytes} {Dom : Bytes → Prop} {T0 : Trie}
    (hcov : Covers ver H Dom T0) (pos : Pos) (hv : ValidPos ver H T0 pos) :
    Dom (contentOf ver H T0 pos) := by
  cases pos with
  | node p => exact hcov.1 _ (nodeOf_subAt T0 p hv.1)
  | val k =>
    obtain ⟨v, hl, hm⟩ := hv
    simp only [contentOf, hl, Option.getD_some]
    exact hcov.2 k v hl hm

theorem validPos_nil {ver : Ver} {H : Bytes → Bytes} {pos : Pos} : ¬ ValidPos ver H nil pos := by
  cases pos with
  | node p => exact fun h => h.1 (subAt_nil p)
  | val k => intro ⟨v, h, _⟩; simp at h

def Below (pre : Nibs) : Pos → Prop
  | .node p => pre <+: p
  | .val k => pre <+: k

theorem prefix_child (pre pk : Nibs) (i : Nib) : pre <+: pre ++ pk ++ [i] := by
  rw [List.append_assoc]; exact List.prefix_append _ _

theorem below_child {pre pk : Nibs} {i : Nib} {pos : Pos} (h : Below (pre ++ pk ++ [i]) pos) : Below pre pos := by
  cases pos <;> exact List.IsPrefix.trans (prefix_child pre pk i) h

theorem below_disjoint {a : Nibs} {i j : Nib} {pos : Pos} (h1 : Below (a ++ [i]) pos)
    (h2 : Below (a ++ [j]) pos) : i = j := by
  have key : ∀ p : Nibs, a ++ [i] <+: p → a ++ [j] <+: p → i = j := by
    intro p ⟨r1, hr1⟩ ⟨r2, hr2⟩
    rw [← hr2, List.append_assoc, List.append_assoc] at hr1
    have := List.append_cancel_left hr1
    simp at this
    exact this.1
  cases pos with
  | node p => exact key p h1 h2
  | val k => exact key k h1 h2

def DVal.isRef : DVal → Bool
  | .ref _ => true
  | _ => false

def optIsRef : Option DVal → Bool
  | some dv => dv.isRef
  | none => false

/-- the positions of `T0` whose rows the handle tree at path `pre` may still read (for a persisted
    or cached node: everything at or below its path) -/
def Needs : Hd → Nibs → Pos → Prop
  | .none, _, _ => False
  | .persisted _, pre, pos => Below pre pos
  | .empty _, _, _ => False
  | .leaf c pk dv, pre, pos =>
    (c.isSome = true ∧ Below pre pos) ∨ (dv.isRef = true ∧ pos = .val (pre ++ pk))
  | .branch c pk dvo cs, pre, pos =>
    (c.isSome = true ∧ Below pre pos) ∨ (optIsRef dvo = true ∧ pos = .val (pre ++ pk)) ∨
      ∃ i, Needs (cs i) (pre ++ pk ++ [i]) pos

theorem needs_below (hd : Hd) : ∀ pre pos, Needs hd pre pos → Below pre pos := by
  induction hd with
  | none => intro _ _ h; exact h.elim
  | persisted h => intro _ _ h; exact h
  | empty c => intro _ _ h; exact h.elim
  | leaf c pk dv =>
    intro pre pos h
    rcases h with ⟨_, h⟩ | ⟨_, rfl⟩
    · exact h
    · exact List.prefix_append _ _
  | branch c pk dvo cs ih =>
    intro pre pos h
    rcases h with ⟨_, h⟩ | ⟨_, rfl⟩ | ⟨i, hi⟩
    · exact h
    · exact List.prefix_append _ _
    · exact below_child (ih i _ _ hi)

theorem below_child_ne_node {pre pk : Nibs} {i : Nib} {pos : Pos}
    (h : Below (pre ++ pk ++ [i]) pos) : pos ≠ .node pre := by
  intro e; subst e
  obtain ⟨r, hr⟩ := h
  have := congrArg List.length hr
  simp at this

theorem below_child_ne_val {pre pk : Nibs} {i : Nib} {pos : Pos}
    (h : Below (pre ++ pk ++ [i]) pos) : pos ≠ .val (pre ++ pk) := by
  intro e; subst e
  obtain ⟨r, hr⟩ := h
  have := congrArg List.length hr
  simp at this

theorem newValue_notRef (ver : Ver) (v : Bytes) : (newValue ver v).isRef = false := by
  rw [newValue_eq]; split <;> rfl

theorem ok_old {ver : Ver} {H : Bytes → Bytes} {T0 : Trie} {c : Hd} {q : Nibs} (hok : Ok ver H T0 c q)
    (hn : c.isNone = false) (hnew : ¬ (c.isMem = true ∧ c.cached = none)) :
    ∃ h, HashAt ver H T0 q h ∧ abs T0 c q = subAt T0 q ∧
      (c = .persisted h ∨ (c.isMem = true ∧ c.cached = some h)) ∧
      ∀ pos, Below q pos → Needs c q pos := by
  cases c with
  | none => cases hn
  | empty cc => exact hok.elim
  | persisted h => exact ⟨h, hok, rfl, Or.inl rfl, fun _ hb => hb⟩
  | leaf cc pk dv =>
    cases cc with
    | none => exact absurd ⟨rfl, rfl⟩ hnew
    | some h => exact ⟨h, (hok.2 h rfl).1, (hok.2 h rfl).2.1, Or.inr ⟨rfl, rfl⟩, fun _ hb => Or.inl ⟨rfl, hb⟩⟩
  | branch cc pk dvo cs =>
    cases cc with
    | none => exact absurd ⟨rfl, rfl⟩ hnew
    | some h => exact ⟨h, (hok.2.2 h rfl).1, (hok.2.2 h rfl).2.1, Or.inr ⟨rfl, rfl⟩, fun _ hb => Or.inl ⟨rfl, hb⟩⟩

theorem ofTrie_needs (ver : Ver) (t : Trie) : ∀ pre pos, ¬ Needs (ofTrie ver t) pre pos := by
  induction t with
  | nil => intro _ _ h; exact h
  | leaf pk v =>
    intro pre pos h
    simp only [ofTrie, Needs, newValue_notRef] at h
    rcases h with ⟨h, _⟩ | ⟨h, _⟩ <;> cases h
  | branch pk v cs ih =>
    intro pre pos h
    simp only [ofTrie, Needs] at h
    rcases h with ⟨h, _⟩ | ⟨h, _⟩ | ⟨i, hi⟩
    · cases h
    · cases v with
      | none => cases h
      | some x => rw [Option.map_some, optIsRef, newValue_notRef] at h; cases h
    · exact ih i _ _ hi

end Gossamer.C06
