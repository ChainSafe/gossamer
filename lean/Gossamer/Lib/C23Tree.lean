import Gossamer.Model.C23
import Gossamer.Lib.UpChain
namespace Gossamer.C23

/-- the parent of block `i+1` is one of `0..i` -/
def Tree.WF (t : Tree) : Prop := ∀ i (h : i < t.parents.length), t.parents[i] ≤ i

instance (t : Tree) : Decidable t.WF := by unfold Tree.WF; exact inferInstance

/-- also for `b = 0`, whose "parent" is read at index 0 like that of block 1 -/
theorem par_le {t : Tree} (wf : t.WF) (b : Nat) : par t b ≤ b - 1 := by
  unfold par
  rw [List.getD_eq_getElem?_getD]
  by_cases h : b - 1 < t.parents.length
  · rw [List.getElem?_eq_getElem h]; exact wf _ h
  · rw [List.getElem?_eq_none (Nat.le_of_not_lt h)]; exact Nat.zero_le _

theorem Tree.upChain {t : Tree} (wf : t.WF) : Up.Chain (par t) (chain t) :=
  Up.Chain.ofFuel (F := C23.up t) (fun b hb => Nat.lt_of_le_pred hb (par_le wf b)) (fun _ => rfl) (fun _ _ => rfl)

theorem anc_iff (t : Tree) (a d : Nat) : anc t a d = true ↔ a ∈ chain t d := by
  simp [anc]

theorem chain_zero (t : Tree) : chain t 0 = [0] := rfl

theorem chain_succ {t : Tree} (wf : t.WF) {b : Nat} (hb : 0 < b) : chain t b = b :: chain t (par t b) :=
  (Tree.upChain wf).pos b hb

theorem anc_step {t : Tree} (wf : t.WF) {a d : Nat} (hd : 0 < d) :
    anc t a d = true ↔ a = d ∨ anc t a (par t d) = true := by
  rw [anc_iff, anc_iff]; exact (Tree.upChain wf).mem_pos hd

theorem anc_zero_right {t : Tree} {a : Nat} (h : anc t a 0 = true) : a = 0 :=
  List.mem_singleton.1 ((anc_iff t a 0).1 h)

theorem anc_refl {t : Tree} (wf : t.WF) (b : Nat) : anc t b b = true := (anc_iff ..).2 ((Tree.upChain wf).mem_self b)

theorem anc_par {t : Tree} (wf : t.WF) {b : Nat} (hb : 0 < b) : anc t (par t b) b = true :=
  (anc_iff ..).2 ((Tree.upChain wf).parent_mem hb)

theorem anc_antisymm {t : Tree} (wf : t.WF) {a b : Nat} (h1 : anc t a b = true) (h2 : anc t b a = true) : a = b :=
  (Tree.upChain wf).antisymm ((anc_iff ..).1 h1) ((anc_iff ..).1 h2)

theorem anc_genesis {t : Tree} (wf : t.WF) : ∀ (d : Nat), anc t 0 d = true :=
  fun d => (anc_iff ..).2 ((Tree.upChain wf).zero_mem d)

theorem anc_trans {t : Tree} (wf : t.WF) {a b c : Nat} (hab : anc t a b = true) (hbc : anc t b c = true) :
    anc t a c = true :=
  (anc_iff ..).2 ((Tree.upChain wf).trans ((anc_iff ..).1 hab) ((anc_iff ..).1 hbc))

theorem anc_linear {t : Tree} (wf : t.WF) {a b c : Nat} (ha : anc t a c = true) (hb : anc t b c = true) :
    anc t a b = true ∨ anc t b a = true :=
  ((Tree.upChain wf).comparable ((anc_iff ..).1 ha) ((anc_iff ..).1 hb)).imp (anc_iff ..).2 (anc_iff ..).2

theorem anc_par_of_ne {t : Tree} (wf : t.WF) {a d : Nat} (h : anc t a d = true) (hne : a ≠ d) :
    anc t a (par t d) = true :=
  ((anc_step wf (Nat.pos_of_ne_zero fun h0 => hne (by subst h0; exact anc_zero_right h))).1 h).resolve_left hne

theorem num_zero (t : Tree) : num t 0 = 0 := rfl

-- `num t b` and `Up.depth (chain t) b` are both `(chain t b).length - 1`, so the `depth_*` lemmas apply as they are
theorem num_succ {t : Tree} (wf : t.WF) {b : Nat} (hb : 0 < b) : num t b = num t (par t b) + 1 :=
  (Tree.upChain wf).depth_pos hb

theorem num_lt_of_anc_ne {t : Tree} (wf : t.WF) {a d : Nat} (h : anc t a d = true) (hne : a ≠ d) :
    num t a < num t d := (Tree.upChain wf).depth_lt ((anc_iff ..).1 h) hne

theorem anc_num_eq {t : Tree} (wf : t.WF) {a d : Nat} (h : anc t a d = true) (hn : num t d ≤ num t a) : a = d :=
  Classical.byContradiction fun hne => Nat.not_lt.2 hn (num_lt_of_anc_ne wf h hne)

end Gossamer.C23
