/-
C08: every diff of every reachable `TrieState` (any backend, any operations) keeps its maps
strictly sorted — hence with distinct keys, the hypothesis of the order-independence theorem.
-/
import Gossamer.Lib.C08Rollback
import Gossamer.Lib.C08MapLemmas
namespace Gossamer.C08
open Gossamer

-- the two Go maps of a change set; the slice `sortedKeys` is not spoken of here (that it lists the keys of
-- `upserts` is `CDiff.Ok.sk` in Lib/C08Level, shown on the fragment over the ideal backend only)
structure CDiff.SortedC (c : CDiff) : Prop where
  ups : KMap.Sorted c.upserts
  dels : KSet.Sorted c.deletes

structure Diff.SortedD (d : Diff) : Prop where
  c : d.c.SortedC
  kids : KMap.Sorted d.kids
  kid : ∀ e ∈ d.kids, e.2.SortedC

theorem CDiff.sorted_empty : CDiff.empty.SortedC := ⟨trivial, trivial⟩

theorem CDiff.sorted_upsert {c : CDiff} (h : c.SortedC) (k v : Bytes) : (c.upsert k v).SortedC :=
  ⟨KMap.sorted_ins _ _ h.ups, KSet.sorted_del _ h.dels⟩

theorem CDiff.sorted_delete {c : CDiff} (h : c.SortedC) (k : Bytes) : (c.delete k).SortedC :=
  ⟨KMap.sorted_del _ h.ups, KSet.sorted_ins _ h.dels⟩

theorem Diff.sorted_empty : Diff.empty.SortedD :=
  ⟨CDiff.sorted_empty, trivial, fun _ h => by simp [Diff.empty] at h⟩

theorem Diff.sorted_kid {d : Diff} (h : d.SortedD) (ck : Bytes) : (d.kid ck).SortedC := by
  unfold Diff.kid
  cases hf : KMap.find ck d.kids with
  | none => exact CDiff.sorted_empty
  | some c => exact h.kid (ck, c) (KMap.find_some_mem hf)

theorem Diff.sorted_insKid {d : Diff} (h : d.SortedD) (ck : Bytes) {c : CDiff} (hc : c.SortedC) :
    ({ d with kids := KMap.ins ck c d.kids } : Diff).SortedD := by
  refine ⟨h.c, KMap.sorted_ins _ _ h.kids, ?_⟩
  intro e he
  rcases KMap.mem_ins he with he | he
  · subst he; exact hc
  · exact h.kid e he

theorem Diff.sorted_upsert {d : Diff} (h : d.SortedD) (k v : Bytes) : (d.upsert k v).SortedD :=
  ⟨CDiff.sorted_upsert h.c k v, h.kids, h.kid⟩

theorem Diff.sorted_delete {d : Diff} (h : d.SortedD) (k : Bytes) : (d.delete k).SortedD :=
  ⟨CDiff.sorted_delete h.c k, KMap.sorted_del _ h.kids,
    fun e he => h.kid e (List.mem_filter.mp he).1⟩

theorem sorted_fold_deleteD (K : List Bytes) {d : Diff} (h : d.SortedD) :
    (K.foldl Diff.delete d).SortedD :=
  foldl_pres Diff.SortedD Diff.delete (fun _ k h => Diff.sorted_delete h k) K h

theorem limitLoop_pres {σ : Type} (P : σ → Prop) (del : σ → Bytes → σ)
    (hdel : ∀ s k, P s → P (del s k)) (sel : Bytes → Bool) (newKeys : List Bytes) :
    ∀ (ks : List Bytes) (limit : Option Nat) (s : σ) (n : Nat), P s →
      P (limitLoop del sel newKeys ks limit s n).1 := by
  intro ks
  induction ks with
  | nil => intro limit s n h; exact h
  | cons k r ih =>
    intro limit s n h
    simp only [limitLoop]
    split
    · exact h
    · split
      · exact ih _ _ _ (hdel s k h)
      · exact ih _ _ _ h

theorem Diff.Step.sorted {d d' : Diff} (hs : Diff.Step d d') (h : d.SortedD) : d'.SortedD := by
  have hkid := fun ck => Diff.sorted_kid h ck
  have hdel : ∀ (s : CDiff) (k : Bytes), s.SortedC → (s.delete k).SortedC :=
    fun _ k hs => CDiff.sorted_delete hs k
  cases hs with
  | same => exact h
  | upsert k v => exact Diff.sorted_upsert h k v
  | delete k => exact Diff.sorted_delete h k
  | clearPrefix p tk lim =>
    exact limitLoop_pres Diff.SortedD Diff.delete (fun _ k hs => Diff.sorted_delete hs k) _ _ _ _ _ _ h
  | upsertChild ck k v =>
    have h1 := Diff.sorted_insKid h ck (CDiff.sorted_upsert (hkid ck) k v)
    exact ⟨⟨h1.c.ups, KSet.sorted_del _ h1.c.dels⟩, h1.kids, h1.kid⟩
  | deleteFromChild ck k => exact Diff.sorted_insKid h ck (hdel _ k (hkid ck))
  | clearPrefixInChild ck p tk lim =>
    exact Diff.sorted_insKid h ck (limitLoop_pres CDiff.SortedC CDiff.delete hdel _ _ _ _ _ _ (hkid ck))
  | deleteChildLimit ck cur lim =>
    cases lim with
    | none => exact Diff.sorted_delete h ck
    | some n =>
      exact Diff.sorted_insKid h ck
        (limitLoop_pres CDiff.SortedC CDiff.delete hdel _ _ _ _ _ _ (hkid ck))

section
variable {β τ : Type} (B : Backend β τ) (D : Dumper β) (ord : Diff → ApplyOrder)

theorem step_sorted (s : TS β) (op : Op) (h : ∀ d ∈ s.txs, d.SortedD) :
    ∀ d ∈ (stepTS B D ord s op).1.txs, d.SortedD := by
  obtain ⟨base, txs⟩ := s
  cases txs with
  | nil =>
    rcases stepTS_nil B D ord base op with e | e <;> rw [e]
    · exact fun _ hd => nomatch hd
    · exact fun d hd => List.mem_singleton.mp hd ▸ Diff.sorted_empty
  | cons t r =>
    obtain ⟨ht, hr⟩ := List.forall_mem_cons.mp h
    cases hop : isTx op with
    | false =>
      obtain ⟨t', hs, he⟩ := stepTS_tx B D ord base t r op hop
      rw [he]
      exact List.forall_mem_cons.mpr ⟨hs.sorted ht, hr⟩
    | true =>
      cases op <;> try exact absurd hop Bool.false_ne_true
      case start => exact List.forall_mem_cons.mpr ⟨ht, h⟩
      case commit =>
        cases r with
        | nil =>
          simp only [stepTS, commitTS]
          split <;> (intro d hd; simp at hd)
        | cons u r' => exact List.forall_mem_cons.mpr ⟨ht, (List.forall_mem_cons.mp hr).2⟩
      case rollback => exact hr

theorem run_sorted (ops : List Op) (s : TS β) (h : ∀ d ∈ s.txs, d.SortedD) :
    ∀ d ∈ (runTS B D ord s ops).1.txs, d.SortedD := by
  induction ops generalizing s with
  | nil => exact h
  | cons op r ih => exact ih _ (step_sorted B D ord s op h)

end

end Gossamer.C08
