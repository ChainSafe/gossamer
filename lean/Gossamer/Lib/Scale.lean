/-
The shared SCALE development: a universe of types and values (Scale/Basic), canonical compact integers
(Scale/Compact), a structural codec generic in its primitive layer (Scale/Codec) and its canonical
instance `Spec.codec`, the independent reference encoder / decoder (Scale/Spec).  Scale/GoUint holds the
acceptance test of Go's `decodeUint`, shared with the trie codec (C07).

Import order of the subject: Base/Bytes → Lib/Scale/* → Model/C11 → Model/C12 → Lib/C11Encode →
Lib/C11Decode → Lib/C12Walk; Props/C11 stands on Lib/C11Decode (and Model/C12, for `hasOptVdt`),
Props/C12 on Lib/C12Walk; Lib/ScaleText and Lib/ScaleMap, the drivers' text layer, on the two models.  The Go implementation (pkg/scale) is modelled in Model/C11
(`C11.codec`: the Go primitives as an instance of the generic codec) and Model/C12 (`C12.decodeA`:
result + largest read buffer + zero-fill flag).
-/
import Gossamer.Lib.Scale.Basic
import Gossamer.Lib.Scale.Compact
import Gossamer.Lib.Scale.GoUint
import Gossamer.Lib.Scale.Codec
import Gossamer.Lib.Scale.Spec
