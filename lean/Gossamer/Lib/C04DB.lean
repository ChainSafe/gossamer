/-
C04: the database of the model, an association list.  Writes only prepend (`dbPut`), so membership (`Mem`) is
monotone and is what the write side reasons with; reads (`dbGet`) take the first entry of a key.  The two agree
when no key holds two values (`NoColl`); a database whose keys end in the hash of their value (`DBOK`, kept by
`WriteDirty`) has that property or exhibits a hash collision.
-/
import Gossamer.Lib.TrieHeap
namespace Gossamer
namespace TrieHeap
open Trie TrieCodec

def Mem (db : DB) (k v : Bytes) : Prop := (k, v) ∈ db

theorem mem_dbPut (db : DB) (k v k' v' : Bytes) (h : Mem db k' v') : Mem (dbPut db k v) k' v' :=
  List.mem_cons_of_mem _ h

theorem mem_dbPut_self (db : DB) (k v : Bytes) : Mem (dbPut db k v) k v := List.mem_cons_self

def DBOK (H : Bytes → Bytes) (db : DB) : Prop := ∀ k v, Mem db k v → ∃ pk, k = pk ++ H v

def NoColl (db : DB) : Prop := ∀ k v v', Mem db k v → Mem db k v' → v = v'

def Collision (H : Bytes → Bytes) (db : DB) : Prop :=
  ∃ k v v', Mem db k v ∧ Mem db k v' ∧ v ≠ v' ∧ H v = H v'

theorem noColl_or_collision (H : Bytes → Bytes) (hH : ∀ m, (H m).length = 32) (db : DB) (hok : DBOK H db) :
    NoColl db ∨ Collision H db := by
  by_cases h : ∃ k v v', Mem db k v ∧ Mem db k v' ∧ v ≠ v'
  · right
    obtain ⟨k, v, v', h1, h2, hne⟩ := h
    obtain ⟨pk, e1⟩ := hok k v h1
    obtain ⟨pk', e2⟩ := hok k v' h2
    exact ⟨k, v, v', h1, h2, hne, (List.append_inj' (e1.symm.trans e2) ((hH v).trans (hH v').symm)).2⟩
  · exact Or.inl (fun k v v' h1 h2 => Classical.byContradiction (fun hne => h ⟨k, v, v', h1, h2, hne⟩))

theorem dbGet_of_mem {db : DB} (hn : NoColl db) {k v : Bytes} (h : Mem db k v) : dbGet db k = some v := by
  unfold dbGet
  cases hf : db.find? (fun e => e.1 == k) with
  | none =>
    have := List.find?_eq_none.mp hf (k, v) h
    simp at this
  | some e =>
    obtain rfl : e.1 = k := eq_of_beq (List.find?_some (p := fun e : Bytes × Bytes => e.1 == k) hf)
    exact congrArg some (hn e.1 e.2 v (List.mem_of_find?_eq_some hf) h)

theorem dbok_put {H : Bytes → Bytes} {db : DB} (h : DBOK H db) (k v : Bytes) (hk : ∃ pk, k = pk ++ H v) :
    DBOK H (dbPut db k v) := by
  intro k' v' hm
  rcases List.mem_cons.mp hm with e | hm
  · cases e; exact hk
  · exact h k' v' hm

end TrieHeap
end Gossamer
