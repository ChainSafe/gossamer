/-
C04, write side: `writeDirtyNode` on a represented, cache-coherent sub-trie stores it (`wd_main`).
The database stays content-addressed (`DBOK`), so membership (`Mem`) and `dbGet` agree short of a hash
collision.
-/
import Gossamer.Lib.C04Write
namespace Gossamer
namespace TrieHeap
open Trie TrieCodec

theorem wd_fold (c : Ctx) (ks : Nib → Option Nat) (cs : Nib → Trie) (kn : Nib → Node)
    (dk : Nat) (rec : Heap × DB → Option Nat → Heap × DB) (sA : Heap × DB)
    (hkid : ∀ i x, ks i = some x → WSub c sA false (cs i) (kn i) x) (hdk : ∀ i, depth (cs i) ≤ dk)
    (hrec : ∀ i x (s : Heap × DB), ks i = some x → WSub c s false (cs i) (kn i) x →
      WD c s (rec s (some x)) ∧ Touch s.1 (rec s (some x)).1 (depth (cs i)) ∧
        ((rec s (some x)).1.get x).dirty = false)
    (hnone : ∀ s, rec s none = s) :
    WD c sA (wdKids rec ks sA) ∧ Touch sA.1 (wdKids rec ks sA).1 dk ∧
      ∀ i x, ks i = some x → ((wdKids rec ks sA).1.get x).dirty = false := by
  rw [wdKids_eq]
  -- along the loop: its effect so far, and the children met are clean
  have key := foldl_inv (fun s i => rec s (ks i))
    (fun pre sj => WD c sA sj ∧ Touch sA.1 sj.1 dk ∧ ∀ i ∈ pre, ∀ x, ks i = some x → (sj.1.get x).dirty = false)
    (fun _ => True) ?step (List.finRange 16) [] sA (fun _ _ => trivial)
    ⟨WD.refl _ _, Touch.refl _ _, fun _ hi => (nomatch hi)⟩
  · obtain ⟨h1, h2, h4⟩ := key
    exact ⟨h1, h2, fun i x hk => h4 i (List.mem_finRange i) x hk⟩
  case step =>
    rintro pre sj j - ⟨w, tc, hcl⟩
    cases hkj : ks j with
    | none =>
      rw [hnone]
      refine ⟨w, tc, fun i hi x hkx => ?_⟩
      rcases List.mem_append.mp hi with hi | hi
      · exact hcl i hi x hkx
      · cases List.mem_singleton.mp hi; rw [hkj] at hkx; cases hkx
    | some y =>
      -- the child in slot `j` is written; it sees the effect of the earlier ones through `WSub.wd`
      obtain ⟨r1, r2, r3⟩ := hrec j y sj hkj ((hkid j y hkj).wd w)
      refine ⟨w.trans r1, Touch.trans w.cache tc (r2.mono (hdk j)), fun i hi x hkx => ?_⟩
      rcases List.mem_append.mp hi with hi | hi
      · exact r1.clean_stays (hcl i hi x hkx)
      · cases List.mem_singleton.mp hi; rw [hkj] at hkx; cases hkx; exact r3

/-- Two fuel bounds: `depth t ≤ f` for this recursion, `depth t ≤ bigFuel + 1` for the hashing it calls
    (`encodeAndHash` hashes the children with fuel `bigFuel`).  `writeDirty` runs with `bigFuel` (hence
    `depth T ≤ bigFuel` in `writeDirty_coh` and in `Line`); `ensureMV` of the mutators runs `calcMV` with
    `bigFuel + 1` (hence `Sub.fuel`). -/
theorem wd_main (c : Ctx) (hH : ∀ m, (c.H m).length = 32) :
    ∀ (f : Nat) (t : Trie) (N : Node) (a : Nat) (s : Heap × DB) (r : Bool), WSub c s r t N a →
      depth t ≤ f → depth t ≤ bigFuel + 1 →
      WD c s (writeDirtyF c f s (some a)) ∧ Touch s.1 (writeDirtyF c f s (some a)).1 (depth t) ∧
      ((writeDirtyF c f s (some a)).1.get a).dirty = false
  | 0, t, _, _, _, _, ws, hf, _ => absurd (depth_pos ws.rep.ne_nil) (by omega)
  | f + 1, t, N, a, s, r, ws, hf, hbig => by
    have ih := wd_main c hH f
    obtain ⟨h, hc, hr, hab⟩ := id ws
    unfold writeDirtyF
    dsimp only
    by_cases hdirty : (!(s.1.get a).dirty) = true
    · rw [if_pos hdirty]
      exact ⟨WD.refl _ _, Touch.refl _ _, by simpa using hdirty⟩
    rw [if_neg hdirty]
    have hd : (s.1.get a).dirty = true := by simpa using hdirty
    have hlt : a < s.1.size := dirty_lt hd
    obtain ⟨hp1, hdt, he⟩ := encodeAndHash_pure c.H (Mem s.2) (c.troot == some a) h hc hbig
    rw [he]
    dsimp only
    have hlt1 : a < hp1.size := by rw [hdt.frame.size]; exact hlt
    have hdtA := hdt.modify_mv hd h (some (mvOf c.H (c.troot == some a) N))
    have hmvA : ((hp1.modify a (fun x => { x with mv := some (mvOf c.H (c.troot == some a) N) })).get a).mv =
        some (mvOf c.H (c.troot == some a) N) := by rw [Heap.get_modify_self _ hlt1]
    generalize hdb1 : (if (s.1.get a).mbh = true then
      dbPut s.2 (nibBytes (s.1.get a).pk ++ c.H ((s.1.get a).val.getD [])) ((s.1.get a).val.getD [])
      else s.2) = db1
    have hmono1 : ∀ k w, Mem s.2 k w → Mem db1 k w := by
      subst hdb1
      split
      · exact fun k w hkw => mem_dbPut _ _ _ _ _ hkw
      · exact fun _ _ hkw => hkw
    have hput1 : (s.1.get a).mbh = true → ∀ x, (s.1.get a).val = some x →
        Mem db1 (nibBytes (s.1.get a).pk ++ c.H x) x := by
      intro hm x hx
      subst hdb1
      rw [if_pos hm, hx]
      exact mem_dbPut_self _ _ _
    have hwA := (WD.of_dframe (c := c) s.2 hdtA.frame).trans (WD.db_grow _ hmono1)
    by_cases hlen : (mvOf c.H (c.troot == some a) N).length < 32
    · -- a short encoding travels inside its parent: nothing of it needs to be stored
      rw [if_pos hlen]
      obtain ⟨hnr, hsmall⟩ := mvOf_small hH hlen
      exact wd_clean_step hwA hdtA.touch hmvA hd h (sto_of_small c.H hH _ t N a h hsmall)
        (fun hcnd => by
          rcases hcnd with h1 | h1
          · rw [hnr] at h1; cases h1
          · omega)
    rw [if_neg hlen]
    have hwB := hwA.trans (WD.db_grow (c := c) _
      (fun k w hkw => mem_dbPut db1 (mvOf c.H (c.troot == some a) N) (encode c.H N) k w hkw))
    have hrootmem : Mem (dbPut db1 (mvOf c.H (c.troot == some a) N) (encode c.H N)) (c.H (encode c.H N))
        (encode c.H N) := by
      rw [← mv_large hlen]; exact mem_dbPut_self _ _ _
    cases t with
    | nil => exact h.elim
    | leaf pk v =>
      obtain ⟨hbr, hpk, hval, _, hN⟩ := id h
      subst hN
      rw [if_pos (by rw [hbr]; rfl)]
      refine wd_clean_step hwB hdtA.touch hmvA hd h ?_ (fun _ => hrootmem)
      exact ⟨nibBytes pk, (s.1.get a).mbh, rfl, nibBytes_toNib pk,
        fun hmb => mem_dbPut _ _ _ _ _ (hpk ▸ hput1 hmb v hval)⟩
    | branch pk v cs =>
      obtain ⟨hbr, hpk, hval, kn, hN, hkids⟩ := id h
      subst hN
      rw [if_neg (by rw [hbr]; simp)]
      have hkfacts : ∀ i x, (s.1.get a).kids i = some x → WSub c s false (cs i) (kn i) x := by
        intro i x hk
        have hki := hkids i
        rw [hk] at hki
        exact ws.kid hk hki.2
      have hdk : ∀ i, depth (cs i) ≤ depth (.branch pk v cs) - 1 := fun i => by
        have := depth_kid pk v cs i; omega
      obtain ⟨f1, f2, f3⟩ := wd_fold c (s.1.get a).kids cs kn (depth (.branch pk v cs) - 1)
        (writeDirtyF c f) _
        (fun i x hk => (hkfacts i x hk).wd hwB) hdk
        (fun i x sj _ w => by
          have := hdk i
          exact ih (cs i) (kn i) x sj false w (by omega) (by omega))
        (fun sj => wdF_none c f sj)
      -- the cell `a` itself was not touched by the loop
      have hun := untouched_of_lower ((hrep_cacheOnly hwB.cache _ _ _).mpr h) f2
        (by have := depth_pos h.ne_nil; omega)
      have hw := hwB.trans f1
      refine wd_clean_step hw (Touch.trans hwB.cache hdtA.touch (f2.mono (Nat.sub_le _ _)))
        (by rw [hun]; exact hmvA) hd h ?_ (fun _ => f1.dbmono _ _ hrootmem)
      refine ⟨nibBytes pk, (s.1.get a).mbh, _, rfl, nibBytes_toNib pk,
        fun hm x hx => f1.dbmono _ _ (mem_dbPut _ _ _ _ _ (hpk ▸ hput1 hm x (hval.trans hx))), fun i => ?_⟩
      rw [← List.getD_eq_getElem?_getD, getD_finRange_map]
      have hki := hkids i
      cases hk : (s.1.get a).kids i with
      | none =>
        rw [hk] at hki
        rw [hki.1, hki.2]
        exact ⟨rfl, fun hne => absurd rfl hne⟩
      | some x =>
        have hcl := ((hkfacts i x hk).wd hw).coh.clean (hkfacts i x hk).rep.ne_nil (f3 i x hk)
        exact ⟨hcl.2.1, fun _ h32 => hcl.2.2 (Or.inr h32)⟩

/-- coherent with the root clean: by `Coh.clean` the store then holds the whole trie and its root encoding -/
theorem writeDirty_coh (H : Bytes → Bytes) (hH : ∀ m, (H m).length = 32) (hp : Heap) (db : DB)
    (t : Handle) (r0 : Nat) (ht : t.root = some r0) (T : Trie) (N : Node) (hr : HRep hp T N r0)
    (hc : Coh H (Mem db) hp true T N r0) (hd : depth T ≤ bigFuel) :
    HRep (writeDirty H hp db t).1 T N r0 ∧
    Coh H (Mem (writeDirty H hp db t).2) (writeDirty H hp db t).1 true T N r0 ∧
    ((writeDirty H hp db t).1.get r0).dirty = false ∧
    (∀ k v, Mem db k v → Mem (writeDirty H hp db t).2 k v) := by
  have ws : WSub (t.ctx H) (hp, db) true T N r0 := ⟨hr, hc, by simp [Handle.ctx, ht], RootAbove.root ht hr⟩
  obtain ⟨w, _, hclean⟩ := wd_main (t.ctx H) hH bigFuel T N r0 (hp, db) true ws hd (by omega)
  unfold writeDirty
  rw [ht]
  exact ⟨(ws.wd w).rep, (ws.wd w).coh, hclean, w.dbmono⟩

theorem writeDirtyF_dbok (c : Ctx) : ∀ (f : Nat) (s : Heap × DB) (x : Option Nat), DBOK c.H s.2 →
    DBOK c.H (writeDirtyF c f s x).2
  | f, s, none, h => by rw [wdF_none]; exact h
  | 0, s, some a, h => h
  | f + 1, s, some a, h => by
    unfold writeDirtyF
    dsimp only
    by_cases hdirty : (!(s.1.get a).dirty) = true
    · rw [if_pos hdirty]; exact h
    rw [if_neg hdirty]
    obtain ⟨_, hspec⟩ := encodeAndHash_spec c.H (c.troot == some a) s.1 a
    generalize encodeAndHash c.H (c.troot == some a) s.1 a = e at hspec ⊢
    obtain ⟨hpe, _ | ⟨enc, m⟩⟩ := e
    · exact h
    obtain ⟨_, hm, _⟩ := hspec
    dsimp only
    generalize hdb1 : (if (s.1.get a).mbh = true then
      dbPut s.2 (nibBytes (s.1.get a).pk ++ c.H ((s.1.get a).val.getD [])) ((s.1.get a).val.getD [])
      else s.2) = db1
    have h1 : DBOK c.H db1 := by
      subst hdb1
      split
      · exact dbok_put h _ _ ⟨_, rfl⟩
      · exact h
    by_cases hlen : m.length < 32
    · rw [if_pos hlen]; exact h1
    rw [if_neg hlen]
    have hme : m = c.H enc := by rw [hm] at hlen ⊢; exact mv_large hlen
    have h2 := dbok_put h1 m enc ⟨[], by rw [hme]; rfl⟩
    by_cases hbr : (!(s.1.get a).isBranch) = true
    · rw [if_pos hbr]; exact h2
    · rw [if_neg hbr]
      exact wdKids_inv (M := fun t => DBOK c.H t.2) _ (fun t x ht => writeDirtyF_dbok c f t x ht) _ _ h2

end TrieHeap
end Gossamer
