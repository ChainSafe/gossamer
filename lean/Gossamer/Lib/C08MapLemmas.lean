/-
C08: `KMap` / `KSet` (key-sorted association lists with arbitrary values, sorted key lists) as instances of
`Lib/AList`, the overlay `ov` of two lookups, and association lists with distinct keys.

Two vocabularies on one type.  `KMap Bytes` and `Entries` are both `List (Bytes × Bytes)`, and `KMap.find / ins / del /
Sorted` (Lib/C08Map, here) are `OMap.get / upsert / erase / Sorted` (Lib/TrieSpec, Lib/OMapLemmas) written a second time;
both sides are fixed definitions.  `OMap` is the ordered map of the trie specification: a committed trie, a level of the
storage specification.  `KMap α` is a Go `map[string]T` for any value type: the change sets of `storageDiff`, the child
maps of `Logical`.  The proofs keep them apart in the same way: a change set is read with `KMap.find`, a committed or
specified map with `OMap.get`, as in `ov (KMap.find x ups) (OMap.get x base)`.  `KMap.del = OMap.erase` by `rfl`; the other
two pairs meet only in `Lib/AList` (`find_eq` / `OMap.get_eq`: both are `List.lookup`; `ins_eq` / `OMap.upsert_eq`: both are
`AList.sins`).  The same for "sorted": `KMap.Sorted`, `KSet.Sorted`, `OMap.Sorted` are the fixed recursive predicates of
the statements; `AList.Sorted` / `AList.Asc` (core's `Pairwise`) are what the laws are proved about, reached by
`sorted_iff` / `OMap.sorted_iff_pairwise`.  `ov a b` is core's `Option.or a b`, a fixed definition of its own here, with
`ov_some` / `ov_none` as its two equations.  Layout: `KMap`, `KSet`, the keys of a map (both), `ov`, change sets.
-/
import Gossamer.Lib.C08Map
import Gossamer.Lib.OMapLemmas
namespace Gossamer.C08
open Gossamer

namespace KMap
variable {α : Type}

def Sorted : KMap α → Prop
  | [] => True
  | e :: r => (∀ e' ∈ r, klt e.1 e'.1 = true) ∧ Sorted r

theorem find_lookup : AssocLookup (find (α := α)) := ⟨fun _ => rfl, fun _ _ _ => rfl⟩

theorem find_eq (k : Bytes) (m : KMap α) : find k m = m.lookup k := find_lookup.eq_lookup k m

theorem ins_eq (k : Bytes) (v : α) (m : KMap α) : ins k v m = AList.sins klt k v m := by
  induction m with
  | nil => rfl
  | cons e r ih => rw [ins, AList.sins, ih]

theorem sorted_iff {m : KMap α} : Sorted m ↔ AList.Sorted klt m := by
  induction m with
  | nil => exact ⟨fun _ => .nil, fun _ => trivial⟩
  | cons e r ih => exact (and_congr_right fun _ => ih).trans AList.sorted_cons.symm

theorem find_some_mem {k : Bytes} {v : α} {m : KMap α} (h : find k m = some v) : (k, v) ∈ m :=
  AList.mem_of_lookup (find_eq k m ▸ h)

theorem find_of_mem_sorted {k : Bytes} {v : α} {m : KMap α} (hs : Sorted m) (h : (k, v) ∈ m) :
    find k m = some v :=
  (find_eq k m).trans (AList.lookup_of_mem ((sorted_iff.mp hs).nodupKeys klt_strict) h)

theorem ext {a b : KMap α} (ha : Sorted a) (hb : Sorted b)
    (h : ∀ k, find k a = find k b) : a = b :=
  AList.Sorted.ext klt_strict (sorted_iff.mp ha) (sorted_iff.mp hb) fun k => by
    rw [← find_eq, ← find_eq, h]

theorem find_ins (k : Bytes) (v : α) (m : KMap α) (k' : Bytes) :
    find k' (ins k v m) = if k' = k then some v else find k' m := by
  rw [find_eq, find_eq, ins_eq, AList.lookup_sins]

theorem mem_ins {k : Bytes} {v : α} {m : KMap α} {x : Bytes × α}
    (h : x ∈ ins k v m) : x = (k, v) ∨ x ∈ m :=
  AList.mem_sins (ins_eq k v m ▸ h)

theorem sorted_ins (k : Bytes) (v : α) {m : KMap α} (hs : Sorted m) : Sorted (ins k v m) := by
  rw [ins_eq]
  exact sorted_iff.mpr (AList.sorted_sins klt_strict k v (sorted_iff.mp hs))

theorem find_del (k : Bytes) (m : KMap α) (k' : Bytes) :
    find k' (del k m) = if k' = k then none else find k' m := by
  rw [find_eq, find_eq]
  exact AList.lookup_erase k m k'

theorem sorted_del (k : Bytes) {m : KMap α} (hs : Sorted m) : Sorted (del k m) :=
  sorted_iff.mpr ((sorted_iff.mp hs).filter _)

theorem find_map {β : Type} (f : α → β) (m : KMap α) (k : Bytes) :
    find k (m.map fun e => (e.1, f e.2)) = (find k m).map f := by
  rw [find_eq, find_eq]
  exact AList.lookup_map_val f m k

theorem find_ins_some {k k' : Bytes} {v v' : α} {m : KMap α}
    (h : KMap.find k' (KMap.ins k v m) = some v') : (k' = k ∧ v' = v) ∨ KMap.find k' m = some v' := by
  rw [KMap.find_ins] at h
  split at h
  · rename_i e; cases h; exact Or.inl ⟨e, rfl⟩
  · exact Or.inr h

theorem find_ins_none {k k' : Bytes} {v : α} {m : KMap α} (hne : k' ≠ k)
    (h : KMap.find k' m = none) : KMap.find k' (KMap.ins k v m) = none := by
  rw [KMap.find_ins, if_neg hne, h]

theorem find_del_some {k k' : Bytes} {m : KMap α} {v : α}
    (h : KMap.find k' (KMap.del k m) = some v) : KMap.find k' m = some v := by
  rw [KMap.find_del] at h
  split at h
  · cases h
  · exact h

theorem find_del_none {k k' : Bytes} {m : KMap α} (h : KMap.find k' m = none) :
    KMap.find k' (KMap.del k m) = none := by
  rw [KMap.find_del, h, ite_self]

theorem del_of_find_none {k : Bytes} {m : KMap α} (h : KMap.find k m = none) :
    KMap.del k m = m :=
  AList.filter_of_lookup_none (KMap.find_eq k m ▸ h)

theorem find_perm {l1 l2 : List (Bytes × α)} (h : l1.Perm l2) (hn : AList.NodupKeys l1)
    (k : Bytes) : KMap.find k l1 = KMap.find k l2 := by
  rw [KMap.find_eq, KMap.find_eq]
  exact AList.lookup_perm h hn k

theorem find_none_iff (k : Bytes) (l : List (Bytes × α)) :
    KMap.find k l = none ↔ k ∉ l.map (·.1) := by
  rw [KMap.find_eq]
  exact AList.lookup_eq_none_iff_keys

theorem nodupKeys_of_sorted {m : KMap α} (h : KMap.Sorted m) : AList.NodupKeys m :=
  (KMap.sorted_iff.mp h).nodupKeys klt_strict

theorem sorted_foldl_ins (f : Bytes → α) (l : List (Bytes × Bytes)) {m : KMap α}
    (h : KMap.Sorted m) : KMap.Sorted (l.foldl (fun m e => KMap.ins e.1 (f e.2) m) m) :=
  foldl_pres KMap.Sorted _ (fun _ _ hm => KMap.sorted_ins _ _ hm) l h

theorem find_foldl_del (ds : List Bytes) (m : KMap α) (k : Bytes) :
    KMap.find k (ds.foldl (fun m d => KMap.del d m) m) = if k ∈ ds then none else KMap.find k m :=
  look_foldl_del (fun m k => KMap.find k m) _ none (fun s d x => KMap.find_del d s x) ds m k

theorem sorted_foldl_del (ds : List Bytes) {m : KMap α} (h : KMap.Sorted m) :
    KMap.Sorted (ds.foldl (fun m d => KMap.del d m) m) :=
  foldl_pres KMap.Sorted _ (fun _ d hm => KMap.sorted_del d hm) ds h

end KMap

namespace KSet

def Sorted : KSet → Prop
  | [] => True
  | e :: r => (∀ e' ∈ r, klt e e' = true) ∧ Sorted r

theorem ins_eq (k : Bytes) (s : KSet) : ins k s = AList.kins klt k s := by
  induction s with
  | nil => rfl
  | cons e r ih => rw [ins, AList.kins, ih]

theorem sorted_iff {s : KSet} : Sorted s ↔ AList.Asc klt s := by
  induction s with
  | nil => exact ⟨fun _ => .nil, fun _ => trivial⟩
  | cons e r ih => exact (and_congr_right fun _ => ih).trans AList.asc_cons.symm

theorem has_iff {k : Bytes} {s : KSet} : has k s = true ↔ k ∈ s := by
  simp [has]

theorem mem_ins {k : Bytes} {s : KSet} {k' : Bytes} : k' ∈ ins k s ↔ k' = k ∨ k' ∈ s := by
  rw [ins_eq]
  exact AList.mem_kins k s k'

theorem mem_del {k : Bytes} {s : KSet} {k' : Bytes} : k' ∈ del k s ↔ k' ≠ k ∧ k' ∈ s := by
  simp only [del, List.mem_filter, Bool.not_eq_true', beq_eq_false_iff_ne, ne_eq]
  exact And.comm

theorem has_ins (k : Bytes) (s : KSet) (k' : Bytes) :
    has k' (ins k s) = true ↔ k' = k ∨ has k' s = true := by
  rw [has_iff, has_iff, mem_ins]

theorem has_del (k : Bytes) (s : KSet) (k' : Bytes) :
    has k' (del k s) = true ↔ k' ≠ k ∧ has k' s = true := by
  rw [has_iff, has_iff, mem_del]

theorem nodup_of_sorted {s : KSet} (h : KSet.Sorted s) : s.Nodup :=
  AList.Asc.nodup klt_strict (KSet.sorted_iff.mp h)

theorem del_of_not_mem {k : Bytes} {s : KSet} (h : k ∉ s) : KSet.del k s = s := by
  apply List.filter_eq_self.mpr
  intro x hx
  have : x ≠ k := fun e => h (e ▸ hx)
  simpa using this

theorem sorted_ins (k : Bytes) {s : KSet} (hs : KSet.Sorted s) : KSet.Sorted (KSet.ins k s) := by
  rw [KSet.ins_eq]
  exact KSet.sorted_iff.mpr (AList.asc_kins klt_strict k (KSet.sorted_iff.mp hs))

theorem sorted_sublist {l' l : KSet} (h : l'.Sublist l) (hs : KSet.Sorted l) : KSet.Sorted l' :=
  KSet.sorted_iff.mpr ((KSet.sorted_iff.mp hs).sublist h)

theorem sorted_del (k : Bytes) {s : KSet} (hs : KSet.Sorted s) : KSet.Sorted (KSet.del k s) :=
  KSet.sorted_sublist List.filter_sublist hs

theorem sorted_filter {l : List Bytes} (h : KSet.Sorted l) (q : Bytes → Bool) :
    KSet.Sorted (l.filter q) :=
  KSet.sorted_sublist List.filter_sublist h

theorem ext {a b : List Bytes} (ha : KSet.Sorted a) (hb : KSet.Sorted b)
    (h : ∀ x, x ∈ a ↔ x ∈ b) : a = b :=
  AList.Asc.ext klt_strict (KSet.sorted_iff.mp ha) (KSet.sorted_iff.mp hb) h

end KSet

theorem KMap.keys_ins (k v : Bytes) (m : KMap Bytes) : KMap.keys (KMap.ins k v m) = KSet.ins k (KMap.keys m) := by
  rw [KMap.ins_eq, KSet.ins_eq]
  exact AList.keys_sins k v m

theorem KMap.keys_del (k : Bytes) (m : KMap Bytes) : KMap.keys (KMap.del k m) = KSet.del k (KMap.keys m) :=
  (List.filter_map (f := fun e : Bytes × Bytes => e.1) (p := fun x => !(x == k))).symm

theorem KMap.mem_keys_iff {α : Type} (m : KMap α) (k : Bytes) : k ∈ KMap.keys m ↔ KMap.find k m ≠ none := by
  unfold KMap.keys
  rw [Ne, KMap.find_none_iff]
  simp

theorem KMap.sorted_keys {α : Type} {m : KMap α} (h : KMap.Sorted m) : KSet.Sorted (KMap.keys m) :=
  KSet.sorted_iff.mpr (AList.sorted_iff_keys.mp (KMap.sorted_iff.mp h))

def ov {α : Type} (a b : Option α) : Option α :=
  match a with
  | some x => some x
  | none => b

@[simp] theorem ov_some {α : Type} (x : α) (b : Option α) : ov (some x) b = some x := rfl

@[simp] theorem ov_none {α : Type} (b : Option α) : ov none b = b := rfl

theorem KMap.find_foldl_ins {α : Type} (f : Bytes → α) (l : List (Bytes × Bytes)) (hn : AList.NodupKeys l)
    (m : KMap α) (k : Bytes) :
    KMap.find k (l.foldl (fun m e => KMap.ins e.1 (f e.2) m) m) =
      ov ((KMap.find k l).map f) (KMap.find k m) := by
  rw [look_foldl_ins (fun m k => KMap.find k m) _ (fun a _ => some (f a.2)) KMap.find_lookup
    (fun s a x => KMap.find_ins a.1 (f a.2) s x) l hn m k]
  cases KMap.find k l <;> rfl

/-- "no deleted key has an upsert" (the field `disj` of `Overlay` and of `CDiff.Ok`) is kept by
    `storageDiff.upsert`, which takes the key out of `deletes` … -/
theorem disj_upsert {α : Type} {ups : KMap α} {dels : KSet} (h : ∀ x, x ∈ dels → KMap.find x ups = none)
    (k : Bytes) (v : α) : ∀ x, x ∈ KSet.del k dels → KMap.find x (KMap.ins k v ups) = none := fun x hx => by
  obtain ⟨hne, hm⟩ := KSet.mem_del.mp hx
  exact KMap.find_ins_none hne (h x hm)

/-- … and by `storageDiff.delete`, which takes it out of `upserts` -/
theorem disj_delete {α : Type} {ups : KMap α} {dels : KSet} (h : ∀ x, x ∈ dels → KMap.find x ups = none)
    (k : Bytes) : ∀ x, x ∈ KSet.ins k dels → KMap.find x (KMap.del k ups) = none := fun x hx => by
  rcases KSet.mem_ins.mp hx with e | hm
  · rw [KMap.find_del, if_pos e]
  · exact KMap.find_del_none (h x hm)

end Gossamer.C08
