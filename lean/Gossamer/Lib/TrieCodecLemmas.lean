/-
Lemmas about the pieces of the codecs of `Gossamer.Lib.TrieCodec`: header, partial key, hashed value,
SCALE byte slice and children bitmap each decode from their encoding.  The compact length is the shared
reader `Scale.compactRead` with Go's acceptance test on the zero-padded input (`compactLen_eq`); from
that, its round trip and the fact that the mode of the integer reads cannot be seen through
`decodeBytes` (`scaleBytes2_int_irrelevant`).

The codec layer must not import `Lib/TrieSpec`: inside `namespace Gossamer.C07` the names `scaleBytes`
and `merkleValue` would then resolve to the spec's functions instead of the codec's.  So the byte/nibble
arithmetic of `Lib/Nibble` (which imports `TrieSpec`) is stated here once more, on bytes below 16:
`pack_byte`, `nib_byte` are `Nibble.pack`/`div16`/`mod16`, `keyLEToNibbles_packPairs` is `Nibble.packPairs_nibs`,
`keyLEToNibbles_nibblesToKeyLE` is `Nibble.keyLEToNibbles_nibs` with `nibblesToKeyLE_nibs`.
-/
import Gossamer.Lib.TrieCodec
import Gossamer.Lib.Scale.GoUint
namespace Gossamer.TrieCodec

/-- every header `encode` writes except the empty node's `0x00`; `variantTable` has in addition the
    empty and the compact-encoding variant -/
def nodeVariants : List Variant := [leafV, branchV, branchValV, leafHashedV, branchHashedV]

/-- so at most one variant matches a header byte, and the order in which `decodeHeaderByte` scans the
    table (Go: highest index first) does not matter -/
theorem variantTable_prefix_free : ∀ v ∈ variantTable, ∀ w ∈ variantTable,
    v.bits &&& w.mask = w.bits &&& v.mask → v = w := by decide

theorem decodeHeaderByte_of_match (h : UInt8) (v : Variant) (hv : v ∈ variantTable)
    (hm : h &&& v.mask = v.bits) : decodeHeaderByte h = some (v, h &&& v.pklMask) := by
  unfold decodeHeaderByte
  cases hf : variantTable.reverse.find? (fun v => h &&& v.mask == v.bits) with
  | none =>
    have := List.find?_eq_none.mp hf v (List.mem_reverse.mpr hv)
    simp [hm] at this
  | some w =>
    have hw : h &&& w.mask = w.bits := by simpa using List.find?_some hf
    have : w = v := variantTable_prefix_free w (List.mem_reverse.mp (List.mem_of_find?_eq_some hf)) v hv
      (by rw [← hw, ← hm, UInt8.and_assoc, UInt8.and_assoc, UInt8.and_comm v.mask])
    rw [this]

theorem bits_or_len : ∀ v ∈ nodeVariants, ∀ n, n ≤ v.pklMask.toNat →
    (v.bits ||| UInt8.ofNat n) &&& v.mask = v.bits ∧ (v.bits ||| UInt8.ofNat n) &&& v.pklMask = UInt8.ofNat n := by
  decide

theorem decodeHeaderByte_enc (v : Variant) (hv : v ∈ nodeVariants) (x : UInt8) (hx : x.toNat ≤ v.pklMask.toNat) :
    decodeHeaderByte (v.bits ||| x) = some (v, x) := by
  obtain ⟨h1, h2⟩ := bits_or_len v hv x.toNat hx
  rw [UInt8.ofNat_toNat] at h1 h2
  rw [decodeHeaderByte_of_match _ v (List.mem_append_left _ hv) h1, h2]

theorem pklMask_ne_zero : ∀ v ∈ nodeVariants, (v.pklMask == emptyV.bits) = false := by decide

/-- the `uint16` accumulation of `decodeHeader` does not wrap while the sum fits -/
theorem toNat_add_byte (acc : UInt16) (b : UInt8) (h : acc.toNat + b.toNat ≤ 65535) :
    (acc + b.toUInt16).toNat = acc.toNat + b.toNat ∧ ¬ (acc + b.toUInt16 < acc) := by
  have e : (acc + b.toUInt16).toNat = acc.toNat + b.toNat := by
    rw [UInt16.toNat_add, UInt8.toNat_toUInt16, Nat.mod_eq_of_lt (Nat.lt_succ_of_le h)]
  exact ⟨e, by rw [UInt16.lt_iff_toNat_lt, e]; exact Nat.not_lt.mpr (Nat.le_add_right _ _)⟩

theorem decodeLenRun_lenRun (v : Variant) (r : Bytes) (m : Nat) :
    ∀ acc : UInt16, acc.toNat + m ≤ 65535 →
      decodeLenRun v acc (lenRun m ++ r) = .ok (v, acc.toNat + m, r) := by
  induction m using Nat.strongRecOn with
  | _ m ih =>
    intro acc h
    unfold lenRun
    by_cases hm : m < 255
    · have hb := toNat_ofNat_lt (Nat.lt_trans hm (by decide))
      obtain ⟨h1, h2⟩ := toNat_add_byte acc (UInt8.ofNat m) (by rw [hb]; exact h)
      have h3 : UInt8.ofNat m < 255 := by rw [UInt8.lt_iff_toNat_lt, hb]; exact hm
      simp only [hm, if_true, List.cons_append, List.nil_append, decodeLenRun, h2, h3, h1, hb, if_false]
    · obtain ⟨h1, h2⟩ := toNat_add_byte acc 255 (by show _ + 255 ≤ _; omega)
      have h3 : ¬ ((255 : UInt8) < 255) := by decide
      simp only [hm, if_false, List.cons_append, decodeLenRun, h2, h3]
      rw [ih (m - 255) (by omega) _ (by rw [h1]; show _ + 255 + _ ≤ _; omega), h1]
      show Out.ok (v, acc.toNat + 255 + (m - 255), r) = _
      rw [Nat.add_assoc, Nat.add_sub_cancel' (Nat.le_of_not_lt hm)]

theorem header_roundtrip (v : Variant) (hv : v ∈ nodeVariants) (n : Nat) (hn : n ≤ 65535) (r : Bytes) :
    decodeHeader (encodeHeader v n ++ r) = .ok (v, n, r) := by
  have hm1 := pklMask_ne_zero v hv
  have hm2 : v.pklMask.toNat < 256 := v.pklMask.toNat_lt
  unfold encodeHeader
  by_cases h : n < v.pklMask.toNat
  · simp only [h, if_true, List.cons_append, List.nil_append, decodeHeader]
    have hn' := toNat_ofNat_lt (n := n) (by omega)
    rw [decodeHeaderByte_enc v hv _ (by omega)]
    have : UInt8.ofNat n < v.pklMask := by rw [UInt8.lt_iff_toNat_lt, hn']; exact h
    simp [hm1, this, hn']
  · simp only [h, if_false, List.cons_append, decodeHeader]
    rw [decodeHeaderByte_enc v hv _ (Nat.le_refl _)]
    have h2 : ¬ (v.pklMask < v.pklMask) := by rw [UInt8.lt_iff_toNat_lt]; omega
    simp only [hm1, h2, if_false, Bool.false_eq_true]
    rw [decodeLenRun_lenRun v r _ _ (by simp; omega)]
    simp; omega

theorem decodeHeaderByte_zero : decodeHeaderByte 0 = some (emptyV, 0) := by decide

theorem decodeHeader_zero (t : Bytes) : decodeHeader (0 :: t) = .ok (emptyV, 0, t) := by
  have h : (emptyV.pklMask == emptyV.bits) = true := by decide
  simp [decodeHeader, decodeHeaderByte_zero, h]

theorem pack_toNat (a b : UInt8) (ha : a < 16) (hb : b < 16) :
    (((a <<< 4) &&& 0xf0) ||| (b &&& 0x0f)).toNat = a.toNat * 16 + b.toNat := by
  have ha' : a.toNat < 16 := UInt8.lt_iff_toNat_lt.mp ha
  have hb' : b.toNat < 2 ^ 4 := UInt8.lt_iff_toNat_lt.mp hb
  have hs : a.toNat <<< 4 < 2 ^ 8 := by rw [Nat.shiftLeft_eq]; omega
  show a.toNat <<< 4 % 2 ^ 8 &&& 15 <<< 4 ||| b.toNat &&& 2 ^ 4 - 1 = _
  rw [Nat.mod_eq_of_lt hs, ← Nat.shiftLeft_and_distrib, Nat.and_two_pow_sub_one_eq_mod b.toNat 4,
    Nat.and_two_pow_sub_one_eq_mod a.toNat 4, Nat.mod_eq_of_lt ha', Nat.mod_eq_of_lt hb',
    ← Nat.shiftLeft_add_eq_or_of_lt hb', Nat.shiftLeft_eq]

theorem pack_byte (a b : UInt8) (ha : a < 16) (hb : b < 16) :
    (((a <<< 4) &&& 0xf0) ||| (b &&& 0x0f)) / 16 = a ∧ (((a <<< 4) &&& 0xf0) ||| (b &&& 0x0f)) % 16 = b := by
  have h := pack_toNat a b ha hb
  have hb' : b.toNat < 16 := UInt8.lt_iff_toNat_lt.mp hb
  constructor
  · rw [← UInt8.toNat_inj, UInt8.toNat_div, h]; show _ / 16 = _; omega
  · rw [← UInt8.toNat_inj, UInt8.toNat_mod, h]; show _ % 16 = _; omega

theorem nib_byte (a : UInt8) (ha : a < 16) : a / 16 = 0 ∧ a % 16 = a := by
  have ha' : a.toNat < 16 := UInt8.lt_iff_toNat_lt.mp ha
  constructor
  · rw [← UInt8.toNat_inj, UInt8.toNat_div]; exact Nat.div_eq_of_lt ha'
  · rw [← UInt8.toNat_inj, UInt8.toNat_mod]; exact Nat.mod_eq_of_lt ha'

theorem keyLEToNibbles_packPairs : (l : Bytes) → (∀ x ∈ l, x < 16) → l.length % 2 = 0 → keyLEToNibbles (packPairs l) = l
  | [], _, _ => rfl
  | [_], _, h => by simp at h
  | a :: b :: rest, hn, hl => by
    have ha := hn a (by simp)
    have hb := hn b (by simp)
    have ih := keyLEToNibbles_packPairs rest (fun x hx => hn x (by simp [hx])) (by simp at hl; omega)
    obtain ⟨h1, h2⟩ := pack_byte a b ha hb
    simp only [keyLEToNibbles] at ih
    simp [packPairs, keyLEToNibbles, h1, h2, ih]

theorem packPairs_length : (l : Bytes) → (packPairs l).length = l.length / 2
  | [] => rfl
  | [_] => by simp [packPairs]
  | a :: b :: rest => by simp [packPairs, packPairs_length rest]; omega

theorem keyLEToNibbles_length (k : Bytes) : (keyLEToNibbles k).length = 2 * k.length := by
  induction k with
  | nil => rfl
  | cons a t ih => simp [keyLEToNibbles] at ih ⊢; omega

theorem nibblesToKeyLE_length (pk : Bytes) :
    (nibblesToKeyLE pk).length = pk.length / 2 + pk.length % 2 := by
  unfold nibblesToKeyLE
  split
  · rw [packPairs_length]; omega
  · cases pk with
    | nil => simp at *
    | cons a rest => simp [packPairs_length]; omega

/-- an odd first nibble sits alone in the first byte and is read back with a zero in front of it -/
theorem keyLEToNibbles_nibblesToKeyLE (pk : Bytes) (hn : ∀ x ∈ pk, x < 16) :
    keyLEToNibbles (nibblesToKeyLE pk) = List.replicate (pk.length % 2) 0 ++ pk := by
  unfold nibblesToKeyLE
  split
  · rename_i he; rw [keyLEToNibbles_packPairs pk hn he, he]; rfl
  · cases pk with
    | nil => simp at *
    | cons a rest =>
      rename_i ho
      have hr : rest.length % 2 = 0 := by simp at ho; omega
      have ho' : (a :: rest).length % 2 = 1 := by simp; omega
      have hk := keyLEToNibbles_packPairs rest (fun x hx => hn x (by simp [hx])) hr
      obtain ⟨h1, h2⟩ := nib_byte a (hn a (by simp))
      rw [ho']
      simp only [keyLEToNibbles, List.flatMap_cons, h1, h2] at hk ⊢
      simp [hk]

theorem readN_append {n : Nat} (a r : Bytes) (hl : a.length = n) (hn : n ≠ 0) :
    readN n (a ++ r) = some (a, r) := by
  subst hl
  cases a with
  | nil => exact absurd rfl hn
  | cons x xs => simp [readN]

theorem readN_drop {n : Nat} {r got r' : Bytes} (h : readN n r = some (got, r')) : r' = r.drop n := by
  unfold readN at h
  cases r with
  | nil => cases h
  | cons x xs => cases h; rfl

theorem key_roundtrip (pk r : Bytes) (hn : ∀ x ∈ pk, x < 16) :
    decodeKey pk.length (nibblesToKeyLE pk ++ r) = .ok (pk, r) := by
  unfold decodeKey
  by_cases h0 : pk.length = 0
  · have : pk = [] := List.eq_nil_of_length_eq_zero h0
    subst this; simp [nibblesToKeyLE, packPairs]
  · have hl := nibblesToKeyLE_length pk
    simp only [h0, if_false]
    rw [readN_append _ _ hl (by omega)]
    have : pk.length % 2 < 2 := Nat.mod_lt _ (by decide)
    simp [keyLEToNibbles_nibblesToKeyLE pk hn, hl]

theorem decodeHashedValue_append (h r : Bytes) (hl : h.length = 32) :
    decodeHashedValue (h ++ r) = .ok (h, r) := by
  unfold decodeHashedValue
  rw [readN_append (n := hashLength) h r hl (by decide)]; simp [hl, hashLength]

theorem readBuf_append (strict : Bool) {n : Nat} (a r : Bytes) (hl : a.length = n) (hn : n ≠ 0) :
    readBuf strict n (a ++ r) = some (a, r) := by
  subst hl
  cases a with
  | nil => exact absurd rfl hn
  | cons x xs => simp [readBuf]

theorem readBuf_nil (s : Bool) (n : Nat) : readBuf s n [] = none := rfl

open Gossamer.Scale

theorem pad_length (r : Bytes) (n : Nat) : ¬ (r ++ List.replicate (n - r.length) 0).length < n := by
  rw [List.length_append, List.length_replicate]; omega

theorem drop_pad (r : Bytes) (n : Nat) : (r ++ List.replicate (n - r.length) 0).drop n = r.drop n := by
  rw [List.drop_append, List.drop_replicate, Nat.sub_self, List.replicate_zero, List.append_nil]

/-- a short read is an error for `io.ReadFull` (`strict`) and for an exhausted reader -/
theorem readBuf_pad (strict : Bool) {n : Nat} (r : Bytes) (h0 : 0 < n) :
    readBuf strict n r = if r.length < n ∧ (strict = true ∨ r = []) then none
      else some ((r ++ List.replicate (n - r.length) 0).take n, r.drop n) := by
  rw [List.take_append, List.take_replicate, Nat.min_self]
  cases r with
  | nil => exact (if_pos ⟨h0, .inr rfl⟩).symm
  | cons x xs => cases strict <;> simp [readBuf]

/-- the one mode analysis: `compactLen` is the shared reader with Go's acceptance test, on the payload
    zero-padded as a lenient `Read` leaves it -/
theorem compactLen_eq (strict : Bool) (b : UInt8) (rest : Bytes) :
    compactLen strict (b :: rest) =
      if rest.length < compactPayload b ∧ (strict = true ∨ rest = []) then none
      else compactRead C11.goUintOk (b :: (rest ++ List.replicate (compactPayload b - rest.length) 0)) := by
  rw [compactRead, if_neg (pad_length _ _), drop_pad]
  by_cases m0 : b.toNat % 4 = 0
  · simp only [compactLen, compactPayload, compactVal, C11.goUintOk, m0, natOfLE, if_true, Nat.not_lt_zero,
      false_and, if_false, List.take_zero, List.drop_zero, Nat.reduceEqDiff, Nat.mul_zero, Nat.add_zero]
  · by_cases m1 : b.toNat % 4 = 1
    · cases rest with
      | nil => simp [compactLen, compactPayload, m1]
      | cons c rest' =>
        simp only [compactLen, compactPayload, compactVal, C11.goUintOk, m1, natOfLE,
          Nat.reduceEqDiff, if_false, if_true, List.length_cons, Bool.not_eq_true',
          decide_eq_false_iff_not, ite_not]
        simp [natOfLE]
    · by_cases m2 : b.toNat % 4 = 2
      · simp only [compactLen, readBuf_pad strict rest (by decide : 0 < 3),
          compactPayload, compactVal, C11.goUintOk, m2,
          Nat.reduceEqDiff, if_false, if_true, Bool.not_eq_true', decide_eq_false_iff_not, ite_not]
        by_cases hc : rest.length < 3 ∧ (strict = true ∨ rest = [])
        · simp only [if_pos hc]
        · simp only [if_neg hc]
      · have m3 : b.toNat % 4 = 3 := by omega
        simp only [compactLen, readBuf_pad strict rest (by omega : 0 < b.toNat / 4 + 4),
          compactPayload, compactVal, C11.goUintOk, m3, Nat.reduceEqDiff, if_false, if_true]
        by_cases hc : rest.length < b.toNat / 4 + 4 ∧ (strict = true ∨ rest = [])
        · simp only [if_pos hc]
        · simp only [if_neg hc]
          generalize b.toNat / 4 = q
          by_cases q0 : q = 0
          · subst q0
            simp only [Nat.zero_add, ne_eq, not_true, false_and, if_false, if_true, Bool.not_eq_true',
              decide_eq_false_iff_not, ite_not]
          · by_cases q4 : q = 4
            · subst q4
              simp only [Nat.reduceAdd, Nat.reduceEqDiff, ne_eq, not_true, and_false, if_false, if_true,
                Bool.not_eq_true', decide_eq_false_iff_not, ite_not]
            · have : q + 4 ≠ 4 ∧ q + 4 ≠ 8 := by omega
              simp only [if_neg q0, if_neg q4, if_pos this, Bool.false_eq_true, if_false]

theorem compactLen_of_le (strict : Bool) (b : UInt8) (rest : Bytes) (h : compactPayload b ≤ rest.length) :
    compactLen strict (b :: rest) = compactRead C11.goUintOk (b :: rest) := by
  rw [compactLen_eq, if_neg fun hc => Nat.not_lt.2 h hc.1, Nat.sub_eq_zero_of_le h, List.replicate_zero,
    List.append_nil]

theorem compactLen_true (bs : Bytes) : compactLen true bs = compactRead C11.goUintOk bs := by
  cases bs with
  | nil => rfl
  | cons b rest =>
    by_cases h : rest.length < compactPayload b
    · rw [compactLen_eq, if_pos ⟨h, .inl rfl⟩, compactRead, if_pos h]
    · exact compactLen_of_le true b rest (Nat.le_of_not_lt h)

theorem compactLen_some {strict : Bool} {b : UInt8} {rest : Bytes} {v : Nat} {r1 : Bytes}
    (h : compactLen strict (b :: rest) = some (v, r1)) :
    r1 = rest.drop (compactPayload b) ∧ C11.uintOk v = true ∧ compactMin b ≤ v := by
  rw [compactLen_eq] at h
  split at h
  · cases h
  · obtain ⟨b', p, e', hp, hok, rfl⟩ := compactRead_some h
    obtain ⟨rfl, e⟩ := List.cons.inj e'
    rw [C11.goUintOk_eq hp, Bool.and_eq_true, compactCanon, decide_eq_true_eq] at hok
    refine ⟨?_, hok.2, hok.1⟩
    rw [← drop_pad rest (compactPayload b), e, ← hp, List.drop_left]

theorem compactLen_rest {strict : Bool} {r : Bytes} {len : Nat} {r1 : Bytes}
    (h : compactLen strict r = some (len, r1)) : ∃ k, r1 = r.drop (k + 1) := by
  cases r with
  | nil => cases h
  | cons b rest => exact ⟨compactPayload b, (compactLen_some h).1⟩

theorem compactMin_pos {b : UInt8} (h : 0 < compactPayload b) : 0 < compactMin b := by
  have m0 : ¬ b.toNat % 4 = 0 := fun m => by rw [compactPayload, if_pos m] at h; cases h
  rw [compactMin, if_neg m0]
  split
  · decide
  · split
    · decide
    · exact Nat.lt_of_lt_of_le (by decide) (Nat.le_max_left ..)

theorem compactLen_short (strict : Bool) (b : UInt8) (rest : Bytes) (h : rest.length < compactPayload b) :
    compactLen strict (b :: rest) = none ∨ ∃ v, compactLen strict (b :: rest) = some (v, []) ∧ v ≠ 0 := by
  cases hr : compactLen strict (b :: rest) with
  | none => exact .inl rfl
  | some q =>
    obtain ⟨v, r1⟩ := q
    obtain ⟨e, _, hmin⟩ := compactLen_some hr
    rw [List.drop_eq_nil_of_le (Nat.le_of_lt h)] at e
    have := compactMin_pos (Nat.zero_lt_of_lt h)
    exact .inr ⟨v, by rw [e], by omega⟩

theorem compactLen_cases (r : Bytes) :
    compactLen true r = compactLen false r ∨
      (compactLen true r = none ∧
        (compactLen false r = none ∨ ∃ len, compactLen false r = some (len, []) ∧ len ≠ 0)) := by
  cases r with
  | nil => left; rfl
  | cons b rest =>
    by_cases h : rest.length < compactPayload b
    · exact .inr ⟨by rw [compactLen_true, compactRead, if_pos h], compactLen_short false b rest h⟩
    · left; rw [compactLen_of_le _ b rest (Nat.le_of_not_lt h), compactLen_of_le _ b rest (Nat.le_of_not_lt h)]

theorem scaleBytes2_self (s : Bool) (r : Bytes) : scaleBytes2 s s r = scaleBytes s r := rfl

/-- a compact length whose bytes are cut short leaves nothing for the data read, which then fails
    in either case -/
theorem scaleBytes2_int_irrelevant (si si' sd : Bool) (r : Bytes) :
    scaleBytes2 si sd r = scaleBytes2 si' sd r := by
  have key : scaleBytes2 true sd r = scaleBytes2 false sd r := by
    unfold scaleBytes2
    rcases compactLen_cases r with h | ⟨h1, h2 | ⟨len, h2, h3⟩⟩
    · rw [h]
    · rw [h1, h2]
    · rw [h1, h2]
      simp only [h3, if_false, readBuf_nil]
      split <;> rfl
  cases si <;> cases si' <;> simp [key]

theorem compactEnc_eq_scale (n : Nat) : TrieCodec.compactEnc n = Scale.compactEnc n := by
  have := leBytes_natOfLE (leMin n)
  rw [natOfLE_leMin] at this
  simp only [TrieCodec.compactEnc, Scale.compactEnc, Nat.mul_comm n 4, Nat.mul_comm ((leMin n).length - 4) 4,
    this]

theorem compactLen_enc_uintOk (strict : Bool) (n : Nat) (hn : C11.uintOk n = true) (r : Bytes) :
    compactLen strict (TrieCodec.compactEnc n ++ r) = some (n, r) := by
  obtain ⟨b, p, he, hp, hv, hmin⟩ := compactEnc_shape n (lt_pow67_of_lt_u64 (C11.uintOk_lt_maxSeqLen hn))
  rw [compactEnc_eq_scale, he, List.cons_append, compactLen_of_le strict b (p ++ r) (by rw [List.length_append, hp]; omega),
    compactRead_append r hp (by rw [C11.goUintOk_eq hp, compactCanon, hv, hn, decide_eq_true hmin]; rfl), hv]

/-- up to the largest length `decodeBytes` accepts (`math.MaxUint32`); `C07.ValueOK` asks for less -/
theorem scaleBytes_enc (strict : Bool) (b : Bytes) (hb : b.length < 4294967296) (r : Bytes) :
    scaleBytes strict (scaleEncBytes b ++ r) = some (b, r) := by
  unfold scaleBytes scaleEncBytes
  rw [List.append_assoc, compactLen_enc_uintOk strict b.length ((C11.uintOk_iff _).2 (.inl (by omega)))]
  have : ¬ (b.length > 4294967295) := by omega
  simp only [this, if_false]
  by_cases h0 : b.length = 0
  · have : b = [] := List.eq_nil_of_length_eq_zero h0
    subst this; simp
  · simp only [h0, if_false]
    exact readBuf_append strict b r rfl h0

theorem testBit_toNat (b : UInt8) (i : Nat) (h : i < 8) : testBit b i = b.toNat.testBit i := by
  have hi : (UInt8.ofNat i).toNat % 8 = i := by simp [UInt8.toNat_ofNat']; omega
  unfold testBit
  rw [Bool.eq_iff_iff, beq_iff_eq, ← UInt8.toNat_inj, UInt8.toNat_and, UInt8.toNat_shiftRight, hi]
  simp [Nat.testBit, Nat.and_comm]

theorem testBit_bitmapNat : (l : List Bool) → (i : Nat) → (bitmapNat l).testBit i = l.getD i false
  | [], i => by simp [bitmapNat]
  | b :: bs, 0 => by cases b <;> simp [bitmapNat, Nat.testBit_zero] <;> omega
  | b :: bs, i + 1 => by
    rw [Nat.testBit_succ]
    have : bitmapNat (b :: bs) / 2 = bitmapNat bs := by cases b <;> simp [bitmapNat] <;> omega
    simp [this, testBit_bitmapNat bs i]

theorem bitmapNat_lt : (l : List Bool) → bitmapNat l < 2 ^ l.length
  | [] => by simp [bitmapNat]
  | b :: bs => by
    have := bitmapNat_lt bs
    simp only [bitmapNat, List.length_cons, Nat.pow_succ]
    cases b <;> simp <;> omega

theorem bitmapNat_append : (a b : List Bool) → bitmapNat (a ++ b) = bitmapNat a + 2 ^ a.length * bitmapNat b
  | [], b => by simp [bitmapNat]
  | x :: xs, b => by
    simp only [List.cons_append, bitmapNat, bitmapNat_append xs b, List.length_cons, Nat.pow_succ]
    rw [Nat.mul_add, ← Nat.mul_assoc, Nat.mul_comm 2 (2 ^ xs.length)]; omega

theorem testBit_ofNat_bitmapNat (l : List Bool) (h : l.length = 8) :
    (List.range 8).map (testBit (UInt8.ofNat (bitmapNat l))) = l := by
  have hlt := bitmapNat_lt l
  rw [h] at hlt
  apply List.ext_getElem (by simp [h])
  intro i h1 h2
  have hi : i < 8 := by simpa using h1
  rw [List.getElem_map, List.getElem_range, testBit_toNat _ _ hi, UInt8.toNat_ofNat',
    Nat.mod_eq_of_lt hlt, testBit_bitmapNat]
  simp [h2]

theorem bitmap_roundtrip (l : List Bool) (h : l.length = 16) :
    ∃ b0 b1, bitmapBytes l = [b0, b1] ∧ bitmapBits b0 b1 = l := by
  refine ⟨_, _, rfl, ?_⟩
  have ha : (l.take 8).length = 8 := by simp [h]
  have hb : (l.drop 8).length = 8 := by simp [h]
  have h1 := bitmapNat_lt (l.take 8)
  have h2 := bitmapNat_lt (l.drop 8)
  have hn := bitmapNat_append (l.take 8) (l.drop 8)
  rw [List.take_append_drop, ha] at hn
  rw [ha] at h1
  rw [hb] at h2
  have e1 : bitmapNat l % 65536 % 256 = bitmapNat (l.take 8) := by omega
  have e2 : bitmapNat l % 65536 / 256 = bitmapNat (l.drop 8) := by omega
  rw [bitmapBits, e1, e2, testBit_ofNat_bitmapNat _ ha, testBit_ofNat_bitmapNat _ hb, List.take_append_drop]

end Gossamer.TrieCodec
