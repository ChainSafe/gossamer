/-
C04, incremental writes: the view of ONE trie handle as a tree.  `FP hp g t a fp`: below the cell `a`
(which represents `t`) the cells of the handle's own generation `g` are exactly `fp`, counted with
multiplicity along the tree; `fp.Nodup` therefore says that no owned cell is shared between two
positions — what makes writes in place safe for the caches of the cells above them.  `FP` is a predicate, not
only a count: every cell met is allocated, and below a cell of ANOTHER generation there is no own cell (the
copy-on-write invariant: a node of an older generation is never written, so it cannot point to a node of this
one).  `rebuild_kid` (C04Put) rests on that clause.
`TI` bundles representation (`HRep`), footprint (`FP`) and cache coherence (`Coh`); `Sub` adds what a
mutator with context `c` needs to know about the place of the sub-trie in the trie.  `FR S` is the frame of a
mutator that may write the cells `S` (see the header of C04Write for the other frame relations).
-/
import Gossamer.Lib.C04WriteMain
namespace Gossamer
namespace TrieHeap
open Trie TrieCodec

def ownL (hp : Heap) (g : Nat) (a : Nat) : List Nat := if (hp.get a).gen = g then [a] else []

def KidF (R : Nat → List Nat → Prop) (fp : List Nat) : Option Nat → Prop
  | none => fp = []
  | some c => R c fp

def FP (hp : Heap) (g : Nat) : Trie → Nat → List Nat → Prop
  | .nil, _, _ => False
  | .leaf _ _, a, fp => a < hp.size ∧ fp = ownL hp g a
  | .branch _ _ cs, a, fp =>
    a < hp.size ∧ ∃ fps : Nib → List Nat, fp = ownL hp g a ++ (List.finRange 16).flatMap fps ∧
      (∀ i, KidF (FP hp g (cs i)) (fps i) ((hp.get a).kids i)) ∧
      ((hp.get a).gen ≠ g → ∀ i, fps i = [])

structure TI (H : Bytes → Bytes) (G : Bytes → Bytes → Prop) (hp : Heap) (g : Nat) (r : Bool) (t : Trie)
    (N : Node) (a : Nat) (fp : List Nat) : Prop where
  rep : HRep hp t N a
  fp : FP hp g t a fp
  coh : Coh H G hp r t N a

/-- outside `S` the heap is unchanged up to `MerkleValue` caches of dirty cells (`registerDeletedNodeHash` hashes a
    sibling sub-trie on the way), and it may grow -/
structure FR (S : Nat → Prop) (hp hp' : Heap) : Prop where
  size : hp.size ≤ hp'.size
  cell : ∀ x, x < hp.size → ¬ S x →
    hp'.get x = hp.get x ∨ ((hp.get x).dirty = true ∧ ∃ m, hp'.get x = { hp.get x with mv := m })

theorem FR.refl (S : Nat → Prop) (hp : Heap) : FR S hp hp := ⟨Nat.le_refl _, fun _ _ _ => Or.inl rfl⟩

theorem FR.mono {S S' : Nat → Prop} {hp hp' : Heap} (h : FR S hp hp') (hs : ∀ x, S x → S' x) : FR S' hp hp' :=
  ⟨h.size, fun x hx hn => h.cell x hx (fun hsx => hn (hs x hsx))⟩

theorem FR.trans {S : Nat → Prop} {hp hp1 hp2 : Heap} (a : FR S hp hp1) (b : FR S hp1 hp2) : FR S hp hp2 := by
  refine ⟨Nat.le_trans a.size b.size, fun x hx hn => ?_⟩
  have hx1 : x < hp1.size := Nat.lt_of_lt_of_le hx a.size
  rcases a.cell x hx hn with e1 | ⟨hd1, m1, e1⟩
  · rcases b.cell x hx1 hn with e2 | ⟨hd2, m2, e2⟩
    · left; rw [e2, e1]
    · right; rw [e1] at hd2 e2; exact ⟨hd2, m2, e2⟩
  · rcases b.cell x hx1 hn with e2 | ⟨hd2, m2, e2⟩
    · right; exact ⟨hd1, m1, by rw [e2, e1]⟩
    · right; exact ⟨hd1, m2, by rw [e2, e1]⟩

theorem FR.of_dframe {S : Nat → Prop} {hp hp' : Heap} (h : DFrame hp hp') : FR S hp hp' :=
  ⟨by rw [h.size]; exact Nat.le_refl _, fun x _ _ => h.cell x⟩

theorem FR.alloc (S : Nat → Prop) (hp : Heap) (n : HNode) : FR S hp (hp.alloc n).1 :=
  ⟨by simp, fun x hx _ => Or.inl (Heap.get_alloc_lt hx)⟩

theorem FR.modify {S : Nat → Prop} (hp : Heap) (a : Nat) (f : HNode → HNode) (ha : S a) :
    FR S hp (hp.modify a f) :=
  ⟨by simp, fun x _ hn => Or.inl (Heap.get_modify_ne f (fun e => hn (e ▸ ha)))⟩

theorem FR.strip {S : Nat → Prop} {hp hp' : Heap} (h : FR S hp hp') {x : Nat} (hx : x < hp.size) (hn : ¬ S x) :
    (hp'.get x).strip = (hp.get x).strip ∧ (hp'.get x).dirty = (hp.get x).dirty ∧
    ((hp.get x).dirty = false → hp'.get x = hp.get x) := by
  rcases h.cell x hx hn with e | ⟨hd, m, e⟩
  · rw [e]; exact ⟨rfl, rfl, fun _ => rfl⟩
  · rw [e]; exact ⟨rfl, rfl, fun hf => by rw [hd] at hf; cases hf⟩

theorem mem_ownL {hp : Heap} {g a x : Nat} (h : x ∈ ownL hp g a) : x = a ∧ (hp.get a).gen = g := by
  unfold ownL at h
  split at h
  · rename_i hg; simp at h; exact ⟨h, hg⟩
  · cases h

theorem ownL_own {hp : Heap} {g a : Nat} (h : (hp.get a).gen = g) : ownL hp g a = [a] := by
  unfold ownL; rw [if_pos h]

theorem ownL_not {hp : Heap} {g a : Nat} (h : (hp.get a).gen ≠ g) : ownL hp g a = [] := by
  unfold ownL; rw [if_neg h]

theorem FP.lt {hp : Heap} {g : Nat} {t : Trie} {a : Nat} {fp : List Nat} (h : FP hp g t a fp) : a < hp.size := by
  cases t with
  | nil => exact h.elim
  | leaf _ _ | branch _ _ _ => exact h.1

theorem FP.self {hp : Heap} {g : Nat} {t : Trie} {a : Nat} {fp : List Nat} (h : FP hp g t a fp)
    (hg : (hp.get a).gen = g) : a ∈ fp := by
  cases t with
  | nil => exact h.elim
  | leaf _ _ => rw [h.2, ownL_own hg]; exact List.mem_singleton_self a
  | branch _ _ _ =>
    obtain ⟨_, fps, hfp, _⟩ := h
    rw [hfp, ownL_own hg]; exact List.mem_cons_self

/-- a sub-trie keeps its tree view when what is written (`S`) is new, or an OWN cell outside its footprint: by the last
    clause of `FP` no own cell lies below a foreign one, so no written cell is below a cell of the sub-trie -/
theorem ti_frame {H : Bytes → Bytes} {G : Bytes → Bytes → Prop} {S : Nat → Prop} {hp hp' : Heap} {g : Nat}
    (hf : FR S hp hp') :
    ∀ (t : Trie) (r : Bool) (N : Node) (a : Nat) (fp : List Nat), TI H G hp g r t N a fp →
      (∀ x, S x → hp.size ≤ x ∨ ((hp.get x).gen = g ∧ x ∉ fp)) → TI H G hp' g r t N a fp
  | .nil, _, _, _, _, h, _ => h.rep.elim
  | .leaf pk v, r, N, a, fp, h, hS => by
    obtain ⟨hlt, hfp⟩ := h.fp
    have hna : ¬ S a := fun hsa => (hS a hsa).elim (by omega) (fun h' => h'.2 (h.fp.self h'.1))
    obtain ⟨hs, hd, hcl⟩ := hf.strip hlt hna
    obtain ⟨h1, h2, h3, h4, h5⟩ := h.rep
    refine ⟨⟨by rw [strip_isBranch hs]; exact h1, by rw [strip_pk hs]; exact h2,
      by rw [strip_val hs]; exact h3, by rw [strip_kids hs]; exact h4, by rw [strip_mbh hs]; exact h5⟩,
      ⟨Nat.lt_of_lt_of_le hlt hf.size, by rw [hfp]; unfold ownL; rw [strip_gen hs]⟩, cleanOK_congr hd hcl h.coh⟩
  | .branch pk v cs, r, N, a, fp, h, hS => by
    obtain ⟨hlt, fps, hfp, hkf, hno⟩ := h.fp
    have hna : ¬ S a := fun hsa => (hS a hsa).elim (by omega) (fun h' => h'.2 (h.fp.self h'.1))
    obtain ⟨hs, hd, hcl⟩ := hf.strip hlt hna
    obtain ⟨h1, h2, h3, kn, h4, h5⟩ := h.rep
    have hkid : ∀ i c, (hp.get a).kids i = some c →
        TI H G hp' g false (cs i) (kn i) c (fps i) := by
      intro i c hk
      have a1 := h5 i
      have a2 := hkf i
      rw [hk] at a1 a2
      have a3 := h.coh.2 i c hk
      rw [h4, kidAt_map] at a3
      refine ti_frame hf (cs i) false (kn i) c (fps i) ⟨a1.2, a2, a3⟩ ?_
      intro x hsx
      rcases hS x hsx with h1 | ⟨h1, h2⟩
      · exact Or.inl h1
      · refine Or.inr ⟨h1, fun hm => h2 ?_⟩
        rw [hfp]
        apply List.mem_append_right
        exact List.mem_flatMap.mpr ⟨i, List.mem_finRange i, hm⟩
    refine ⟨⟨by rw [strip_isBranch hs]; exact h1, by rw [strip_pk hs]; exact h2, by rw [strip_val hs]; exact h3,
      kn, by rw [strip_mbh hs]; exact h4, fun i => ?_⟩,
      ⟨Nat.lt_of_lt_of_le hlt hf.size, fps, by rw [hfp]; unfold ownL; rw [strip_gen hs], fun i => ?_,
        by rw [strip_gen hs]; exact hno⟩, cleanOK_congr hd hcl h.coh.1, ?_⟩
    · rw [strip_kids hs]
      have a1 := h5 i
      cases hk : (hp.get a).kids i with
      | none => rw [hk] at a1; exact a1
      | some c => rw [hk] at a1; exact ⟨a1.1, (hkid i c hk).rep⟩
    · rw [strip_kids hs]
      have a2 := hkf i
      cases hk : (hp.get a).kids i with
      | none => rw [hk] at a2; exact a2
      | some c => exact (hkid i c hk).fp
    · intro i c hk
      rw [strip_kids hs] at hk
      rw [h4, kidAt_map]
      exact (hkid i c hk).coh

/-- one child slot of a branch, all three aspects -/
def KidTI (H : Bytes → Bytes) (G : Bytes → Bytes → Prop) (hp : Heap) (g : Nat) (t : Trie) (k : Node)
    (fp : List Nat) : Option Nat → Prop
  | none => t = .nil ∧ k = .empty ∧ fp = []
  | some c => t ≠ .nil ∧ TI H G hp g false t k c fp

/-- `b` is a dirty cell of the handle's own generation with these fields: what a mutator leaves at
    every cell it writes -/
structure Own (hp : Heap) (g : Nat) (b : Nat) (br : Bool) (pk : Nibs) (v : Option Bytes)
    (ks : Nib → Option Nat) : Prop where
  lt : b < hp.size
  isBranch : (hp.get b).isBranch = br
  pk : (hp.get b).pk = pk
  val : (hp.get b).val = v
  kids : (hp.get b).kids = ks
  dirty : (hp.get b).dirty = true
  gen : (hp.get b).gen = g

theorem Own.alloc (hp : Heap) {g : Nat} (n : HNode) (hd : n.dirty = true) (hg : n.gen = g) :
    Own (hp.alloc n).1 g (hp.alloc n).2 n.isBranch n.pk n.val n.kids := by
  refine ⟨by simp, ?_, ?_, ?_, ?_, ?_, ?_⟩ <;> rw [Heap.get_alloc_snd]
  · exact hd
  · exact hg

theorem Own.after_alloc {hp : Heap} {g b : Nat} {br : Bool} {pk : Nibs} {v : Option Bytes} {ks : Nib → Option Nat}
    (o : Own hp g b br pk v ks) (n : HNode) : Own (hp.alloc n).1 g b br pk v ks := by
  have he : (hp.alloc n).1.get b = hp.get b := Heap.get_alloc_lt o.lt
  exact ⟨Nat.lt_of_lt_of_le o.lt (Nat.le_of_lt (by simp)), he ▸ o.isBranch, he ▸ o.pk, he ▸ o.val, he ▸ o.kids,
    he ▸ o.dirty, he ▸ o.gen⟩

theorem Own.of_dframe {hp hp' : Heap} {g b : Nat} {br : Bool} {pk : Nibs} {v : Option Bytes}
    {ks : Nib → Option Nat} (o : Own hp g b br pk v ks) (hf : DFrame hp hp') : Own hp' g b br pk v ks := by
  obtain ⟨hs, hd⟩ := hf.strip b
  exact ⟨hf.size ▸ o.lt, (strip_isBranch hs).trans o.isBranch, (strip_pk hs).trans o.pk,
    (strip_val hs).trans o.val, (strip_kids hs).trans o.kids, hd.trans o.dirty, (strip_gen hs).trans o.gen⟩

theorem Own.modify {hp : Heap} {g b : Nat} {br br' : Bool} {pk pk' : Nibs} {v v' : Option Bytes}
    {ks ks' : Nib → Option Nat} (o : Own hp g b br pk v ks) (f : HNode → HNode)
    (h1 : (f (hp.get b)).isBranch = br') (h2 : (f (hp.get b)).pk = pk') (h3 : (f (hp.get b)).val = v')
    (h4 : (f (hp.get b)).kids = ks') (h5 : (f (hp.get b)).dirty = true) (h6 : (f (hp.get b)).gen = g) :
    Own (hp.modify b f) g b br' pk' v' ks' := by
  have he := Heap.get_modify_self f o.lt
  exact ⟨by simpa using o.lt, he ▸ h1, he ▸ h2, he ▸ h3, he ▸ h4, he ▸ h5, he ▸ h6⟩

theorem Own.set_pk {hp : Heap} {g b : Nat} {br : Bool} {pk : Nibs} {v : Option Bytes} {ks : Nib → Option Nat}
    (o : Own hp g b br pk v ks) (pk' : Nibs) : Own (hp.modify b (fun x => { x with pk := pk' })) g b br pk' v ks :=
  o.modify _ o.isBranch rfl o.val o.kids o.dirty o.gen

theorem Own.set_val {hp : Heap} {g b : Nat} {br : Bool} {pk : Nibs} {v : Option Bytes} {ks : Nib → Option Nat}
    (o : Own hp g b br pk v ks) (m : HNode → Bool) (v' : Option Bytes) :
    Own (hp.modify b (fun x => { x with mbh := m x, val := v' })) g b br pk v' ks :=
  o.modify _ o.isBranch o.pk rfl o.kids o.dirty o.gen

theorem Own.set_kid {hp : Heap} {g b : Nat} {br : Bool} {pk : Nibs} {v : Option Bytes} {ks : Nib → Option Nat}
    (o : Own hp g b br pk v ks) (i : Nib) (y : Option Nat) :
    Own (hp.modify b (fun x => { x with kids := setKid x.kids i y })) g b br pk v (setKid ks i y) :=
  o.modify _ o.isBranch o.pk o.val (by rw [o.kids]) o.dirty o.gen

theorem ti_leaf_cell {H : Bytes → Bytes} {G : Bytes → Bytes → Prop} {hp : Heap} {g : Nat} {r : Bool} {b : Nat}
    {pk : Nibs} {v : Bytes} (o : Own hp g b false pk (some v) noKids) :
    TI H G hp g r (.leaf pk v) (.leaf (nibBytes pk) (some v) (hp.get b).mbh) b [b] :=
  ⟨⟨o.isBranch, o.pk, o.val, fun i => by rw [o.kids]; rfl, rfl⟩, ⟨o.lt, (ownL_own o.gen).symm⟩,
    fun hf => by rw [o.dirty] at hf; cases hf⟩

theorem ti_branch_cell {H : Bytes → Bytes} {G : Bytes → Bytes → Prop} {hp : Heap} {g : Nat} {r : Bool} {b : Nat}
    {pk : Nibs} {v : Option Bytes} {ks : Nib → Option Nat} {cs : Nib → Trie} {kn : Nib → Node}
    {fps : Nib → List Nat} (o : Own hp g b true pk v ks)
    (hk : ∀ i, KidTI H G hp g (cs i) (kn i) (fps i) (ks i)) :
    TI H G hp g r (.branch pk v cs) (.branch (nibBytes pk) v (hp.get b).mbh ((List.finRange 16).map kn)) b
      (b :: (List.finRange 16).flatMap fps) := by
  have hk' : ∀ i, KidTI H G hp g (cs i) (kn i) (fps i) ((hp.get b).kids i) := by rw [o.kids]; exact hk
  refine ⟨⟨o.isBranch, o.pk, o.val, kn, rfl, fun i => ?_⟩,
    ⟨o.lt, fps, by rw [ownL_own o.gen]; rfl, fun i => ?_, fun hne => absurd o.gen hne⟩, ?_, ?_⟩
  · have := hk' i
    cases hkk : (hp.get b).kids i with
    | none => rw [hkk] at this; exact ⟨this.1, this.2.1⟩
    | some c => rw [hkk] at this; exact ⟨this.1, this.2.rep⟩
  · have := hk' i
    cases hkk : (hp.get b).kids i with
    | none => rw [hkk] at this; exact this.2.2
    | some c => rw [hkk] at this; exact this.2.fp
  · intro hf; rw [o.dirty] at hf; cases hf
  · intro i c hkc
    have := hk' i
    rw [hkc] at this
    rw [kidAt_map]
    exact this.2.coh

theorem fp_mem {hp : Heap} {g : Nat} : ∀ (t : Trie) (a : Nat) (fp : List Nat), FP hp g t a fp →
    ∀ x, x ∈ fp → x < hp.size ∧ (hp.get x).gen = g
  | .nil, _, _, h, _, _ => h.elim
  | .leaf _ _, a, fp, h, x, hx => by
    rw [h.2] at hx
    rw [(mem_ownL hx).1]; exact ⟨h.1, (mem_ownL hx).2⟩
  | .branch _ _ cs, a, fp, h, x, hx => by
    obtain ⟨hlt, fps, hfp, hk, _⟩ := h
    rw [hfp] at hx
    rcases List.mem_append.mp hx with h1 | h1
    · rw [(mem_ownL h1).1]; exact ⟨hlt, (mem_ownL h1).2⟩
    · obtain ⟨i, _, hi⟩ := List.mem_flatMap.mp h1
      have := hk i
      cases hkk : (hp.get a).kids i with
      | none => rw [hkk] at this; rw [this] at hi; cases hi
      | some c => rw [hkk] at this; exact fp_mem (cs i) c (fps i) this x hi

theorem fp_cacheOnly {hp hp' : Heap} {g : Nat} (hc : CacheOnly hp hp') :
    ∀ (t : Trie) (a : Nat) (fp : List Nat), FP hp g t a fp → FP hp' g t a fp
  | .nil, _, _, h => h.elim
  | .leaf _ _, a, fp, h => by
    refine ⟨by rw [hc.size]; exact h.1, ?_⟩
    rw [h.2]; unfold ownL; rw [strip_gen (hc.cell a)]
  | .branch _ _ cs, a, fp, h => by
    obtain ⟨hlt, fps, hfp, hk, hno⟩ := h
    refine ⟨by rw [hc.size]; exact hlt, fps, ?_, fun i => ?_, by rw [strip_gen (hc.cell a)]; exact hno⟩
    · rw [hfp]; unfold ownL; rw [strip_gen (hc.cell a)]
    · rw [strip_kids (hc.cell a)]
      have := hk i
      cases hkk : (hp.get a).kids i with
      | none => rw [hkk] at this; exact this
      | some c => rw [hkk] at this; exact fp_cacheOnly hc (cs i) c (fps i) this

theorem fp_snap {hp : Heap} {g : Nat} (hg : ∀ x, (hp.get x).gen ≤ g) :
    ∀ (t : Trie) (a : Nat) (fp : List Nat), FP hp g t a fp → FP hp (g + 1) t a []
  | .nil, _, _, h => h.elim
  | .leaf _ _, a, fp, h => by
    refine ⟨h.1, ?_⟩
    rw [ownL_not]; have := hg a; omega
  | .branch _ _ cs, a, fp, h => by
    obtain ⟨hlt, fps, _, hk, _⟩ := h
    refine ⟨hlt, fun _ => [], ?_, fun i => ?_, fun _ _ => rfl⟩
    · rw [ownL_not (by have := hg a; omega)]; simp
    · have := hk i
      cases hkk : (hp.get a).kids i with
      | none => rfl
      | some c => rw [hkk] at this; exact fp_snap hg (cs i) c (fps i) this

/-- the cells an operation at the owned-or-copied cell `a` may write: `a` itself if it is owned, and new cells
    (`Wr` of C04Put for the one-cell footprint `ownL hp g a`; `sa_wr` goes from the one to the other) -/
def SA (hp : Heap) (g : Nat) (a : Nat) (x : Nat) : Prop := (x = a ∧ (hp.get a).gen = g) ∨ hp.size ≤ x

/-- what `prepForMutation` returns: a dirty cell of the handle's generation with the fields of `a`
    (the storage value only if it was asked to be copied) -/
structure Prepped (hp : Heap) (g : Nat) (cv : Bool) (a : Nat) (hp' : Heap) (b : Nat) : Prop where
  fr : FR (SA hp g a) hp hp'
  own : Own hp' g b (hp.get a).isBranch (hp.get a).pk (hp'.get b).val (hp.get a).kids
  val : cv = true → (hp'.get b).val = (hp.get a).val
  sa : SA hp g a b

theorem prep_tree {G : Bytes → Bytes → Prop} {c : Ctx} (hH : ∀ m, (c.H m).length = 32) (cv : Bool) {hp : Heap}
    {a : Nat} {r : Bool} (hlt : a < hp.size)
    (h : (hp.get a).gen ≠ c.g → ∃ t N, HRep hp t N a ∧ Coh c.H G hp r t N a ∧ depth t ≤ bigFuel + 1)
    (hflav : (c.troot == some a) = r) :
    Prepped hp c.g cv a (prepForMutation c cv hp a).1 (prepForMutation c cv hp a).2 := by
  rw [prep_eq]
  by_cases hgen : (hp.get a).gen = c.g
  · rw [if_pos hgen]
    have hget := Heap.get_modify_self HNode.setDirty hlt
    refine ⟨FR.modify hp a _ (Or.inl ⟨rfl, hgen⟩), ⟨by simpa using hlt, ?_, ?_, rfl, ?_, ?_, ?_⟩, fun _ => ?_,
      Or.inl ⟨rfl, hgen⟩⟩ <;> rw [hget] <;> first | rfl | exact hgen
  · rw [if_neg hgen]
    obtain ⟨t, N, hrep, hcoh, hd⟩ := h hgen
    have hdf := ensureMV_dframe hH hrep hcoh hflav hd
    have hsz : (registerDeleted c hp a).size = hp.size := hdf.size
    have hs := (hdf.strip a).1
    refine ⟨(FR.of_dframe hdf).trans (FR.alloc _ _ _), ?_, fun hcv => ?_, Or.inr (by simp [hsz])⟩
    · rw [← strip_isBranch hs, ← strip_pk hs, ← strip_kids hs, Heap.get_alloc_snd]
      exact Own.alloc _ _ rfl rfl
    · rw [Heap.get_alloc_snd, hcv]
      show ((registerDeleted c hp a).get a).val = (hp.get a).val
      exact strip_val hs

theorem sa_loc {hp : Heap} {g a b : Nat} (h : SA hp g a b) : b = a ∨ hp.size ≤ b :=
  h.elim (fun e => Or.inl e.1) Or.inr

theorem Prepped.own' {hp : Heap} {g : Nat} {cv : Bool} {a : Nat} {hp' : Heap} {b : Nat} {br : Bool} {pk : Nibs}
    {ks : Nib → Option Nat} (h : Prepped hp g cv a hp' b) (hb : (hp.get a).isBranch = br)
    (hpk : (hp.get a).pk = pk) (hks : (hp.get a).kids = ks) : Own hp' g b br pk (hp'.get b).val ks :=
  hb ▸ hpk ▸ hks ▸ h.own

theorem Prepped.own_val {hp : Heap} {g : Nat} {a : Nat} {hp' : Heap} {b : Nat} {br : Bool} {pk : Nibs}
    {v : Option Bytes} {ks : Nib → Option Nat} (h : Prepped hp g true a hp' b) (hb : (hp.get a).isBranch = br)
    (hpk : (hp.get a).pk = pk) (hv : (hp.get a).val = v) (hks : (hp.get a).kids = ks) : Own hp' g b br pk v ks :=
  hv ▸ h.val rfl ▸ h.own' hb hpk hks

theorem Prepped.fr_modify {hp : Heap} {g : Nat} {cv : Bool} {a : Nat} {hp' : Heap} {b : Nat}
    (h : Prepped hp g cv a hp' b) (f : HNode → HNode) : FR (SA hp g a) hp (hp'.modify b f) :=
  h.fr.trans (FR.modify hp' b f h.sa)

/-- The sub-trie `t` at the cell `a`, as an operation with context `c` meets it on its way down: what a
    mutator hands from a branch to the child it descends into (`Sub.kid`, in C04Put beside `Br`).  `r`: `a` is
    the root node of the trie, which decides the flavour of Merkle value it carries.  `h32` is a field so that
    the recursive calls need not pass it. -/
structure Sub (G : Bytes → Bytes → Prop) (c : Ctx) (hp : Heap) (r : Bool) (t : Trie) (N : Node) (a : Nat)
    (fp : List Nat) : Prop where
  ti : TI c.H G hp c.g r t N a fp
  nd : fp.Nodup
  flav : (c.troot == some a) = r
  above : RootAbove c hp t
  root_lt : ∀ x, c.troot = some x → x < hp.size
  fuel : depth t ≤ bigFuel + 1
  h32 : ∀ m, (c.H m).length = 32

theorem Sub.prep {G : Bytes → Bytes → Prop} {c : Ctx} {hp : Heap} {r : Bool} {t : Trie} {N : Node} {a : Nat}
    {fp : List Nat} (s : Sub G c hp r t N a fp) (cv : Bool) :
    Prepped hp c.g cv a (prepForMutation c cv hp a).1 (prepForMutation c cv hp a).2 :=
  prep_tree s.h32 cv s.ti.fp.lt (fun _ => ⟨_, _, s.ti.rep, s.ti.coh, s.fuel⟩) s.flav

end TrieHeap
end Gossamer
