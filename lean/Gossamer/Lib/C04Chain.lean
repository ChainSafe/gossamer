/-
C04, incremental writes: the invariant `CInv` of ONE line of trie handles (`Put`, `Delete`, `ClearPrefix`,
`SetVersion`, `Snapshot`, `WriteDirty` in any order) on the heap model: the handle's view is a tree (`TI`:
representation of a pure trie `T`, footprint of own cells without sharing, coherent caches relative
to the database).  The mutators refine the pure operations and keep it; `Snapshot` keeps it because the new
generation owns nothing; `WriteDirty` writes caches only.
-/
import Gossamer.Lib.C04Put
import Gossamer.Lib.C04Del
namespace Gossamer
namespace TrieHeap
open Trie TrieCodec

def RootTI (H : Bytes → Bytes) (G : Bytes → Bytes → Prop) (hp : Heap) (g : Nat) (T : Trie) : Option Nat → Prop
  | none => T = .nil
  | some a => ∃ N fp, TI H G hp g true T N a fp ∧ fp.Nodup

structure CInv (H : Bytes → Bytes) (hp : Heap) (db : DB) (h : Handle) (T : Trie) : Prop where
  -- for the C03 side (`put_ok`, `topOK_gens`), which yields `wf` and `gens` of the next state
  wf : HeapWF hp
  -- for `Snapshot`: no cell is of a later generation, so the new generation owns nothing (`fp_snap`)
  gens : ∀ x, (hp.get x).gen ≤ h.gen
  dbok : DBOK H db
  root : RootTI H (Mem db) hp h.gen T h.root

theorem cinv_init (H : Bytes → Bytes) (ver : Ver) :
    CInv H Heap.empty [] { root := none, gen := 0, ver := ver } .nil := by
  refine ⟨fun a ha => ?_, fun x => ?_, ?_, rfl⟩
  · exact absurd ha (Nat.not_lt_zero _)
  · rw [Heap.get_of_size_le (Nat.zero_le _)]; exact Nat.le_refl _
  · intro k v h; cases h

theorem cinv_nil {H : Bytes → Bytes} {hp : Heap} {db : DB} {h : Handle} {T : Trie} (inv : CInv H hp db h T)
    (hr : h.root = none) : T = .nil := by
  have := inv.root; rw [hr] at this; exact this

theorem cinv_some {H : Bytes → Bytes} {hp : Heap} {db : DB} {h : Handle} {T : Trie} (inv : CInv H hp db h T)
    {a : Nat} (hr : h.root = some a) : ∃ N fp, TI H (Mem db) hp h.gen true T N a fp ∧ fp.Nodup := by
  have := inv.root; rw [hr] at this; exact this

theorem cinv_root_lt {H : Bytes → Bytes} {hp : Heap} {db : DB} {h : Handle} {T : Trie}
    (inv : CInv H hp db h T) (r : Nat) (hr : h.root = some r) : r < hp.size := by
  obtain ⟨N, fp, hti, _⟩ := cinv_some inv hr
  exact hti.fp.lt

theorem cinv_sub {H : Bytes → Bytes} (hH : ∀ m, (H m).length = 32) {hp : Heap} {db : DB} {h : Handle} {T : Trie}
    (inv : CInv H hp db h T) (hd : depth T ≤ bigFuel + 1) {a : Nat} (hr : h.root = some a) :
    ∃ N fp, Sub (Mem db) (h.ctx H) hp true T N a fp := by
  obtain ⟨N, fp, hti, hnd⟩ := cinv_some inv hr
  have hroot : ∀ x, (h.ctx H).troot = some x → x = a := fun x hx => Option.some.inj (hx.symm.trans hr)
  exact ⟨N, fp, hti, hnd, by simp [Handle.ctx, hr], RootAbove.root hr hti.rep,
    fun x hx => by rw [hroot x hx]; exact cinv_root_lt inv a hr, hd, hH⟩

theorem rootTI_of_outO {H : Bytes → Bytes} {G : Bytes → Bytes → Prop} {hp : Heap} {g : Nat} {fp : List Nat}
    {hp' : Heap} {t' : Trie} {y : Option Nat} (h : OutO H G hp g true fp hp' t' y) : RootTI H G hp' g t' y := by
  cases y with
  | none => exact h.1
  | some y =>
    obtain ⟨N', fp', hti, hnd, _⟩ := h.ti
    exact ⟨N', fp', hti, hnd⟩

theorem put_cinv (H : Bytes → Bytes) (hH : ∀ m, (H m).length = 32) {hp : Heap} {db : DB} {h : Handle} {T : Trie}
    (inv : CInv H hp db h T) (hd : depth T ≤ bigFuel + 1) (k v : Bytes) :
    CInv H (put H hp h k v).1 db (put H hp h k v).2 (Trie.put T k v) := by
  have ok := put_ok H hp h inv.wf (cinv_root_lt inv) k v
  refine ⟨ok.good.wf, topOK_gens ok inv.gens, inv.dbok, ?_⟩
  unfold put Trie.put
  dsimp only
  cases hr : h.root with
  | none =>
    obtain rfl := cinv_nil inv hr
    exact ⟨_, _, ti_leaf_cell (Own.alloc hp (newLeaf (h.ctx H) (Trie.keyLEToNibbles k) v) rfl rfl), by simp⟩
  | some a =>
    obtain ⟨N, fp, s⟩ := cinv_sub hH inv hd hr
    exact rootTI_of_outO (insertF_tree _ hp T N a fp true (Trie.keyLEToNibbles k) v s (Nat.lt_succ_self _)).out

theorem delete_cinv (H : Bytes → Bytes) (hH : ∀ m, (H m).length = 32) {hp : Heap} {db : DB} {h : Handle} {T : Trie}
    (inv : CInv H hp db h T) (hd : depth T ≤ bigFuel + 1) (k : Bytes) :
    CInv H (delete H hp h k).1 db (delete H hp h k).2 (Trie.delete T k) := by
  have ok := delete_ok H hp h inv.wf (cinv_root_lt inv) k
  refine ⟨ok.good.wf, topOK_gens ok inv.gens, inv.dbok, ?_⟩
  unfold delete Trie.delete
  dsimp only
  cases hr : h.root with
  | none =>
    obtain rfl := cinv_nil inv hr
    rfl
  | some a =>
    obtain ⟨N, fp, s⟩ := cinv_sub hH inv hd hr
    exact rootTI_of_outO (deleteF_tree _ hp T N a fp true (Trie.keyLEToNibbles k) s (Nat.lt_succ_self _)).post.out

theorem clearPrefix_cinv (H : Bytes → Bytes) (hH : ∀ m, (H m).length = 32) {hp : Heap} {db : DB} {h : Handle}
    {T : Trie} (inv : CInv H hp db h T) (hd : depth T ≤ bigFuel + 1) (p : Bytes) :
    CInv H (clearPrefix H hp h p).1 db (clearPrefix H hp h p).2 (Trie.clearPrefix T p) := by
  have ok := clearPrefix_ok H hp h inv.wf (cinv_root_lt inv) p
  refine ⟨ok.good.wf, topOK_gens ok inv.gens, inv.dbok, ?_⟩
  unfold clearPrefix Trie.clearPrefix
  by_cases hp0 : p.length = 0
  · simp only [if_pos hp0]
    rfl
  · simp only [if_neg hp0]
    cases hr : h.root with
    | none =>
      obtain rfl := cinv_nil inv hr
      rfl
    | some a =>
      obtain ⟨N, fp, s⟩ := cinv_sub hH inv hd hr
      exact rootTI_of_outO (clearPrefixF_tree _ hp T N a fp true (trimZero (Trie.keyLEToNibbles p)) s
        (Nat.lt_succ_self _)).post.out

theorem snapshot_cinv (H : Bytes → Bytes) {hp : Heap} {db : DB} {h : Handle} {T : Trie}
    (inv : CInv H hp db h T) : CInv H hp db (snapshot h) T := by
  refine ⟨inv.wf, fun x => Nat.le_succ_of_le (inv.gens x), inv.dbok, ?_⟩
  show RootTI H (Mem db) hp (h.gen + 1) T h.root
  cases hr : h.root with
  | none => exact cinv_nil inv hr
  | some a =>
    obtain ⟨N, fp, hti, _⟩ := cinv_some inv hr
    exact ⟨N, [], ⟨hti.rep, fp_snap inv.gens T a fp hti.fp, hti.coh⟩, List.nodup_nil⟩

theorem setVersion_cinv (H : Bytes → Bytes) {hp : Heap} {db : DB} {h : Handle} {T : Trie}
    (inv : CInv H hp db h T) (ver : Ver) : CInv H hp db { h with ver := ver } T :=
  ⟨inv.wf, inv.gens, inv.dbok, inv.root⟩

theorem writeDirty_cinv (H : Bytes → Bytes) (hH : ∀ m, (H m).length = 32) {hp : Heap} {db : DB} {h : Handle}
    {T : Trie} (inv : CInv H hp db h T) (hd : depth T ≤ bigFuel) :
    CInv H (writeDirty H hp db h).1 (writeDirty H hp db h).2 h T := by
  have hco : CacheOnly hp (writeDirty H hp db h).1 := writeDirtyF_cacheOnly (h.ctx H) bigFuel (hp, db) h.root
  refine ⟨hco.wf inv.wf, fun x => ?_, writeDirtyF_dbok (h.ctx H) bigFuel (hp, db) h.root inv.dbok, ?_⟩
  · rw [strip_gen (hco.cell x)]; exact inv.gens x
  · cases hr : h.root with
    | none => exact cinv_nil inv hr
    | some a =>
      obtain ⟨N, fp, hti, hnd⟩ := cinv_some inv hr
      obtain ⟨h3, h4, _, _⟩ := writeDirty_coh H hH hp db h a hr T N hti.rep hti.coh hd
      exact ⟨N, fp, ⟨h3, fp_cacheOnly hco T a fp hti.fp, h4⟩, hnd⟩

theorem cinv_get {H : Bytes → Bytes} {hp : Heap} {db : DB} {h : Handle} {T : Trie} (inv : CInv H hp db h T)
    (k : Bytes) : get hp h.root k = Trie.get T k := by
  unfold get Trie.get
  cases hr : h.root with
  | none =>
    obtain rfl := cinv_nil inv hr
    rfl
  | some a =>
    obtain ⟨N, fp, hti, _⟩ := cinv_some inv hr
    exact retrieveF_hrep _ hp T N a _ hti.rep (Nat.lt_succ_self _)

end TrieHeap
end Gossamer
