/-
Static facts: the flat view `specOfNode t` of a tree with unique hashes against the tree traversals.  Lookup, ancestry,
leaves, numbering and parent links are each read off the list of blocks, so that what an operation does to the tree is
known once what it does to that list is known.
-/
import Gossamer.Lib.BlockTreePrune

namespace Gossamer.BlockTree

theorem infoOf_eq (t : Node) (h : Hash) : (specOfNode t).infoOf h = (findF h [t]).map (·.info) := by
  rw [findF_map_info, infosF_node]
  by_cases hi : t.info.hash = h
  · rw [List.find?_cons_of_pos (by simpa using hi)]
    exact if_pos hi.symm
  · rw [List.find?_cons_of_neg (by simpa using hi), ← lookup_map_info t.info.hash]
    exact if_neg fun e => hi e.symm

theorem present_iff {t : Node} (h : Hash) : (specOfNode t).present h ↔ h ∈ descF [t] := by
  rw [descF_node, List.mem_cons, ← blocksF_map_hash t.children t.info.hash, List.mem_map]
  rfl

theorem isAnc_iff {t : Node} (hd : (descF [t]).Nodup) {a d : Hash} (hdm : d ∈ descF [t]) :
    (specOfNode t).isAnc a d ↔ InSubtree [t] a d := by
  unfold Spec.isAnc
  rw [ancestors_eq_up hd hdm]
  cases hq : pathF d [t] with
  | none => exact absurd hdm (pathF_none.1 hq)
  | some q => exact path_mem_iff hd hq

theorem mem_blocksF {b : Block} : ∀ f p, b ∈ blocksF p f ↔
    (∃ c ∈ f, b = c.info.block p) ∨ ∃ n ∈ subsF f, ∃ c ∈ n.children, b = c.info.block n.info.hash := by
  intro f
  induction f using forest_ind with
  | nil => simp [blocksF, subsF]
  | cons i cs rest ih1 ih2 =>
    intro p
    rw [blocksF, List.mem_cons, List.mem_append, ih1, ih2, exists_subsF_cons]
    simp only [List.mem_cons, exists_eq_or_imp, Node.info_mk, Node.children_mk]
    constructor
    · rintro (h | (h | h) | (h | h))
      · exact .inl (.inl h)
      · exact .inr (.inl h)
      · exact .inr (.inr (.inl h))
      · exact .inl (.inr h)
      · exact .inr (.inr (.inr h))
    · rintro ((h | h) | (h | h | h))
      · exact .inl h
      · exact .inr (.inr (.inl h))
      · exact .inr (.inl (.inl h))
      · exact .inr (.inl (.inr h))
      · exact .inr (.inr (.inr h))

theorem mem_spec_blocks {t : Node} {b : Block} : b ∈ (specOfNode t).blocks ↔
    ∃ n ∈ subsF [t], ∃ c ∈ n.children, b = c.info.block n.info.hash := by
  cases t with
  | mk i cs =>
    rw [specOfNode, mem_blocksF, subsF_single]
    simp only [List.mem_cons, exists_eq_or_imp, Node.info_mk, Node.children_mk]

theorem parent_mem {t : Node} {b : Block} (hb : b ∈ (specOfNode t).blocks) : b.parent ∈ descF [t] := by
  obtain ⟨n, hn, c, _, rfl⟩ := mem_spec_blocks.1 hb
  exact subs_hash_mem hn

theorem block_hash_mem {t : Node} {b : Block} (hb : b ∈ (specOfNode t).blocks) : b.hash ∈ descF [t] :=
  (present_iff _).1 (.inr ⟨b, hb, rfl⟩)

theorem mem_blocks_subtree {t n : Node} (hd : (descF [t]).Nodup) (hn : n ∈ subsF [t]) {b : Block} :
    b ∈ (specOfNode n).blocks ↔ b ∈ (specOfNode t).blocks ∧ b.hash ∈ descF n.children := by
  have sub : ∀ b, b ∈ (specOfNode n).blocks → b ∈ (specOfNode t).blocks := fun b hb => by
    obtain ⟨m, hm, c, hc, rfl⟩ := mem_spec_blocks.1 hb
    exact mem_spec_blocks.2 ⟨m, subs_trans hn hm, c, hc, rfl⟩
  rw [← blocksF_map_hash n.children n.info.hash]
  constructor
  · exact fun hb => ⟨sub b hb, List.mem_map.2 ⟨b, hb, rfl⟩⟩
  · rintro ⟨hb, hh⟩
    obtain ⟨b', hb', he⟩ := List.mem_map.1 hh
    -- hashes identify the blocks of the flat view
    exact inj_of_nodup_map (·.hash) (specOfNode_nodup hd) (sub b' hb') hb he ▸ hb'

theorem mem_leaves_flat {t : Node} (hd : (descF [t]).Nodup) {x : Info} :
    x ∈ leavesF [t] ↔ x ∈ infosF [t] ∧ ∀ b ∈ (specOfNode t).blocks, b.parent ≠ x.hash := by
  rw [mem_leavesF_subs]
  constructor
  · rintro ⟨n, hn, rfl, hc⟩
    refine ⟨mem_infos_of_subs hn, fun b hbm e => ?_⟩
    obtain ⟨m, hm, c, hcm, rfl⟩ := mem_spec_blocks.1 hbm
    rw [subs_unique hd hm hn e, hc] at hcm
    cases hcm
  · rintro ⟨hx, h2⟩
    rw [← subsF_map_info] at hx
    obtain ⟨n, hn, rfl⟩ := List.mem_map.1 hx
    refine ⟨n, hn, rfl, ?_⟩
    cases hc : n.children with
    | nil => rfl
    | cons c _ => exact absurd rfl (h2 _ (mem_spec_blocks.2 ⟨n, hn, c, by rw [hc]; exact .head _, rfl⟩))

theorem isLeaf_iff {t : Node} (hd : (descF [t]).Nodup) (h : Hash) :
    (specOfNode t).isLeaf h ↔ ∃ x ∈ leavesF [t], x.hash = h := by
  rw [Spec.isLeaf, present_iff, mem_desc_iff_infos]
  constructor
  · rintro ⟨⟨x, hx, rfl⟩, h2⟩
    exact ⟨x, (mem_leaves_flat hd).2 ⟨hx, h2⟩, rfl⟩
  · rintro ⟨x, hx, rfl⟩
    exact ⟨⟨x, ((mem_leaves_flat hd).1 hx).1, rfl⟩, ((mem_leaves_flat hd).1 hx).2⟩

theorem linkedNums_flat {t : Node} (hd : (descF [t]).Nodup) :
    LinkedNums [t] ↔
      ∀ b ∈ (specOfNode t).blocks, ∃ pi ∈ infosF [t], pi.hash = b.parent ∧ b.number = pi.number + 1 := by
  constructor
  · intro hl b hbm
    obtain ⟨m, hm, c, hc, rfl⟩ := mem_spec_blocks.1 hbm
    exact ⟨m.info, mem_infos_of_subs hm, rfl, hl m hm c hc⟩
  · intro h m hm c hc
    obtain ⟨pi, hpi, hph, hnum⟩ := h _ (mem_spec_blocks.2 ⟨m, hm, c, hc, rfl⟩)
    rw [info_unique hd hpi (mem_infos_of_subs hm) hph] at hnum
    exact hnum

end Gossamer.BlockTree
