/-
C20: the closure `possibleToPrecommit` of `Round.update` (Go uint64 arithmetic) on the state reached by
importing a precommit-tolerant vote list = the paper's "possible to have a supermajority".
-/
import Gossamer.Lib.C20Derived
namespace Gossamer.C20

variable {t : Tree} {ws : List Nat}

theorem sub64_eq {a b : Nat} (hb : b ≤ a) (ha : a < MOD) : sub64 a b = a - b := by
  unfold sub64
  rw [Nat.mod_eq_of_lt (Nat.lt_of_le_of_lt hb ha), Nat.add_comm, Threshold.wrap_sub hb ha]

theorem sub64_wrap {a b : Nat} (hab : a < b) (hb : b < MOD) : sub64 a b = a + MOD - b := by
  unfold sub64
  rw [Nat.mod_eq_of_lt hb, Nat.mod_eq_of_lt (by omega)]

theorem add64_eq {a b : Nat} (h : a + b < MOD) : add64 a b = a + b := Nat.mod_eq_of_lt h

/-- the value `possibleToPrecommit` compares with the threshold: total weight, threshold, equivocating precommit
weight, precommit weight seen, precommit weight of the node -/
def possibleFull (tot thr e cur W : Nat) : Nat :=
  let additionalEquiv := sub64 (sub64 tot thr) e
  let d := sub64 cur W
  add64 (add64 W (sub64 tot cur)) (if d ≤ additionalEquiv then d else additionalEquiv)

theorem possible_eq_full (ws : List Nat) (cur : Nat) (eqv m : Mask) :
    possibleToPrecommit ws cur eqv m =
      decide (possibleFull (total ws) (threshold (total ws)) (maskWeight ws eqv 1) cur (nodeWeight ws eqv m true)
        ≥ threshold (total ws)) := rfl

theorem possibleFull_eq {tot thr e cur W : Nat} (hthr : thr ≤ tot) (he : e ≤ tot - thr) (hcur : cur ≤ tot)
    (hW : W ≤ cur) (hov : tot < MOD) :
    possibleFull tot thr e cur W = tot - cur + min cur (W + (tot - thr - e)) := by
  have hsum : W + (tot - cur) + min (cur - W) (tot - thr - e) = tot - cur + min cur (W + (tot - thr - e)) := by
    rw [Nat.add_right_comm, Nat.add_comm _ (tot - cur), ← Nat.add_min_add_left, Nat.add_sub_cancel' hW]
  have hlt : W + (tot - cur) + min (cur - W) (tot - thr - e) < MOD := by
    rw [hsum]
    exact Nat.lt_of_le_of_lt (Nat.add_le_add_left (Nat.min_le_left _ _) _) (by rwa [Nat.sub_add_cancel hcur])
  unfold possibleFull
  simp only
  rw [sub64_eq hthr hov, sub64_eq he (Nat.lt_of_le_of_lt (Nat.sub_le _ _) hov), sub64_eq hcur hov,
    sub64_eq hW (Nat.lt_of_le_of_lt hcur hov), ← Nat.min_def,
    add64_eq (a := W) (Nat.lt_of_le_of_lt (Nat.le_add_right _ _) hlt), add64_eq hlt, hsum]

/-- when nothing wraps the closure computes the paper's condition: the weight that voted against the node plus the
equivocating weight is at most 2f -/
theorem possibleFull_ge_iff {tot thr e cur W : Nat} (hthr : thr ≤ tot) (he : e ≤ tot - thr) (hcur : cur ≤ tot)
    (hW : W ≤ cur) (hov : tot < MOD) :
    thr ≤ possibleFull tot thr e cur W ↔ cur - W + e ≤ 2 * (tot - thr) := by
  rw [possibleFull_eq hthr he hcur hW hov]
  -- sums in place of the truncated differences, on which `omega` is slow
  obtain ⟨f, rfl⟩ := Nat.exists_eq_add_of_le hthr
  rw [Nat.add_sub_cancel_left] at he ⊢
  obtain ⟨f', rfl⟩ := Nat.exists_eq_add_of_le he
  obtain ⟨ag, rfl⟩ := Nat.exists_eq_add_of_le hW
  obtain ⟨R, hR⟩ := Nat.exists_eq_add_of_le hcur
  rw [hR, Nat.add_sub_cancel_left, Nat.add_sub_cancel_left, Nat.add_sub_cancel_left]
  omega

/-- `F`, `R` stand for the truncated differences `tot - thr - e`, `tot - cur`: `omega` is slow on the differences
themselves -/
theorem wrap_arith {tot cur W F R : Nat} (hW : cur < W) (hWt : W ≤ tot) (hF : F ≤ tot) (hR : cur + R = tot)
    (hov : 3 * tot < MOD) : ¬ cur + MOD - W ≤ F ∧ W + R + F < MOD ∧ tot ≤ W + R + F := by
  omega

/-- when the node weighs more than was seen, `currentWeight - precommittedFor` wraps: the difference is huge, the whole
remaining equivocation budget is granted and the node counts as possible.  No state of `run` is in this case
(`weightFor_le_voteWeight`); it is here because `possible_mono` speaks of every mask a search on the compressed graph may
merge. -/
theorem possibleFull_ge_of_gt {tot thr e cur W : Nat} (hthr : thr ≤ tot) (he : e ≤ tot - thr) (hcur : cur ≤ tot)
    (hW : cur < W) (hWt : W ≤ tot) (hov : 3 * tot < MOD) : thr ≤ possibleFull tot thr e cur W := by
  have hov1 : tot < MOD := Nat.lt_of_le_of_lt (Nat.le_mul_of_pos_left _ (by decide)) hov
  obtain ⟨h1, h2, h3⟩ := wrap_arith hW hWt
    (Nat.le_trans (Nat.sub_le _ _) (Nat.sub_le _ _) : tot - thr - e ≤ tot) (Nat.add_sub_cancel' hcur) hov
  unfold possibleFull
  simp only
  rw [sub64_eq hthr hov1, sub64_eq he (Nat.lt_of_le_of_lt (Nat.sub_le _ _) hov1), sub64_eq hcur hov1,
    sub64_wrap hW (Nat.lt_of_le_of_lt hWt hov1), if_neg h1,
    add64_eq (a := W) (Nat.lt_of_le_of_lt (Nat.le_add_right _ _) h2), add64_eq h2]
  exact Nat.le_trans hthr h3

theorem possibleFull_mono {tot thr e cur W W' : Nat} (hthr : thr ≤ tot) (he : e ≤ tot - thr) (hcur : cur ≤ tot)
    (hov : 3 * tot < MOD) (hWW : W ≤ W') (hWt : W' ≤ tot) (h : thr ≤ possibleFull tot thr e cur W) :
    thr ≤ possibleFull tot thr e cur W' := by
  have hov1 : tot < MOD := by omega
  by_cases h1 : W' ≤ cur
  · rw [possibleFull_ge_iff hthr he hcur (Nat.le_trans hWW h1) hov1] at h
    rw [possibleFull_ge_iff hthr he hcur h1 hov1]
    omega
  · exact possibleFull_ge_of_gt hthr he hcur (Nat.lt_of_not_le h1) hWt hov

theorem possible_mono (ws : List Nat) (cur : Nat) (eqv : Mask)
    (he : maskWeight ws eqv 1 ≤ total ws - threshold (total ws)) (hcur : cur ≤ total ws)
    (hov : 3 * total ws < MOD) : MonoCond (possibleToPrecommit ws cur eqv) := by
  intro m m' hm
  rw [possible_eq_full] at hm ⊢
  simp only [decide_eq_true_eq, ge_iff_le] at hm ⊢
  exact possibleFull_mono (threshold_le _) he hcur hov (nodeWeight_or_le ws eqv m m' true)
    (wsum_le_total ws _) hm

theorem possible_run (t : Tree) (ws : List Nat) (ops : List Op)
    (htol : tolerant ws ops true = true) (hov : total ws < MOD) (B : Nat) :
    possibleToPrecommit ws ((run t ws ops).cur true) (run t ws ops).eqv ((run t ws ops).cum B)
      = possible t ws ops true B := by
  -- the closure of the model has the literal `1` where `eqvWeight_run` has `phN true`: equal by `rfl`, but `rw` with the
  -- lemma does not find the literal, so the equation is restated with it
  have e1 : maskWeight ws (run t ws ops).eqv 1 = equivWeight ws ops true := eqvWeight_run t ws ops true
  have htol : equivWeight ws ops true ≤ total ws - threshold (total ws) := of_decide_eq_true htol
  rw [possible_eq_full, nodeWeight_run, cur_run, e1]
  unfold possible faulty
  apply decide_eq_decide.2
  rw [ge_iff_le, possibleFull_ge_iff (cur := voteWeight ws ops true) (threshold_le _) htol (wsum_le_total ws _)
    (weightFor_le_voteWeight t ws ops true B) hov,
    voteWeight_split t ws ops true B, Nat.add_sub_cancel_left]

end Gossamer.C20
