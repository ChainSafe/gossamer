/-
Reputation arithmetic.  The state machine computes with `addI`/`subI`/`tickI` on integers; for
reputations in the int32 range (`InRange`) these are clamped addition and a step toward zero, and they
agree with the wrapping 32-bit code of peerset.go (`add32_eq`, `sub32_eq`, `C30_tick32_eq`).
-/
import Gossamer.Model.C30
namespace Gossamer.C30

def InRange (r : Int) : Prop := minI32 ≤ r ∧ r ≤ maxI32

def clamp (x : Int) : Int := if x > maxI32 then maxI32 else if x < minI32 then minI32 else x

theorem thr_neg : bannedThreshold ≤ 0 := by decide

theorem inRange_zero : InRange 0 := ⟨by decide, by decide⟩

theorem clamp_range (x : Int) : InRange (clamp x) := by
  unfold InRange clamp minI32 maxI32
  split
  · omega
  · split <;> omega

theorem clamp_of_range (x : Int) (h : InRange x) : clamp x = x := by
  unfold clamp
  rw [if_neg (Int.not_lt.mpr h.2), if_neg (Int.not_lt.mpr h.1)]

theorem addI_clamp (r v : Int) (hr : InRange r) : addI r v = clamp (r + v) := by
  obtain ⟨h1, h2⟩ := hr
  unfold addI clamp
  generalize minI32 = lo at *
  generalize maxI32 = hi at *
  by_cases hv : v > 0
  · rw [if_pos hv]
    by_cases h : r > hi - v
    · rw [if_pos h, if_pos (by omega)]
    · rw [if_neg h, if_neg (by omega), if_neg (by omega)]
  · rw [if_neg hv]
    by_cases h : r < lo - v
    · rw [if_pos h, if_neg (by omega), if_pos (by omega)]
    · rw [if_neg h, if_neg (by omega), if_neg (by omega)]

theorem subI_eq_addI (r v : Int) : subI r v = addI r (-v) := by
  unfold subI addI
  simp only [Int.sub_eq_add_neg, Int.neg_neg, gt_iff_lt, Int.neg_pos]

theorem subI_clamp (r v : Int) (hr : InRange r) : subI r v = clamp (r - v) := by
  rw [subI_eq_addI, addI_clamp r _ hr, Int.sub_eq_add_neg]

theorem addI_range (r v : Int) (h : InRange r) : InRange (addI r v) := by
  rw [addI_clamp r v h]
  exact clamp_range _

theorem tickI_delta (r : Int) :
    ∃ d, tickI r = subI r d ∧ ((0 ≤ d ∧ d ≤ r) ∨ (r ≤ d ∧ d ≤ 0)) := by
  refine ⟨_, rfl, ?_⟩
  unfold goDiv50
  by_cases hr : 0 ≤ r
  · rw [if_pos hr]
    left
    split
    · omega
    · split <;> omega
  · rw [if_neg hr]
    right
    split
    · omega
    · split <;> omega

/-- `reputationTick` moves a reputation toward zero and never across it -/
theorem C30_tick_toward_zero (r : Int) (h : InRange r) :
    (0 ≤ r → 0 ≤ tickI r ∧ tickI r ≤ r) ∧ (r ≤ 0 → r ≤ tickI r ∧ tickI r ≤ 0) := by
  obtain ⟨d, e, hd⟩ := tickI_delta r
  have h1 := h.1
  have h2 := h.2
  rw [e, subI_clamp r d h, clamp_of_range]
  · omega
  · unfold InRange minI32 maxI32 at *
    omega

theorem tickI_between (r lo hi : Int) (h : InRange r) (hlo : lo ≤ 0) (hhi : 0 ≤ hi) (h1 : lo ≤ r)
    (h2 : r ≤ hi) : lo ≤ tickI r ∧ tickI r ≤ hi := by
  have := C30_tick_toward_zero r h
  omega

theorem tickI_range (r : Int) (h : InRange r) : InRange (tickI r) :=
  tickI_between r _ _ h (by decide) (by decide) h.1 h.2

theorem tickI_thr (r : Int) (h : InRange r) (ht : bannedThreshold ≤ r) : bannedThreshold ≤ tickI r :=
  (tickI_between r _ _ h thr_neg (by decide) ht h.2).1

theorem bmod_small (x : Int) (h1 : -2147483648 ≤ x) (h2 : x < 2147483648) : x.bmod (2 ^ 32) = x :=
  Int.bmod_eq_of_le_mul_two (by omega) (by omega)

theorem toInt_max : Int32.maxValue.toInt = 2147483647 := by decide
theorem toInt_min : Int32.minValue.toInt = -2147483648 := by decide

theorem add32_eq (a b : Int32) : (add32 a b).toInt = addI a.toInt b.toInt := by
  have ha1 := Int32.le_toInt a
  have ha2 := Int32.toInt_lt a
  have hb1 := Int32.le_toInt b
  have hb2 := Int32.toInt_lt b
  unfold add32 addI maxI32 minI32
  simp only [Int32.lt_iff_toInt_lt, gt_iff_lt, Int32.toInt_sub, toInt_max, toInt_min, Int32.toInt_zero]
  by_cases hb : 0 < b.toInt
  · simp only [hb, if_true]
    rw [bmod_small _ (by omega) (by omega)]
    split
    · exact toInt_max
    · rw [Int32.toInt_add, bmod_small _ (by omega) (by omega)]
  · simp only [hb, if_false]
    rw [bmod_small _ (by omega) (by omega)]
    split
    · exact toInt_min
    · rw [Int32.toInt_add, bmod_small _ (by omega) (by omega)]

theorem sub32_eq (a b : Int32) : (sub32 a b).toInt = subI a.toInt b.toInt := by
  have ha1 := Int32.le_toInt a
  have ha2 := Int32.toInt_lt a
  have hb1 := Int32.le_toInt b
  have hb2 := Int32.toInt_lt b
  unfold sub32 subI maxI32 minI32
  simp only [Int32.lt_iff_toInt_lt, gt_iff_lt, Int32.toInt_add, toInt_max, toInt_min, Int32.toInt_zero]
  by_cases hb : b.toInt < 0
  · simp only [hb, if_true]
    rw [bmod_small _ (by omega) (by omega)]
    split
    · exact toInt_max
    · rw [Int32.toInt_sub, bmod_small _ (by omega) (by omega)]
  · simp only [hb, if_false]
    rw [bmod_small _ (by omega) (by omega)]
    split
    · exact toInt_min
    · rw [Int32.toInt_sub, bmod_small _ (by omega) (by omega)]

theorem int32_inRange (a : Int32) : InRange a.toInt := by
  have ha1 := Int32.le_toInt a
  have ha2 := Int32.toInt_lt a
  unfold InRange minI32 maxI32
  omega

theorem goDiv50_tdiv (x : Int) : Int.tdiv x 50 = goDiv50 x := by
  unfold goDiv50
  split
  · rw [Int.tdiv_eq_ediv_of_nonneg (by omega)]
  · have : x = -(-x) := by omega
    rw [this, Int.neg_tdiv, Int.tdiv_eq_ediv_of_nonneg (by omega)]; simp

/-- `reputationTick` on int32 equals the integer version used by the state machine -/
theorem C30_tick32_eq (a : Int32) : (tick32 a).toInt = tickI a.toInt := by
  have ha1 := Int32.le_toInt a
  have ha2 := Int32.toInt_lt a
  have hd : (a / 50).toInt = goDiv50 a.toInt := by
    have hr : -2147483648 ≤ goDiv50 a.toInt ∧ goDiv50 a.toInt < 2147483648 := by
      unfold goDiv50; split <;> omega
    rw [Int32.toInt_div, (by decide : (50 : Int32).toInt = 50), goDiv50_tdiv]
    exact bmod_small _ hr.1 hr.2
  have h0 : (a / 50 = 0) ↔ (goDiv50 a.toInt = 0) := by
    rw [← hd, ← Int32.toInt_inj]; rfl
  unfold tick32 tickI
  simp only []
  rw [sub32_eq, apply_ite Int32.toInt, apply_ite Int32.toInt]
  simp only [h0, hd, Int32.lt_iff_toInt_lt, Int32.toInt_zero, gt_iff_lt]
  rfl

end Gossamer.C30
