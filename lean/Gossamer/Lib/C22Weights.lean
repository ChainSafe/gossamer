import Gossamer.Model.C22
import Gossamer.Lib.WSum
namespace Gossamer.C22

theorem Voters.weight_eq (vs : Voters) (p : Nat → Bool) : vs.weight p = WSum.wsum vs.w p vs.ids := by
  unfold Voters.weight
  induction vs.ids with
  | nil => rfl
  | cons a t ih => exact congrArg _ ih

theorem Voters.total_eq (vs : Voters) : vs.total = WSum.total vs.w vs.ids := vs.weight_eq _

theorem Voters.weight_mono (vs : Voters) (p q : Nat → Bool)
    (h : ∀ v ∈ vs.ids, p v = true → q v = true) : vs.weight p ≤ vs.weight q := by
  rw [vs.weight_eq, vs.weight_eq]; exact WSum.wsum_mono h

theorem Voters.weight_or_le (vs : Voters) (p q : Nat → Bool) :
    vs.weight (fun v => p v || q v) ≤ vs.weight p + vs.weight q := by
  simp only [vs.weight_eq]; exact Nat.le.intro (WSum.wsum_or_and ..)

theorem Voters.weight_split (vs : Voters) (p q : Nat → Bool) (h : ∀ v ∈ vs.ids, q v = true → p v = true) :
    vs.weight p = vs.weight q + vs.weight (fun v => p v && !q v) := by
  simp only [vs.weight_eq]; exact WSum.wsum_split h

theorem Voters.two_super_meet (vs : Voters) (a b z : Nat → Bool)
    (hz : 3 * vs.weight z < vs.total)
    (ha : supermajority vs.total (vs.weight a)) (hb : supermajority vs.total (vs.weight b)) :
    ∃ v ∈ vs.ids, a v = true ∧ b v = true ∧ z v = false := by
  simp only [supermajority, vs.weight_eq, vs.total_eq] at hz ha hb
  exact WSum.meet_of_super hz ha hb

theorem Voters.honest_super (vs : Voters) (hmin : vs.minority) :
    supermajority vs.total (vs.weight (fun v => !vs.byz v)) := by
  have h : vs.total = vs.weight vs.byz + vs.weight (fun v => !vs.byz v) :=
    vs.weight_split (fun _ => true) vs.byz fun _ _ _ => rfl
  unfold supermajority Voters.minority at *
  omega

end Gossamer.C22
