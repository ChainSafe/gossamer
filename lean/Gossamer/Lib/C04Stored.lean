/-
C04, from stored encodings to reads.  `StoG H G t N`: `N` is the node (C07 codec form, real children)
of the trie `t`, and the store `G` holds, under its hash, the encoding of every proper descendant whose
encoding has 32 bytes or more, and, under `partialKey ‖ hash`, every storage value that is hashed.
Then the DECODED root encoding represents `t` (`rep_of_sto`), hence `GetFromDB` reads `t` exactly.
The decoder is the model of `node.Decode` of C07 (`C07.decode_encode`).
-/
import Gossamer.Lib.C04Read
import Gossamer.Lib.C04DB
import Gossamer.Lib.C07RoundTrip
namespace Gossamer
namespace TrieHeap
open Trie TrieCodec

/-- `G k v`: the store maps the key `k` to `v`.  `t` determines `N` up to the `hashed` flags, which are free
    here: on the heap they are the cells' `MustBeHashed` fields, fixed when a value is written, not recomputed
    by `SetVersion`. -/
def StoG (H : Bytes → Bytes) (G : Bytes → Bytes → Prop) : Trie → Node → Prop
  | .nil, n => n = .empty
  | .leaf pk v, n =>
    ∃ pkb hashed, n = .leaf pkb (some v) hashed ∧ pkb.map toNib = pk ∧
      (hashed = true → G (pkb ++ H v) v)
  | .branch pk v cs, n =>
    ∃ pkb hashed kids, n = .branch pkb v hashed kids ∧ pkb.map toNib = pk ∧
      (hashed = true → ∀ x, v = some x → G (pkb ++ H x) x) ∧
      ∀ i : Nib, StoG H G (cs i) ((kids[i.val]?).getD .empty) ∧
        (cs i ≠ .nil → 32 ≤ (encode H ((kids[i.val]?).getD .empty)).length →
          G (H (encode H ((kids[i.val]?).getD .empty))) (encode H ((kids[i.val]?).getD .empty)))

theorem StoG.mono {H : Bytes → Bytes} {G G' : Bytes → Bytes → Prop} (h : ∀ k v, G k v → G' k v) :
    ∀ (t : Trie) (N : Node), StoG H G t N → StoG H G' t N
  | .nil, _, hs => hs
  | .leaf _ _, _, hs => by
    obtain ⟨pkb, hashed, h1, h2, h3⟩ := hs
    exact ⟨pkb, hashed, h1, h2, fun hh => h _ _ (h3 hh)⟩
  | .branch _ _ cs, _, hs => by
    obtain ⟨pkb, hashed, kids, h1, h2, h3, h4⟩ := hs
    exact ⟨pkb, hashed, kids, h1, h2, fun hh x hx => h _ _ (h3 hh x hx),
      fun i => ⟨StoG.mono h (cs i) _ (h4 i).1, fun a b => h _ _ ((h4 i).2 a b)⟩⟩

abbrev Sto (H : Bytes → Bytes) (db : DB) : Trie → Node → Prop :=
  StoG H (fun k v => dbGet db k = some v)

theorem sto_nil_iff {H : Bytes → Bytes} {G : Bytes → Bytes → Prop} {t : Trie} {n : Node} (h : StoG H G t n) :
    t = .nil ↔ n = .empty := by
  cases t with
  | nil => exact ⟨fun _ => h, fun _ => rfl⟩
  | leaf pk v =>
    obtain ⟨_, _, rfl, _⟩ := h
    exact ⟨(fun e => nomatch e), (fun e => nomatch e)⟩
  | branch pk v cs =>
    obtain ⟨_, _, _, rfl, _⟩ := h
    exact ⟨(fun e => nomatch e), (fun e => nomatch e)⟩

theorem rep_of_sto (H : Bytes → Bytes) (hH : ∀ m, (H m).length = 32) (db : DB) :
    ∀ (t : Trie) (N : Node), Sto H db t N → C07.WF N → t ≠ .nil → Rep db t (C07.view H N)
  | .nil, _, _, _, hne => absurd rfl hne
  | .leaf pk v, N, h, hwf, _ => by
    obtain ⟨pkb, hashed, rfl, hpk, hv⟩ := h
    unfold C07.WF at hwf
    obtain ⟨hnib, _, _, _⟩ := hwf
    refine ⟨pkb, C07.viewValue H (some v) hashed, hashed, by simp [C07.view], hnib, hpk, ?_⟩
    cases hashed with
    | false => left; simp [C07.viewValue]
    | true => right; exact ⟨rfl, v, rfl, by simpa [C07.viewValue] using hv rfl⟩
  | .branch pk v cs, N, h, hwf, _ => by
    obtain ⟨pkb, hashed, kids, rfl, hpk, hv, hkids⟩ := h
    unfold C07.WF at hwf
    obtain ⟨hnib, _, _, hlen, hwk⟩ := hwf
    rw [Rep]
    refine ⟨pkb, C07.viewValue H v hashed, hashed && v.isSome, C07.viewKids H kids, by simp [C07.view],
      hnib, hpk, ?_, ?_⟩
    · cases hashed with
      | false => left; cases v <;> simp [C07.viewValue]
      | true =>
        cases v with
        | none => left; simp [C07.viewValue]
        | some x => right; exact ⟨by simp, x, rfl, by simpa [C07.viewValue] using hv rfl x rfl⟩
    · intro i
      have hi : i.val < kids.length := by rw [hlen]; exact i.isLt
      obtain ⟨hsto, hdb⟩ := hkids i
      rw [C07.viewKids_eq_map, List.getElem?_map]
      have hget : kids[i.val]? = some kids[i.val] := List.getElem?_eq_getElem hi
      rw [hget] at hsto hdb ⊢
      simp only [Option.getD_some, Option.map_some] at hsto hdb ⊢
      have hwc := (C07.wfKids_iff kids).mp hwk _ (List.mem_of_getElem? hget)
      generalize kids[i.val] = c at hsto hdb hwc ⊢
      cases c with
      | empty => exact (sto_nil_iff hsto).mpr rfl
      | stub mv =>
        -- a child that is only known by its hash is not the node of any trie
        exfalso
        cases hci : cs i with
        | nil => rw [hci] at hsto; cases hsto
        | leaf _ _ => rw [hci] at hsto; obtain ⟨_, _, h1, _⟩ := hsto; cases h1
        | branch _ _ _ => rw [hci] at hsto; obtain ⟨_, _, _, h1, _⟩ := hsto; cases h1
      | leaf a b c =>
        have hne : cs i ≠ .nil := fun e => by
          have := (sto_nil_iff hsto).mp e; cases this
        have hr := rep_of_sto H hH db (cs i) _ hsto hwc hne
        simp only [C07.viewKid]
        by_cases hl : (encode H (.leaf a b c)).length < 32
        · rw [if_pos hl]
          simp only [C07.view] at hr ⊢
          exact hr
        · rw [if_neg hl]
          refine ⟨_, _, hdb hne (by omega), ?_, hr⟩
          unfold decodeNode
          rw [C07.decode_encode H hH true _ hwc]
      | branch a b c d =>
        have hne : cs i ≠ .nil := fun e => by
          have := (sto_nil_iff hsto).mp e; cases this
        have hr := rep_of_sto H hH db (cs i) _ hsto hwc hne
        simp only [C07.viewKid]
        by_cases hl : (encode H (.branch a b c d)).length < 32
        · rw [if_pos hl]
          simp only [C07.view] at hr ⊢
          exact hr
        · rw [if_neg hl]
          refine ⟨_, _, hdb hne (by omega), ?_, hr⟩
          unfold decodeNode
          rw [C07.decode_encode H hH true _ hwc]

theorem sto_of_mem (H : Bytes → Bytes) {db : DB} (hn : NoColl db) (t : Trie) (N : Node)
    (h : StoG H (Mem db) t N) : Sto H db t N :=
  StoG.mono (fun _ _ hm => dbGet_of_mem hn hm) t N h

end TrieHeap
end Gossamer
