/-
Effect of `addChild`: as a multiset the flat view gains one block and nothing else (`blocksF_add_perm`); what it does to the
leaves and to the numbering is read off the flat view (Lib/BlockTreeStatic), not off a traversal.
-/
import Gossamer.Lib.BlockTreeStatic

namespace Gossamer.BlockTree

theorem addChildF_cons (ph : Hash) (c : Node) (i : Info) (cs rest : Forest) :
    addChildF ph c (.mk i cs :: rest) =
      if i.hash = ph then .mk i (cs ++ [c]) :: rest
      else if ph ∈ descF cs then .mk i (addChildF ph c cs) :: rest
      else .mk i cs :: addChildF ph c rest := by
  rw [addChildF]
  by_cases h : ph ∈ descF cs
  · rw [if_pos h, if_pos ((occF_iff ph cs).2 h)]
  · rw [if_neg h, if_neg (fun ho => h ((occF_iff ph cs).1 ho))]

theorem addChildF_absent {ph : Hash} {c : Node} : ∀ f, ph ∉ descF f → addChildF ph c f = f := by
  intro f
  induction f using forest_ind with
  | nil => intro _; rw [addChildF]
  | cons i cs rest ih1 ih2 =>
    intro h
    rw [descF, List.mem_cons, List.mem_append, not_or, not_or] at h
    rw [addChildF_cons, if_neg (fun e => h.1 e.symm), if_neg h.2.1, ih2 h.2.2]

theorem addChild_eq (t : Node) (ph : Hash) (c : Node) : [t.addChild ph c] = addChildF ph c [t] := by
  cases t with
  | mk i cs =>
    rw [Node.addChild, addChildF_cons]
    split
    · rfl
    · split
      · rfl
      · next h => rw [addChildF_absent cs h, addChildF]

theorem addChild_info (t : Node) (ph : Hash) (c : Node) : (t.addChild ph c).info = t.info := by
  cases t; simp only [Node.addChild]; split <;> rfl

/-- `p` only labels the blocks of the top-level nodes; the callers below pass `0` and drop or map that label away. -/
theorem blocksF_add_perm {ph : Hash} (c : Node) : ∀ f p, ph ∈ descF f →
    (blocksF p (addChildF ph c f)).Perm (blocksF p f ++ blocksF ph [c]) := by
  intro f
  induction f using forest_ind with
  | nil => simp [descF]
  | cons i cs rest ih1 ih2 =>
    intro p hp
    have mid : ∀ l : List Block, l.Perm (blocksF i.hash cs ++ blocksF ph [c]) →
        (i.block p :: (l ++ blocksF p rest)).Perm (blocksF p (.mk i cs :: rest) ++ blocksF ph [c]) := by
      intro l hl
      rw [blocksF, List.cons_append, List.append_assoc]
      refine ((hl.append_right _).trans ?_).cons _
      rw [List.append_assoc]
      exact List.perm_append_comm.append_left _
    rw [addChildF_cons]
    split
    · next h => subst h; rw [blocksF, blocksF_append]; exact mid _ (List.Perm.refl _)
    · split
      · next h => rw [blocksF]; exact mid _ (ih1 _ h)
      · next h1 h2 =>
        have : ph ∈ descF rest := by
          rw [descF, List.mem_cons, List.mem_append] at hp
          exact (hp.resolve_left (fun e => h1 e.symm)).resolve_left h2
        rw [blocksF, blocksF, List.cons_append, List.append_assoc]
        exact ((ih2 p this).append_left _).cons _

theorem descF_add_perm {ph : Hash} {c : Node} {f : Forest} (hp : ph ∈ descF f) :
    (descF (addChildF ph c f)).Perm (descF f ++ descF [c]) := by
  have := (blocksF_add_perm c f 0 hp).map (·.hash)
  rwa [List.map_append, blocksF_map_hash, blocksF_map_hash, blocksF_map_hash] at this

section leaf
variable {t : Node} {ph : Hash} {n : Info}

theorem nodup_addChild (hd : (descF [t]).Nodup) (hp : ph ∈ descF [t]) (hn : n.hash ∉ descF [t]) :
    (descF [t.addChild ph (.mk n [])]).Nodup := by
  rw [addChild_eq, (descF_add_perm hp).nodup_iff, descF_single, descF]
  exact nodup_snoc hd hn

theorem mem_blocks_addChild (hp : ph ∈ descF [t]) (b : Block) :
    b ∈ (specOfNode (t.addChild ph (.mk n []))).blocks ↔ b ∈ (specOfNode t).blocks ∨ b = n.block ph := by
  have hperm := blocksF_add_perm (.mk n []) [t] 0 hp
  rw [← addChild_eq, blocksF_node, blocksF_node, addChild_info, List.cons_append] at hperm
  simpa [blocksF] using hperm.cons_inv.mem_iff

theorem mem_infos_addChild (hp : ph ∈ descF [t]) {x : Info} :
    x ∈ infosF [t.addChild ph (.mk n [])] ↔ x ∈ infosF [t] ∨ x = n := by
  have := ((blocksF_add_perm (.mk n []) [t] 0 hp).map Block.info).mem_iff (a := x)
  rw [← addChild_eq, List.map_append, blocksF_map_info, blocksF_map_info, blocksF_map_info] at this
  simpa [infosF] using this

theorem mem_leaves_addChild (hd : (descF [t]).Nodup) (hp : ph ∈ descF [t]) (hn : n.hash ∉ descF [t])
    {x : Info} :
    x ∈ leavesF [t.addChild ph (.mk n [])] ↔ (x ∈ leavesF [t] ∧ x.hash ≠ ph) ∨ x = n := by
  rw [mem_leaves_flat (nodup_addChild hd hp hn), mem_leaves_flat hd, mem_infos_addChild hp]
  simp only [mem_blocks_addChild hp]
  constructor
  · rintro ⟨hx | rfl, hb⟩
    · exact .inl ⟨⟨hx, fun b hb' => hb b (.inl hb')⟩, fun e => hb _ (.inr rfl) e.symm⟩
    · exact .inr rfl
  · rintro (⟨⟨hx, hb⟩, hne⟩ | rfl)
    · exact ⟨.inl hx, fun b hb' => hb'.elim (hb b) fun e => e ▸ fun e' => hne e'.symm⟩
    · -- nobody's parent: parent links point at held blocks, and the hash of `x` is fresh
      exact ⟨.inr rfl, fun b hb' => hb'.elim (fun h e => hn (e ▸ parent_mem h)) fun e => e ▸ fun e' => hn (e' ▸ hp)⟩

theorem linkedNums_addChild (hd : (descF [t]).Nodup) {p : Node} (hp : findF ph [t] = some p)
    (hn : n.hash ∉ descF [t]) (hnum : n.number = p.info.number + 1) (hl : LinkedNums [t]) :
    LinkedNums [t.addChild ph (.mk n [])] := by
  obtain ⟨hps, hph⟩ := findF_some hp
  have hpm : ph ∈ descF [t] := findF_mem hp
  rw [linkedNums_flat (nodup_addChild hd hpm hn)]
  intro b hb
  rcases (mem_blocks_addChild hpm b).1 hb with hb | rfl
  · obtain ⟨pi, hpi, h⟩ := (linkedNums_flat hd).1 hl b hb
    exact ⟨pi, (mem_infos_addChild hpm).2 (.inl hpi), h⟩
  · exact ⟨p.info, (mem_infos_addChild hpm).2 (.inl (mem_infos_of_subs hps)), hph, hnum⟩

end leaf

end Gossamer.BlockTree
