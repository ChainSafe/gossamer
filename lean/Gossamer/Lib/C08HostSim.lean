/-
C08: host-level refinement.  A host function is one storage-machine step followed by an encoding of
its result, so the simulation between the `TrieState` model over the ideal trie and the
specification lifts to the host functions; and the encodings can be decoded back.
-/
import Gossamer.Lib.C08Host
import Gossamer.Lib.C08SimStep
namespace Gossamer.C08
open Gossamer

/-- all but kill_v3, whose result also encodes `Mach.killErr` (the `ErrChildTrieDoesNotExist` of
    `DeleteChildLimit`): the simulation carries the observable, the depth and the root, not that flag
    — `croot` is excluded through `StepOK` -/
def HOp.lifted : HOp → Bool
  | .killl3 _ _ => false
  | _ => true

theorem enc_err_irrelevant (h : HOp) (hl : h.lifted = true) (e1 e2 : Bool) (dp : Nat) (rt : Bytes)
    (o : Out) : h.enc e1 dp rt o = h.enc e2 dp rt o := by
  cases h <;> first | rfl | (simp [HOp.lifted] at hl)

section generic
variable {σ1 σ2 : Type} (M1 : Mach σ1) (M2 : Mach σ2) (R : σ1 → σ2 → Prop) (P : σ1 → Op → Prop)

theorem hostStep_sim
    (hstep : ∀ s1 s2 op, R s1 s2 → P s1 op →
      R (M1.step s1 op).1 (M2.step s2 op).1 ∧ (M1.step s1 op).2 = (M2.step s2 op).2)
    (hobs : ∀ s1 s2, R s1 s2 → M1.depth s1 = M2.depth s2 ∧ M1.root s1 = M2.root s2)
    (s1 : σ1) (s2 : σ2) (h : HOp) (hR : R s1 s2) (hl : h.lifted = true)
    (hP : ∀ op, h.op = some op → P s1 op) :
    R (hostStep M1 s1 h).1 (hostStep M2 s2 h).1 ∧ (hostStep M1 s1 h).2 = (hostStep M2 s2 h).2 := by
  unfold hostStep
  cases hop : h.op with
  | none => exact ⟨hR, rfl⟩
  | some op =>
    obtain ⟨h1, h2⟩ := hstep s1 s2 op hR (hP op hop)
    obtain ⟨h3, h4⟩ := hobs _ _ h1
    refine ⟨h1, ?_⟩
    simp only []
    rw [h2, h3, h4]
    exact enc_err_irrelevant h hl _ _ _ _ _

def HostSafe : σ1 → List HOp → Prop
  | _, [] => True
  | s, h :: r => h.lifted = true ∧ (∀ op, h.op = some op → P s op) ∧ HostSafe (hostStep M1 s h).1 r

theorem hostRun_sim
    (hstep : ∀ s1 s2 op, R s1 s2 → P s1 op →
      R (M1.step s1 op).1 (M2.step s2 op).1 ∧ (M1.step s1 op).2 = (M2.step s2 op).2)
    (hobs : ∀ s1 s2, R s1 s2 → M1.depth s1 = M2.depth s2 ∧ M1.root s1 = M2.root s2)
    (hs : List HOp) : ∀ (s1 : σ1) (s2 : σ2), R s1 s2 → HostSafe M1 P s1 hs →
      R (hostRun M1 s1 hs).1 (hostRun M2 s2 hs).1 ∧ (hostRun M1 s1 hs).2 = (hostRun M2 s2 hs).2 := by
  induction hs with
  | nil => intro s1 s2 hR _; exact ⟨hR, rfl⟩
  | cons h r ih =>
    intro s1 s2 hR hsafe
    obtain ⟨h1, h2⟩ := hostStep_sim M1 M2 R P hstep hobs s1 s2 h hR hsafe.1 hsafe.2.1
    obtain ⟨h3, h4⟩ := ih _ _ h1 hsafe.2.2
    simp only [hostRun]
    exact ⟨h3, by rw [h2, h4]⟩

end generic

section ideal
variable (Hc Hm : Entries → Bytes) (D : Dumper Logical) (CK : Bytes → Bool)

theorem sim_obs {t : TS Logical} {s : SS} (h : Sim CK t s) :
    (tsMach (idealBackend Hc Hm) D Diff.sortedOrder).depth t = (specMach Hc Hm).depth s ∧
      (tsMach (idealBackend Hc Hm) D Diff.sortedOrder).root t = (specMach Hc Hm).root s := by
  constructor
  · show t.txs.length = s.stack.length
    exact h.stack.length_eq
  · show Hm (Logical.view Hc t.base) = Hm (Logical.view Hc s.back)
    rw [h.back]

/-- host-level refinement: the bytes the host functions leave in guest memory (and their u32
    results) are those of the specification, for every history in the fragment -/
theorem host_refines (hs : List HOp) (t : TS Logical) (s : SS) (hsim : Sim CK t s)
    (hsafe : HostSafe (tsMach (idealBackend Hc Hm) D Diff.sortedOrder) (StepOK CK) t hs) :
    (hostRun (tsMach (idealBackend Hc Hm) D Diff.sortedOrder) t hs).2 =
      (hostRun (specMach Hc Hm) s hs).2 :=
  (hostRun_sim (tsMach (idealBackend Hc Hm) D Diff.sortedOrder) (specMach Hc Hm) (Sim CK) (StepOK CK)
    (fun _ _ op hR hP => sim_step Hc Hm D hR op hP) (fun _ _ hR => sim_obs Hc Hm D CK hR)
    hs t s hsim hsafe).2

end ideal

/-- what the guest does with an `Option<Vec<u8>>` result -/
def decOptVec : Bytes → Option (Option Bytes)
  | [] => none
  | b :: r =>
    if b = 0 then (if r.isEmpty then some none else none)
    else if b = 1 then
      match Scale.compactDec r with
      | some (n, rest) => if rest.length = n then some (some rest) else none
      | none => none
    else none

theorem decOptVec_optVec (v : Option Bytes) (h : ∀ b, v = some b → b.length < 256 ^ 67) :
    decOptVec (optVec v) = some v := by
  cases v with
  | none => rfl
  | some b =>
    have hb := h b rfl
    simp only [optVec, decOptVec]
    rw [Scale.compactDec_enc b.length hb b]
    simp

/-- flag byte ++ u32 LE → (count, allRemoved) -/
def decKillEnum : Bytes → Option (Nat × Bool)
  | f :: r => if r.length = 4 then some (natOfLE r, f == 0) else none
  | [] => none

theorem decKillEnum_killEnum (n : Nat) (all : Bool) (h : n < 4294967296) :
    decKillEnum (killEnum n all) = some (n, all) := by
  unfold killEnum decKillEnum
  simp only [length_leBytes, if_true]
  rw [natOfLE_leBytes_lt (pow256_4 ▸ h)]
  cases all <;> simp

end Gossamer.C08
