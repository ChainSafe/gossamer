/-
Fork choice: `highestLeaf` and `bestBlock` compute the maximum of a total order, whatever the iteration order.
-/
import Gossamer.Lib.BlockTreeInv

namespace Gossamer.BlockTree

/-- the order `highestLeaf` maximises -/
def hlBetter (x y : Info) : Prop :=
  x.number > y.number ∨ (x.number = y.number ∧
    (x.arrival < y.arrival ∨ (x.arrival = y.arrival ∧ x.hash < y.hash)))

instance (x y : Info) : Decidable (hlBetter x y) := by unfold hlBetter; infer_instance

theorem Spec.better_iff (s : Spec) (x y : Info) :
    s.better x y ↔ s.primaries x.hash > s.primaries y.hash ∨
      (s.primaries x.hash = s.primaries y.hash ∧ hlBetter x y) := Iff.rfl

theorem hlBetter_trans {x y z : Info} (h1 : hlBetter x y) (h2 : hlBetter y z) : hlBetter x z := by
  unfold hlBetter at *; omega

theorem hlBetter_negtrans {x y z : Info} (h1 : ¬ hlBetter x y) (h2 : ¬ hlBetter y z) : ¬ hlBetter x z := by
  unfold hlBetter at *; omega

theorem hlBetter_total {x y : Info} (h : x.hash ≠ y.hash) : hlBetter x y ∨ hlBetter y x := by
  unfold hlBetter; omega

theorem hlBetter_irrefl (x : Info) : ¬ hlBetter x x := by unfold hlBetter; omega

theorem hlStep_some (d x : Info) :
    ∃ d', hlStep (d.number, some d) x = some (d'.number, some d') ∧ (d' = d ∨ d' = x) ∧
      ¬ hlBetter d d' ∧ ¬ hlBetter x d' := by
  unfold hlStep
  simp only
  by_cases h1 : d.number < x.number
  · exact ⟨x, by simp [h1], Or.inr rfl, by unfold hlBetter; omega, hlBetter_irrefl x⟩
  · by_cases h2 : d.number = x.number
    · by_cases h3 : x.arrival < d.arrival
      · exact ⟨x, by simp [h2, h3], Or.inr rfl, by unfold hlBetter; omega, hlBetter_irrefl x⟩
      · by_cases h4 : x.arrival = d.arrival
        · by_cases h5 : x.hash < d.hash
          · exact ⟨x, by simp [h2, h4, h5], Or.inr rfl, by unfold hlBetter; omega, hlBetter_irrefl x⟩
          · exact ⟨d, by simp [h2, h4, h5], Or.inl rfl, hlBetter_irrefl d, by unfold hlBetter; omega⟩
        · exact ⟨d, by simp [h2, h3, h4], Or.inl rfl, hlBetter_irrefl d, by unfold hlBetter; omega⟩
    · exact ⟨d, by simp [h1, h2], Or.inl rfl, hlBetter_irrefl d, by unfold hlBetter; omega⟩

/-- the loop invariant of `highestLeaf`: after the first element the state is `(d.number, some d)` for the best node
    `d` so far, so the nil branch of `hlStep` is dead from then on -/
theorem hlFold_some : ∀ (g : List Info) (d : Info),
    ∃ d', hlFold (d.number, some d) g = some (d'.number, some d') ∧ d' ∈ d :: g ∧
      ∀ x ∈ d :: g, ¬ hlBetter x d' := by
  intro g
  induction g with
  | nil =>
    intro d
    exact ⟨d, by simp [hlFold], by simp, by simp [hlBetter_irrefl]⟩
  | cons x xs ih =>
    intro d
    obtain ⟨d1, hs, hor, hb1, hb2⟩ := hlStep_some d x
    obtain ⟨d', hf, hmem, hall⟩ := ih d1
    refine ⟨d', by simp only [hlFold, hs, hf], ?_, ?_⟩
    · simp only [List.mem_cons] at hmem ⊢
      rcases hmem with h | h
      · rcases hor with h' | h' <;> simp [h, h']
      · exact Or.inr (Or.inr h)
    · intro y hy
      have hd1 : ¬ hlBetter d1 d' := hall d1 (by simp)
      simp only [List.mem_cons] at hy
      rcases hy with rfl | rfl | hy
      · exact hlBetter_negtrans hb1 hd1
      · exact hlBetter_negtrans hb2 hd1
      · exact hall y (by simp [hy])

theorem highestLeaf_some {g : List Info} (hne : g ≠ []) (hpos : ∀ x ∈ g, 0 < x.number) :
    ∃ d', highestLeaf g = some (some d') ∧ d' ∈ g ∧ ∀ x ∈ g, ¬ hlBetter x d' := by
  cases g with
  | nil => exact absurd rfl hne
  | cons x xs =>
    have hx := hpos x (by simp)
    obtain ⟨d', hf, hmem, hall⟩ := hlFold_some xs x
    refine ⟨d', ?_, hmem, hall⟩
    simp only [highestLeaf, hlFold, hlStep, hx, if_true, hf, Option.map_some]

theorem le_highestCount (root : Node) {it : List Info} {x : Info} (hx : x ∈ it) :
    primaryCount root x.hash ≤ highestCount root it :=
  (foldl_max_fn (fun x : Info => primaryCount root x.hash) it 0).2.1 x hx

theorem exists_highestCount (root : Node) {it : List Info} (hne : it ≠ []) :
    ∃ x ∈ it, primaryCount root x.hash = highestCount root it := by
  rcases (foldl_max_fn (fun x : Info => primaryCount root x.hash) it 0).2.2 with h3 | h3
  · cases it with
    | nil => exact absurd rfl hne
    | cons a as =>
      have ha : a ∈ a :: as := List.mem_cons_self ..
      have := le_highestCount root ha
      exact ⟨a, ha, by unfold highestCount at *; omega⟩
  · exact h3

/-- `hpos`: `highestLeaf` is only reached with a tie group of two or more, and then needs positive numbers
    (a number-0 node in the group would leave its `deepest` nil). -/
theorem bestBlock_spec (root : Node) {it : List Info} {σ : List Info → List Info} (hσ : ∀ l, (σ l).Perm l)
    (hne : it ≠ []) (hpos : 2 ≤ it.length → ∀ z ∈ it, 0 < z.number) :
    ∃ b, bestBlock root it σ = some (some b) ∧ b ∈ it ∧
      primaryCount root b.hash = highestCount root it ∧
      ∀ y ∈ it, primaryCount root y.hash = highestCount root it → ¬ hlBetter y b := by
  obtain ⟨x0, hx0, hx0c⟩ := exists_highestCount root hne
  unfold bestBlock
  simp only
  generalize hg : it.filter (fun x => decide (primaryCount root x.hash = highestCount root it)) = g
  have hgm : ∀ x, x ∈ g ↔ x ∈ it ∧ primaryCount root x.hash = highestCount root it := by
    intro x; rw [← hg]; simp [List.mem_filter]
  have hx0g : x0 ∈ g := (hgm x0).2 ⟨hx0, hx0c⟩
  have hlen : g.length ≤ it.length := hg ▸ List.length_filter_le _ _
  match g, hgm, hx0g, hlen with
  | [], _, h, _ => simp at h
  | [x], hgm, _, _ =>
    have := (hgm x).1 (by simp)
    refine ⟨x, rfl, this.1, this.2, ?_⟩
    intro y hy hyc
    have : y ∈ [x] := (hgm y).2 ⟨hy, hyc⟩
    simp only [List.mem_singleton] at this
    subst this; exact hlBetter_irrefl y
  | x :: y :: r, hgm, _, hlen =>
    have hpos' : ∀ z ∈ σ (x :: y :: r), 0 < z.number := fun z hz =>
      hpos (Nat.le_trans (Nat.le_add_left 2 r.length) hlen) z ((hgm z).1 ((hσ _).mem_iff.1 hz)).1
    have hne' : σ (x :: y :: r) ≠ [] := by
      intro h; have := (hσ (x :: y :: r)).length_eq; simp [h] at this
    obtain ⟨d, hd, hdm, hall⟩ := highestLeaf_some hne' hpos'
    have := (hgm d).1 ((hσ _).mem_iff.1 hdm)
    exact ⟨d, hd, this.1, this.2, fun z hz hzc => hall z ((hσ _).mem_iff.2 ((hgm z).2 ⟨hz, hzc⟩))⟩

theorem best_exists {bt : BT} (hi : Inv bt) {it : List Info} {σ : List Info → List Info}
    (hit : it.Perm bt.leaves) (hσ : ∀ l, (σ l).Perm l) :
    ∃ b, bestBlock bt.root it σ = some (some b) ∧ b ∈ it ∧
      primaryCount bt.root b.hash = highestCount bt.root it ∧
      ∀ y ∈ it, primaryCount bt.root y.hash = highestCount bt.root it → ¬ hlBetter y b := by
  have hmem : ∀ x, x ∈ it ↔ x ∈ leavesF [bt.root] := fun x => (hit.trans hi.leaves_perm).mem_iff
  have hlen := (hit.trans hi.leaves_perm).length_eq
  refine bestBlock_spec bt.root hσ ?_ fun h2 z hz => ?_
  · -- the root has a leaf in its subtree
    obtain ⟨l, hl, _⟩ := leaf_above hi.nums bt.root.info (infosF_node _ ▸ .head _)
    exact List.ne_nil_of_mem ((hmem l).2 hl)
  · have hzl := (hmem z).1 hz
    have hnums := hi.nums
    cases hr : bt.root with
    | mk i cs =>
      rw [hr] at hzl hlen hnums
      -- with two leaves or more the root has children, and the leaves lie among them
      rcases mem_leavesF_cons.1 hzl with ⟨rfl, _⟩ | h | h
      · rw [hlen] at h2; simp [leavesF] at h2
      · have := numOKF_ge (linkedNums_cons.1 hnums).1 z (leavesF_sub_infos h)
        omega
      · simp [leavesF] at h

end Gossamer.BlockTree
