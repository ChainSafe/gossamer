/-
C05, what `Generate` returns: every item of a `walk` is an honest string of the state, and the
deduplication by Merkle value loses none of them (within the honest strings the Merkle value
identifies the string unless `H` collides there, `mv_inj`), so the proof holds exactly the items of
the walks of its keys (`generate_spec`; from any deduplication state `mem_generateFrom`).
-/
import Gossamer.Lib.TrieProofVerify
import Gossamer.Lib.TrieLemmas
import Gossamer.Lib.TrieBytes
namespace Gossamer.C05
open Gossamer Gossamer.TrieCodec Gossamer.Bridge

/-- the `me` of `walk` -/
def ownItem (ver : Ver) (H : Bytes → Bytes) (isRoot : Bool) (t : Trie) : List Bytes :=
  if isRoot || decide ((encodeNode ver H t).length ≥ 32) then [encodeNode ver H t] else []

theorem mem_ownItem {ver : Ver} {H : Bytes → Bytes} {isRoot : Bool} {t : Trie} {e : Bytes}
    (h : e ∈ ownItem ver H isRoot t) : e = encodeNode ver H t := by
  unfold ownItem at h
  split at h
  · exact List.mem_singleton.mp h
  · cases h

theorem self_mem_ownItem {ver : Ver} {H : Bytes → Bytes} {isRoot : Bool} {t : Trie}
    (h : isRoot = true ∨ 32 ≤ (encodeNode ver H t).length) : encodeNode ver H t ∈ ownItem ver H isRoot t := by
  rw [ownItem, if_pos (by simpa using h)]
  exact List.mem_singleton_self _

theorem mem_valueNode {ver : Ver} {v : Option Bytes} {e : Bytes} :
    e ∈ valueNode ver v ↔ v = some e ∧ mustBeHashed ver e = true := by
  cases v with
  | none => exact ⟨nofun, nofun⟩
  | some x =>
    rw [valueNode]
    split
    · rename_i hm
      rw [List.mem_singleton]
      exact ⟨fun h => by rw [h]; exact ⟨rfl, hm⟩, fun h => (Option.some.inj h.1).symm⟩
    · rename_i hm
      exact ⟨nofun, fun h => absurd (Option.some.inj h.1 ▸ h.2) hm⟩

theorem walk_leaf_some {ver : Ver} {H : Bytes → Bytes} {isRoot : Bool} {pk : Nibs} {v : Bytes}
    {key : Nibs} {ns : List Bytes} (h : walk ver H isRoot (.leaf pk v) key = some ns) :
    ns = ownItem ver H isRoot (.leaf pk v) ++ valueNode ver (some v) := by
  rw [walk] at h
  split at h
  · exact (Option.some.inj h).symm
  · cases h

theorem walk_branch (ver : Ver) (H : Bytes → Bytes) (isRoot : Bool) (pk : Nibs) (v : Option Bytes)
    (cs : Nib → Trie) (key : Nibs) :
    walk ver H isRoot (.branch pk v cs) key =
      if key.length = 0 || pk == key then some (ownItem ver H isRoot (.branch pk v cs) ++ valueNode ver v)
      else if !(decide (key.length > pk.length)) then none
      else
        match key.drop (Trie.lcpLen pk key) with
        | i :: rest => (walk ver H false (cs i) rest).map (ownItem ver H isRoot (.branch pk v cs) ++ ·)
        | [] => none := by
  rw [walk]
  cases key.drop (Trie.lcpLen pk key) with
  | nil => rfl
  | cons i rest => dsimp only; cases walk ver H false (cs i) rest <;> rfl

theorem walk_branch_some {ver : Ver} {H : Bytes → Bytes} {isRoot : Bool} {pk : Nibs} {v : Option Bytes}
    {cs : Nib → Trie} {key : Nibs} {ns : List Bytes}
    (h : walk ver H isRoot (.branch pk v cs) key = some ns) :
    ns = ownItem ver H isRoot (.branch pk v cs) ++ valueNode ver v ∨
      ∃ i rest deeper, walk ver H false (cs i) rest = some deeper ∧
        ns = ownItem ver H isRoot (.branch pk v cs) ++ deeper := by
  rw [walk_branch] at h
  by_cases h1 : (key.length = 0 || pk == key) = true
  · rw [if_pos h1] at h; exact .inl (Option.some.inj h).symm
  · rw [if_neg h1] at h
    by_cases h2 : (!decide (key.length > pk.length)) = true
    · rw [if_pos h2] at h; cases h
    · rw [if_neg h2] at h
      cases hk : key.drop (Trie.lcpLen pk key) with
      | nil => rw [hk] at h; cases h
      | cons i rest =>
        rw [hk] at h
        obtain ⟨deeper, hd, e⟩ := Option.map_eq_some_iff.mp h
        exact .inr ⟨i, rest, deeper, hd, e.symm⟩

theorem walk_leaf_self (ver : Ver) (H : Bytes → Bytes) (isRoot : Bool) (pk : Nibs) (v : Bytes) :
    walk ver H isRoot (.leaf pk v) pk =
      some (ownItem ver H isRoot (.leaf pk v) ++ valueNode ver (some v)) := by
  rw [walk, beq_self_eq_true, Bool.or_true, if_pos rfl]
  rfl

theorem walk_branch_self (ver : Ver) (H : Bytes → Bytes) (isRoot : Bool) (pk : Nibs) (v : Option Bytes)
    (cs : Nib → Trie) :
    walk ver H isRoot (.branch pk v cs) pk =
      some (ownItem ver H isRoot (.branch pk v cs) ++ valueNode ver v) := by
  rw [walk_branch, beq_self_eq_true, Bool.or_true, if_pos rfl]

theorem walk_branch_child (ver : Ver) (H : Bytes → Bytes) (isRoot : Bool) (pk : Nibs) (v : Option Bytes)
    (cs : Nib → Trie) (i : Nib) (rest : Nibs) :
    walk ver H isRoot (.branch pk v cs) (pk ++ i :: rest) =
      (walk ver H false (cs i) rest).map (ownItem ver H isRoot (.branch pk v cs) ++ ·) := by
  have h2 : decide ((pk ++ i :: rest).length > pk.length) = true := by
    rw [decide_eq_true_iff, List.length_append]
    exact Nat.lt_add_of_pos_right (Nat.succ_pos _)
  rw [walk_branch, child_key_not_end, h2, Trie.lcpLen_prefix, List.drop_left]
  rfl

theorem walk_honest (ver : Ver) (H : Bytes → Bytes) :
    ∀ {t : Trie} {isRoot : Bool} {kn : Nibs} {ns : List Bytes}, walk ver H isRoot t kn = some ns →
      ∀ e ∈ ns, Honest ver H t e := by
  intro t
  induction t with
  | nil =>
    intro isRoot kn ns h e he
    rw [walk] at h
    split at h
    · cases h; cases he
    · cases h
  | leaf pk v =>
    intro isRoot kn ns h e he
    rw [walk_leaf_some h] at he
    rcases List.mem_append.mp he with he | he
    · exact .inl (mem_ownItem he)
    · exact .inr (Option.some.inj (mem_valueNode.mp he).1).symm
  | branch pk v cs ih =>
    intro isRoot kn ns h e he
    rcases walk_branch_some h with rfl | ⟨i, rest, deeper, hd, rfl⟩
    · rcases List.mem_append.mp he with he | he
      · exact .inl (mem_ownItem he)
      · exact .inr (.inl (mem_valueNode.mp he).1)
    · rcases List.mem_append.mp he with he | he
      · exact .inl (mem_ownItem he)
      · exact honest_child (ih i hd e he)

theorem self_mem_walk {ver : Ver} {H : Bytes → Bytes} {isRoot : Bool} {t : Trie} {k : Nibs} {ns : List Bytes}
    (hn : t.isNil = false) (hme : isRoot = true ∨ 32 ≤ (encodeNode ver H t).length)
    (h : walk ver H isRoot t k = some ns) : encodeNode ver H t ∈ ns := by
  cases t with
  | nil => cases hn
  | leaf pk v => rw [walk_leaf_some h]; exact List.mem_append_left _ (self_mem_ownItem hme)
  | branch pk v cs =>
    rcases walk_branch_some h with rfl | ⟨_, _, _, _, rfl⟩ <;>
      exact List.mem_append_left _ (self_mem_ownItem hme)

theorem walk_present (ver : Ver) (H : Bytes → Bytes) :
    ∀ {t : Trie} (isRoot : Bool) {kn : Nibs} {x : Bytes}, Trie.lookup t kn = some x →
      ∃ ns, walk ver H isRoot t kn = some ns := by
  intro t
  induction t with
  | nil => intro _ kn x h; cases h
  | leaf pk v =>
    intro isRoot kn x h
    rw [(Trie.lookup_leaf_eq_some.mp h).1]
    exact ⟨_, walk_leaf_self ver H isRoot pk v⟩
  | branch pk v cs ih =>
    intro isRoot kn x h
    rcases Trie.lookup_branch_some h with ⟨rfl, _⟩ | ⟨i, rest, rfl, hchild⟩
    · exact ⟨_, walk_branch_self ver H isRoot kn v cs⟩
    · obtain ⟨deeper, hd⟩ := ih i false hchild
      exact ⟨_, by rw [walk_branch_child, hd]; rfl⟩

/-- `InjOn ver H S t` (soundness) compares a SUPPLIED string of `S` with an honest string of `t`;
    completeness supplies only honest strings, and there the deduplication of `Generate` and
    `view_inj` compare two strings of ONE set: this form.  For `S` the honest strings of `t` the two
    coincide (`injS_honest_iff`). -/
def InjS (H : Bytes → Bytes) (S : Bytes → Prop) : Prop := ∀ x y, S x → S y → H x = H y → x = y

theorem injS_honest_iff {ver : Ver} {H : Bytes → Bytes} {t : Trie} :
    InjS H (Honest ver H t) ↔ InjOn ver H (Honest ver H t) t := Iff.rfl

theorem mv_inj {H : Bytes → Bytes} (hH : ∀ m, (H m).length = 32) {S : Bytes → Prop} (hS : InjS H S) :
    InjS (Gossamer.merkleValue H) S := by
  intro a b ha hb h
  unfold Gossamer.merkleValue at h
  split at h <;> split at h
  · exact h
  · have := hH b; rw [← h] at this; omega
  · have := hH a; rw [h] at this; omega
  · exact hS a b ha hb h

/-- every item put out is in `S`, and every Merkle value seen is that of an item already put out: so
    a seen Merkle value means the item itself is there, once Merkle values tell the strings of `S` apart -/
def DInv (H : Bytes → Bytes) (S : Bytes → Prop) (st : List Bytes × List Bytes) : Prop :=
  (∀ e ∈ st.2, S e) ∧ ∀ x ∈ st.1, ∃ e ∈ st.2, Gossamer.merkleValue H e = x

theorem mem_dedupInto {H : Bytes → Bytes} {S : Bytes → Prop}
    (hmv : InjS (Gossamer.merkleValue H) S) :
    ∀ (ns : List Bytes) (st : List Bytes × List Bytes), (∀ e ∈ ns, S e) → DInv H S st →
      DInv H S (dedupInto H st ns) ∧ ∀ e, e ∈ (dedupInto H st ns).2 ↔ e ∈ st.2 ∨ e ∈ ns := by
  intro ns
  induction ns with
  | nil => exact fun st _ hinv => ⟨hinv, fun e => ⟨.inl, fun h => h.elim id nofun⟩⟩
  | cons a r ih =>
    intro st hns hinv
    obtain ⟨seen, out⟩ := st
    have ha := hns a (List.mem_cons_self ..)
    have hr : ∀ e ∈ r, S e := fun e he => hns e (List.mem_cons_of_mem _ he)
    rw [dedupInto]
    by_cases hc : seen.contains (Gossamer.merkleValue H a) = true
    · -- seen before: `a` itself is there
      obtain ⟨e', he', h⟩ := hinv.2 _ (List.contains_iff_mem.mp hc)
      rw [hmv e' a (hinv.1 e' he') ha h] at he'
      obtain ⟨i1, i2⟩ := ih (seen, out) hr hinv
      rw [if_pos hc]
      refine ⟨i1, fun e => (i2 e).trans ⟨fun h => h.imp_right (List.mem_cons_of_mem _), ?_⟩⟩
      rintro (h | h)
      · exact .inl h
      · rcases List.mem_cons.mp h with rfl | h
        · exact .inl he'
        · exact .inr h
    · obtain ⟨i1, i2⟩ := ih (Gossamer.merkleValue H a :: seen, out ++ [a]) hr
        ⟨fun e he => (List.mem_append.mp he).elim (hinv.1 e) fun h => List.mem_singleton.mp h ▸ ha,
          fun x hx => (List.mem_cons.mp hx).elim
            (fun h => ⟨a, List.mem_append_right _ (List.mem_singleton_self a), h.symm⟩)
            fun h => (hinv.2 x h).imp fun e he => ⟨List.mem_append_left _ he.1, he.2⟩⟩
      rw [if_neg hc]
      refine ⟨i1, fun e => (i2 e).trans ?_⟩
      rw [List.mem_append, List.mem_singleton, List.mem_cons, or_assoc]

theorem mem_generateFrom (ver : Ver) (H : Bytes → Bytes) (hH : ∀ m, (H m).length = 32) (t : Trie)
    (hS : InjS H (Honest ver H t)) :
    ∀ (ks : List Bytes) (st : List Bytes × List Bytes) (N : List Bytes),
      generateFrom ver H t st ks = some N → DInv H (Honest ver H t) st →
      (∀ k ∈ ks, ∃ ns, walk ver H true t (Trie.keyLEToNibbles k) = some ns) ∧
      ∀ e, e ∈ N ↔ e ∈ st.2 ∨ ∃ k ∈ ks, ∃ ns, walk ver H true t (Trie.keyLEToNibbles k) = some ns ∧ e ∈ ns := by
  intro ks
  induction ks with
  | nil =>
    intro st N h _
    cases h
    exact ⟨nofun, fun e => ⟨.inl, fun h => h.elim id nofun⟩⟩
  | cons k ks ih =>
    intro st N h hinv
    rw [generateFrom] at h
    cases hw : walk ver H true t (Trie.keyLEToNibbles k) with
    | none => rw [hw] at h; cases h
    | some ns =>
      rw [hw] at h
      obtain ⟨d1, d2⟩ := mem_dedupInto (mv_inj hH hS) ns st (walk_honest ver H hw) hinv
      obtain ⟨g1, g2⟩ := ih _ N h d1
      refine ⟨List.forall_mem_cons.mpr ⟨⟨ns, hw⟩, g1⟩, fun e => (g2 e).trans ?_⟩
      rw [d2, or_assoc]
      refine or_congr_right ⟨?_, ?_⟩
      · rintro (h | ⟨k', hk', h⟩)
        · exact ⟨k, List.mem_cons_self .., ns, hw, h⟩
        · exact ⟨k', List.mem_cons_of_mem _ hk', h⟩
      · rintro ⟨k', hk', ns', hw', h⟩
        rcases List.mem_cons.mp hk' with rfl | hk'
        · rw [hw] at hw'; cases hw'; exact .inl h
        · exact .inr ⟨k', hk', ns', hw', h⟩

theorem generate_spec (ver : Ver) (H : Bytes → Bytes) (hH : ∀ m, (H m).length = 32) (t : Trie)
    (hS : InjS H (Honest ver H t)) (ks : List Bytes) (N : List Bytes)
    (h : generate ver H t ks = some N) :
    (∀ k ∈ ks, ∃ ns, walk ver H true t (Trie.keyLEToNibbles k) = some ns) ∧
    ∀ e, e ∈ N ↔ ∃ k ∈ ks, ∃ ns, walk ver H true t (Trie.keyLEToNibbles k) = some ns ∧ e ∈ ns := by
  obtain ⟨g1, g2⟩ := mem_generateFrom ver H hH t hS ks ([], []) N h ⟨nofun, nofun⟩
  exact ⟨g1, fun e => (g2 e).trans ⟨fun h => h.resolve_left nofun, .inr⟩⟩

theorem generateFrom_present (ver : Ver) (H : Bytes → Bytes) (t : Trie) :
    ∀ (ks : List Bytes) (st : List Bytes × List Bytes),
      (∀ k ∈ ks, ∃ x, Trie.lookup t (toNibs k) = some x) → ∃ N, generateFrom ver H t st ks = some N
  | [], st, _ => ⟨_, rfl⟩
  | k :: ks, st, h => by
    obtain ⟨x, hx⟩ := h k (List.mem_cons_self ..)
    obtain ⟨ns, hns⟩ := walk_present ver H true hx
    obtain ⟨N, hN⟩ := generateFrom_present ver H t ks (dedupInto H st ns)
      fun k' hk' => h k' (List.mem_cons_of_mem _ hk')
    exact ⟨N, by rw [generateFrom, keyLEToNibbles_eq, hns]; exact hN⟩

end Gossamer.C05
