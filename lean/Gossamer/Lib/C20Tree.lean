/-
C20: the block tree (`chain`, `le`, `children`) under `Tree.WF`, as an instance of Lib/UpChain.
-/
import Gossamer.Lib.C20Spec
import Gossamer.Lib.UpChain
namespace Gossamer.C20

theorem Tree.parent_lt {t : Tree} (h : t.WF) {b : Nat} (hb : 0 < b) : t.parent b < b := Up.getD_lt h.2 hb

theorem Tree.upChain {t : Tree} (h : t.WF) : Up.Chain t.parent t.chain :=
  Up.Chain.ofFuel (F := chainUp t) (fun _ => Tree.parent_lt h) (fun _ => rfl) (fun _ _ => rfl)

theorem Tree.chain_zero (t : Tree) : t.chain 0 = [0] := rfl

theorem Tree.chain_pos {t : Tree} (h : t.WF) {b : Nat} (hb : 0 < b) :
    t.chain b = b :: t.chain (t.parent b) := (Tree.upChain h).pos b hb

theorem Tree.mem_chain_self (t : Tree) (b : Nat) : b ∈ t.chain b := by
  unfold Tree.chain
  cases b <;> simp [chainUp]

/-- the block numbers in use: `depth` of the specification is the length of the chain (the base has 1); `Up.depth t.chain`,
which the graph model calls `Tree.num` (the same definition), is one less (the base has 0) -/
theorem depth_eq (t : Tree) (b : Nat) : depth t b = Up.depth t.chain b + 1 := by
  have := List.length_pos_of_mem (t.mem_chain_self b)
  unfold depth Up.depth
  omega

theorem Tree.le_iff {t : Tree} {a b : Nat} : t.le a b = true ↔ a ∈ t.chain b := by
  simp [Tree.le]

theorem Tree.le_refl (t : Tree) (b : Nat) : t.le b b = true := Tree.le_iff.2 (t.mem_chain_self b)

theorem Tree.comparable {t : Tree} (h : t.WF) {a b c : Nat} (ha : a ∈ t.chain c) (hb : b ∈ t.chain c) :
    a ∈ t.chain b ∨ b ∈ t.chain a := (Tree.upChain h).comparable ha hb

theorem Tree.mem_children {t : Tree} {B c : Nat} :
    c ∈ t.children B ↔ c < t.size ∧ c ≠ 0 ∧ t.parent c = B := by
  simp [Tree.children, List.mem_filter, List.mem_range]

end Gossamer.C20
