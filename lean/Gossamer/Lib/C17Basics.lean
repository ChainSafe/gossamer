import Gossamer.Model.C17
import Gossamer.Lib.AList
namespace Gossamer.C17

theorem findB_mem {l : List Blk} {h : Nat} {b : Blk} (hb : findB l h = some b) : b ∈ l :=
  List.mem_of_find?_eq_some hb

theorem findB_hash {l : List Blk} {h : Nat} {b : Blk} (hb : findB l h = some b) : b.hash = h := by
  simpa using List.find?_some hb

theorem findB_eq_none {l : List Blk} {h : Nat} : findB l h = none ↔ ∀ b ∈ l, b.hash ≠ h :=
  List.find?_eq_none.trans (forall₂_congr fun _ _ => not_congr decide_eq_true_iff)

theorem findB_nil (h : Nat) : findB [] h = none := rfl

theorem findB_cons (a : Blk) (l : List Blk) (h : Nat) :
    findB (a :: l) h = if a.hash = h then some a else findB l h := by
  unfold findB
  by_cases ha : a.hash = h <;> simp [ha]

theorem findB_append (l₁ l₂ : List Blk) (h : Nat) :
    findB (l₁ ++ l₂) h = match findB l₁ h with
      | some b => some b
      | none => findB l₂ h := by
  unfold findB
  rw [List.find?_append]
  cases l₁.find? (fun b => decide (b.hash = h)) <;> rfl

theorem findB_append_left {l₁ : List Blk} {h : Nat} {b : Blk} (hb : findB l₁ h = some b) (l₂ : List Blk) :
    findB (l₁ ++ l₂) h = some b := by
  rw [findB_append, hb]

theorem findB_concat {l : List Blk} {h : Nat} (hn : findB l h = none) (b : Blk) :
    findB (l ++ [b]) h = if b.hash = h then some b else none := by
  rw [findB_append, hn, findB_cons, findB_nil]

theorem findB_filter (l : List Blk) (p : Blk → Bool) (h : Nat) :
    findB (l.filter p) h = l.find? (fun b => p b && decide (b.hash = h)) := by
  unfold findB
  rw [List.find?_filter]
  congr 1
  funext a
  cases p a <;> simp

/-- distinct hashes, said through the model's own `findB` so that the invariants can be used as look-up
    equations without a detour through `Nodup` -/
def Uniq (l : List Blk) : Prop := ∀ b ∈ l, findB l b.hash = some b

theorem Uniq.eq_of_hash {l : List Blk} (hu : Uniq l) {a b : Blk} (ha : a ∈ l) (hb : b ∈ l)
    (h : a.hash = b.hash) : a = b := by
  have h1 := hu a ha
  have h2 := hu b hb
  rw [h, h2] at h1
  exact (Option.some.inj h1).symm

theorem Uniq.mem_of_hash {t l : List Blk} (hu : Uniq t) (hl : ∀ c ∈ l, c ∈ t) {b : Blk}
    (hb : b ∈ t) (hm : b.hash ∈ l.map (·.hash)) : b ∈ l := by
  obtain ⟨c, hc, hch⟩ := List.mem_map.mp hm
  exact hu.eq_of_hash (hl c hc) hb hch ▸ hc

theorem findB_filter_none {l : List Blk} (p : Blk → Bool) {h : Nat}
    (hn : ∀ b ∈ l, b.hash = h → p b = false) : findB (l.filter p) h = none :=
  findB_eq_none.mpr fun c hc hh => by
    have hm := List.mem_filter.mp hc
    rw [hn c hm.1 hh] at hm
    exact absurd hm.2 (by simp)

theorem Uniq.filter {l : List Blk} (hu : Uniq l) (p : Blk → Bool) : Uniq (l.filter p) := by
  intro b hb
  cases hf : findB (l.filter p) b.hash with
  | none => exact absurd rfl (findB_eq_none.mp hf b hb)
  | some c =>
    rw [hu.eq_of_hash (List.mem_filter.mp (findB_mem hf)).1 (List.mem_filter.mp hb).1 (findB_hash hf)]

theorem findB_deleteB (l : List Blk) (h x : Nat) :
    findB (deleteB l h) x = if x = h then none else findB l x := by
  by_cases hx : x = h
  · rw [if_pos hx]
    exact findB_filter_none _ fun b _ hb => decide_eq_false (not_not_intro (hb.trans hx))
  · rw [if_neg hx]
    exact find?_filter_of_imp _ _ l fun b _ hb => decide_eq_true fun e => hx ((of_decide_eq_true hb).symm.trans e)

theorem mem_deleteB {l : List Blk} {h : Nat} {b : Blk} : b ∈ deleteB l h ↔ b ∈ l ∧ b.hash ≠ h := by
  unfold deleteB
  simp [List.mem_filter]

theorem findB_storeB (l : List Blk) (b : Blk) (x : Nat) :
    findB (storeB l b) x = if x = b.hash then some b else findB l x := by
  show findB (deleteB l b.hash ++ [b]) x = _
  rw [findB_append, findB_deleteB]
  by_cases hx : x = b.hash
  · simp [hx, findB_cons]
  · simp only [hx, if_false]
    cases findB l x with
    | some c => rfl
    | none => simp [findB_cons, findB_nil, Ne.symm hx]

theorem mem_storeB {l : List Blk} {b c : Blk} : c ∈ storeB l b ↔ (c ∈ l ∧ c.hash ≠ b.hash) ∨ c = b := by
  unfold storeB
  simp [List.mem_filter]

theorem lookupN_eq (m : List (Nat × Nat)) (k : Nat) : lookupN m k = m.lookup k := by
  rw [lookupN, ← AList.find?_key]
  cases m.find? _ <;> rfl

theorem lookupN_putN (m : List (Nat × Nat)) (k v x : Nat) :
    lookupN (putN m k v) x = if x = k then some v else lookupN m x := by
  rw [lookupN_eq, lookupN_eq, putN, AList.filter_decide_ne]
  exact AList.lookup_put k v m x

theorem lookupN_flush_other (batch : List (Nat × Nat)) (m : List (Nat × Nat)) (x : Nat)
    (hx : ∀ p ∈ batch, p.1 ≠ x) :
    lookupN (batch.foldl (fun m p => putN m p.1 p.2) m) x = lookupN m x := by
  induction batch generalizing m with
  | nil => rfl
  | cons p rest ih =>
    rw [List.foldl_cons, ih _ (fun q hq => hx q (List.mem_cons_of_mem _ hq)), lookupN_putN]
    have := hx p (List.mem_cons_self ..)
    simp [Ne.symm this]

theorem lookupN_flush_mem (batch : List (Nat × Nat)) (m : List (Nat × Nat))
    (hnd : (batch.map (·.1)).Nodup) {p : Nat × Nat} (hp : p ∈ batch) :
    lookupN (batch.foldl (fun m p => putN m p.1 p.2) m) p.1 = some p.2 := by
  induction batch generalizing m with
  | nil => simp at hp
  | cons q rest ih =>
    rw [List.map_cons, List.nodup_cons] at hnd
    rw [List.foldl_cons]
    rcases List.mem_cons.mp hp with rfl | hr
    · rw [lookupN_flush_other _ _ _ (fun r hr hk => hnd.1 (List.mem_map.mpr ⟨r, hr, hk⟩)), lookupN_putN]
      simp
    · exact ih _ hnd.2 hr

theorem mem_triesDelete {t : List Nat} {x r : Nat} : r ∈ triesDelete t x ↔ r ∈ t ∧ r ≠ x := by
  unfold triesDelete
  simp [List.mem_filter]

/-- the look-up law of `finaliseChain`'s put into the header table -/
theorem findB_cons_filter (b : Blk) (l : List Blk) (x : Nat) :
    findB (b :: l.filter (fun y => y.hash ≠ b.hash)) x = if x = b.hash then some b else findB l x := by
  rw [findB_cons]
  by_cases hx : x = b.hash
  · simp [hx]
  · rw [if_neg (Ne.symm hx), if_neg hx]
    exact (findB_deleteB l b.hash x).trans (if_neg hx)

theorem lookupK_cons_self (m : List ((Nat × Nat) × Nat)) (k : Nat × Nat) (v : Nat) :
    lookupK ((k, v) :: m) k = some v := by
  unfold lookupK; simp

theorem mem_tail_of_getLast? {α : Type} {a b : α} {l : List α} (h : (a :: l).getLast? = some b) (hne : b ≠ a) :
    b ∈ l := by
  cases l with
  | nil => exact absurd (Option.some.inj h).symm hne
  | cons x t => exact List.mem_of_getLast? (List.getLast?_cons_cons ▸ h)

end Gossamer.C17
