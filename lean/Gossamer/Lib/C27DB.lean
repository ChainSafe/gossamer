import Gossamer.Model.C27
import Gossamer.Lib.AList
open Gossamer Gossamer.C27
namespace Gossamer.C27

theorem del_nil (k : Bytes) : DB.del [] k = [] := rfl

theorem get_eq (db : DB) (k : Bytes) : db.get k = db.lookup k :=
  AssocLookup.eq_lookup (lk := fun k (db : DB) => db.get k) ⟨fun _ => rfl, fun _ _ _ => rfl⟩ k db

theorem get_del (db : DB) (k k' : Bytes) : (db.del k').get k = if k = k' then none else db.get k := by
  rw [get_eq, get_eq, DB.del, AList.filter_decide_ne]
  exact AList.lookup_erase k' db k

theorem get_put (db : DB) (k k' v : Bytes) :
    (db.put k' v).get k = if k = k' then some v else db.get k := by
  rw [get_eq, get_eq, DB.put, DB.del, AList.filter_decide_ne]
  exact AList.lookup_put k' v db k

theorem get_flush_dels (db : DB) (ks : List Bytes) (k : Bytes) :
    (db.flush (ks.map BatchOp.del)).get k = if k ∈ ks then none else db.get k := by
  rw [DB.flush, List.foldl_map]
  exact look_foldl_del DB.get DB.del none (fun s d x => get_del s x d) ks db k

/-- the effect of the batch written by CheckEquivocation, read back through `get` -/
theorem get_flush_batch (db : DB) (k1 v1 k2 v2 : Bytes) (ks : List Bytes) (k : Bytes) :
    (db.flush ([BatchOp.put k1 v1, BatchOp.put k2 v2] ++ ks.map BatchOp.del)).get k =
      if k ∈ ks then none else if k = k2 then some v2 else if k = k1 then some v1 else db.get k :=
  (get_flush_dels ((db.put k1 v1).put k2 v2) ks k).trans (by rw [get_put, get_put])

theorem le64_leBytes (n : Nat) (h : n < 2 ^ 64) : le64 (leBytes 8 n) = n := by
  rw [le64, List.take_of_length_le (Nat.le_of_eq (length_leBytes 8 n)), natOfLE_leBytes_lt (k := 8) h]

theorem slotKey_inj {a b : Nat} (ha : a < 2 ^ 64) (hb : b < 2 ^ 64) (h : slotKey a = slotKey b) :
    a = b := by
  simp only [slotKey] at h
  exact leBytes_inj (w := 8) ha hb (List.append_cancel_left (List.append_cancel_left h))

theorem slotKey_ne_startKey (n : Nat) : slotKey n ≠ startKey := by
  intro h
  have := congrArg List.length (List.append_cancel_left h)
  rw [List.length_append, length_leBytes] at this
  exact absurd this (by decide)

end Gossamer.C27
