/-
C35, the sequential theory of the LRU cache.  On lists of `Elem` with distinct ids and keys, what `MoveToFront` /
`Remove` do by pointer is said by key; under the representation invariant `Inv` of the map + list model `Get` / `Put`
have closed forms and refine the capacity-bounded recency list step by step.  On the specification alone: the
capacity bound, and time stamps that order the recency list.  Also the byte-string keys of the trie-cache wrapper
and the limiter's counters.
-/
import Gossamer.Model.C35
import Gossamer.Lib.AList
namespace Gossamer.C35
open Gossamer

theorem find_key_cons (a : Elem) (as : List Elem) (k : Nat) :
    (a :: as).find? (·.key == k) = if a.key = k then some a else as.find? (·.key == k) := by
  by_cases h : a.key = k
  · exact (List.find?_cons_of_pos (p := fun x : Elem => x.key == k) (beq_iff_eq.mpr h)).trans (if_pos h).symm
  · exact (List.find?_cons_of_neg (p := fun x : Elem => x.key == k) (fun hb => h (beq_iff_eq.mp hb))).trans (if_neg h).symm

theorem find_key_prop {l : List Elem} {k : Nat} {e : Elem}
    (h : l.find? (·.key == k) = some e) : e.key = k ∧ e ∈ l := by
  have h1 := List.find?_some h
  have h2 := List.mem_of_find?_eq_some h
  exact ⟨by simpa using h1, h2⟩

theorem find_key_none {l : List Elem} {k : Nat} :
    l.find? (·.key == k) = none ↔ k ∉ l.map (·.key) := by
  simp only [List.find?_eq_none, List.mem_map, beq_iff_eq, not_exists, not_and]

theorem find_key_some_of_mem {l : List Elem} {k : Nat} (h : k ∈ l.map (·.key)) :
    ∃ e, l.find? (·.key == k) = some e := by
  cases hf : l.find? (·.key == k) with
  | some e => exact ⟨e, rfl⟩
  | none => exact absurd h (find_key_none.mp hf)

theorem find_of_mem (f : Elem → Nat) {l : List Elem} (hn : (l.map f).Nodup) {e : Elem} (he : e ∈ l) :
    l.find? (fun x => f x == f e) = some e :=
  find?_of_mem_nodup f hn he

theorem filter_key_id {l : List Elem} {k : Nat} (h : k ∉ l.map (·.key)) :
    l.filter (·.key != k) = l := by
  rw [List.filter_eq_self]
  intro a ha
  have : a.key ≠ k := fun hk => h (List.mem_map.mpr ⟨a, ha, hk⟩)
  simpa using this

theorem eraseP_id_eq_filter {l : List Elem} (hi : (l.map (·.id)).Nodup) (hk : (l.map (·.key)).Nodup)
    {k : Nat} {e : Elem} (hf : l.find? (·.key == k) = some e) :
    l.eraseP (·.id == e.id) = l.filter (·.key != k) := by
  induction l with
  | nil => cases hf
  | cons a as ih =>
    simp only [List.map_cons, List.nodup_cons] at hi hk
    by_cases hak : a.key = k
    · have : e = a := by simpa [List.find?_cons, hak] using hf.symm
      subst this
      have hnot : k ∉ as.map (·.key) := hak ▸ hk.1
      simp [hak, filter_key_id hnot]
    · have hf' : as.find? (·.key == k) = some e := by simpa [List.find?_cons, hak] using hf
      have he := (find_key_prop hf').2
      have hne : a.id ≠ e.id := fun h => hi.1 (List.mem_map.mpr ⟨e, he, h.symm⟩)
      simp [hne, hak, ih hi.2 hk.2 hf']

theorem find_key_filter_ne (l : List Elem) {k k' : Nat} (h : k' ≠ k) :
    (l.filter (·.key != k)).find? (·.key == k') = l.find? (·.key == k') :=
  find?_filter_of_imp _ _ l fun _ _ ha => bne_iff_ne.mpr (beq_iff_eq.mp ha ▸ h)

theorem find_key_filter_eq (l : List Elem) (k : Nat) :
    (l.filter (·.key != k)).find? (·.key == k) = none := by
  rw [List.find?_eq_none]
  intro a ha
  have := (List.mem_filter.mp ha).2
  simpa using this

theorem eraseP_last {l : List Elem} (hi : (l.map (·.id)).Nodup) {last : Elem}
    (h : l.getLast? = some last) : l.eraseP (·.id == last.id) = l.dropLast := by
  obtain ⟨ys, rfl⟩ := List.getLast?_eq_some_iff.mp h
  have hn : ∀ b ∈ ys, ¬ (b.id == last.id) = true := by
    intro b hb he
    rw [List.map_append, List.nodup_append] at hi
    exact hi.2.2 b.id (List.mem_map.mpr ⟨b, hb, rfl⟩) last.id (by simp) (by simpa using he)
  rw [List.eraseP_append_right _ hn, List.dropLast_concat]
  simp

theorem mapDelete_id {m : List (Nat × Nat)} {k : Nat} (h : m.lookup k = none) : mapDelete m k = m :=
  AList.filter_of_lookup_none h

theorem lookup_mapDelete (m : List (Nat × Nat)) (k k2 : Nat) :
    (mapDelete m k2).lookup k = if k = k2 then none else m.lookup k :=
  AList.lookup_erase k2 m k

theorem not_mem_mapDelete (m : List (Nat × Nat)) (k : Nat) : k ∉ (mapDelete m k).map (·.1) :=
  AList.lookup_eq_none_iff_keys.mp (by rw [lookup_mapDelete, if_pos rfl])

/-- `look` is the pointer clause: the map sends a key to the id of THE list element with that key (`keys`: there is
    one); `ids` makes removal by pointer removal of that element, `fresh` makes a new id new; `size` follows from the
    others (`Inv.of_look`). -/
structure Inv (c : Cache) : Prop where
  mapKeys : (c.cache.map (·.1)).Nodup
  ids : (c.lruList.map (·.id)).Nodup
  keys : (c.lruList.map (·.key)).Nodup
  look : ∀ k, c.cache.lookup k = (c.lruList.find? (·.key == k)).map (·.id)
  fresh : ∀ e ∈ c.lruList, e.id < c.nextId
  size : c.cache.length = c.lruList.length

theorem inv_new (cap : Nat) : Inv (new cap) := by
  refine ⟨?_, ?_, ?_, ?_, ?_, ?_⟩ <;> simp [new]

/-- the size clause follows from the others: map and list have the same keys, each once -/
theorem Inv.of_look {c : Cache} (mapKeys : (c.cache.map (·.1)).Nodup) (ids : (c.lruList.map (·.id)).Nodup)
    (keys : (c.lruList.map (·.key)).Nodup)
    (look : ∀ k, c.cache.lookup k = (c.lruList.find? (·.key == k)).map (·.id))
    (fresh : ∀ e ∈ c.lruList, e.id < c.nextId) : Inv c :=
  ⟨mapKeys, ids, keys, look, fresh, by
    have hp : (c.cache.map (·.1)).Perm (c.lruList.map (·.key)) :=
      (List.perm_ext_iff_of_nodup mapKeys keys).mpr fun k => by
        rw [← Decidable.not_iff_not, ← AList.lookup_eq_none_iff_keys, ← find_key_none, look k, Option.map_eq_none_iff]
    simpa using hp.length_eq⟩

theorem Inv.look_some {c : Cache} (hI : Inv c) {k : Nat} {e : Elem}
    (hf : c.lruList.find? (·.key == k) = some e) : c.cache.lookup k = some e.id := by
  rw [hI.look k, hf]; rfl

theorem Inv.look_none {c : Cache} (hI : Inv c) {k : Nat}
    (hf : c.lruList.find? (·.key == k) = none) : c.cache.lookup k = none := by
  rw [hI.look k, hf]; rfl

theorem moveToFront_eq {l : List Elem} (hi : (l.map (·.id)).Nodup) (hk : (l.map (·.key)).Nodup)
    {k : Nat} {e : Elem} (hf : l.find? (·.key == k) = some e) :
    moveToFront l e.id = e :: l.filter (·.key != k) := by
  have he := (find_key_prop hf).2
  simp [moveToFront, find_of_mem (·.id) hi he, eraseP_id_eq_filter hi hk hf]

theorem moveToFront_setVal_eq {l : List Elem} (hi : (l.map (·.id)).Nodup) (hk : (l.map (·.key)).Nodup)
    {k : Nat} {e : Elem} (hf : l.find? (·.key == k) = some e) (v : Nat) :
    moveToFront (setVal l e.id v) e.id = { e with val := v } :: l.filter (·.key != k) := by
  have he := (find_key_prop hf).2
  -- `setVal` maps over the list without touching ids: find and erase commute with it
  have hcomp : ((fun x : Elem => x.id == e.id) ∘ fun x => if x.id = e.id then { x with val := v } else x) =
      fun x => x.id == e.id := funext (fun x => by simp only [Function.comp]; split <;> rfl)
  -- and it changes nothing in the rest of the list, where no element has that id
  have hrest : ∀ x ∈ l.eraseP (·.id == e.id), (if x.id = e.id then { x with val := v } else x) = x := by
    intro x hx
    rw [eraseP_id_eq_filter hi hk hf] at hx
    have hx' := List.mem_filter.mp hx
    rw [if_neg (fun h => ?_)]
    have := inj_of_nodup_map (·.id) hi hx'.1 he h
    rw [this, (find_key_prop hf).1] at hx'
    simp at hx'
  unfold moveToFront setVal
  rw [List.find?_map, List.eraseP_map, hcomp, find_of_mem (·.id) hi he, List.map_congr_left hrest, List.map_id',
    eraseP_id_eq_filter hi hk hf]
  simp

theorem inv_remove {c : Cache} (hI : Inv c) (k : Nat) :
    Inv { c with cache := mapDelete c.cache k, lruList := c.lruList.filter (·.key != k) } := by
  have hsub : (c.lruList.filter (·.key != k)).Sublist c.lruList := List.filter_sublist
  refine Inv.of_look (List.Pairwise.sublist (List.filter_sublist.map _) hI.mapKeys)
    (List.Pairwise.sublist (hsub.map _) hI.ids) (List.Pairwise.sublist (hsub.map _) hI.keys) ?_
    fun x hx => hI.fresh x (hsub.subset hx)
  intro k'
  show (mapDelete c.cache k).lookup k' = _
  rw [lookup_mapDelete]
  split
  · rename_i hkk; rw [hkk, find_key_filter_eq]; rfl
  · rename_i hkk; rw [find_key_filter_ne _ hkk, hI.look k']

theorem inv_touch {c : Cache} (hI : Inv c) {k : Nat} {e : Elem}
    (hf : c.lruList.find? (·.key == k) = some e) (v : Nat) :
    Inv { c with lruList := { e with val := v } :: c.lruList.filter (·.key != k) } := by
  have ⟨hek, hem⟩ := find_key_prop hf
  have hr := inv_remove hI k
  refine Inv.of_look hI.mapKeys (List.nodup_cons.mpr ⟨?_, hr.ids⟩) (List.nodup_cons.mpr ⟨?_, hr.keys⟩) ?_ ?_
  · intro hm
    obtain ⟨x, hx, hxe⟩ := List.mem_map.mp hm
    have hx' := List.mem_filter.mp hx
    have h2 : (x.key != k) = true := hx'.2
    rw [inj_of_nodup_map (·.id) hI.ids hx'.1 hem hxe, hek] at h2
    simp at h2
  · rw [show ({ e with val := v } : Elem).key = k from hek]
    exact find_key_none.mp (find_key_filter_eq _ k)
  · intro k'
    rw [hI.look k']
    by_cases hkk : k' = k
    · subst hkk
      rw [find_key_cons, if_pos hek, hf]
      rfl
    · rw [find_key_cons, if_neg (fun h => hkk (hek ▸ h.symm)), find_key_filter_ne _ hkk]
  · intro x hx
    rcases List.mem_cons.mp hx with rfl | hx'
    · exact hI.fresh e hem
    · exact hr.fresh x hx'

theorem abs_touch (c : Cache) (k : Nat) (e : Elem) (hek : e.key = k) (v : Nat) :
    abs { c with lruList := { e with val := v } :: c.lruList.filter (·.key != k) } =
      { cap := c.capacity, items := (k, v) :: (abs c).items.filter (·.1 != k) } := by
  unfold abs
  rw [List.map_cons, List.filter_map, ← hek]
  rfl

theorem get_hit {c : Cache} (hI : Inv c) {k : Nat} {e : Elem}
    (hf : c.lruList.find? (·.key == k) = some e) :
    get c k = (e.val, { c with lruList := e :: c.lruList.filter (·.key != k) }) := by
  have hem := (find_key_prop hf).2
  unfold get
  rw [hI.look_some hf]
  simp only [find_of_mem (·.id) hI.ids hem, moveToFront_eq hI.ids hI.keys hf]

theorem get_miss {c : Cache} (hI : Inv c) {k : Nat}
    (hf : c.lruList.find? (·.key == k) = none) : get c k = (0, c) := by
  unfold get
  rw [hI.look_none hf]

theorem abs_lookup (c : Cache) (k : Nat) :
    (abs c).items.lookup k = (c.lruList.find? (·.key == k)).map (·.val) := by
  unfold abs
  rw [← AList.find?_key, List.find?_map, Option.map_map]
  rfl

theorem sget_hit {c : Cache} {k : Nat} {e : Elem} (hf : c.lruList.find? (·.key == k) = some e) :
    sget (abs c) k = (e.val, { cap := c.capacity, items := (k, e.val) :: (abs c).items.filter (·.1 != k) }) := by
  unfold sget
  rw [abs_lookup, hf]
  rfl

theorem sget_miss {c : Cache} {k : Nat} (hf : c.lruList.find? (·.key == k) = none) :
    sget (abs c) k = (0, abs c) := by
  unfold sget
  rw [abs_lookup, hf]
  rfl

theorem get_refines {c : Cache} (hI : Inv c) (k : Nat) :
    (get c k).1 = (sget (abs c) k).1 ∧ abs (get c k).2 = (sget (abs c) k).2 ∧ Inv (get c k).2 := by
  cases hf : c.lruList.find? (·.key == k) with
  | none =>
    rw [get_miss hI hf, sget_miss hf]
    exact ⟨rfl, rfl, hI⟩
  | some e =>
    have hek := (find_key_prop hf).1
    rw [get_hit hI hf, sget_hit hf]
    refine ⟨rfl, ?_, ?_⟩
    · exact abs_touch c k e hek e.val
    · exact inv_touch hI hf e.val

/-- Go compares with `int(c.capacity)`: from `2^63` on that is negative and the cache always evicts
    (`C35_refines_counterexample`); hence `capacity < 2^63` wherever `put` meets a full cache. -/
theorem cap_ge {n cap : Nat} (h : cap < 2 ^ 63) : ((n : Int) ≥ capInt cap) ↔ n ≥ cap := by
  simp only [capInt, h, if_true]
  omega

theorem put_hit {c : Cache} (hI : Inv c) {k : Nat} {e : Elem}
    (hf : c.lruList.find? (·.key == k) = some e) (v : Nat) :
    put c k v = { c with lruList := { e with val := v } :: c.lruList.filter (·.key != k) } := by
  unfold put
  rw [hI.look_some hf]
  simp only [moveToFront_setVal_eq hI.ids hI.keys hf]

theorem abs_keys (c : Cache) : (abs c).keys = c.lruList.map (·.key) := by
  simp [abs, SCache.keys]

theorem sput_hit {c : Cache} {k : Nat} {e : Elem} (hf : c.lruList.find? (·.key == k) = some e) (v : Nat) :
    sput (abs c) k v = { cap := c.capacity, items := (k, v) :: (abs c).items.filter (·.1 != k) } := by
  have ⟨hek, hem⟩ := find_key_prop hf
  have hmem : k ∈ (abs c).keys := abs_keys c ▸ List.mem_map.mpr ⟨e, hem, hek⟩
  unfold sput
  rw [if_pos hmem]
  rfl

/-- the eviction `Put` makes when the cache is full: the last element of the list, by pointer, and its key -/
def evict (c : Cache) : Cache :=
  match c.lruList.getLast? with
  | some last => { c with cache := mapDelete c.cache last.key, lruList := c.lruList.dropLast }
  | none => c

theorem inv_evict {c : Cache} (hI : Inv c) : Inv (evict c) := by
  unfold evict
  cases hlast : c.lruList.getLast? with
  | none => exact hI
  | some last =>
    have hf := find_of_mem (·.key) hI.keys (List.mem_of_getLast? hlast)
    rw [← eraseP_last hI.ids hlast, eraseP_id_eq_filter hI.ids hI.keys hf]
    exact inv_remove hI _

theorem evict_lruList (c : Cache) : (evict c).lruList = c.lruList.dropLast := by
  unfold evict
  cases hlast : c.lruList.getLast? with
  | none => rw [List.getLast?_eq_none_iff.mp hlast]; rfl
  | some last => rfl

def pushNew (c : Cache) (k v : Nat) : Cache :=
  { c with cache := (k, c.nextId) :: c.cache,
           lruList := { id := c.nextId, key := k, val := v } :: c.lruList, nextId := c.nextId + 1 }

theorem put_miss {c : Cache} (hI : Inv c) (hc : c.capacity < 2 ^ 63) {k : Nat}
    (hf : c.lruList.find? (·.key == k) = none) (v : Nat) :
    put c k v = pushNew (if c.cache.length ≥ c.capacity then evict c else c) k v := by
  have hl := hI.look_none hf
  unfold put
  rw [hl]
  simp only [cap_ge hc]
  split
  · unfold evict
    cases hlast : c.lruList.getLast? with
    | none => simp only [mapSet, mapDelete_id hl, pushNew]
    | some last =>
      have hl2 : (mapDelete c.cache last.key).lookup k = none := by rw [lookup_mapDelete, hl, ite_self]
      simp only [mapSet, listRemove, eraseP_last hI.ids hlast, mapDelete_id hl2, pushNew]
  · simp only [mapSet, mapDelete_id hl, pushNew]

theorem sput_new {c : Cache} {k : Nat} (hf : c.lruList.find? (·.key == k) = none) (v : Nat) :
    sput (abs c) k v = { cap := c.capacity, items := (k, v) ::
      (if (abs c).items.length ≥ c.capacity then (abs c).items.dropLast else (abs c).items) } := by
  have hmem : k ∉ (abs c).keys := abs_keys c ▸ find_key_none.mp hf
  unfold sput
  rw [if_neg hmem]
  rfl

theorem inv_pushNew {c : Cache} (hI : Inv c) {k : Nat} (hk : k ∉ c.lruList.map (·.key)) (v : Nat) :
    Inv (pushNew c k v) := by
  have hkm : k ∉ c.cache.map (·.1) := AList.lookup_eq_none_iff_keys.mp (hI.look_none (find_key_none.mpr hk))
  refine Inv.of_look (List.nodup_cons.mpr ⟨hkm, hI.mapKeys⟩) (List.nodup_cons.mpr ⟨?_, hI.ids⟩)
    (List.nodup_cons.mpr ⟨hk, hI.keys⟩) ?_ ?_
  · intro hm
    obtain ⟨x, hx, hxe⟩ := List.mem_map.mp hm
    exact Nat.ne_of_lt (hI.fresh x hx) hxe
  · intro k'
    show List.lookup k' ((k, c.nextId) :: c.cache) =
      (List.find? (·.key == k') ({ id := c.nextId, key := k, val := v } :: c.lruList)).map (·.id)
    rw [AList.lookup_cons_pair]
    by_cases hk' : k' = k
    · subst hk'
      rw [if_pos rfl, find_key_cons, if_pos rfl]; rfl
    · rw [if_neg hk', find_key_cons, if_neg (Ne.symm hk'), hI.look k']
  · intro x hx
    rcases List.mem_cons.mp hx with rfl | hx'
    · exact Nat.lt_succ_self _
    · exact Nat.lt_succ_of_lt (hI.fresh x hx')

theorem put_capacity (c : Cache) (k v : Nat) : (put c k v).capacity = c.capacity := by
  unfold put
  split
  · rfl
  · split
    · split <;> rfl
    · rfl

theorem get_capacity (c : Cache) (k : Nat) : (get c k).2.capacity = c.capacity := by
  unfold get
  split
  · split <;> rfl
  · rfl

theorem step_capacity (c : Cache) (op : Op) : (step c op).2.capacity = c.capacity := by
  cases op with
  | get k => exact get_capacity c k
  | put k v => exact put_capacity c k v

theorem run_capacity (ops : List Op) : ∀ (c0 : Cache), (run c0 ops).2.capacity = c0.capacity := by
  induction ops with
  | nil => intro c0; rfl
  | cons op ops ih =>
    intro c0
    simp only [run]
    rw [ih, step_capacity]

theorem new_capacity_lt {cap : Nat} (h : cap < 2 ^ 63) : (new cap).capacity < 2 ^ 63 := by
  simp only [new, defaultCapacity]
  split <;> omega

theorem new_capacity_pos (cap : Nat) : 1 ≤ (new cap).capacity := by
  simp only [new, defaultCapacity]
  split <;> omega

theorem put_refines {c : Cache} (hI : Inv c) (hc : c.capacity < 2 ^ 63) (k v : Nat) :
    abs (put c k v) = sput (abs c) k v ∧ Inv (put c k v) := by
  cases hf : c.lruList.find? (·.key == k) with
  | some e =>
    rw [put_hit hI hf, sput_hit hf]
    exact ⟨abs_touch c k e (find_key_prop hf).1 v, inv_touch hI hf v⟩
  | none =>
    have hnk : k ∉ c.lruList.map (·.key) := find_key_none.mp hf
    have hlen : (abs c).items.length = c.cache.length := by simp [abs, hI.size]
    rw [put_miss hI hc hf, sput_new hf, hlen]
    split
    · refine ⟨?_, inv_pushNew (inv_evict hI) (fun h => hnk ?_) v⟩
      · show ({ cap := (evict c).capacity, items := (k, v) :: (evict c).lruList.map _ } : SCache) = _
        rw [evict_lruList, List.map_dropLast]
        unfold evict; split <;> rfl
      · rw [evict_lruList] at h
        exact (List.dropLast_sublist _).map _ |>.subset h
    · exact ⟨rfl, inv_pushNew hI hnk v⟩

theorem step_refines {c : Cache} (hI : Inv c) (hc : c.capacity < 2 ^ 63) (op : Op) :
    (step c op).1 = (sstep (abs c) op).1 ∧ abs (step c op).2 = (sstep (abs c) op).2 ∧ Inv (step c op).2 := by
  cases op with
  | get k => exact get_refines hI k
  | put k v => exact ⟨rfl, put_refines hI hc k v⟩

theorem run_refines (ops : List Op) : ∀ {c : Cache}, Inv c → c.capacity < 2 ^ 63 →
    (run c ops).1 = (srun (abs c) ops).1 ∧ abs (run c ops).2 = (srun (abs c) ops).2 ∧ Inv (run c ops).2 := by
  induction ops with
  | nil => intro c hI _; exact ⟨rfl, rfl, hI⟩
  | cons op ops ih =>
    intro c hI hc
    have h := step_refines hI hc op
    have ih' := ih h.2.2 (by rw [step_capacity]; exact hc)
    simp only [run, srun]
    rw [← h.2.1]
    refine ⟨?_, ih'.2.1, ih'.2.2⟩
    rw [h.1, ih'.1]

theorem abs_new (cap : Nat) : abs (new cap) = snew cap := rfl

theorem length_touch {items : List (Nat × Nat)} {k : Nat} (hk : k ∈ items.map (·.1)) (v : Nat) :
    ((k, v) :: items.filter (·.1 != k)).length ≤ items.length := by
  obtain ⟨p, hp, rfl⟩ := List.mem_map.mp hk
  exact List.length_filter_lt_length_iff_exists.mpr ⟨p, hp, by simp⟩

theorem sstep_length {s : SCache} (h1 : 1 ≤ s.cap) (hb : s.items.length ≤ s.cap) (op : Op) :
    (sstep s op).2.items.length ≤ s.cap ∧ (sstep s op).2.cap = s.cap := by
  cases op with
  | get k =>
    simp only [sstep, sget]
    cases hl : s.items.lookup k with
    | none => exact ⟨hb, rfl⟩
    | some v =>
      exact ⟨Nat.le_trans (length_touch (List.mem_map_of_mem (AList.mem_of_lookup hl)) v) hb, rfl⟩
  | put k v =>
    simp only [sstep, sput]
    split
    · rename_i hk
      exact ⟨Nat.le_trans (length_touch hk v) hb, rfl⟩
    · refine ⟨?_, rfl⟩
      show (_ :: (if s.items.length ≥ s.cap then s.items.dropLast else s.items)).length ≤ s.cap
      rw [List.length_cons]
      split
      · rw [List.length_dropLast]; omega
      · omega

theorem srun_length (ops : List Op) : ∀ {s : SCache}, 1 ≤ s.cap → s.items.length ≤ s.cap →
    (srun s ops).2.items.length ≤ s.cap := by
  induction ops with
  | nil => exact fun _ hb => hb
  | cons op ops ih =>
    intro s h1 hb
    have h := sstep_length h1 hb op
    have := ih (s := (sstep s op).2) (h.2.symm ▸ h1) (h.2.symm ▸ h.1)
    rw [h.2] at this
    exact this

def Op.key : Op → Nat
  | .get k => k
  | .put k _ => k

/-- clock and per-key time stamp of the last operation that names the key (hit or miss) -/
def touch (tm : Nat × (Nat → Nat)) (op : Op) : Nat × (Nat → Nat) :=
  (tm.1 + 1, fun k => if k = op.key then tm.1 + 1 else tm.2 k)

/-- `lastTouch ops k` = 1-based position of the last operation of `ops` naming `k`; 0 = never.
    Purely syntactic: it does not look at the cache. -/
def lastTouch (ops : List Op) (k : Nat) : Nat := (ops.foldl touch (0, fun _ => 0)).2 k

/-- the recency list is in the order of the stamps, and no stamp exceeds the clock: so the next stamp (clock + 1) is
    the strict maximum and its key belongs in front (`stamped_front`) -/
def Stamped (s : SCache) (tm : Nat × (Nat → Nat)) : Prop :=
  s.keys.Pairwise (fun a b => tm.2 a > tm.2 b) ∧ ∀ k, tm.2 k ≤ tm.1

theorem keys_cons_filter (s : SCache) (k v : Nat) :
    ({ s with items := (k, v) :: s.items.filter (·.1 != k) } : SCache).keys = k :: s.keys.filter (· != k) := by
  simp only [SCache.keys, List.map_cons, List.filter_map]
  rfl

theorem stamped_front {l : List Nat} {tm : Nat × (Nat → Nat)} (op : Op)
    (hs : l.Pairwise (fun a b => tm.2 a > tm.2 b)) (hle : ∀ k, tm.2 k ≤ tm.1) (hnk : op.key ∉ l) :
    (op.key :: l).Pairwise (fun a b => (touch tm op).2 a > (touch tm op).2 b) := by
  rw [List.pairwise_cons]
  constructor
  · intro a ha
    have hne : a ≠ op.key := fun h => hnk (h ▸ ha)
    simp only [touch, hne, if_false, if_true]
    have := hle a
    omega
  · apply List.Pairwise.imp_of_mem _ hs
    intro a b ha hb hab
    have hna : a ≠ op.key := fun h => hnk (h ▸ ha)
    have hnb : b ≠ op.key := fun h => hnk (h ▸ hb)
    simp only [touch, hna, hnb, if_false]
    exact hab

theorem touch_le (tm : Nat × (Nat → Nat)) (op : Op) (hle : ∀ k, tm.2 k ≤ tm.1) :
    ∀ k, (touch tm op).2 k ≤ (touch tm op).1 := by
  intro k
  simp only [touch]
  split
  · omega
  · have := hle k; omega

theorem not_mem_filter_ne (l : List Nat) (k : Nat) : k ∉ l.filter (· != k) := by
  intro h
  have := (List.mem_filter.mp h).2
  simp at this

theorem stamped_step {s : SCache} {tm : Nat × (Nat → Nat)} (h : Stamped s tm) (op : Op) :
    Stamped (sstep s op).2 (touch tm op) := by
  obtain ⟨hs, hle⟩ := h
  refine ⟨?_, touch_le tm op hle⟩
  cases op with
  | get k =>
    simp only [sstep, sget]
    cases hl : s.items.lookup k with
    | none =>
      have hnk : k ∉ s.keys := AList.lookup_eq_none_iff_keys.mp hl
      -- the stamps of the other keys are as after a touch of `k` in front of them
      exact (List.pairwise_cons.mp (stamped_front (.get k) hs hle hnk)).2
    | some v =>
      simp only
      rw [keys_cons_filter]
      exact stamped_front (.get k) (hs.sublist List.filter_sublist) hle (not_mem_filter_ne _ _)
  | put k v =>
    simp only [sstep, sput]
    by_cases hm : k ∈ s.keys
    · rw [if_pos hm, keys_cons_filter]
      exact stamped_front (.put k v) (hs.sublist List.filter_sublist) hle (not_mem_filter_ne _ _)
    · rw [if_neg hm]
      simp only [SCache.keys, List.map_cons]
      split
      · rw [List.map_dropLast]
        exact stamped_front (.put k v) (hs.sublist (List.dropLast_sublist _)) hle
          (fun h => hm ((List.dropLast_sublist _).subset h))
      · exact stamped_front (.put k v) hs hle hm

theorem stamped_run (ops : List Op) : ∀ (s : SCache) (tm : Nat × (Nat → Nat)), Stamped s tm →
    Stamped (srun s ops).2 (ops.foldl touch tm) := by
  induction ops with
  | nil => intro s tm h; exact h
  | cons op ops ih => intro s tm h; exact ih _ _ (stamped_step h op)

theorem last_min {l : List Nat} {f : Nat → Nat} (hs : l.Pairwise (fun a b => f a > f b)) {v : Nat}
    (hv : l.getLast? = some v) : (∀ k' ∈ l, k' ≠ v → f v < f k') ∧ v ∉ l.dropLast := by
  obtain ⟨ys, rfl⟩ := List.getLast?_eq_some_iff.mp hv
  rw [List.pairwise_append] at hs
  rw [List.dropLast_concat]
  refine ⟨fun k' hk' hne => ?_, fun h => Nat.lt_irrefl _ (hs.2.2 v h v (List.mem_singleton.mpr rfl))⟩
  rcases List.mem_append.mp hk' with h | h
  · exact hs.2.2 k' h v (List.mem_singleton.mpr rfl)
  · exact absurd (List.mem_singleton.mp h) hne

theorem encBytes_eq (b : Bytes) : encBytes b = natOfLE (b.reverse ++ [1]) := by
  rw [← natOfBE_reverse, List.reverse_append, List.reverse_reverse]
  rfl

theorem leMin_encBytes (b : Bytes) : leMin (encBytes b) = b.reverse ++ [1] := by
  rw [encBytes_eq]
  exact leMin_natOfLE _ (fun _ => by rw [List.getLast_concat]; decide)

theorem decBytes_encBytes (b : Bytes) : decBytes (encBytes b) = some b := by
  simp [decBytes, leMin_encBytes]

def tabs (t : TrieCache) : TSpec := { node := abs t.node, value := t.value }

theorem tstep_refines {t : TrieCache} (hI : Inv t.node) (hc : t.node.capacity < 2 ^ 63) (op : TOp) :
    (tstep t op).1 = (tsstep (tabs t) op).1 ∧ tabs (tstep t op).2 = (tsstep (tabs t) op).2 ∧
      Inv (tstep t op).2.node ∧ (tstep t op).2.node.capacity = t.node.capacity := by
  cases op with
  | setn k v =>
    have h := step_refines hI hc (.put (encBytes k) (encBytes v))
    exact ⟨rfl, congrArg (TSpec.mk · t.value) h.2.1, h.2.2, step_capacity t.node (.put (encBytes k) (encBytes v))⟩
  | getn k =>
    have h := step_refines hI hc (.get (encBytes k))
    exact ⟨h.1, congrArg (TSpec.mk · t.value) h.2.1, h.2.2, step_capacity t.node (.get (encBytes k))⟩
  | setv k v => exact ⟨rfl, rfl, hI, rfl⟩
  | getv k => exact ⟨rfl, rfl, hI, rfl⟩

theorem trun_refines (ops : List TOp) : ∀ (t : TrieCache), Inv t.node → t.node.capacity < 2 ^ 63 →
    (trun t ops).1 = (tsrun (tabs t) ops).1 ∧ tabs (trun t ops).2 = (tsrun (tabs t) ops).2 ∧
      Inv (trun t ops).2.node := by
  induction ops with
  | nil => intro t hI _; exact ⟨rfl, rfl, hI⟩
  | cons op ops ih =>
    intro t hI hc
    have h := tstep_refines hI hc op
    have ih' := ih _ h.2.2.1 (h.2.2.2 ▸ hc)
    simp only [trun, tsrun]
    rw [← h.2.1]
    exact ⟨by rw [h.1, ih'.1], ih'.2⟩

def adds (ops : List LOp) (id : Nat) : Nat := (ops.filter (fun o => decide (o = LOp.add id))).length

theorem lcount_mapSet (l : Limiter) (id v id' : Nat) :
    lcount (mapSet l id v) id' = if id' = id then v else lcount l id' := by
  unfold lcount mapSet mapDelete
  rw [show List.lookup id' ((id, v) :: l.filter (·.1 != id)) = _ from AList.lookup_put id v l id']
  split <;> rfl

theorem lrun_count (max : Nat) (ops : List LOp) : ∀ (l : Limiter) (id : Nat),
    lcount (lrun max l ops).2 id = lcount l id + adds ops id := by
  induction ops with
  | nil => intro l id; simp [lrun, adds]
  | cons op ops ih =>
    intro l id
    simp only [lrun]
    rw [ih]
    cases op with
    | add i =>
      simp only [lstep, lcount_mapSet, adds, List.filter_cons]
      by_cases h : id = i
      · subst h; simp; omega
      · have : ¬ (LOp.add i = LOp.add id) := fun e => h (by injection e with e; exact e.symm)
        simp [h, this]
    | exc i =>
      simp only [lstep, lcount_mapSet, adds, List.filter_cons]
      by_cases h : id = i
      · subst h; simp
      · simp [h]

end Gossamer.C35
