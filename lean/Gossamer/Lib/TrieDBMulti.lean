/-
C06: the session invariant.  `Put`/`Delete` never touch the database, so it has two sides: `Live`
(the root stands for the trie of the map relative to the trie `T0` committed last, the deathRow is
accounted for), which needs nothing of the hash and at `T0 = nil` carries the one-session theorems,
and `SessG` (`Live` plus what is known of the database; G for general: histories with commits and fresh
instances in between, several sessions over one database).  `commit` re-establishes the database side
for the new trie, so every op keeps `SessG` (`sessG_execOp`); `Get` on the live instance reads the
trie it stands for (`sessG_get`).
-/
import Gossamer.Lib.TrieDBRemove
import Gossamer.Lib.TrieDBRows
import Gossamer.Lib.TrieDBCommit
namespace Gossamer.C06
open Gossamer Gossamer.Trie

/-- rows scheduled for deletion: the row of the empty node (`Put`/`Delete` on the empty trie load its
    root `persisted (H [0])` as a cached node and schedule its row, which no database holds), or the row
    of a position of `T0` that the root no longer refers to -/
def DeadOk (ver : Ver) (H : Bytes → Bytes) (T0 : Trie) (root : Hd) (death : Death) : Prop :=
  ∀ r ∈ death, r = H [0] ∨
    ∃ pos, r = rowOf ver H T0 pos ∧ ValidPos ver H T0 pos ∧ ¬ Needs root [] pos

/-- root, root hash and deathRow of an instance that stands for `t` relative to the trie `T0`
    committed last; the empty trie is the `persisted` handle of the empty node and does not go through
    `Ok`.  The last conjunct is there because `commit` on a `persisted` root returns `rootHash` as it
    stands. -/
def Shape (c : Cfg) (s : St) (T0 t : Trie) : Prop :=
  (t = nil ∧ s.root = .persisted (c.H [0]) ∧ s.rootHash = c.H [0] ∧
    DeadOk c.ver c.H T0 Hd.none s.death) ∨
  (t ≠ nil ∧ Ok c.ver c.H T0 s.root [] ∧ abs T0 s.root [] = t ∧ s.root.isNone = false ∧
    DeadOk c.ver c.H T0 s.root s.death ∧ (∀ h, s.root = .persisted h → s.rootHash = h))

/-- the in-memory side of an instance.  `Put`/`Delete` keep it and never touch the database; what is
    known of the database (`DbOk`, `Covers`) is only needed by `commit` and `Get`. -/
structure Live (c : Cfg) (s : St) (T0 t : Trie) : Prop where
  dec0 : c.dec [0] = some .empty
  loads : Loads (c.env s) T0
  shape : Shape c s T0 t

/-- `T0` is the trie the database holds (committed last), `t` the trie the instance stands for now -/
structure SessG (c : Cfg) (Dom : Bytes → Prop) (s : St) (T0 t : Trie) : Prop where
  dbok : DbOk (c.env s) T0
  cov : Covers c.ver c.H Dom T0
  even0 : ∀ k v, lookup T0 k = some v → k.length % 2 = 0
  shape : Shape c s T0 t

theorem SessG.live {c : Cfg} {Dom : Bytes → Prop} {s : St} {T0 t : Trie} (h : SessG c Dom s T0 t) :
    Live c s T0 t := ⟨h.dbok.dec0, loads_of_dbOk h.dbok, h.shape⟩

theorem rep_even {t : Trie} {es : Entries} (h : Rep t es) (k : Nibs) (v : Bytes)
    (hl : lookup t k = some v) : k.length % 2 = 0 := by
  obtain ⟨e, _, rfl, _⟩ := h.lookup_mem hl
  rw [length_toNibs]; omega

theorem deadOk_step {ver : Ver} {H : Bytes → Bytes} {T0 : Trie} {root root' : Hd} {death : Death}
    {news : List Pos} (h : DeadOk ver H T0 root death)
    (hmono : ∀ pos, Needs root' [] pos → Needs root [] pos)
    (hfresh : ∀ pos ∈ news, ¬ Needs root' [] pos) (hvalid : ∀ pos ∈ news, ValidPos ver H T0 pos) :
    DeadOk ver H T0 root' (news.map (rowOf ver H T0) ++ death) := by
  intro r hr
  rcases List.mem_append.mp hr with hr | hr
  · obtain ⟨pos, hp, rfl⟩ := List.mem_map.mp hr
    exact Or.inr ⟨pos, rfl, hvalid pos hp, hfresh pos hp⟩
  · rcases h r hr with h0 | ⟨pos, h1, h2, h3⟩
    · exact Or.inl h0
    · exact Or.inr ⟨pos, h1, h2, fun x => h3 (hmono pos x)⟩

theorem deadOk_emptyRow {ver : Ver} {H : Bytes → Bytes} {T0 : Trie} {root root' : Hd} {death : Death}
    (h : DeadOk ver H T0 root death) (hmono : ∀ pos, Needs root' [] pos → Needs root [] pos) :
    DeadOk ver H T0 root' (H [0] :: death) := by
  intro r hr
  rcases List.mem_cons.mp hr with rfl | hr
  · exact Or.inl rfl
  · exact deadOk_step (news := []) h hmono (fun _ h => nomatch h) (fun _ h => nomatch h) r hr

theorem isNone_of_mem {hd : Hd} (hm : hd.isMem = true) : hd.isNone = false := by
  cases hd <;> first | rfl | cases hm

theorem not_persisted_of_mem {hd : Hd} (hm : hd.isMem = true) (h : Bytes) : hd ≠ .persisted h :=
  fun e => by rw [e] at hm; cases hm

theorem Shape.of_post {c : Cfg} {s : St} {T0 t : Trie} {ch : Bool} {hd' : Hd} {news : List Pos}
    (hd : DeadOk c.ver c.H T0 s.root s.death) (hp : OpPost c.ver c.H T0 [] s.root t ch hd' news)
    (hne : t ≠ nil) :
    Shape c { s with root := hd', death := news.map (rowOf c.ver c.H T0) ++ s.death } T0 t :=
  Or.inr ⟨hne, hp.ok, hp.abs, isNone_of_mem hp.mem,
    deadOk_step hd hp.mono (fun pos hpos => (hp.fresh pos hpos).2) hp.valid,
    fun h' hx => absurd hx (not_persisted_of_mem hp.mem h')⟩

theorem live_put (c : Cfg) {s : St} {T0 t : Trie} (h : Live c s T0 t) (k v : Bytes) :
    ∃ s', doPut c s k v = .ok s' ∧ s'.db = s.db ∧ Live c s' T0 (Trie.insert t (toNibs k) v) := by
  have hne := insert_ne_nil t (toNibs k) v
  rcases h.shape with ⟨rfl, hr, _, hd⟩ | ⟨htn, hok, habs, hnn, hd, _⟩
  · exact ⟨_, doPut_empty c h.dec0 s hr k v, rfl, h.dec0, h.loads, Or.inr
      ⟨hne, ok_newLeaf c.ver c.H T0 _ _ _, abs_ofTrie c.ver T0 (leaf (toNibs k) v) [], rfl,
        deadOk_emptyRow hd fun pos hn => absurd hn (not_needs_newLeaf c.ver _ _ _ pos), fun _ hh => nomatch hh⟩⟩
  · obtain ⟨hd', ch, news, heq, hp⟩ := insertAt_sim (c.env s) T0 h.loads v ((toNibs k).length + 1)
      s.root [] (toNibs k) s.death (Nat.lt_succ_self _) hok hnn
    exact ⟨{ s with root := hd', death := news.map (rowOf c.ver c.H T0) ++ s.death },
      by simp only [doPut, heq]; rfl, rfl, h.dec0, h.loads, Shape.of_post hd (habs ▸ hp) hne⟩

theorem live_del (c : Cfg) {s : St} {T0 t : Trie} (h : Live c s T0 t) (hcan : Canon t) (k : Bytes) :
    ∃ s', doDel c s k = .ok s' ∧ s'.db = s.db ∧ Live c s' T0 (tRemove t (toNibs k)) := by
  rcases h.shape with ⟨rfl, hr, _, hd⟩ | ⟨htn, hok, habs, hnn, hd, _⟩
  · exact ⟨_, doDel_empty c h.dec0 s hr k, rfl, h.dec0, h.loads, Or.inl
      ⟨rfl, rfl, rfl, deadOk_emptyRow hd fun _ hn => hn⟩⟩
  · obtain ⟨r, news, heq, hp⟩ := removeAt_sim (c.env s) T0 h.loads ((toNibs k).length + 1)
      s.root [] (toNibs k) s.death (Nat.lt_succ_self _) hok hnn (habs ▸ hcan)
    rw [habs] at hp
    cases r with
    | none =>
      exact ⟨{ s with root := .persisted (c.H [0]), rootHash := c.H [0],
                      death := news.map (rowOf c.ver c.H T0) ++ s.death },
        by simp only [doDel, heq]; rfl, rfl, h.dec0, h.loads, Or.inl ⟨hp.1, rfl, rfl,
        deadOk_step hd (fun _ hx => hx.elim) (fun _ _ hx => hx) (fun pos hpos => (hp.2 pos hpos).2)⟩⟩
    | some p =>
      obtain ⟨hd', ch⟩ := p
      obtain ⟨hne, hp⟩ := hp
      exact ⟨{ s with root := hd', death := news.map (rowOf c.ver c.H T0) ++ s.death },
        by simp only [doDel, heq]; rfl, rfl, h.dec0, h.loads, Shape.of_post hd hp hne⟩

theorem live_step (c : Cfg) {s : St} {T0 t : Trie} {es : Entries} (h : Live c s T0 t) (hr : Rep t es)
    (op : Op) (hop : op.inSession = true) :
    ∃ s' t', execOp c s op = .ok s' ∧ s'.db = s.db ∧ Live c s' T0 t' ∧ Rep t' (specStep es op) := by
  cases op with
  | put k v =>
    obtain ⟨s1, h1, hdb, hs1⟩ := live_put c h k v
    exact ⟨s1, _, h1, hdb, hs1, rep_insert hr k v⟩
  | del k =>
    obtain ⟨s1, h1, hdb, hs1⟩ := live_del c h hr.canon k
    exact ⟨s1, _, h1, hdb, hs1, rep_tRemove hr k⟩
  | get k => exact ⟨s, t, rfl, rfl, h, hr⟩
  | commit => cases hop
  | reopen => cases hop
  | bad => exact ⟨s, t, rfl, rfl, h, hr⟩

theorem deadOk_nil (ver : Ver) (H : Bytes → Bytes) (T0 : Trie) (root : Hd) : DeadOk ver H T0 root [] := by
  intro r hr; cases hr

/-- distinct positions have distinct rows (`rows_inj`), and the row of the empty node is no row of `T0` -/
theorem deadOk_keeps {ver : Ver} {H : Bytes → Bytes} {Dom : Bytes → Prop} {T0 : Trie} {root : Hd}
    {death : Death} (hH : HashOK H Dom) (hcov : Covers ver H Dom T0)
    (heven : ∀ k v, lookup T0 k = some v → k.length % 2 = 0) (hdead : DeadOk ver H T0 root death)
    (pos : Pos) (hv : ValidPos ver H T0 pos) (hn : Needs root [] pos) : rowOf ver H T0 pos ∉ death := by
  intro hin
  rcases hdead _ hin with h0 | ⟨pos', hr', hv', hn'⟩
  · obtain ⟨q, hq⟩ := rowOf_eq ver H T0 pos
    have h1 : rowKey q (H (contentOf ver H T0 pos)) = rowKey [] (H [0]) := by rw [← hq, h0]; rfl
    have hsz := content_size ver H hH.len T0 pos hv
    rw [hH.inj _ _ (content_dom hcov pos hv) hH.zero (rowKey_split hH.len h1).2] at hsz
    exact absurd hsz (by decide)
  · rw [rows_inj hH T0 hcov heven pos pos' hv hv' hr'] at hn
    exact hn' hn

/-- a session that has committed nothing yet (`T0 = nil`): no assumption on the hash -/
theorem live_nil_commit (c : Cfg) {s : St} {t : Trie} (h : Live c s nil t) :
    ∃ s', commit c.H s = .ok s' ∧ s'.rootHash = hashTrie c.ver c.H t := by
  rcases h.shape with ⟨rfl, hr, hrh, _⟩ | ⟨_, hok, habs, hnn, _, _⟩
  · exact ⟨_, commit_persisted c.H s hr, hrh⟩
  · obtain ⟨hm, hc⟩ := ok_nil_new hok hnn
    obtain ⟨w, henc, _⟩ := encNew_spec (ver := c.ver) (H := c.H) (T0 := nil) s.root [] hok hm hc
    exact ⟨_, commit_mem c.H s hm hc henc, by rw [habs]; rfl⟩

/-- `T0 = nil`: collision-freeness is all that is needed of the hash -/
theorem live_nil_reopen (c : Cfg) {Dom : Bytes → Prop} (hlen : ∀ x, (c.H x).length = 32) (hinj : InjOn c.H Dom)
    (h0 : Dom [0]) {s : St} {t : Trie} (h : Live c s nil t) (hcov : Covers c.ver c.H Dom t)
    (hdec : ∀ n, NodeOf n t → c.dec (encodeNode c.ver c.H n) = some (viewOf c.ver c.H n)) :
    ∃ s', commit c.H s = .ok s' ∧ s'.rootHash = hashTrie c.ver c.H t ∧
      ∀ k, doGet c (reopenAt s') k = lookup t (toNibs k) := by
  have hdb0 : DbOk (c.env s) nil := dbOk_nil _ h.dec0 hlen
  suffices hs : ∃ s', commit c.H s = .ok s' ∧ s'.rootHash = hashTrie c.ver c.H t ∧ DbOk (c.env s') t by
    obtain ⟨s', h1, h2, h3⟩ := hs
    exact ⟨s', h1, h2, fresh_get c s' h3 (fun _ => rfl) h2⟩
  rcases h.shape with ⟨rfl, hr, hrh, _⟩ | ⟨_, hok, habs, hnn, _, _⟩
  · exact ⟨_, commit_persisted c.H s hr, hrh, hdb0⟩
  · obtain ⟨hm, hc⟩ := ok_nil_new hok hnn
    obtain ⟨db', hcm⟩ := commit_new c hinj h0 s nil (covers_nil _ _ _) (habs ▸ hcov) hdb0 hok hm hc
      (fun pos hv => absurd hv validPos_nil) (habs ▸ hdec)
    rw [habs] at hcm
    exact ⟨_, hcm.1, rfl, hcm.2⟩

/-- `t ≠ nil → T0' = t`: committing the empty trie writes nothing, so the database keeps the rows of the
    old `T0` (and `fresh_get` reads the empty trie whatever the database holds) -/
theorem sessG_commit (c : Cfg) {Dom : Bytes → Prop} (hH : HashOK c.H Dom) {s : St} {T0 t : Trie}
    (h : SessG c Dom s T0 t) (heven : ∀ k v, lookup t k = some v → k.length % 2 = 0)
    (hcovt : Covers c.ver c.H Dom t)
    (hdec : ∀ n, NodeOf n t → c.dec (encodeNode c.ver c.H n) = some (viewOf c.ver c.H n)) :
    ∃ s' T0', commit c.H s = .ok s' ∧ SessG c Dom s' T0' t ∧ s'.rootHash = hashTrie c.ver c.H t ∧
      (t ≠ nil → T0' = t) := by
  rcases h.shape with ⟨rfl, hr, hrh, hd⟩ | ⟨htn, hok, habs, hnn, hd, hpers⟩
  · exact ⟨_, T0, commit_persisted c.H s hr, ⟨h.dbok, h.cov, h.even0,
      Or.inl ⟨rfl, hr, hrh, deadOk_nil _ _ _ _⟩⟩, hrh, fun x => absurd rfl x⟩
  · -- a root that is still in the database, or unchanged since it was loaded: nothing is written
    have hkept : ∀ h0, hashTrie c.ver c.H T0 = h0 → T0 = t →
        commit c.H s = .ok { s with rootHash := h0, death := [] } →
        (∀ h', s.root = .persisted h' → h0 = h') →
        ∃ s' T0', commit c.H s = .ok s' ∧ SessG c Dom s' T0' t ∧ s'.rootHash = hashTrie c.ver c.H t ∧
          (t ≠ nil → T0' = t) := fun h0 hh ht hcm hp =>
      ⟨_, T0, hcm, ⟨h.dbok, h.cov, h.even0, Or.inr ⟨htn, hok, habs, hnn, deadOk_nil _ _ _ _, hp⟩⟩,
        by rw [← ht]; exact hh.symm, fun _ => ht⟩
    by_cases hnew : s.root.isMem = true ∧ s.root.cached = none
    · obtain ⟨hm, hc⟩ := hnew
      obtain ⟨db', hcm, hdbn⟩ := commit_new c hH.inj hH.zero s T0 h.cov (habs ▸ hcovt) h.dbok hok hm hc
        (deadOk_keeps hH h.cov h.even0 hd) (habs ▸ hdec)
      rw [habs] at hcm hdbn
      refine ⟨_, t, hcm, ⟨hdbn, hcovt, heven, Or.inr ?_⟩, rfl, fun _ => rfl⟩
      exact ⟨htn, hashAt_root htn, subAt_nil_path t, rfl, deadOk_nil _ _ _ _, fun hx hy => by cases hy; rfl⟩
    · -- the root is the root of `T0` under its hash `h0`
      obtain ⟨h0, hh, ha, hwhich, _⟩ := ok_old hok hnn hnew
      have ht : T0 = t := by rw [← habs, ha]; exact (subAt_nil_path T0).symm
      have hhash : hashTrie c.ver c.H T0 = h0 := by rw [hh.2.1, subAt_nil_path]; rfl
      rcases hwhich with hr | ⟨hm, hc⟩
      · exact hkept s.rootHash (by rw [hpers h0 hr]; exact hhash) ht (commit_persisted c.H s hr) hpers
      · exact hkept h0 hhash ht (commit_cached c.H s hm hc) fun h' hr => by rw [hr] at hm; cases hm

theorem sessG_reopen (c : Cfg) {Dom : Bytes → Prop} {s : St} {T0 t : Trie} (h : SessG c Dom s T0 t)
    (hroot : s.rootHash = hashTrie c.ver c.H t) (ht : t ≠ nil → T0 = t) :
    SessG c Dom (reopenAt s) T0 t := by
  refine ⟨h.dbok, h.cov, h.even0, ?_⟩
  by_cases htn : t = nil
  · subst htn
    exact Or.inl ⟨rfl, by simp [reopenAt, hroot, hashTrie, encodeNode],
      by simp [reopenAt, hroot, hashTrie, encodeNode], deadOk_nil _ _ _ _⟩
  · have hT := ht htn
    subst hT
    refine Or.inr ⟨htn, (show HashAt c.ver c.H T0 [] s.rootHash from hroot ▸ hashAt_root htn), by simp [reopenAt, abs], rfl, deadOk_nil _ _ _ _, fun hx hy => ?_⟩
    simp only [reopenAt] at hy ⊢
    cases hy; rfl

/-- `hcovt` and `hdec` are needed by commit and reopen only -/
theorem sessG_execOp (c : Cfg) {Dom : Bytes → Prop} (hH : HashOK c.H Dom) {s : St} {T0 t : Trie}
    {es : Entries} (h : SessG c Dom s T0 t) (hr : Rep t es) (hcovt : Covers c.ver c.H Dom t)
    (hdec : ∀ n, NodeOf n t → c.dec (encodeNode c.ver c.H n) = some (viewOf c.ver c.H n)) (op : Op) :
    ∃ s' T0' t', execOp c s op = .ok s' ∧ SessG c Dom s' T0' t' ∧ Rep t' (specStep es op) := by
  by_cases hop : op.inSession = true
  · obtain ⟨s1, t1, h1, hdb, hl, hr1⟩ := live_step c h.live hr op hop
    have he : c.env s1 = c.env s := by simp only [Cfg.env, hdb]
    exact ⟨s1, T0, t1, h1, ⟨he ▸ h.dbok, h.cov, h.even0, hl.shape⟩, hr1⟩
  · obtain ⟨s1, T1, h1, hs1, hroot, hT⟩ := sessG_commit c hH h (rep_even hr) hcovt hdec
    cases op with
    | commit => exact ⟨s1, T1, t, h1, hs1, hr⟩
    | reopen => exact ⟨reopenAt s1, T1, t, by simp only [execOp, h1, Res.map], sessG_reopen c hs1 hroot hT, hr⟩
    | put _ _ | del _ | get _ | bad => exact absurd rfl hop

theorem sessG_get (c : Cfg) {Dom : Bytes → Prop} {s : St} {T0 t : Trie} (h : SessG c Dom s T0 t)
    (k : Bytes) : doGet c s k = lookup t (toNibs k) := by
  rcases h.shape with ⟨rfl, hr, _, _⟩ | ⟨_, hok, habs, _, _, _⟩
  · exact doGet_empty c h.dbok.dec0 s hr k
  · rw [← habs]
    exact lookupMem_ok (c.env s) T0 h.dbok k s.root [] (toNibs k) (by simp) hok

end Gossamer.C06
