/-
C17 — the two parent walks of the model under `TreeOK`.  `pathUp st k e` takes `k` steps (`RangeInMemory`): the nodes,
root end first, `none` on a missing parent.  `upList` / `up st b` walks to the root (`Prune`, `isDescendantOf`): the
hashes, `b` first, with fuel `b.number + 1`, enough because numbers fall by one per step (`TreeOK.parent`, `up_step`).
`upList_of_path` is the bridge the later files use (`MoveFacts.upHead`).  Ancestry as a relation is `Desc`: for a tree node
`b`, `a ∈ up st b` iff `Desc st a b.hash`; C26 adds `AncI` (through `GetHeader`, so on below the root) and `Anc`.
-/
import Gossamer.Lib.C17Basics
namespace Gossamer.C17

structure TreeOK (st : St) : Prop where
  uniq : Uniq st.tree
  rootIn : (findB st.tree st.root).isSome
  parent : ∀ b ∈ st.tree, b.hash ≠ st.root →
    ∃ p, findB st.tree b.parent = some p ∧ p.number + 1 = b.number

theorem TreeOK.ne_root {st : St} (ht : TreeOK st) {h : Nat} (hn : findB st.tree h = none) : h ≠ st.root :=
  fun he => by have := ht.rootIn; rw [← he, hn] at this; cases this

theorem parentNode_some {st : St} (ht : TreeOK st) {b p : Blk} (hb : b ∈ st.tree)
    (hp : parentNode st b = some p) :
    b.hash ≠ st.root ∧ findB st.tree b.parent = some p ∧ p ∈ st.tree ∧ p.number + 1 = b.number := by
  unfold parentNode at hp
  by_cases hr : b.hash = st.root
  · simp [hr] at hp
  · simp only [hr, if_false] at hp
    obtain ⟨p', hp', hn⟩ := ht.parent b hb hr
    rw [hp] at hp'
    cases hp'
    exact ⟨hr, hp, findB_mem hp, hn⟩

theorem parentNode_root {st : St} {b : Blk} (hr : b.hash = st.root) : parentNode st b = none := by
  unfold parentNode; simp [hr]

theorem parentNode_nonroot {st : St} (ht : TreeOK st) {b : Blk} (hb : b ∈ st.tree) (hr : b.hash ≠ st.root) :
    ∃ p, parentNode st b = some p := by
  obtain ⟨p, hp, _⟩ := ht.parent b hb hr
  exact ⟨p, by unfold parentNode; simp [hr, hp]⟩

/-- what a successful `k`-step walk from `e` looks like -/
structure PathOK (st : St) (e : Blk) (l : List Blk) : Prop where
  mem : ∀ x ∈ l, x ∈ st.tree ∧ x.number ≤ e.number
  last : l.getLast? = some e
  incr : l.Pairwise (fun a b => a.number < b.number)
  tailNonRoot : ∀ x ∈ l.tail, x.hash ≠ st.root
  linked : ∀ x ∈ l.tail, ∃ y ∈ l, y.hash = x.parent ∧ y.number + 1 = x.number

theorem pathUp_succ {st : St} {k : Nat} {e : Blk} {l : List Blk} (h : pathUp st (k + 1) e = some l) :
    ∃ p l', parentNode st e = some p ∧ pathUp st k p = some l' ∧ l = l' ++ [e] := by
  unfold pathUp at h
  cases hp : parentNode st e with
  | none => rw [hp] at h; cases h
  | some p =>
    rw [hp] at h
    obtain ⟨l', hl', rfl⟩ := Option.map_eq_some_iff.mp h
    exact ⟨p, l', rfl, hl', rfl⟩

theorem pathUp_ok {st : St} (ht : TreeOK st) {k : Nat} {e : Blk} {l : List Blk} (he : e ∈ st.tree)
    (h : pathUp st k e = some l) : PathOK st e l := by
  induction k generalizing e l with
  | zero =>
    cases h
    exact ⟨fun x hx => (List.mem_singleton.mp hx).symm ▸ ⟨he, Nat.le_refl _⟩, rfl, List.pairwise_singleton .., nofun, nofun⟩
  | succ k ih =>
    obtain ⟨p, l', hp, hl, rfl⟩ := pathUp_succ h
    obtain ⟨hr, hfp, hpt, hn⟩ := parentNode_some ht he hp
    have ih := ih hpt hl
    have hplast : p ∈ l' := List.mem_of_getLast? ih.last
    have hlt : ∀ x ∈ l', x.number < e.number := fun x hx => hn ▸ Nat.lt_succ_of_le (ih.mem x hx).2
    -- the tail of the longer walk is the tail of the shorter one and `e`
    have htail : ∀ x ∈ (l' ++ [e]).tail, x ∈ l'.tail ∨ x = e := by
      intro x hx
      rw [List.tail_append_of_ne_nil (List.ne_nil_of_mem hplast), List.mem_append, List.mem_singleton] at hx
      exact hx
    refine ⟨?_, List.getLast?_concat .., ?_, ?_, ?_⟩
    · intro x hx
      rcases List.mem_append.mp hx with hx | hx
      · exact ⟨(ih.mem x hx).1, Nat.le_of_lt (hlt x hx)⟩
      · exact (List.mem_singleton.mp hx).symm ▸ ⟨he, Nat.le_refl _⟩
    · exact List.pairwise_append.mpr
        ⟨ih.incr, List.pairwise_singleton .., fun a ha b hb => List.mem_singleton.mp hb ▸ hlt a ha⟩
    · intro x hx
      rcases htail x hx with hx | rfl
      · exact ih.tailNonRoot x hx
      · exact hr
    · intro x hx
      rcases htail x hx with hx | rfl
      · obtain ⟨y, hy, h1, h2⟩ := ih.linked x hx
        exact ⟨y, List.mem_append_left _ hy, h1, h2⟩
      · exact ⟨p, List.mem_append_left _ hplast, findB_hash hfp, hn⟩

theorem PathOK.nodup_hash {st : St} (ht : TreeOK st) {e : Blk} {l : List Blk} (h : PathOK st e l) :
    (l.map (·.hash)).Nodup := by
  rw [List.nodup_iff_pairwise_ne, List.pairwise_map]
  refine h.incr.imp_of_mem ?_
  intro a b ha hb hlt heq
  have := ht.uniq.eq_of_hash (h.mem a ha).1 (h.mem b hb).1 heq
  subst this
  omega

theorem PathOK.nodup_number {st : St} {e : Blk} {l : List Blk} (h : PathOK st e l) :
    (l.map (·.number)).Nodup := by
  rw [List.nodup_iff_pairwise_ne, List.pairwise_map]
  exact h.incr.imp (fun hlt heq => by omega)

theorem mem_upList_number {st : St} (ht : TreeOK st) {fuel : Nat} {a b : Blk} (ha : a ∈ st.tree) (hb : b ∈ st.tree)
    (h : a.hash ∈ upList st fuel b) : a = b ∨ a.number < b.number := by
  fun_induction upList st fuel b with
  | case1 => cases h
  | case2 => exact .inl (ht.uniq.eq_of_hash ha hb (List.mem_singleton.mp h))
  | case3 _ b p hp ih =>
    rcases List.mem_cons.mp h with h | h
    · exact .inl (ht.uniq.eq_of_hash ha hb h)
    · obtain ⟨_, _, hpt, hn⟩ := parentNode_some ht hb hp
      exact .inr (by rcases ih hpt h with rfl | hlt <;> omega)

theorem mem_kept {st : St} {hn b : Blk} : b ∈ kept st hn ↔ b ∈ st.tree ∧ hn.hash ∈ up st b := by
  simp [kept, List.mem_filter]

theorem mem_pruned {st : St} {hn b : Blk} :
    b ∈ pruned st hn ↔ b ∈ st.tree ∧ hn.hash ∉ up st b ∧ b.hash ∉ up st hn := by
  simp [pruned, List.mem_filter]

theorem self_mem_up (st : St) (b : Blk) : b.hash ∈ up st b := by
  unfold up upList
  cases parentNode st b <;> simp

theorem up_step {st : St} (ht : TreeOK st) {b p : Blk} (hb : b ∈ st.tree) (hp : parentNode st b = some p) :
    up st b = b.hash :: up st p := by
  obtain ⟨_, _, _, hn⟩ := parentNode_some ht hb hp
  unfold up
  rw [← hn]
  show upList st (p.number + 1 + 1) b = _
  rw [upList]
  simp [hp]

theorem up_root {st : St} {b : Blk} (hr : b.hash = st.root) : up st b = [b.hash] := by
  unfold up upList
  simp [parentNode_root hr]

theorem kept_ne_root {st : St} {hn b : Blk} (hup : hn.hash ∈ up st b) (hbh : b.hash ≠ hn.hash) : b.hash ≠ st.root := by
  intro hr
  rw [up_root hr] at hup
  exact hbh (List.mem_singleton.mp hup).symm

theorem kept_parent {st : St} (ht : TreeOK st) {hn b : Blk} (hb : b ∈ kept st hn) (hbh : b.hash ≠ hn.hash) :
    ∃ p, findB st.tree b.parent = some p ∧ p.number + 1 = b.number ∧ p ∈ kept st hn := by
  obtain ⟨hbt, hup⟩ := mem_kept.mp hb
  obtain ⟨p, hp⟩ := parentNode_nonroot ht hbt (kept_ne_root hup hbh)
  obtain ⟨_, hfp, hpt, hpn⟩ := parentNode_some ht hbt hp
  rw [up_step ht hbt hp] at hup
  rcases List.mem_cons.mp hup with hup | hup
  · exact absurd hup.symm hbh
  · exact ⟨p, hfp, hpn, mem_kept.mpr ⟨hpt, hup⟩⟩

theorem upList_of_path {st : St} (ht : TreeOK st) {k : Nat} {e top : Blk} {rest : List Blk} (he : e ∈ st.tree)
    (h : pathUp st k e = some (top :: rest)) (hr : top.hash = st.root) {fuel : Nat} (hf : k < fuel) :
    upList st fuel e = ((top :: rest).map (·.hash)).reverse := by
  induction k generalizing e rest fuel with
  | zero =>
    cases h
    obtain ⟨f, rfl⟩ := Nat.exists_eq_succ_of_ne_zero (Nat.ne_zero_of_lt hf)
    rw [upList, parentNode_root hr]
    rfl
  | succ k ih =>
    obtain ⟨p, l', hp, hl', hl⟩ := pathUp_succ h
    obtain ⟨_, _, hpt, _⟩ := parentNode_some ht he hp
    obtain ⟨f, rfl⟩ := Nat.exists_eq_succ_of_ne_zero (Nat.ne_zero_of_lt hf)
    cases l' with
    | nil => cases (pathUp_ok ht hpt hl').last
    | cons t r =>
      cases (List.cons.inj hl).1
      rw [upList, hp, hl, List.map_append, List.reverse_append, ← ih hpt hl' (Nat.lt_of_succ_lt_succ hf)]
      rfl

inductive Desc (st : St) : Nat → Nat → Prop
  | refl (a : Nat) : Desc st a a
  | step {a h : Nat} {b : Blk} : findB st.tree h = some b → h ≠ st.root → Desc st a b.parent → Desc st a h

theorem desc_of_mem_up {st : St} (ht : TreeOK st) {fuel : Nat} {b : Blk} {a : Nat}
    (hb : b ∈ st.tree) (h : a ∈ upList st fuel b) : Desc st a b.hash := by
  fun_induction upList st fuel b with
  | case1 => cases h
  | case2 => rw [List.mem_singleton.mp h]; exact .refl _
  | case3 _ b p hp ih =>
    rcases List.mem_cons.mp h with h | h
    · rw [h]; exact .refl _
    · obtain ⟨hr, hfp, hpt, _⟩ := parentNode_some ht hb hp
      exact .step (ht.uniq b hb) hr (findB_hash hfp ▸ ih hpt h)

theorem mem_up_of_desc {st : St} (ht : TreeOK st) {a h : Nat} (hd : Desc st a h) :
    ∀ b ∈ st.tree, b.hash = h → a ∈ up st b := by
  induction hd with
  | refl => intro b _ hb; rw [← hb]; exact self_mem_up st b
  | @step h' c hf hr _ ih =>
    intro b hb hbh
    have hc : c = b := by
      exact ht.uniq.eq_of_hash (findB_mem hf) hb ((findB_hash hf).trans hbh.symm)
    subst hc
    have hbr : c.hash ≠ st.root := by rw [hbh]; exact hr
    obtain ⟨p, hp⟩ := parentNode_nonroot ht hb hbr
    obtain ⟨_, hfp, hpt, _⟩ := parentNode_some ht hb hp
    rw [up_step ht hb hp]
    exact List.mem_cons_of_mem _ (ih p hpt (findB_hash hfp))

end Gossamer.C17
