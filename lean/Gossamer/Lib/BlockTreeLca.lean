import Gossamer.Lib.BlockTreeChains

namespace Gossamer.BlockTree

theorem lcaWalk_spec {xs ys : List Info} (hlen : xs.length = ys.length) (hne : xs ≠ [])
    (hlast : xs.getLast?.map Info.hash = ys.getLast?.map Info.hash) :
    ∃ (m : Nat) (hx : m < xs.length) (hy : m < ys.length), lcaWalk xs ys = some xs[m].hash ∧
      xs[m].hash = ys[m].hash ∧
      ∀ j (hj : j < m), (xs[j]'(Nat.lt_trans hj hx)).hash ≠ (ys[j]'(Nat.lt_trans hj hy)).hash := by
  induction xs generalizing ys with
  | nil => exact absurd rfl hne
  | cons x xs' ih =>
    cases ys with
    | nil => cases hlen
    | cons y ys' =>
      by_cases hxy : x.hash = y.hash
      · exact ⟨0, Nat.zero_lt_succ _, Nat.zero_lt_succ _, by rw [lcaWalk, if_pos hxy]; rfl, hxy,
          fun j hj => absurd hj (Nat.not_lt_zero j)⟩
      · cases xs' with
        | nil =>
          obtain rfl : ys' = [] := List.eq_nil_of_length_eq_zero (Nat.succ.inj hlen).symm
          exact absurd (Option.some.inj hlast) hxy
        | cons x2 xr =>
          cases ys' with
          | nil => cases hlen
          | cons y2 yr =>
            rw [List.getLast?_cons_cons, List.getLast?_cons_cons] at hlast
            obtain ⟨m, hx, hy, h1, h2, h4⟩ := ih (Nat.succ.inj hlen) (List.cons_ne_nil _ _) hlast
            refine ⟨m + 1, Nat.succ_lt_succ hx, Nat.succ_lt_succ hy, ?_, h2, fun j hj => ?_⟩
            · rw [lcaWalk, if_neg hxy]; exact h1
            · cases j with
              | zero => exact hxy
              | succ j => exact h4 j (Nat.lt_of_succ_lt_succ hj)

theorem up_common_suffix {bt : BT} {h l : Hash} {uh ul : List Info} (fh : UpFacts bt h uh) (fl : UpFacts bt l ul)
    {p r : Nat} (hp : p < uh.length) (hr : r < ul.length) (he : uh[p].hash = ul[r].hash) :
    uh.drop p = ul.drop r ∧ p + ul.length = r + uh.length := by
  have hd : uh.drop p = ul.drop r := by rw [← fh.suffix p hp, ← fl.suffix r hr, he]
  have := congrArg List.length hd
  rw [List.length_drop, List.length_drop] at this
  exact ⟨hd, by omega⟩

theorem lcaAligned_spec {bt : BT} {h l : Hash} {uh ul : List Info} (fh : UpFacts bt h uh) (fl : UpFacts bt l ul)
    {k : Nat} (hk : uh.length = ul.length + k) :
    ∃ c, lcaAligned uh ul k = some c ∧
      c ∈ uh.map Info.hash ∧ c ∈ ul.map Info.hash ∧
      ∀ x, x ∈ uh.map Info.hash → x ∈ ul.map Info.hash → x ∈ (bt.up c).map Info.hash := by
  have hll : 0 < ul.length := List.length_pos_iff.2 fl.ne
  have hlt : ¬ uh.length ≤ k := by omega
  have hxlen : (uh.drop k).length = ul.length := by rw [List.length_drop]; omega
  have hxlast : (uh.drop k).getLast?.map Info.hash = ul.getLast?.map Info.hash := by
    rw [List.getLast?_drop, if_neg hlt, fh.last, fl.last]
  obtain ⟨m, hkm, hm, h1, h2, h4⟩ := lcaWalk_spec hxlen
    (fun he => by rw [he] at hxlen; exact absurd hxlen.symm (Nat.ne_of_gt hll)) hxlast
  refine ⟨ul[m].hash, by rw [lcaAligned, if_neg hlt, h1, h2],
    List.mem_map.2 ⟨_, List.mem_of_mem_drop (List.getElem_mem hkm), h2⟩,
    List.mem_map.2 ⟨_, List.getElem_mem hm, rfl⟩, fun x hxh hxl => ?_⟩
  obtain ⟨vh, hvh, hvhx⟩ := List.mem_map.1 hxh
  obtain ⟨vl, hvl, rfl⟩ := List.mem_map.1 hxl
  obtain ⟨p, hp, rfl⟩ := List.getElem_of_mem hvh
  obtain ⟨r, hr, rfl⟩ := List.getElem_of_mem hvl
  obtain rfl : p = k + r := by have := (up_common_suffix fh fl hp hr hvhx).2; omega
  -- the walk cannot have passed a position where the chains agree
  obtain ⟨d, rfl⟩ := Nat.exists_eq_add_of_le
    (Nat.le_of_not_lt fun hlt' => h4 r hlt' (by rw [List.getElem_drop]; exact hvhx))
  rw [fl.suffix m hm]
  exact List.mem_map.2 ⟨ul[m + d], List.mem_drop_iff_getElem.2 ⟨d, Nat.add_comm m d ▸ hr, rfl⟩, rfl⟩

theorem lcaNodes_spec {bt : BT} (hi : Inv bt) {a b : Hash} {an bn : Node} (ha : findF a [bt.root] = some an)
    (hb : findF b [bt.root] = some bn) :
    ∃ c, lcaNodes (bt.up a) (bt.up b) an.info bn.info = some c ∧
      c ∈ (bt.up a).map Info.hash ∧ c ∈ (bt.up b).map Info.hash ∧
      ∀ x, x ∈ (bt.up a).map Info.hash → x ∈ (bt.up b).map Info.hash → x ∈ (bt.up c).map Info.hash := by
  have fa := up_facts hi (findF_mem ha)
  have fb := up_facts hi (findF_mem hb)
  have key : an.info.number + (bt.up b).length = bn.info.number + (bt.up a).length := by
    have na := up_length hi ha
    have nb := up_length hi hb
    omega
  generalize bt.up a = ua at *
  generalize bt.up b = ub at *
  rw [lcaNodes]
  split
  · exact lcaAligned_spec fa fb (by omega)
  · obtain ⟨c, hc, hcb, hca, hlow⟩ := lcaAligned_spec fb fa (k := bn.info.number - an.info.number) (by omega)
    exact ⟨c, hc, hca, hcb, fun x hxa hxb => hlow x hxb hxa⟩

end Gossamer.BlockTree
