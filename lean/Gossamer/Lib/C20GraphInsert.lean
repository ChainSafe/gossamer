/-
C20 layer (b), proofs: `append`, `introduceBranch` and `Insert` preserve the representation invariant, for every
history of inserts.
-/
import Gossamer.Lib.C20GraphStruct
namespace Gossamer.C20

variable {t : Tree}

theorem append_struct (h : t.WF) {ins : Ins} {g : Graph} (inv : GInv t ins g) {hash : Nat}
    (hN : isNode ins hash = false) (hfree : ∀ d, ¬ Containing t ins hash d) :
    GStruct t (addNode (isNode ins) hash) (cumOf t ins) (g.append t hash (t.num hash)) := by
  have N0 := isNode_zero ins
  have hpos := pos_of_not_node N0 hN
  have hp : (fun a => (g.entries a).isSome) = isNode ins := by funext a; exact inv.nodes a
  obtain ⟨a, haN, haNode, hae⟩ := ancNode_some h N0 hpos
  obtain ⟨ea, hea⟩ := inv.entry_of_node haNode
  have hah : a ≠ hash := ne_of_true_of_false haNode hN
  have hnh : hash ∉ g.heads := fun hc => by
    have := ((inv.heads hash).1 hc).1
    rw [this] at hN; cases hN
  unfold Graph.append
  simp only [hp]
  cases hfi : (t.chain hash).tail.findIdx? (isNode ins) with
  | none =>
    have := List.findIdx?_eq_none_iff.1 hfi a ((edge_prefix t _ hash).subset hae)
    rw [haNode] at this; cases this
  | some i =>
    have hedge : (t.chain hash).tail.take (i + 1) = edge t (isNode ins) hash :=
      (take_findIdx_eq (isNode ins) _ i hfi).1
    have hil : i < (t.chain hash).tail.length := (List.findIdx?_eq_some_iff_findIdx_eq.1 hfi).1
    have hai : (t.chain hash).tail.getD i 0 = a := by
      have h1 : ancNode t (isNode ins) hash = (t.chain hash).tail[i]? := by
        unfold ancNode; rw [← hedge]; exact getLast?_take_succ hil
      rw [haN] at h1
      simp [List.getD_eq_getElem?_getD, ← h1]
    simp only [hai, hea, hedge]
    refine addNode_struct h N0 inv.toStruct hN [] List.nodup_nil
      (fun d => ⟨fun hd => absurd hd List.not_mem_nil, fun hd => (hfree d hd).elim⟩) haN hea _
      ⟨⟨t.num hash, edge t (isNode ins) hash, [], 0⟩, by simp [Graph.set], rfl, rfl, rfl,
        (cumOf_zero_of_free h hN hfree).symm⟩ ?_ ?_ ?_ ?_
    · simp [Graph.set, hah]
      exact (List.filter_eq_self.2 fun _ _ => rfl).symm
    · intro d e hd; exact absurd hd List.not_mem_nil
    · intro b h1 h2 _; simp [Graph.set, h1, h2]
    · intro x; simp [Graph.set, hnh]

/-- the body of the `foldl` of `Graph.introduceBranch`, typed again so that the induction over the loop
(`branch_fold_some`) can name it; `introduceBranch_eq` ties the copy to the model by `rfl`, so a change of the model
breaks there -/
def branchStep (ancNum : Nat) (acc : BranchAcc) (d : Nat) : BranchAcc :=
  match acc.entries d with
  | none => acc
  | some e =>
    let prevAnc := e.ancestorNode
    let offset := e.number - ancNum
    let newAnc := e.ancestors.drop offset
    let e' := { e with ancestors := e.ancestors.take offset }
    let ents := fun x => if x = d then some e' else acc.entries x
    let m : Entry × Option Nat := match acc.maybe with
      | none => (⟨ancNum, newAnc, [], 0⟩, prevAnc)
      | some m => m
    { entries := ents,
      maybe := some ({ m.1 with descendants := m.1.descendants ++ [d], cum := m.1.cum ||| e.cum }, m.2) }

/-- the text of `Graph.introduceBranch` after the loop, typed again for the same reason -/
def branchFinish (g : Graph) (ancHash : Nat) (acc : BranchAcc) : Graph :=
  match acc.maybe with
  | none => { g with entries := acc.entries }
  | some (ne, prev) =>
    let ents1 : Nat → Option Entry := match prev with
      | none => acc.entries
      | some p =>
        match acc.entries p with
        | none => acc.entries
        | some pe =>
          let ds := pe.descendants.filter (fun d => !ne.descendants.contains d) ++ [ancHash]
          fun x => if x = p then some { pe with descendants := ds } else acc.entries x
    { g with entries := fun x => if x = ancHash then some ne else ents1 x }

theorem introduceBranch_eq (g : Graph) (ds : List Nat) (ancHash ancNum : Nat) :
    g.introduceBranch ds ancHash ancNum =
      branchFinish g ancHash (ds.foldl (branchStep ancNum) ⟨g.entries, none⟩) := rfl

theorem any_congr_mem {α : Type} {l : List α} {p q : α → Bool} (h : ∀ a, a ∈ l → p a = q a) : l.any p = l.any q := by
  induction l with
  | nil => rfl
  | cons a l ih =>
    rw [List.any_cons, List.any_cons, h a List.mem_cons_self, ih fun b hb => h b (List.mem_cons_of_mem _ hb)]

theorem branch_fold_some (ancNum : Nat) : ∀ (l : List Nat) (acc : BranchAcc) (m : Entry × Option Nat),
    acc.maybe = some m → l.Nodup → (∀ d, d ∈ l → (acc.entries d).isSome = true) →
    (∀ x, (l.foldl (branchStep ancNum) acc).entries x =
        if x ∈ l then (acc.entries x).map (truncAt ancNum) else acc.entries x) ∧
    ∃ ne, (l.foldl (branchStep ancNum) acc).maybe = some (ne, m.2) ∧
      ne.number = m.1.number ∧ ne.ancestors = m.1.ancestors ∧ ne.descendants = m.1.descendants ++ l ∧
      ∀ q, ne.cum.testBit q = (m.1.cum.testBit q ||
        l.any (fun d => match acc.entries d with | some e => e.cum.testBit q | none => false)) := by
  intro l
  induction l with
  | nil =>
    intro acc m hm _ _
    exact ⟨fun x => by simp, m.1, by simp [hm], rfl, rfl, by simp, fun q => by simp⟩
  | cons d l ih =>
    intro acc m hm hnd hex
    obtain ⟨e, he⟩ := Option.isSome_iff_exists.1 (hex d List.mem_cons_self)
    have hdl : d ∉ l := (List.nodup_cons.1 hnd).1
    simp only [List.foldl_cons]
    have hstep : branchStep ancNum acc d =
        { entries := fun x => if x = d then some (truncAt ancNum e) else acc.entries x,
          maybe := some ({ m.1 with descendants := m.1.descendants ++ [d], cum := m.1.cum ||| e.cum }, m.2) } := by
      simp [branchStep, he, hm, truncAt]
    rw [hstep]
    obtain ⟨i1, ne, i2, i3, i4, i5, i6⟩ := ih
      { entries := fun x => if x = d then some (truncAt ancNum e) else acc.entries x,
        maybe := some ({ m.1 with descendants := m.1.descendants ++ [d], cum := m.1.cum ||| e.cum }, m.2) }
      ({ m.1 with descendants := m.1.descendants ++ [d], cum := m.1.cum ||| e.cum }, m.2) rfl
      (List.nodup_cons.1 hnd).2
      (by
        intro x hx
        have : x ≠ d := fun e => hdl (e ▸ hx)
        simp only [this, if_false]
        exact hex x (List.mem_cons_of_mem _ hx))
    refine ⟨fun x => ?_, ne, i2, i3, i4, by rw [i5]; simp, ?_⟩
    · -- `d` was processed first, then the list `l`
      rw [i1 x]
      by_cases hxd : x = d
      · subst hxd; simp [hdl, he]
      · by_cases hxl : x ∈ l <;> simp [hxd, hxl]
    · intro q
      rw [i6 q]
      simp only [Nat.testBit_or, List.any_cons, he]
      rw [Bool.or_assoc]
      congr 2
      exact any_congr_mem fun x hx => by
        have : x ≠ d := fun e => hdl (e ▸ hx)
        simp only [this, if_false]

theorem branch_fold (ancNum : Nat) (ents : Nat → Option Entry) (d0 : Nat) (l : List Nat) (e0 : Entry)
    (he0 : ents d0 = some e0) (hnd : (d0 :: l).Nodup) (hex : ∀ d, d ∈ d0 :: l → (ents d).isSome = true) :
    (∀ x, ((d0 :: l).foldl (branchStep ancNum) ⟨ents, none⟩).entries x =
        if x ∈ d0 :: l then (ents x).map (truncAt ancNum) else ents x) ∧
    ∃ ne, ((d0 :: l).foldl (branchStep ancNum) ⟨ents, none⟩).maybe = some (ne, e0.ancestorNode) ∧
      ne.number = ancNum ∧ ne.ancestors = e0.ancestors.drop (e0.number - ancNum) ∧
      ne.descendants = d0 :: l ∧
      ∀ q, ne.cum.testBit q =
        (d0 :: l).any (fun d => match ents d with | some e => e.cum.testBit q | none => false) := by
  -- the first iteration starts the new entry: the same as a step from the empty new entry
  have hstart : (d0 :: l).foldl (branchStep ancNum) ⟨ents, none⟩ = (d0 :: l).foldl (branchStep ancNum)
      ⟨ents, some (⟨ancNum, e0.ancestors.drop (e0.number - ancNum), [], 0⟩, e0.ancestorNode)⟩ := by
    simp [branchStep, he0]
  rw [hstart]
  obtain ⟨i1, ne, i2, i3, i4, i5, i6⟩ := branch_fold_some ancNum (d0 :: l) ⟨ents, _⟩ _ rfl hnd hex
  exact ⟨i1, ne, i2, i3, i4, by rw [i5]; rfl, fun q => by rw [i6 q]; simp⟩

theorem branch_struct (h : t.WF) {ins : Ins} {g : Graph} (inv : GInv t ins g) {hash : Nat}
    (hN : isNode ins hash = false) (d0 : Nat) (l : List Nat) (hnd : (d0 :: l).Nodup)
    (hR : ∀ d, d ∈ d0 :: l ↔ Containing t ins hash d) :
    GStruct t (addNode (isNode ins) hash) (cumOf t ins) (g.introduceBranch (d0 :: l) hash (t.num hash)) := by
  have N0 := isNode_zero ins
  have hd0 := (hR d0).1 List.mem_cons_self
  obtain ⟨e0, he0⟩ := inv.entry_of_node hd0.1
  have hex : ∀ d, d ∈ d0 :: l → (g.entries d).isSome = true := fun d hd => by
    rw [inv.nodes d]; exact ((hR d).1 hd).1
  obtain ⟨hents, ne, hmaybe, hne1, hne2, hne3, hne4⟩ :=
    branch_fold (t.num hash) g.entries d0 l e0 he0 hnd hex
  -- the vote-node above `d0` is the one above `hash`
  obtain ⟨p, hp, hpN, _⟩ := ancNode_some h N0 (pos_of_mem_edge hd0.2)
  have hanc_hash : ancNode t (isNode ins) hash = some p := (ancNode_eq_of_mem_edge h N0 hN hd0.2).trans hp
  obtain ⟨pe, hpe⟩ := inv.entry_of_node hpN
  have hph : p ≠ hash := ne_of_true_of_false hpN hN
  have hpR : p ∉ d0 :: l := fun hm => not_mem_edge_anc h hanc_hash ((hR p).1 hm).2
  have hhR : hash ∉ d0 :: l := fun hm => by have := ((hR hash).1 hm).1; rw [this] at hN; cases hN
  rw [introduceBranch_eq]
  unfold branchFinish
  rw [hmaybe]
  have hprev : e0.ancestorNode = some p := by rw [inv.ancestorNode_eq he0]; exact hp
  have haccp : ((d0 :: l).foldl (branchStep (t.num hash)) ⟨g.entries, none⟩).entries p = some pe := by
    rw [hents p, if_neg hpR]; exact hpe
  simp only [hprev, haccp]
  refine addNode_struct h N0 inv.toStruct hN (d0 :: l) hnd hR hanc_hash hpe _ ⟨ne, by simp, hne1, ?_, hne3, ?_⟩ ?_ ?_ ?_ ?_
  · -- the rest of the edge of `d0` beyond `hash`
    rw [hne2, inv.number d0 e0 he0, inv.anc d0 e0 he0, (edge_cut h hN hd0.2).2]
  · -- the votes merged by the loop are those `FindAncestor` would merge
    rw [← orCums_containing h inv hN _ hR]
    apply Nat.eq_of_testBit_eq
    intro q
    have := foldl_or_testBit g q (d0 :: l) 0
    rw [Nat.zero_testBit, Bool.false_or] at this
    rw [hne4 q]; exact this.symm
  · simp [hph, hne3]
  · intro d e hd he
    have h1 : d ≠ hash := fun e => hhR (e ▸ hd)
    have h2 : d ≠ p := fun e => hpR (e ▸ hd)
    simp only [h1, h2, if_false]
    rw [hents d, if_pos hd, he]; rfl
  · intro b h1 h2 h3
    simp only [h1, h2, if_false]
    rw [hents b, if_neg h3]
  · intro x
    show x ∈ g.heads ↔ _
    constructor
    · intro hx
      exact Or.inl ⟨hx, fun e => ((inv.heads x).1 hx).2 d0 hd0.1 (e ▸ hp)⟩
    · rintro (⟨hx, _⟩ | ⟨hnil, _⟩)
      · exact hx
      · cases hnil

theorem init_inv (t : Tree) : GInv t [] Graph.init := by
  have hN : ∀ b, isNode [] b = (b == 0) := by intro b; simp [isNode]
  have hanc : ∀ d b, isNode [] d = true → ancNode t (isNode []) d ≠ some b := by
    intro d b hd
    have : d = 0 := by simpa [hN] using hd
    subst this; simp [ancNode, edge_zero]
  have hent : ∀ b e, Graph.init.entries b = some e → b = 0 ∧ e = ⟨0, [], [], 0⟩ := by
    intro b e hb
    by_cases h0 : b = 0
    · subst h0; simp [Graph.init] at hb; exact ⟨rfl, hb.symm⟩
    · simp [Graph.init, h0] at hb
  refine GStruct.toInv (GStruct.of_entryOK (fun b => ?_) (fun b e hb => ?_) (fun x => ?_)) (fun p hp => by simp at hp)
  · rw [hN]; by_cases hb : b = 0 <;> simp [Graph.init, hb]
  · obtain ⟨rfl, rfl⟩ := hent b e hb
    exact ⟨rfl, rfl, rfl, List.nodup_nil,
      fun d => ⟨fun hd => by simp at hd, fun ⟨hd, ha⟩ => absurd ha (hanc d 0 hd)⟩⟩
  · simp only [Graph.init, List.mem_singleton]
    constructor
    · intro hx; subst hx
      exact ⟨by simp [isNode], fun d hd => hanc d 0 hd⟩
    · rintro ⟨hx, _⟩; simpa [hN] using hx

theorem insert_inv (h : t.WF) {ins : Ins} {g : Graph} (inv : GInv t ins g) (key : Nat → Nat)
    (hash pos : Nat) (hlt : hash < t.size) :
    GInv t (ins ++ [(hash, pos)]) (g.insert key t hash pos) := by
  have N0 := isNode_zero ins
  have hvalid : ∀ p, p ∈ ins ++ [(hash, pos)] → p.1 < t.size :=
    List.forall_mem_append.2 ⟨inv.valid, List.forall_mem_singleton.2 hlt⟩
  have hN'0 : addNode (isNode ins) hash 0 = true := by simp [addNode, N0]
  have hN'h : addNode (isNode ins) hash hash = true := by simp [addNode]
  obtain ⟨c1, c2⟩ := findContaining_spec h inv key hash
  apply GStruct.toInv _ hvalid
  rw [cumOf_append, isNode_append_eq]
  unfold Graph.insert
  simp only
  cases hN : isNode ins hash with
  | true =>
    rw [c1 hN]
    have hsame : addNode (isNode ins) hash = isNode ins := by
      funext b
      by_cases hb : b = hash
      · subst hb; simp [addNode, hN]
      · simp [addNode, hb]
    rw [hsame]
    exact addUp_struct h N0 inv.toStruct hash pos (t.size + 1) hN (by omega)
  | false =>
    obtain ⟨R, hR, hnd, hmem⟩ := c2 hN
    rw [hR]
    cases R with
    | nil =>
      have hfree : ∀ d, ¬ Containing t ins hash d := fun d hd => by
        have := (hmem d).2 hd; simp at this
      exact addUp_struct h hN'0 (append_struct h inv hN hfree) hash pos (t.size + 1) hN'h (by omega)
    | cons d0 l =>
      exact addUp_struct h hN'0 (branch_struct h inv hN d0 l hnd hmem) hash pos (t.size + 1) hN'h (by omega)

theorem graphOf_inv (h : t.WF) (key : Nat → Nat) : ∀ (ins : Ins), (∀ p, p ∈ ins → p.1 < t.size) →
    GInv t ins (graphOf key t ins) := by
  apply snoc_induction
  · intro _; exact init_inv t
  · intro ins x ih hv
    rw [graphOf_append]
    exact insert_inv h (ih fun p hp => hv p (List.mem_append_left _ hp)) key x.1 x.2 (hv x (by simp))

end Gossamer.C20
