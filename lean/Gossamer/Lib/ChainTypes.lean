/-
Chain data structures of the Polkadot specification as SCALE type descriptors over the shared
SCALE development (`Gossamer.Lib.Scale`).  Together with `Spec.codec` (the canonical SCALE codec)
this is the INDEPENDENT REFERENCE ENCODER of property C14: it is written from the specification
(Polkadot spec: block header & digests §"Block format", BABE §"Pre-digest"/"Consensus message",
GRANDPA §"Messages"/"Justification"; paritytech/finality-grandpa `Commit`, `SignedPrecommit`,
`Message`; sp-consensus-grandpa `GrandpaJustification`), not from the Go code.

`CTy` is `Ty` plus field / variant LABELS.  The labels are the names of the corresponding Go
declarations: the harness prints every value with its Go field names and the driver's text layer
checks them against these descriptors, so a swapped pair of same-typed fields or a renumbered
variant is seen even when the bytes have the same shape.  `CTy.toTy` forgets the labels.
-/
import Gossamer.Lib.Scale
namespace Gossamer.Chain
open Gossamer Gossamer.Scale

/-- labelled type descriptors; like `Ty` a struct is a `field … unit` chain and a varying data
    type a `variant … enumNil` chain, so plain structural recursion works -/
inductive CTy
  | prim (p : Prim)
  | unit
  | field (name : String) (t : CTy) (rest : CTy)
  | option (t : CTy)
  | array (n : Nat) (t : CTy)
  | seq (t : CTy)
  | enumNil
  | variant (idx : Nat) (name : String) (t : CTy) (rest : CTy)
deriving Repr, Inhabited

def CTy.toTy : CTy → Ty
  | .prim p => .prim p
  | .unit => .unit
  | .field _ t rest => .pair t.toTy rest.toTy
  | .option t => .option t.toTy
  | .array n t => .array n t.toTy
  | .seq t => .seq t.toTy
  | .enumNil => .enumNil
  | .variant i _ t rest => .enumCons i t.toTy rest.toTy

def st (fs : List (String × CTy)) : CTy := fs.foldr (fun f acc => .field f.1 f.2 acc) .unit
def en (vs : List (Nat × String × CTy)) : CTy :=
  vs.foldr (fun v acc => .variant v.1 v.2.1 v.2.2 acc) .enumNil

/-- tied to the Go `IndexValue`/`ValueAt` tables by the harness's `idx` cases -/
def CTy.table : CTy → List (Nat × String)
  | .variant i n _ rest => (i, n) :: rest.table
  | _ => []

def u8 : CTy := .prim .u8
def u32 : CTy := .prim .u32
def u64 : CTy := .prim .u64
/-- `Compact<BlockNumber>`; the Go field is a `uint`, so values up to 2^64-1 are expressible: the
    reference therefore accepts header numbers from 2^32 on, which Polkadot's `BlockNumber` (u32)
    does not have -/
def compact : CTy := .prim .compact
/-- `Vec<u8>` -/
def bytes : CTy := .prim .bytes
/-- `[u8; n]` -/
def bytesN (n : Nat) : CTy := .array n u8
def h256 : CTy := bytesN 32
def sig64 : CTy := bytesN 64
def pub32 : CTy := bytesN 32

/-- `(ConsensusEngineId [u8;4], Vec<u8>)` payload of PreRuntime / Consensus / Seal items -/
def enginePayload : CTy := st [("ConsensusEngineID", bytesN 4), ("Data", bytes)]

/-- the spec's `DigestItem` without 0 `Other(Vec<u8>)`: gossamer's `types.DigestItem` is exactly this
    (`C14.goDigestItem`, known finding digest-other) -/
def digestItemCore : CTy :=
  en [(4, "ConsensusDigest", enginePayload), (5, "SealDigest", enginePayload),
      (6, "PreRuntimeDigest", enginePayload), (8, "RuntimeEnvironmentUpdated", .unit)]

def digestItem : CTy := .variant 0 "Other" bytes digestItemCore

def digestOf (item : CTy) : CTy := .seq item
def digest : CTy := digestOf digestItem

def headerOf (item : CTy) : CTy :=
  st [("ParentHash", h256), ("Number", compact), ("StateRoot", h256), ("ExtrinsicsRoot", h256),
      ("Digest", digestOf item)]
def header : CTy := headerOf digestItem

/-- block body: `Vec<Extrinsic>`, each extrinsic an opaque `Vec<u8>` -/
def body : CTy := .seq bytes

def babePrimary : CTy :=
  st [("AuthorityIndex", u32), ("SlotNumber", u64), ("VRFOutput", bytesN 32), ("VRFProof", bytesN 64)]
def babeSecondaryPlain : CTy := st [("AuthorityIndex", u32), ("SlotNumber", u64)]
def babeSecondaryVRF : CTy :=
  st [("AuthorityIndex", u32), ("SlotNumber", u64), ("VrfOutput", bytesN 32), ("VrfProof", bytesN 64)]

def babePreDigest : CTy :=
  en [(1, "BabePrimaryPreDigest", babePrimary), (2, "BabeSecondaryPlainPreDigest", babeSecondaryPlain),
      (3, "BabeSecondaryVRFPreDigest", babeSecondaryVRF)]

/-- `(AuthorityId, BabeAuthorityWeight)` -/
def babeAuthority : CTy := st [("Key", pub32), ("Weight", u64)]
def nextEpochData : CTy := st [("Authorities", .seq babeAuthority), ("Randomness", bytesN 32)]
/-- `NextConfigDescriptor::V1 { c: (u64, u64), allowed_slots: u8-coded enum }` -/
def nextConfigDataV1 : CTy := st [("C1", u64), ("C2", u64), ("SecondarySlots", u8)]
def versionedNextConfigData : CTy := en [(1, "NextConfigDataV1", nextConfigDataV1)]

def babeConsensusDigest : CTy :=
  en [(1, "NextEpochData", nextEpochData), (2, "BABEOnDisabled", st [("ID", u32)]),
      (3, "VersionedNextConfigData", versionedNextConfigData)]

/-- `(AuthorityId, AuthorityWeight)` -/
def grandpaAuthority : CTy := st [("Key", pub32), ("ID", u64)]
def scheduledChange : CTy := st [("Auths", .seq grandpaAuthority), ("Delay", u32)]
def forcedChange : CTy :=
  st [("BestFinalizedBlock", u32), ("Auths", .seq grandpaAuthority), ("Delay", u32)]

def grandpaConsensusDigest : CTy :=
  en [(1, "GrandpaScheduledChange", scheduledChange), (2, "GrandpaForcedChange", forcedChange),
      (3, "GrandpaOnDisabled", st [("ID", u64)]), (4, "GrandpaPause", st [("Delay", u32)]),
      (5, "GrandpaResume", st [("Delay", u32)])]

def vote : CTy := st [("Hash", h256), ("Number", u32)]
def signedVote : CTy := st [("Vote", vote), ("Signature", sig64), ("AuthorityID", pub32)]
/-- the signed payload; `Stage`: 0 prevote, 1 precommit, 2 primary propose -/
def fullVote : CTy := st [("Stage", u8), ("Vote", vote), ("Round", u64), ("SetID", u64)]
def signedMessage : CTy :=
  st [("Stage", u8), ("BlockHash", h256), ("Number", u32), ("Signature", sig64), ("AuthorityID", pub32)]
def voteMessage : CTy := st [("Round", u64), ("SetID", u64), ("Message", signedMessage)]
def authData : CTy := st [("Signature", sig64), ("AuthorityID", pub32)]
def commitMessage : CTy :=
  st [("Round", u64), ("SetID", u64), ("Vote", vote), ("Precommits", .seq vote), ("AuthData", .seq authData)]
def neighbourPacketV1 : CTy := st [("Round", u64), ("SetID", u64), ("Number", u32)]
def versionedNeighbourPacket : CTy := en [(1, "NeighbourPacketV1", neighbourPacketV1)]
def catchUpRequest : CTy := st [("Round", u64), ("SetID", u64)]
def catchUpResponse : CTy :=
  st [("SetID", u64), ("Round", u64), ("PreVoteJustification", .seq signedVote),
      ("PreCommitJustification", .seq signedVote), ("Hash", h256), ("Number", u32)]
def grandpaMessage : CTy :=
  en [(0, "VoteMessage", voteMessage), (1, "CommitMessage", commitMessage),
      (2, "VersionedNeighbourPacket", versionedNeighbourPacket), (3, "CatchUpRequest", catchUpRequest),
      (4, "CatchUpResponse", catchUpResponse)]
def commit : CTy := st [("Hash", h256), ("Number", u32), ("Precommits", .seq signedVote)]
/-- justification as stored / sent by lib/grandpa -/
def justification : CTy := st [("Round", u64), ("Commit", commit)]

/-- equivocation proof (sp-consensus-grandpa) -/
def equivocation : CTy :=
  st [("RoundNumber", u64), ("ID", pub32), ("FirstVote", vote), ("FirstSignature", sig64),
      ("SecondVote", vote), ("SecondSignature", sig64)]
def equivocationProof : CTy :=
  st [("SetID", u64), ("Equivocation", en [(0, "PreVote", equivocation), (1, "PreCommit", equivocation)])]

/-! ## finality-grandpa / sp-consensus-grandpa types, generic in the block-number type -/

def fgTarget (n : CTy) : CTy := st [("TargetHash", h256), ("TargetNumber", n)]
/-- `finality_grandpa::Message` -/
def fgMessage (n : CTy) : CTy :=
  en [(0, "Prevote", fgTarget n), (1, "Precommit", fgTarget n), (2, "PrimaryPropose", fgTarget n)]
def fgSignedMessage (n : CTy) : CTy := st [("Message", fgMessage n), ("Signature", sig64), ("ID", pub32)]
def fgSignedPrecommit (n : CTy) : CTy := st [("Precommit", fgTarget n), ("Signature", sig64), ("ID", pub32)]
def fgCommit (n : CTy) : CTy :=
  st [("TargetHash", h256), ("TargetNumber", n), ("Precommits", .seq (fgSignedPrecommit n))]
/-- sp-consensus-grandpa `GrandpaJustification` -/
def fgJustification (n : CTy) : CTy :=
  st [("Round", u64), ("Commit", fgCommit n), ("VoteAncestries", .seq header)]
def fgScheduledChange (n : CTy) : CTy :=
  st [("NextAuthorities", .seq (st [("AuthorityID", pub32), ("AuthorityWeight", u64)])), ("Delay", n)]
/-- the payload a GRANDPA voter signs: `(message, round, set_id)` -/
def localizedPayload (n : CTy) : CTy := st [("Message", fgMessage n), ("Round", u64), ("SetID", u64)]

def babeEngineID : Bytes := [0x42, 0x41, 0x42, 0x45]      -- "BABE"
def grandpaEngineID : Bytes := [0x46, 0x52, 0x4e, 0x4b]   -- "FRNK"

def enc (c : CTy) (v : Val) : Bytes := encode Spec.codec c.toTy v
def dec (c : CTy) (bs : Bytes) : Option (Val × Bytes) := decode Spec.codec c.toTy bs
def wtc (c : CTy) (v : Val) : Bool := wt c.toTy v

theorem roundtrip (c : CTy) (v : Val) (r : Bytes) (h : wtc c v = true) :
    dec c (enc c v ++ r) = some (v, r) := Spec.roundtrip c.toTy v r h

theorem enc_inj (c : CTy) (v w : Val) (hv : wtc c v = true) (hw : wtc c w = true)
    (h : enc c v = enc c w) : v = w := encode_inj Spec.codec Spec.rt c.toTy v w hv hw h

/-- `hwf` says that every enum tail of the descriptor is an enum -/
theorem sound (c : CTy) (hwf : c.toTy.wf = true) (bs : Bytes) (v : Val) (r : Bytes)
    (h : dec c bs = some (v, r)) : wtc c v = true ∧ bs = enc c v ++ r :=
  Spec.sound c.toTy hwf bs v r h

end Gossamer.Chain
