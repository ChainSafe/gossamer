/-
`Model` part  : the Go structure of lib/blocktree (node.go, blocktree.go, leaves.go) — a rose tree whose
                children are kept in insertion order (`addChild` appends) plus the leaf map; every Go
                traversal is transliterated over forests (`for _, child := range n.children` = recursion
                over the list of children).
`Spec` part   : a flat list of blocks `(hash, parent, number, arrival, primary)`; ancestry is the chain
                obtained by following parent links (`Spec.chain`), everything else is defined from that.

Go pointers.  A `*node` is identified with the node of the tree that carries its hash; `n.parent` walks are
walks along `pathF` (the list node, parent, …, root).  This is sound because block hashes are unique in the
tree (an invariant proved for every history: `Inv.nodup`, Lib/BlockTreeInv + `C15.reach`) and because the leaf map only ever holds pointers to
nodes that are linked in the tree (AddBlock stores the node it has just linked; Prune rebuilds the map from
`getLeaves`).
-/
namespace Gossamer.BlockTree

abbrev Hash := Nat

/-- the payload of a Go `node` (without the pointers) -/
structure Info where
  /-- a `Hash`; declared `Nat` so that `omega` sees comparisons of hashes -/
  hash : Nat
  number : Nat
  arrival : Nat
  primary : Bool
deriving DecidableEq, Repr, Inhabited

/-- Go `node`: payload + `children []*node` in slice order -/
inductive Node where
  | mk (info : Info) (children : List Node)
deriving Repr, Inhabited

abbrev Forest := List Node

def Node.info : Node → Info
  | .mk i _ => i

def Node.children : Node → List Node
  | .mk _ cs => cs

@[simp] theorem Node.info_mk (i : Info) (cs : List Node) : (Node.mk i cs).info = i := rfl
@[simp] theorem Node.children_mk (i : Info) (cs : List Node) : (Node.mk i cs).children = cs := rfl

theorem forest_ind {P : Forest → Prop} (nil : P [])
    (cons : ∀ i cs rest, P cs → P rest → P (.mk i cs :: rest)) : ∀ f, P f
  | [] => nil
  | .mk i cs :: rest => cons i cs rest (forest_ind nil cons cs) (forest_ind nil cons rest)

/-! ### node.go traversals -/

/-- `node.getNode` applied to every node of a children slice, first hit wins -/
def findF (h : Hash) : Forest → Option Node
  | [] => none
  | .mk i cs :: rest =>
    if i.hash = h then some (.mk i cs)
    else match findF h cs with
      | some n => some n
      | none => findF h rest

/-- `n.isDescendantOf(parent)` for `n.hash = h`, over the slice `parent.children` (or `[parent]`):
    a downward search for the hash -/
def occF (h : Hash) : Forest → Bool
  | [] => false
  | .mk i cs :: rest => if i.hash = h then true else if occF h cs then true else occF h rest

/-- `getAllDescendants`: pre-order hashes -/
def descF : Forest → List Hash
  | [] => []
  | .mk i cs :: rest => i.hash :: (descF cs ++ descF rest)

def infosF : Forest → List Info
  | [] => []
  | .mk i cs :: rest => i :: (infosF cs ++ infosF rest)

/-- `getLeaves` -/
def leavesF : Forest → List Info
  | [] => []
  | .mk i cs :: rest => (if cs.isEmpty then [i] else []) ++ (leavesF cs ++ leavesF rest)

/-- `hashesAtNumber` -/
def hashesAtF (num : Nat) : Forest → List Hash
  | [] => []
  | .mk i cs :: rest =>
    (if num = i.number then [i.hash] else if num > i.number then hashesAtF num cs else [])
      ++ hashesAtF num rest

def pathF (h : Hash) : Forest → Option (List Info)
  | [] => none
  | .mk i cs :: rest =>
    if i.hash = h then some [i]
    else match pathF h cs with
      | some p => some (p ++ [i])
      | none => pathF h rest

/-- `parent.addChild(c)` on the first node (DFS order) with hash `ph` -/
def addChildF (ph : Hash) (c : Node) : Forest → Forest
  | [] => []
  | .mk i cs :: rest =>
    if i.hash = ph then .mk i (cs ++ [c]) :: rest
    else if occF ph cs then .mk i (addChildF ph c cs) :: rest
    else .mk i cs :: addChildF ph c rest

def Node.addChild (t : Node) (ph : Hash) (c : Node) : Node :=
  match t with
  | .mk i cs => if i.hash = ph then .mk i (cs ++ [c]) else .mk i (addChildF ph c cs)

/-- `node.prune(finalised, pruned)` run over a slice of nodes (the repaired code ranges over a copy of
    `n.children`, so every child is visited exactly once).  `deleteChild` only mutates nodes that become
    unreachable when `bt.root = finalised` is assigned afterwards, so it has no observable effect. -/
def pruneF (fin : Node) : Forest → List Hash
  | [] => []
  | .mk i cs :: rest =>
    (if occF i.hash [fin] then []
     else (if occF fin.info.hash [.mk i cs] then [] else [i.hash]) ++ pruneF fin cs)
      ++ pruneF fin rest

/-! ### leaves.go -/

/-- `smap.Delete(k)` -/
def leafDelete (k : Hash) (l : List Info) : List Info := l.filter (fun x => x.hash ≠ k)

/-- `smap.Store(v.hash, v)` -/
def leafStore (v : Info) (l : List Info) : List Info :=
  if l.any (fun x => x.hash = v.hash) then l.map (fun x => if x.hash = v.hash then v else x) else l ++ [v]

/-- `leafMap.replace` -/
def leafReplace (l : List Info) (old new : Info) : List Info := leafStore new (leafDelete old.hash l)

/-- `n.primaryAncestorCount(0)`: primary blocks on the chain of `h`, the root (`parent == nil`) excluded -/
def primaryCount (root : Node) (h : Hash) : Nat :=
  match pathF h [root] with
  | some p => (p.dropLast.filter (fun x => x.primary)).length
  | none => 0

/-- one callback of `highestLeaf`'s `Range`; `none` = nil-pointer dereference -/
def hlStep (st : Nat × Option Info) (node : Info) : Option (Nat × Option Info) :=
  if st.1 < node.number then some (node.number, some node)
  else if st.1 = node.number then
    match st.2 with
    | none => none
    | some d =>
      if node.arrival < d.arrival then some (st.1, some node)
      else if node.arrival = d.arrival then
        (if node.hash < d.hash then some (st.1, some node) else some st)
      else some st
  else some st

def hlFold : Nat × Option Info → List Info → Option (Nat × Option Info)
  | st, [] => some st
  | st, x :: xs => match hlStep st x with
    | none => none
    | some st' => hlFold st' xs

/-- `leafMap.highestLeaf` iterating in the order `it`; outer `none` = panic, inner `none` = nil -/
def highestLeaf (it : List Info) : Option (Option Info) :=
  (hlFold (0, none) it).map (·.2)

/-- the `highest` variable of `bestBlock` -/
def highestCount (root : Node) (it : List Info) : Nat :=
  it.foldl (fun hi x => if primaryCount root x.hash > hi then primaryCount root x.hash else hi) 0

/-- `leafMap.bestBlock`: `it` is the iteration order of the sync.Map, `σ` the iteration order of the
    second, temporary sync.Map.  outer `none` = panic, inner `none` = nil -/
def bestBlock (root : Node) (it : List Info) (σ : List Info → List Info) : Option (Option Info) :=
  let hi := highestCount root it
  let group := it.filter (fun x => primaryCount root x.hash = hi)
  match group with
  | [x] => some (some x)
  | g => highestLeaf (σ g)

/-! ### blocktree.go -/

structure BT where
  root : Node
  /-- the leaf map in some iteration order -/
  leaves : List Info
deriving Repr, Inhabited

/-- what AddBlock reads from the header; `kind` is the result of `types.IsPrimary` (`none` = error) -/
structure Header where
  hash : Hash
  parent : Hash
  number : Nat
  kind : Option Bool
deriving Repr, Inhabited

inductive AddErr where
  | parentNotFound | blockExists | unexpectedNumber | primary
deriving DecidableEq, Repr

/-- `bt.getNode`: root, then the leaf map, then DFS — all three find the node carrying the hash -/
def BT.getNode (bt : BT) (h : Hash) : Option Node := findF h [bt.root]

def NewBlockTreeFromRoot (hash number arrival : Nat) : BT :=
  let i : Info := ⟨hash, number, arrival, false⟩
  ⟨.mk i [], [i]⟩

def BT.addBlock (bt : BT) (hd : Header) (arrival : Nat) : Except AddErr BT :=
  match bt.getNode hd.parent with
  | none => .error .parentNotFound
  | some p =>
    if (bt.getNode hd.hash).isSome then .error .blockExists
    else if p.info.number + 1 ≠ hd.number then .error .unexpectedNumber
    else
      match (if hd.number ≠ 0 then hd.kind else some false) with
      | none => .error .primary
      | some prim =>
        let n : Info := ⟨hd.hash, p.info.number + 1, arrival, prim⟩
        .ok ⟨bt.root.addChild hd.parent (.mk n []), leafReplace bt.leaves p.info n⟩

def BT.prune (bt : BT) (fh : Hash) : BT × List Hash :=
  if fh = bt.root.info.hash then (bt, [])
  else match bt.getNode fh with
    | none => (bt, [])
    | some n => (⟨n, (leavesF [n]).foldl (fun m l => leafStore l m) []⟩, pruneF n [bt.root])

def BT.getAllBlocks (bt : BT) : List Hash := descF [bt.root]

def BT.getAllDescendants (bt : BT) (h : Hash) : Option (List Hash) :=
  (bt.getNode h).map (fun n => descF [n])

inductive DescRes where
  | ok (b : Bool) | startNotFound | endNotFound
deriving DecidableEq, Repr

def BT.isDescendantOf (bt : BT) (parent child : Hash) : DescRes :=
  if parent = child then .ok true
  else match bt.getNode parent with
    | none => .startNotFound
    | some pn => match bt.getNode child with
      | none => .endNotFound
      | some cn => .ok (occF cn.info.hash [pn])

def BT.leafHashes (bt : BT) : List Hash := bt.leaves.map (·.hash)

inductive RangeErr where
  | endNotFound | startNotFound | startGreater | nilBlock | notAncestor
deriving DecidableEq, Repr

/-- `accumulateHashesInDescedingOrder(endNode, startNode)`; `up` = endNode, endNode.parent, … -/
def accumulate (up : List Info) (en sn : Info) : Except RangeErr (List Hash) :=
  if sn.number > en.number then .error .startGreater
  else
    let k := en.number - sn.number
    match up[k]? with
    | none => .error .nilBlock
    | some x =>
      if x.hash ≠ sn.hash then .error .notAncestor
      else .ok (sn.hash :: ((up.take k).map (·.hash)).reverse)

def BT.up (bt : BT) (h : Hash) : List Info := (pathF h [bt.root]).getD []

def BT.range (bt : BT) (s e : Hash) : Except RangeErr (List Hash) :=
  match bt.getNode e with
  | none => .error .endNotFound
  | some en =>
    let sn := (bt.getNode s).getD bt.root
    accumulate (bt.up e) en.info sn.info

def BT.rangeInMemory (bt : BT) (s e : Hash) : Except RangeErr (List Hash) :=
  match bt.getNode e with
  | none => .error .endNotFound
  | some en =>
    match bt.getNode s with
    | none => .error .startNotFound
    | some sn =>
      if sn.info.number > en.info.number then .error .startGreater
      else accumulate (bt.up e) en.info sn.info

/-- second loop of `lowestCommonAncestor`; `none` = panic -/
def lcaWalk : List Info → List Info → Option Hash
  | x :: xs, y :: ys =>
    if x.hash = y.hash then some x.hash
    else if xs.isEmpty || ys.isEmpty then none
    else lcaWalk xs ys
  | _, _ => none

/-- first loop of `lowestCommonAncestor`: the higher node climbs `diff` parents (`none` = panic), then the
    lock-step walk -/
def lcaAligned (uh ul : List Info) (diff : Nat) : Option Hash :=
  if uh.length ≤ diff then none else lcaWalk (uh.drop diff) ul

/-- `lowestCommonAncestor(aNode, bNode)` on the parent chains; `none` = panic -/
def lcaNodes (ua ub : List Info) (a b : Info) : Option Hash :=
  if a.number > b.number then lcaAligned ua ub (a.number - b.number)
  else lcaAligned ub ua (b.number - a.number)

inductive LcaRes where
  | ok (h : Hash) | notFound | panic
deriving DecidableEq, Repr

def BT.lca (bt : BT) (a b : Hash) : LcaRes :=
  match bt.getNode a with
  | none => .notFound
  | some an => match bt.getNode b with
    | none => .notFound
    | some bn => match lcaNodes (bt.up a) (bt.up b) an.info bn.info with
      | some h => .ok h
      | none => .panic

/-- `GetHashesAtNumber` (upper bound = deepest leaf) -/
def BT.getHashesAtNumber (bt : BT) (num : Nat) : List Hash :=
  if num < bt.root.info.number then []
  else if num > bt.leaves.foldl (fun hi l => if l.number > hi then l.number else hi) 0 then []
  else hashesAtF num [bt.root]

/-- `bt.best()` with the map iterated in stored order -/
def BT.best (bt : BT) (σ : List Info → List Info := id) : Option (Option Info) :=
  bestBlock bt.root bt.leaves σ

inductive HashRes where
  | ok (h : Hash) | panic
deriving DecidableEq, Repr

def BT.bestBlockHash (bt : BT) (σ : List Info → List Info := id) : HashRes :=
  if bt.root.children.isEmpty then .ok bt.root.info.hash
  else match bt.best σ with
    | some (some b) => .ok b.hash
    | _ => .panic

inductive NumRes where
  | ok (h : Hash) | greaterThanHighest | lowerThanRoot | notFound | panic
deriving DecidableEq, Repr

def BT.getHashByNumber (bt : BT) (num : Nat) (σ : List Info → List Info := id) : NumRes :=
  match bt.best σ with
  | some (some best) =>
    if best.number < num then .greaterThanHighest
    else if best.number = num then .ok best.hash
    else if bt.root.info.number > num then .lowerThanRoot
    else if bt.root.info.number = num then .ok bt.root.info.hash
    else match ((bt.up best.hash).tail).find? (fun x => x.number = num) with
      | some x => .ok x.hash
      | none => .notFound
  | _ => .panic

def BT.getArrivalTime (bt : BT) (h : Hash) : Option Nat := (bt.getNode h).map (·.info.arrival)

structure Block where
  hash : Hash
  parent : Hash
  number : Nat
  arrival : Nat
  primary : Bool
deriving DecidableEq, Repr, Inhabited

def Block.info (b : Block) : Info := ⟨b.hash, b.number, b.arrival, b.primary⟩

def Info.block (i : Info) (p : Hash) : Block := ⟨i.hash, p, i.number, i.arrival, i.primary⟩

/-- the last finalised block and the blocks added below it (any order) -/
structure Spec where
  root : Info
  blocks : List Block
deriving Repr, Inhabited

def lookup (bs : List Block) (h : Hash) : Option Block := bs.find? (fun b => b.hash = h)

def chainAux (bs : List Block) : Nat → Hash → List Block
  | 0, _ => []
  | fuel + 1, h => match lookup bs h with
    | none => []
    | some b => b :: chainAux bs fuel b.parent

namespace Spec

/-- the blocks `h, parent h, …` strictly below the root.
    `blocks.length` steps suffice because a chain never repeats a block (`C15.spec_chain_fuel`). -/
def chain (s : Spec) (h : Hash) : List Block := chainAux s.blocks s.blocks.length h

def present (s : Spec) (h : Hash) : Prop := h = s.root.hash ∨ ∃ b ∈ s.blocks, b.hash = h

instance (s : Spec) (h : Hash) : Decidable (s.present h) := by unfold present; infer_instance

/-- `h`, its parent, …, up to and including the root (for a block of the tree) -/
def ancestors (s : Spec) (h : Hash) : List Hash := h :: (s.chain h).map (·.parent)

def isAnc (s : Spec) (a d : Hash) : Prop := a ∈ s.ancestors d

instance (s : Spec) (a d : Hash) : Decidable (s.isAnc a d) := by unfold isAnc; infer_instance

/-- the chain of blocks from the ancestor `a` down to `d`, `a` first -/
def pathDown (s : Spec) (a d : Hash) : List Hash :=
  a :: ((s.ancestors d).takeWhile (fun x => decide (x ≠ a))).reverse

def infoOf (s : Spec) (h : Hash) : Option Info :=
  if h = s.root.hash then some s.root else (lookup s.blocks h).map (·.info)

def isLeaf (s : Spec) (h : Hash) : Prop := s.present h ∧ ∀ b ∈ s.blocks, b.parent ≠ h

instance (s : Spec) (h : Hash) : Decidable (s.isLeaf h) := by unfold isLeaf; infer_instance

def primaries (s : Spec) (h : Hash) : Nat := ((s.chain h).filter (·.primary)).length

/-- fork-choice order: `x` beats `y` -/
def better (s : Spec) (x y : Info) : Prop :=
  s.primaries x.hash > s.primaries y.hash ∨
  (s.primaries x.hash = s.primaries y.hash ∧
    (x.number > y.number ∨ (x.number = y.number ∧
      (x.arrival < y.arrival ∨ (x.arrival = y.arrival ∧ x.hash < y.hash)))))

instance (s : Spec) (x y : Info) : Decidable (s.better x y) := by unfold better; infer_instance

def IsBest (s : Spec) (b : Info) : Prop :=
  s.isLeaf b.hash ∧ s.infoOf b.hash = some b ∧
    ∀ l, s.isLeaf l.hash → s.infoOf l.hash = some l → l.hash ≠ b.hash → s.better b l

/-- AddBlock accepted -/
def add (s : Spec) (b : Block) : Spec := { s with blocks := s.blocks ++ [b] }

def prune (s : Spec) (fi : Info) : Spec :=
  ⟨fi, s.blocks.filter (fun b => decide (s.isAnc fi.hash b.hash ∧ b.hash ≠ fi.hash))⟩

end Spec

/-- the flat view of a forest whose top-level nodes have parent `p` (pre-order) -/
def blocksF (p : Hash) : Forest → List Block
  | [] => []
  | .mk i cs :: rest => i.block p :: (blocksF i.hash cs ++ blocksF p rest)

def specOfNode (n : Node) : Spec := ⟨n.info, blocksF n.info.hash n.children⟩

def BT.spec (bt : BT) : Spec := specOfNode bt.root

end Gossamer.BlockTree
