/-
C20 layer (b), proofs: `FindAncestor` on the compressed graph returns what `findAncestor` of the uncompressed
model returns (with the right block number).
-/
import Gossamer.Lib.C20GraphInsert
namespace Gossamer.C20

variable {t : Tree}

theorem findAncestor_in (h : t.WF) {ins : Ins} {g : Graph} (inv : GInv t ins g) (key : Nat → Nat)
    (cond : Mask → Bool) : ∀ (f hash : Nat), hash < f → inGraph (cumOf t ins) hash = true →
    g.findAncestor key (t.size + 1) cond f hash (t.num hash) =
      ((t.chain hash).find? (fun B => cond (cumOf t ins B))).map (fun B => (B, t.num B)) := by
  intro f
  induction f with
  | zero => intro hash hlt; omega
  | succ f ih =>
    intro hash hlt hin
    obtain ⟨c1, c2⟩ := findContaining_spec h inv key hash
    rw [chain_find_unfold h]
    -- both branches go on at the parent, whose number is one less
    have hrec : 0 < hash → g.findAncestor key (t.size + 1) cond f (t.parent hash) (t.num hash - 1) =
        ((t.chain (t.parent hash)).find? (fun B => cond (cumOf t ins B))).map (fun B => (B, t.num B)) := fun hpos => by
      rw [show t.num hash - 1 = t.num (t.parent hash) by rw [Tree.num_pos h hpos]; omega]
      exact ih (t.parent hash) (by have := Tree.parent_lt h hpos; omega)
        (inGraph_anc h ins ((Tree.upChain h).parent_mem hpos) hin)
    unfold Graph.findAncestor
    cases hN : isNode ins hash with
    | true =>
      rw [c1 hN]
      obtain ⟨node, hnode⟩ := inv.entry_of_node hN
      simp only [hnode, inv.cum hash node hnode]
      by_cases hc : cond (cumOf t ins hash) = true
      · simp [hc]
      · have hc' : cond (cumOf t ins hash) = false := by simpa using hc
        simp only [hc', Bool.false_eq_true, if_false]
        by_cases h0 : hash = 0
        · subst h0
          have : node.ancestors = [] := by rw [inv.anc 0 node hnode]; rfl
          simp [this]
        · have hpos : 0 < hash := by omega
          simp only [h0, if_false]
          obtain ⟨rest, hrest⟩ := edge_head h (isNode ins) hpos
          simp only [inv.anc hash node hnode, hrest, inv.number hash node hnode]
          exact hrec hpos
    | false =>
      obtain ⟨R, hR, _, hmem⟩ := c2 hN
      rw [hR]
      have hRne : R ≠ [] := by
        rcases (inGraph_cumOf_iff h hash).1 hin with hn | ⟨d, hd⟩
        · rw [hn] at hN; cases hN
        · exact List.ne_nil_of_mem ((hmem d).2 hd)
      have hv := orCums_containing h inv hN R hmem
      cases R with
      | nil => exact absurd rfl hRne
      | cons r0 rs =>
        simp only [hv]
        by_cases hc : cond (cumOf t ins hash) = true
        · simp [hc]
        · have hc' : cond (cumOf t ins hash) = false := by simpa using hc
          simp only [hc', Bool.false_eq_true, if_false]
          obtain ⟨child, hchild⟩ : ∃ child, (r0 :: rs).getLast? = some child :=
            ⟨_, List.getLast?_eq_some_getLast hRne⟩
          have hcm : child ∈ r0 :: rs := List.mem_of_getLast? hchild
          have hcc := (hmem child).1 hcm
          obtain ⟨entry, hentry⟩ := inv.entry_of_node hcc.1
          obtain ⟨hnext, hpos⟩ := edge_next h hN hcc
          have h0 : hash ≠ 0 := by omega
          simp only [hchild, hentry, inv.number child entry hentry, inv.anc child entry hentry, hnext, h0,
            if_false]
          exact hrec hpos

theorem findAncestor_out (h : t.WF) {ins : Ins} {g : Graph} (inv : GInv t ins g) (key : Nat → Nat)
    (cond : Mask → Bool) (f hash : Nat) (hout : ¬ InG t ins hash) :
    g.findAncestor key (t.size + 1) cond f hash (t.num hash) = none := by
  cases f with
  | zero => rfl
  | succ f =>
    obtain ⟨_, c2⟩ := findContaining_spec h inv key hash
    have hN : isNode ins hash = false := by
      cases hn : isNode ins hash with
      | true => exact absurd (Or.inl hn) hout
      | false => rfl
    obtain ⟨R, hR, _, hmem⟩ := c2 hN
    have : R = [] := by
      cases R with
      | nil => rfl
      | cons r rs => exact absurd (Or.inr ⟨r, (hmem r).1 List.mem_cons_self⟩) hout
    subst this
    unfold Graph.findAncestor
    rw [hR]

theorem findAncestor_refines (h : t.WF) {ins : Ins} {g : Graph} (inv : GInv t ins g) (key : Nat → Nat)
    (cond : Mask → Bool) (hash : Nat) (hlt : hash < t.size) :
    g.findAncestor key (t.size + 1) cond (t.size + 1) hash (t.num hash) =
      (findAncestor t (cumOf t ins) hash cond).map (fun B => (B, t.num B)) := by
  unfold findAncestor
  by_cases hin : inGraph (cumOf t ins) hash = true
  · simp only [hin, if_true]
    exact findAncestor_in h inv key cond (t.size + 1) hash (by omega) hin
  · simp only [hin]
    exact findAncestor_out h inv key cond _ hash (fun hg => hin ((inGraph_cumOf_iff h hash).2 hg))

end Gossamer.C20
