/-
C20 layer (b), proofs: the vote-nodes whose ancestor edge contains a block (`Containing`).  A block is in the
uncompressed vote graph iff it is a vote-node or some vote-node contains it (`InG`); the entries of the containing
vote-nodes (`EntriesOn`) merge to its uncompressed cumulative vote; `findContainingNodes` returns exactly them, each
once, via the walk from every head with the `visited` short-cut.
-/
import Gossamer.Lib.C20GraphInv
import Gossamer.Lib.C20GraphFind
namespace Gossamer.C20

variable {t : Tree}

def Containing (t : Tree) (ins : Ins) (hash d : Nat) : Prop :=
  isNode ins d = true ∧ hash ∈ edge t (isNode ins) d

theorem containing_num (h : t.WF) {ins : Ins} {hash d : Nat} (hc : Containing t ins hash d) :
    t.num hash < t.num d := by
  obtain ⟨i, hi⟩ := List.getElem?_of_mem hc.2
  have := edge_num h hi
  omega

theorem edge_next (h : t.WF) {ins : Ins} {hash d : Nat} (hN : isNode ins hash = false)
    (hc : Containing t ins hash d) :
    (edge t (isNode ins) d)[t.num d - t.num hash]? = some (t.parent hash) ∧ 0 < hash := by
  have hpos := pos_of_not_node (isNode_zero ins) hN
  have hi := edge_getElem_of_mem h (parent_mem_edge_of_mem h (isNode_zero ins) hc.2 hN)
  have := Tree.num_pos h hpos
  have := containing_num h hc
  rw [show t.num d - t.num (t.parent hash) - 1 = t.num d - t.num hash by omega] at hi
  exact ⟨hi, hpos⟩

theorem cum_containing_iff (h : t.WF) {ins : Ins} {hash : Nat} (hN : isNode ins hash = false) (q : Nat) :
    (cumOf t ins hash).testBit q = true ↔
      ∃ d, Containing t ins hash d ∧ (cumOf t ins d).testBit q = true := by
  simp only [cumOf_testBit, List.any_eq_true, Bool.and_eq_true, List.contains_iff_mem]
  constructor
  · rintro ⟨p', hp', hpq, hpc⟩
    obtain ⟨y, hy, hye, hyc⟩ := below_in_edge h (isNode_zero ins) hN p'.1 (isNode_iff.2 (Or.inr ⟨p', hp', rfl⟩)) hpc
    exact ⟨y, ⟨hy, hye⟩, p', hp', hpq, hyc⟩
  · rintro ⟨d, hd, p', hp', hpq, hpc⟩
    exact ⟨p', hp', hpq, (Tree.upChain h).trans (edge_mem_chain h hd.2) hpc⟩

theorem cum_containing (h : t.WF) {ins : Ins} {hash : Nat} (hN : isNode ins hash = false) (R : List Nat)
    (hR : ∀ d, d ∈ R ↔ Containing t ins hash d) (q : Nat) :
    (cumOf t ins hash).testBit q = R.any (fun d => (cumOf t ins d).testBit q) := by
  apply Bool.eq_iff_iff.2
  rw [cum_containing_iff h hN q, List.any_eq_true]
  exact ⟨fun ⟨d, hd, hq⟩ => ⟨d, (hR d).2 hd, hq⟩, fun ⟨d, hd, hq⟩ => ⟨d, (hR d).1 hd, hq⟩⟩

theorem cumOf_zero_of_free (h : t.WF) {ins : Ins} {hash : Nat} (hN : isNode ins hash = false)
    (hfree : ∀ d, ¬ Containing t ins hash d) : cumOf t ins hash = 0 := by
  apply Nat.eq_of_testBit_eq
  intro q
  rw [Nat.zero_testBit]
  exact Bool.eq_false_iff.2 fun hq => let ⟨d, hd, _⟩ := (cum_containing_iff h hN q).1 hq; hfree d hd

/-- what `inGraph` of the uncompressed cumulative vote (a non-zero mask, or the base) is in terms of the compressed
graph (`inGraph_cumOf_iff`) -/
def InG (t : Tree) (ins : Ins) (b : Nat) : Prop := isNode ins b = true ∨ ∃ d, Containing t ins b d

theorem not_inGraph_of_free (h : t.WF) {ins : Ins} {b : Nat} (hN : isNode ins b = false)
    (hfree : ∀ d, ¬ Containing t ins b d) : inGraph (cumOf t ins) b = false := by
  have hb0 : b ≠ 0 := Nat.ne_of_gt (pos_of_not_node (isNode_zero ins) hN)
  simp [inGraph, cumOf_zero_of_free h hN hfree, hb0]

theorem inGraph_cumOf_iff (h : t.WF) {ins : Ins} (b : Nat) : inGraph (cumOf t ins) b = true ↔ InG t ins b := by
  constructor
  · intro hg
    cases hN : isNode ins b with
    | true => exact Or.inl hN
    | false =>
      right
      apply Classical.byContradiction
      intro hne
      rw [not_inGraph_of_free h hN fun d hd => hne ⟨d, hd⟩] at hg
      cases hg
  · -- a vote-node is in the graph, and so is every block of the edge above it
    have hnode : ∀ x, isNode ins x = true → inGraph (cumOf t ins) x = true := fun x hx => by
      by_cases hb : x = 0
      · simp [inGraph, hb]
      · simp [inGraph, node_cum_ne_zero (t := t) hx hb]
    rintro (hN | ⟨d, hd⟩)
    · exact hnode b hN
    · exact inGraph_anc h ins (edge_mem_chain h hd.2) (hnode d hd.1)

theorem inGraph_iff (h : t.WF) {ins : Ins} {g : Graph} (inv : GInv t ins g) (b : Nat) :
    inGraph (cumOf t ins) b = true ↔ InG t ins b := inGraph_cumOf_iff h b

def orCum (l : List Entry) (m0 : Mask) : Mask := l.foldl (fun m e => m ||| e.cum) m0

theorem orCum_testBit (q : Nat) : ∀ (l : List Entry) (m0 : Mask),
    (orCum l m0).testBit q = (m0.testBit q || l.any (fun e => e.cum.testBit q)) := by
  intro l
  induction l with
  | nil => intro m0; simp [orCum]
  | cons e l ih =>
    intro m0
    simp only [orCum, List.foldl_cons, List.any_cons]
    have := ih (m0 ||| e.cum)
    simp only [orCum] at this
    rw [this, Nat.testBit_or, Bool.or_assoc]

/-- By entry VALUE, not by node id, and as a list known up to membership only: `ghostFindMergePoint` carries
`descendantNodes []voteGraphEntry` and never looks at their keys again (`mergeLoop` of the model takes a
`List Entry`). -/
def EntriesOn (t : Tree) (ins : Ins) (g : Graph) (X : Nat) (L : List Entry) : Prop :=
  ∀ e, e ∈ L ↔ ∃ d, Containing t ins X d ∧ g.entries d = some e

theorem EntriesOn.complete {ins : Ins} {g : Graph} (inv : GInv t ins g) {X d : Nat} {L : List Entry}
    (hL : EntriesOn t ins g X L) (hc : Containing t ins X d) : ∃ e, e ∈ L ∧ g.entries d = some e := by
  obtain ⟨e, he⟩ := inv.entry_of_node hc.1
  exact ⟨e, (hL e).2 ⟨d, hc, he⟩, he⟩

theorem orCum_containing (h : t.WF) {ins : Ins} {g : Graph} (inv : GInv t ins g) {hash : Nat}
    (hN : isNode ins hash = false) (L : List Entry) (hL : EntriesOn t ins g hash L) :
    orCum L 0 = cumOf t ins hash := by
  apply Nat.eq_of_testBit_eq
  intro q
  rw [orCum_testBit, Nat.zero_testBit, Bool.false_or]
  apply Bool.eq_iff_iff.2
  rw [cum_containing_iff h hN q, List.any_eq_true]
  constructor
  · rintro ⟨e, he, hq⟩
    obtain ⟨d, hc, hd⟩ := (hL e).1 he
    exact ⟨d, hc, by rw [← inv.cum d e hd]; exact hq⟩
  · rintro ⟨d, hc, hq⟩
    obtain ⟨e, heL, hd⟩ := hL.complete inv hc
    exact ⟨e, heL, by rw [inv.cum d e hd]; exact hq⟩

theorem foldl_orCums (g : Graph) (R : List Nat) (m : Nat) :
    R.foldl (fun m c => match g.entries c with | some e => m ||| e.cum | none => m) m =
      orCum (R.filterMap g.entries) m := by
  rw [orCum, List.foldl_filterMap]
  congr 1; funext m c
  cases g.entries c <;> rfl

theorem foldl_or_testBit (g : Graph) (q : Nat) : ∀ (R : List Nat) (m : Nat),
    (R.foldl (fun m c => match g.entries c with | some e => m ||| e.cum | none => m) m).testBit q =
      (m.testBit q || R.any (fun c => match g.entries c with | some e => e.cum.testBit q | none => false)) := by
  intro R m
  rw [foldl_orCums, orCum_testBit, List.any_filterMap]
  congr 2; funext c
  cases g.entries c <;> rfl

theorem orCums_containing (h : t.WF) {ins : Ins} {g : Graph} (inv : GInv t ins g) {hash : Nat}
    (hN : isNode ins hash = false) (R : List Nat) (hR : ∀ d, d ∈ R ↔ Containing t ins hash d) :
    g.orCums R = cumOf t ins hash := by
  refine (foldl_orCums g R 0).trans (orCum_containing h inv hN _ fun e => ?_)
  rw [List.mem_filterMap]
  exact ⟨fun ⟨d, hd, he⟩ => ⟨d, (hR d).1 hd, he⟩, fun ⟨d, hc, he⟩ => ⟨d, (hR d).2 hc, he⟩⟩

/-- invariant of the `findContainingNodes` loop (`acc` the result so far, `vis` the visited set).  `complete` is what
justifies the `visited` short-cut: above a visited node nothing is left to find. -/
structure WalkInv (t : Tree) (ins : Ins) (hash : Nat) (acc vis : List Nat) : Prop where
  sound : ∀ d, d ∈ acc → Containing t ins hash d
  nodup : acc.Nodup
  sub : ∀ d, d ∈ acc → d ∈ vis
  complete : ∀ v, v ∈ vis → ∀ d, Containing t ins hash d → d ∈ t.chain v → d ∈ acc

theorem no_containing_above (h : t.WF) {ins : Ins} {hash head a : Nat}
    (ha : ancNode t (isNode ins) head = some a) (hspan : t.num a ≤ t.num hash) {d : Nat}
    (hd : Containing t ins hash d) (hdh : d ∈ t.chain head) : d = head := by
  apply Classical.byContradiction
  intro hne
  have := Tree.num_le_of_mem h (node_above h (isNode_zero ins) ha hdh hd.1 hne)
  have := containing_num h hd
  omega

/-- the walk stops at the unvisited vote-node `head` and reports `r`; `pend` are the vote-nodes it has passed -/
theorem WalkInv.stop {ins : Ins} {hash head : Nat} {acc vis pend : List Nat} (w : WalkInv t ins hash acc vis)
    (hpend : ∀ p, p ∈ pend → ∀ d, Containing t ins hash d → d ∈ t.chain p → d ∈ t.chain head)
    (hnv : head ∉ vis) (r : Option Nat) (hr : ∀ x, r = some x → x = head ∧ Containing t ins hash head)
    (hkey : ∀ d, Containing t ins hash d → d ∈ t.chain head → d ∈ acc ++ r.toList) :
    WalkInv t ins hash (acc ++ r.toList) (head :: (pend ++ vis)) := by
  have hrl : ∀ x, x ∈ r.toList → x = head ∧ Containing t ins hash head := fun x hx => by
    cases r with
    | none => cases hx
    | some y => have hxy : x = y := List.mem_singleton.1 hx
                exact hr x (by rw [hxy])
  refine ⟨fun d hd => ?_, ?_, fun d hd => ?_, fun v hv d hd hdv => ?_⟩
  · rcases List.mem_append.1 hd with hd | hd
    · exact w.sound d hd
    · obtain ⟨rfl, hc⟩ := hrl d hd; exact hc
  · rw [List.nodup_append]
    refine ⟨w.nodup, by cases r <;> simp [Option.toList], fun x hx y hy e => ?_⟩
    exact hnv (w.sub head ((hrl y hy).1 ▸ e ▸ hx))
  · rcases List.mem_append.1 hd with hd | hd
    · exact List.mem_cons_of_mem _ (List.mem_append_right _ (w.sub d hd))
    · rw [(hrl d hd).1]; exact List.mem_cons_self
  · rcases List.mem_cons.1 hv with rfl | hv
    · exact hkey d hd hdv
    · rcases List.mem_append.1 hv with hp | hvv
      · exact hkey d hd (hpend v hp d hd hdv)
      · exact List.mem_append_left _ (w.complete v hvv d hd hdv)

/-- One walk of `findContainingNodes` from the vote-node `head`, with `acc`/`vis` the result and the visited set of
the earlier walks and `pend` the vote-nodes THIS walk has passed (the model conses them onto `vis` as it goes).  The
vote-nodes in `pend` lie below `head` on one chain and contain nothing that is not also above `head`; `head < p` for
them is only there so that a `visited` hit cannot be one of them.  The fuel `head < f` suffices because
`ancestorNode` goes to a smaller index (`edge_lt`). -/
theorem walk_spec (h : t.WF) {ins : Ins} {g : Graph} (inv : GInv t ins g) (hash : Nat) :
    ∀ (f head : Nat) (pend vis acc : List Nat), head < f → isNode ins head = true →
    (∀ p, p ∈ pend → head < p ∧ ∀ d, Containing t ins hash d → d ∈ t.chain p → d ∈ t.chain head) →
    WalkInv t ins hash acc vis →
    ∃ r vis', walkHead g hash (t.num hash) f head (pend ++ vis) = (r, vis') ∧
      WalkInv t ins hash (acc ++ r.toList) vis' ∧ head ∈ vis' ∧ ∀ v, v ∈ pend ++ vis → v ∈ vis' := by
  intro f
  induction f with
  | zero => intro head _ _ _ hlt; omega
  | succ f ih =>
    intro head pend vis acc hlt hN hpend w
    obtain ⟨e, he⟩ := inv.entry_of_node hN
    have hnum := inv.number head e he
    have hanc := inv.anc head e he
    have N0 := isNode_zero ins
    have hpend' := fun p hp => (hpend p hp).2
    simp only [walkHead, he]
    by_cases hvis : (pend ++ vis).contains head = true
    · -- already visited (in an earlier walk: what this walk passed lies below `head`): nothing new
      simp only [hvis, if_true]
      have hmem : head ∈ pend ++ vis := by simpa using hvis
      have hv : head ∈ vis := by
        rcases List.mem_append.1 hmem with hp | hv
        · have := (hpend head hp).1; omega
        · exact hv
      refine ⟨none, _, rfl, ?_, hmem, fun v hv => hv⟩
      rw [Option.toList, List.append_nil]
      refine ⟨w.sound, w.nodup, fun d hd => List.mem_append_right _ (w.sub d hd), ?_⟩
      intro v hv' d hd hdv
      rcases List.mem_append.1 hv' with hp | hvv
      · exact w.complete head hv d hd (hpend' v hp d hd hdv)
      · exact w.complete v hvv d hd hdv
    · have hvis' : (pend ++ vis).contains head = false := by simpa using hvis
      have hnv : head ∉ vis := fun hv => hvis (by simpa using List.mem_append_right pend hv)
      have hida_false : e.inDirectAncestry hash (t.num hash) ≠ some true → ¬ Containing t ins hash head :=
        fun hne hc => hne ((inv.inDirectAncestry_iff h he hash).2 hc.2)
      simp only [hvis', Bool.false_eq_true, if_false]
      cases hida : e.inDirectAncestry hash (t.num hash) with
      | none =>
        -- the number of `hash` is outside the span of the edge of `head`
        have hng := hida_false (by rw [hida]; exact fun e => by cases e)
        simp only
        cases han : e.ancestorNode with
        | none =>
          -- `head` is the base
          have h0 : head = 0 := eq_zero_of_ancNode_none h N0 (by rw [← inv.ancestorNode_eq he]; exact han)
          subst h0
          refine ⟨none, _, rfl, w.stop hpend' hnv none (fun _ e => by cases e) fun d hd hd0 => ?_, by simp,
            fun v hv => by simp [hv]⟩
          rw [(Tree.upChain h).mem_zero.1 hd0] at hd; exact (hng hd).elim
        | some a =>
          have haN : ancNode t (isNode ins) head = some a := by rw [← inv.ancestorNode_eq he]; exact han
          have hae := mem_edge_of_ancNode haN
          have hup : ∀ d, Containing t ins hash d → d ∈ t.chain head → d ∈ t.chain a :=
            fun d hd hdp => node_above h N0 haN hdp hd.1 (fun e => hng (e ▸ hd))
          have hstep := ih a (head :: pend) vis acc (by have := edge_lt h hae; omega) (ancNode_isNode h N0 haN) (by
            intro p hp
            rcases List.mem_cons.1 hp with rfl | hp
            · exact ⟨edge_lt h hae, hup⟩
            · obtain ⟨p2, p3⟩ := hpend p hp
              exact ⟨by have := edge_lt h hae; omega, fun d hd hdp => hup d hd (p3 d hd hdp)⟩) w
          simp only [List.cons_append] at hstep
          obtain ⟨r, vis', s0, s1, _, s3⟩ := hstep
          exact ⟨r, vis', s0, s1, s3 head (by simp), fun v hv => s3 v (by simp [hv])⟩
      | some ans =>
        -- a definite answer: the edge of `head` reaches down to the number of `hash`
        have hpos : 0 < head := by
          -- the answer is about a block of the edge of `head`
          obtain ⟨x, hx, _⟩ := Option.map_eq_some_iff.1 hida
          exact pos_of_mem_edge ((inv.ancestorBlock_iff h he _ x).1 hx).1
        obtain ⟨a, haN, _, _⟩ := ancNode_some h N0 hpos
        have hspan := ((inDirectAncestry_isSome h hnum hanc haN hash (t.num hash)).1 (by rw [hida]; rfl)).1
        have habove : ∀ d, Containing t ins hash d → d ∈ t.chain head → d = head :=
          fun d hd hdh => no_containing_above h haN hspan hd hdh
        cases ans with
        | true =>
          have hg : Containing t ins hash head := ⟨hN, (inv.inDirectAncestry_iff h he hash).1 hida⟩
          exact ⟨some head, _, rfl, w.stop hpend' hnv (some head) (fun x e => ⟨(Option.some.inj e).symm, hg⟩)
            fun d hd hdh => by rw [habove d hd hdh]; simp, by simp, fun v hv => by simp [hv]⟩
        | false =>
          have hng := hida_false (by rw [hida]; exact fun e => by cases e)
          exact ⟨none, _, rfl, w.stop hpend' hnv none (fun _ e => by cases e)
            fun d hd hdh => (hng (habove d hd hdh ▸ hd)).elim, by simp, fun v hv => by simp [hv]⟩

theorem exists_head_below (h : t.WF) {ins : Ins} {g : Graph} (inv : GInv t ins g) {d : Nat}
    (hd : isNode ins d = true) : ∃ x, x ∈ g.heads ∧ d ∈ t.chain x := by
  have hmem : ∀ x, x ∈ (List.range t.size).filter (fun x => isNode ins x && (t.chain x).contains d) ↔
      isNode ins x = true ∧ d ∈ t.chain x := fun x => by
    simp only [List.mem_filter, List.mem_range, Bool.and_eq_true, List.contains_iff_mem]
    exact ⟨And.right, fun hx => ⟨inv.node_lt h hx.1, hx⟩⟩
  obtain ⟨x, hx, hmax⟩ := exists_max (fun x => x) _ (List.ne_nil_of_mem ((hmem d).2 ⟨hd, t.mem_chain_self d⟩))
  obtain ⟨hxN, hdx⟩ := (hmem x).1 hx
  refine ⟨x, (inv.heads x).2 ⟨hxN, ?_⟩, hdx⟩
  intro y hy hanc
  have hye : x ∈ edge t (isNode ins) y := mem_edge_of_ancNode hanc
  have hxy : x ∈ t.chain y := edge_mem_chain h hye
  have := hmax y ((hmem y).2 ⟨hy, (Tree.upChain h).trans hdx hxy⟩)
  have := edge_lt h hye
  omega

theorem containing_step (h : t.WF) {ins : Ins} {g : Graph} (inv : GInv t ins g) (hash : Nat) (pre : List Nat)
    (st : List Nat × List Nat) (x : Nat) (hx : isNode ins x = true)
    (hP : WalkInv t ins hash st.1 st.2 ∧ ∀ y, y ∈ pre → y ∈ st.2) :
    let st' := match walkHead g hash (t.num hash) (t.size + 1) x st.2 with
      | (some y, vis) => (st.1 ++ [y], vis)
      | (none, vis) => (st.1, vis)
    WalkInv t ins hash st'.1 st'.2 ∧ ∀ y, y ∈ pre ++ [x] → y ∈ st'.2 := by
  obtain ⟨r, vis', hw, w', hxin, hsub⟩ := walk_spec h inv hash (t.size + 1) x [] st.2 st.1
    (by have := inv.node_lt h hx; omega) hx (by simp) hP.1
  simp only [List.nil_append] at hw hsub
  rw [hw]
  have hvis : ∀ y, y ∈ pre ++ [x] → y ∈ vis' := fun y hy => by
    rcases List.mem_append.1 hy with hy | hy
    · exact hsub y (hP.2 y hy)
    · rw [List.mem_singleton.1 hy]; exact hxin
  cases r with
  | none => exact ⟨by simpa [Option.toList] using w', hvis⟩
  | some y => exact ⟨w', hvis⟩

/-- **`findContainingNodes`**: `none` (Go: `nil`) for a vote-node; otherwise exactly the vote-nodes whose ancestor
edge contains the block, each once.  The ORDER of the result depends on `key` (the hash order of the heads) and is
left open on purpose: `FindGHOST` takes the first and `FindAncestor` the last of them, and either choice gives the
same answer because all containing vote-nodes have the same vote-node above (`ancNode_eq_of_mem_edge`) and hold the
block at the position its number gives (`edge_next`). -/
theorem findContaining_spec (h : t.WF) {ins : Ins} {g : Graph} (inv : GInv t ins g) (key : Nat → Nat)
    (hash : Nat) :
    (isNode ins hash = true → g.findContaining key (t.size + 1) hash (t.num hash) = none) ∧
    (isNode ins hash = false → ∃ R, g.findContaining key (t.size + 1) hash (t.num hash) = some R ∧
        R.Nodup ∧ ∀ d, d ∈ R ↔ Containing t ins hash d) := by
  constructor
  · intro hn
    unfold Graph.findContaining
    rw [inv.nodes hash, hn]; rfl
  · intro hn
    unfold Graph.findContaining
    rw [inv.nodes hash, hn]
    simp only [Bool.false_eq_true, if_false]
    have hheads : ∀ x, x ∈ g.sortedHeads key → isNode ins x = true := by
      intro x hx
      unfold Graph.sortedHeads at hx
      exact ((inv.heads x).1 (List.mem_mergeSort.1 hx)).1
    obtain ⟨w, hall⟩ := foldl_inv _ (fun pre st => WalkInv t ins hash st.1 st.2 ∧ ∀ y, y ∈ pre → y ∈ st.2)
      (fun x => isNode ins x = true) (containing_step h inv hash) (g.sortedHeads key) [] ([], []) hheads
      ⟨⟨by simp, by simp, by simp, by simp⟩, by simp⟩
    refine ⟨_, rfl, w.nodup, ?_⟩
    intro d
    constructor
    · exact w.sound d
    · intro hd
      obtain ⟨x, hxh, hdx⟩ := exists_head_below h inv hd.1
      have hxs : x ∈ g.sortedHeads key := by unfold Graph.sortedHeads; exact List.mem_mergeSort.2 hxh
      exact w.complete x (hall x hxs) d hd hdx

end Gossamer.C20
