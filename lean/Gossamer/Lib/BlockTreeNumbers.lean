import Gossamer.Lib.BlockTreeLemmas

namespace Gossamer.BlockTree

theorem hashesAtF_sublist (num : Nat) : ∀ f, (hashesAtF num f).Sublist (descF f) := by
  intro f
  induction f using forest_ind with
  | nil => simp [hashesAtF, descF]
  | cons i cs rest ih1 ih2 =>
    simp only [hashesAtF, descF]
    split
    · simp only [List.cons_append, List.nil_append]
      exact ((List.nil_sublist _).append ih2).cons_cons _
    · split
      · exact (List.Sublist.append ih1 ih2).trans (List.sublist_cons_self _ _)
      · simp only [List.nil_append]
        exact (ih2.trans (List.sublist_append_right _ _)).trans (List.sublist_cons_self _ _)

theorem numOKF_ge {f : Forest} {rn : Nat} (hn : numOKF rn f) : ∀ x ∈ infosF f, rn ≤ x.number := by
  induction f using forest_ind generalizing rn with
  | nil => simp [infosF]
  | cons i cs rest ih1 ih2 =>
    intro x hx
    rw [numOKF_cons] at hn
    simp only [infosF, List.mem_cons, List.mem_append] at hx
    rcases hx with rfl | hx | hx
    · exact Nat.le_of_eq hn.1.symm
    · have := ih1 hn.2.1 x hx; omega
    · exact ih2 hn.2.2 x hx

theorem mem_hashesAtF {num : Nat} {h : Hash} {f : Forest} (hn : LinkedNums f) :
    h ∈ hashesAtF num f ↔ ∃ x ∈ infosF f, x.hash = h ∧ x.number = num := by
  induction f using forest_ind with
  | nil => simp [hashesAtF, infosF]
  | cons i cs rest ih1 ih2 =>
    rw [linkedNums_cons] at hn
    have gt := numOKF_ge hn.1
    simp only [hashesAtF, infosF, List.mem_append, List.mem_cons, ih2 hn.2]
    constructor
    · rintro (h1 | ⟨x, hx, hh⟩)
      · split at h1
        · next he => exact ⟨i, .inl rfl, (List.mem_singleton.1 h1).symm, he.symm⟩
        · split at h1
          · obtain ⟨x, hx, hh⟩ := (ih1 hn.1.2).1 h1
            exact ⟨x, .inr (.inl hx), hh⟩
          · cases h1
      · exact ⟨x, .inr (.inr hx), hh⟩
    · rintro ⟨x, rfl | hx | hx, hh, hnum⟩
      · exact .inl (by rw [if_pos hnum.symm, hh]; exact .head _)
      · have := gt x hx
        rw [if_neg (by omega), if_pos (by omega)]
        exact .inl ((ih1 hn.1.2).2 ⟨x, hx, hh, hnum⟩)
      · exact .inr ⟨x, hx, hh, hnum⟩

theorem leaf_above {f : Forest} (hn : LinkedNums f) : ∀ x ∈ infosF f, ∃ l ∈ leavesF f, x.number ≤ l.number := by
  induction f using forest_ind with
  | nil => simp [infosF]
  | cons i cs rest ih1 ih2 =>
    intro x hx
    rw [linkedNums_cons] at hn
    simp only [infosF, List.mem_cons, List.mem_append] at hx
    simp only [mem_leavesF_cons]
    rcases hx with rfl | hx | hx
    · cases cs with
      | nil => exact ⟨x, .inl ⟨rfl, rfl⟩, Nat.le_refl _⟩
      | cons c cs' =>
        cases c with
        | mk ci ccs =>
          have hci : ci ∈ infosF (.mk ci ccs :: cs') := by rw [infosF]; exact .head _
          obtain ⟨l, hl, hle⟩ := ih1 hn.1.2 ci hci
          have := numOKF_ge hn.1 ci hci
          exact ⟨l, .inr (.inl hl), by omega⟩
    · obtain ⟨l, hl, hle⟩ := ih1 hn.1.2 x hx
      exact ⟨l, .inr (.inl hl), hle⟩
    · obtain ⟨l, hl, hle⟩ := ih2 hn.2 x hx
      exact ⟨l, .inr (.inr hl), hle⟩

theorem foldl_max_fn {α : Type} (f : α → Nat) : ∀ (l : List α) (acc : Nat),
    let r := l.foldl (fun hi x => if f x > hi then f x else hi) acc
    acc ≤ r ∧ (∀ x ∈ l, f x ≤ r) ∧ (r = acc ∨ ∃ x ∈ l, f x = r) := by
  intro l
  induction l with
  | nil => intro acc; simp
  | cons a as ih =>
    intro acc
    simp only [List.foldl_cons, List.mem_cons]
    have := ih (if f a > acc then f a else acc)
    by_cases ha : f a > acc
    · simp only [ha, if_true] at this ⊢
      obtain ⟨h1, h2, h3⟩ := this
      refine ⟨by omega, ?_, ?_⟩
      · rintro x (rfl | hx)
        · exact h1
        · exact h2 x hx
      · rcases h3 with h3 | ⟨x, hx, he⟩
        · exact Or.inr ⟨a, Or.inl rfl, h3.symm⟩
        · exact Or.inr ⟨x, Or.inr hx, he⟩
    · simp only [ha, if_false] at this ⊢
      obtain ⟨h1, h2, h3⟩ := this
      refine ⟨h1, ?_, ?_⟩
      · rintro x (rfl | hx)
        · omega
        · exact h2 x hx
      · rcases h3 with h3 | ⟨x, hx, he⟩
        · exact Or.inl h3
        · exact Or.inr ⟨x, Or.inr hx, he⟩

end Gossamer.BlockTree
