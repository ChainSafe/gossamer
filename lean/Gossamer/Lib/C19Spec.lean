/-
C19: the specification of a valid justification, against the RAW weight list and through order-independent notions only
(membership in the precommit list, ancestry, sums over the weight list): `ValidCore`, `Valid`, and the assumptions
`Tolerant`, `Mono` of the completeness direction.  Definitions only.
-/
import Gossamer.Model.C19
import Gossamer.Lib.C19Voters
import Gossamer.Lib.C19Tracker
namespace Gossamer.C19

/-- precommits signed by set members: ids whose listed weights sum to something positive -/
def membersOf (ws : List IdW) (pcs : List Pre) : List Pre :=
  pcs.filter (fun p => decide (0 < rawWeight ws p.id))

/-- summed listed weight of the voters that count for block `b`: voters with a precommit for `b` or a
    descendant, and voters with two different precommits (equivocators count for every block) -/
def specWeight (ws : List IdW) (c : Chain) (vp : List Pre) (b : Nat) : Nat :=
  wsum (fun id => supportsB c vp id b) ws

/-- supermajority threshold of the raw list: `total - ⌊(total-1)/3⌋` -/
def specThreshold (ws : List IdW) : Nat := threshold (rawTotal ws)

/-- the safety core of validity.  The two "lowest" precommits differ on purpose: `base` is the lowest MEMBER precommit
    (the base of `ValidateCommit`), `ancestry` starts from the lowest of ALL precommits (`minPrecommit` of
    `verifyWithVoterSet`), and signatures are asked of all precommits, members or not, as the Go loop does. -/
structure ValidCore (w : Nat) (ws : List IdW) (c : Chain) (tBlk tNum : Nat) (pcs : List Pre) : Prop where
  /-- the voter set exists -/
  total_pos : 0 < rawTotal ws
  total_lt : rawTotal ws < U64
  /-- there is a lowest member precommit; every member precommit and the target descend from it, and
      the target number is the number of the target block -/
  base : ∃ b ∈ membersOf ws pcs, (∀ p ∈ membersOf ws pcs, b.num ≤ p.num ∧ desc c b.blk p.blk = true) ∧
      desc c b.blk tBlk = true ∧ (b.num + dist c b.blk tBlk) % 2 ^ w = tNum
  /-- some member voted for the target or below it.  Under `Tolerant` this follows from `super` (a non-equivocating
      supporter); without it equivocators alone can carry `super`, and this is content of its own -/
  voted : ∃ p ∈ membersOf ws pcs, desc c tBlk p.blk = true
  super : specThreshold ws ≤ specWeight ws c (membersOf ws pcs) tBlk
  /-- every precommit carries a valid signature for the round and set -/
  sigs : ∀ p ∈ pcs, p.sigok = true
  /-- the supplied headers connect every precommit to the lowest one, none missing, none unused -/
  ancestry : ∃ lo ∈ pcs, (∀ p ∈ pcs, lo.num ≤ p.num) ∧
      (∀ p ∈ pcs, ∃ path, pathTo c lo.blk p.blk = some path) ∧
      (∀ h, h ∈ c.has ↔ ∃ p ∈ pcs, ∃ path, pathTo c lo.blk p.blk = some path ∧ h ∈ path)

def equivWeight (ws : List IdW) (vp : List Pre) : Nat := wsum (equivB vp) ws

/-- the GRANDPA fault assumption: equivocators weigh at most `total - threshold` (= ⌊(total-1)/3⌋) -/
def Tolerant (ws : List IdW) (pcs : List Pre) : Prop :=
  equivWeight ws (membersOf ws pcs) ≤ rawTotal ws - specThreshold ws

/-- block numbers increase along ancestry (true of the numbers of a real block tree): what the theorems assume of the
    numbers (it makes precommits with the lowest number name one block, `Mono.blk_eq`).  `consistent` of Model/C19 is
    another condition, used by the driver only: that the first votes carry the numbers the Go vote graph computes, so
    that the model follows the code.  Numbers taken from a block tree satisfy both; no theorem relates the two. -/
def Mono (c : Chain) (pcs : List Pre) : Prop :=
  ∀ p ∈ pcs, ∀ q ∈ pcs, desc c p.blk q.blk = true → p.blk ≠ q.blk → p.num < q.num

/-- valid justification: the safety core, and no child of the target (towards a member's vote) has
    supermajority weight, i.e. the precommit GHOST is the target -/
structure Valid (w : Nat) (ws : List IdW) (c : Chain) (tBlk tNum : Nat) (pcs : List Pre) : Prop where
  core : ValidCore w ws c tBlk tNum pcs
  ghost : ∀ x, c.step x = some tBlk → (∃ p ∈ membersOf ws pcs, desc c x p.blk = true) →
    specWeight ws c (membersOf ws pcs) x < specThreshold ws

end Gossamer.C19
