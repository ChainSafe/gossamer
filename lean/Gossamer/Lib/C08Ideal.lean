/-
C08: the ideal backend — well-formedness of logical states, extensionality, and `applyToTrie`
over the ideal backend as a plain function on logical states (`applyIdeal`).
-/
import Gossamer.Lib.C08Spec
import Gossamer.Lib.C08MapLemmas
namespace Gossamer.C08
open Gossamer

-- the invariant the docstring of `Logical` (Lib/C08Backend) states in words.  `kid … es ≠ []`: an empty child
-- trie does not exist (`ClearFromChild` deletes a child that became empty, `Logical.setKid`), so the child
-- maps read through `kidOf` determine `kids` (`find_kids_eq`, `Logical.ext`).
structure Logical.WF (l : Logical) : Prop where
  main : OMap.Sorted l.main
  noChild : ∀ k, Logical.isChildKey k = true → OMap.get k l.main = none
  kids : KMap.Sorted l.kids
  kid : ∀ ck es, KMap.find ck l.kids = some es → OMap.Sorted es ∧ es ≠ []

theorem Logical.wf_empty : Logical.empty.WF :=
  ⟨trivial, fun _ _ => rfl, trivial, fun _ _ h => by simp [Logical.empty, KMap.find] at h⟩

theorem get_head_ne_none {es : Entries} (h : es ≠ []) : ∃ k, OMap.get k es ≠ none := by
  cases es with
  | nil => exact absurd rfl h
  | cons e r => exact ⟨e.1, by simp [OMap.get]⟩

theorem kidOf_sorted {l : Logical} (h : l.WF) (ck : Bytes) : OMap.Sorted (kidOf l ck) := by
  unfold kidOf
  cases hf : KMap.find ck l.kids with
  | none => exact trivial
  | some es => exact (h.kid ck es hf).1

theorem kidOf_none {l : Logical} {ck : Bytes} (h : KMap.find ck l.kids = none) : kidOf l ck = [] := by
  unfold kidOf; rw [h]; rfl

theorem kidOf_some {l : Logical} {ck : Bytes} {es : Entries} (h : KMap.find ck l.kids = some es) :
    kidOf l ck = es := by
  unfold kidOf; rw [h]; rfl

theorem find_kids_eq {l : Logical} (h : l.WF) (ck : Bytes) :
    KMap.find ck l.kids = if kidOf l ck = [] then none else some (kidOf l ck) := by
  cases hf : KMap.find ck l.kids with
  | none => rw [kidOf_none hf, if_pos rfl]
  | some es => rw [kidOf_some hf, if_neg (h.kid ck es hf).2]

theorem kidOf_nil_iff {l : Logical} (h : l.WF) (ck : Bytes) :
    kidOf l ck = [] ↔ KMap.find ck l.kids = none := by
  rw [find_kids_eq h]
  split <;> simp [*]

theorem Logical.ext {a b : Logical} (ha : a.WF) (hb : b.WF)
    (hm : ∀ k, OMap.get k a.main = OMap.get k b.main)
    (hk : ∀ ck k, OMap.get k (kidOf a ck) = OMap.get k (kidOf b ck)) : a = b := by
  have h1 : a.main = b.main := OMap.sorted_ext ha.main hb.main hm
  have h2 : a.kids = b.kids := KMap.ext ha.kids hb.kids fun ck => by
    rw [find_kids_eq ha, find_kids_eq hb,
      OMap.sorted_ext (kidOf_sorted ha ck) (kidOf_sorted hb ck) (hk ck)]
  obtain ⟨am, ak⟩ := a
  obtain ⟨bm, bk⟩ := b
  obtain rfl : am = bm := h1
  obtain rfl : ak = bk := h2
  rfl

def putMain (l : Logical) (kv : Bytes × Bytes) : Logical :=
  if Logical.isChildKey kv.1 then l else { l with main := OMap.upsert kv.1 kv.2 l.main }

def applyKidI (l : Logical) (e : Bytes × List (Bytes × Bytes) × List Bytes) : Logical :=
  let l1 := e.2.1.foldl (fun l kv => Logical.putIntoChild l e.1 kv.1 (some kv.2)) l
  e.2.2.foldl (fun l k => (Logical.clearFromChild l e.1 k).getD l) l1

-- `applyDel` over the ideal backend: Go's `applyToTrie` probes `GetChild` with every deleted string
-- before it calls `Delete`, so a string that names a child trie deletes that child and leaves the main
-- key alone: the origin of the finding `deletes-shared-by-main-and-child`.
def applyDelI (l : Logical) (k : Bytes) : Logical :=
  match KMap.find k l.kids with
  | some _ => { l with kids := KMap.del k l.kids }
  | none => if Logical.isChildKey k then l else { l with main := OMap.erase k l.main }

def applyIdeal (b : Logical) (o : ApplyOrder) : Logical :=
  o.dels.foldl applyDelI (o.kids.foldl applyKidI (o.ups.foldl putMain b))

section
variable (Hc Hm : Entries → Bytes)

theorem applyKid_ideal (l : Logical) (e : Bytes × List (Bytes × Bytes) × List Bytes) :
    applyKid (idealBackend Hc Hm) (some l) e = some (applyKidI l e) := by
  unfold applyKid applyKidI
  rw [List.foldl_hom some (g₁ := fun b kv => Logical.putIntoChild b e.1 kv.1 (some kv.2)) fun _ _ => rfl]
  exact List.foldl_hom some fun _ _ => rfl

theorem applyDel_ideal (l : Logical) (k : Bytes) :
    applyDel (idealBackend Hc Hm) l k = applyDelI l k := by
  unfold applyDel applyDelI
  simp only [idealBackend]
  cases KMap.find k l.kids <;> rfl

theorem applyToTrie_ideal (b : Logical) (o : ApplyOrder) :
    applyToTrie (idealBackend Hc Hm) b o = some (applyIdeal b o) := by
  show (List.foldl (applyKid _) (some _) o.kids).map _ = _
  rw [List.foldl_hom some (g₁ := applyKidI) fun l e => applyKid_ideal Hc Hm l e,
    funext fun l => funext (applyDel_ideal Hc Hm l)]
  rfl

end

end Gossamer.C08
