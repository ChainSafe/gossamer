/-
`ClearPrefixLimit` against the ordered map.  "The first `n` keys with the prefix" is no property of single look-ups,
so everything here is said on the ascending content list `entriesN`: deleting below a child is `dropMatching` with
that child's slot as prefix (`dropMatching_childEntries`, `entriesN_branch_child_drop`), and these, with
`entriesN_handleDeletion`, `foldl_dnlStep_done` and `CplSpec.child`, hold for every trie.  `DnlSpec`, `dnl_loop`,
`deleteNodesLimit_spec` and what follows hold on canonical tries in which no key is a proper prefix of another
(`Flat`): where a branch holds a value Go deletes the children first (finding `clrl-children-first`).
-/
import Gossamer.Lib.TrieRefine
namespace Gossamer
open Rank OMap
namespace Trie

theorem entriesN_branch_none (pk : Nibs) (cs : Nib → Trie) :
    entriesN (branch pk none cs) =
      (childEntries (fun i => entriesN (cs i)) (List.finRange 16)).map (fun e => (pk ++ e.1, e.2)) := by
  rw [entriesN_branch]; rfl

theorem childEntries_cons (E : Nib → List (Nibs × Bytes)) (i : Nib) (l : List Nib) :
    childEntries E (i :: l) = (E i).map (fun e => (i :: e.1, e.2)) ++ childEntries E l := by
  simp [childEntries]

theorem childEntries_congr (E E' : Nib → List (Nibs × Bytes)) (l : List Nib) (h : ∀ j ∈ l, E j = E' j) :
    childEntries E l = childEntries E' l := by
  induction l with
  | nil => rfl
  | cons i l ih =>
    rw [childEntries_cons, childEntries_cons, h i (by simp), ih (fun j hj => h j (by simp [hj]))]

theorem foldl_dnlStep_done (pk : Nibs) (v : Option Bytes) (cs : Nib → Trie)
    (rec : Nib → Nat → Trie × Nat) (l : List Nib) (s : DnlState) (h : s.result.isSome = true) :
    l.foldl (dnlStep pk v cs rec) s = s := by
  induction l with
  | nil => rfl
  | cons i l ih => simp only [List.foldl_cons, dnlStep, h, Bool.true_or, if_true]; exact ih

theorem entriesN_handleDeletion (pk : Nibs) (v : Option Bytes) (cs : Nib → Trie) (key : Nibs)
    (hpre : v.isSome = true → pk.isPrefixOf key = true) :
    entriesN (handleDeletion pk v cs key) = entriesN (branch pk v cs) :=
  entriesN_ext (lookup_handleDeletion pk v cs key hpre)


theorem dropMatching_map_prefix (q p : Nibs) (n : Nat) (es : List (Nibs × Bytes)) :
    OMap.dropMatching (q ++ p) n (es.map (fun e => (q ++ e.1, e.2))) =
      (OMap.dropMatching p n es).map (fun e => (q ++ e.1, e.2)) :=
  OMap.dropMatching_mapK_of (f := (q ++ ·)) n fun e _ => isPrefixOf_append_left q p e.1

theorem dropMatching_childEntries (E : Nib → List (Nibs × Bytes)) (l : List Nib) (i : Nib)
    (rest : Nibs) (n : Nat) (hl : l.Nodup) :
    OMap.dropMatching (i :: rest) n (childEntries E l) =
      childEntries (fun j => if j = i then OMap.dropMatching rest n (E i) else E j) l := by
  induction l with
  | nil => cases n <;> rfl
  | cons j l ih =>
    have hnd := List.nodup_cons.mp hl
    rw [childEntries_cons, childEntries_cons]
    by_cases hji : j = i
    · subst hji
      have htail : ∀ e ∈ childEntries E l, (j :: rest).isPrefixOf e.1 = false := by
        intro e he
        simp only [childEntries, List.mem_flatMap, List.mem_map] at he
        obtain ⟨x, hx, y, _, rfl⟩ := he
        exact isPrefixOf_fork [] (fun e : j = x => hnd.1 (e ▸ hx)) rest y.1
      rw [OMap.dropMatching_append_right _ _ _ _ htail]
      have := dropMatching_map_prefix [j] rest n (E j)
      simp only [List.singleton_append] at this
      rw [this]
      simp only [if_true]
      congr 1
      apply childEntries_congr
      intro x hx
      have : x ≠ j := fun e => hnd.1 (e ▸ hx)
      simp [this]
    · have hhead : ∀ e ∈ (E j).map (fun e => (j :: e.1, e.2)), (i :: rest).isPrefixOf e.1 = false := by
        intro e he
        obtain ⟨y, _, rfl⟩ := List.mem_map.mp he
        exact isPrefixOf_fork [] (Ne.symm hji) rest y.1
      rw [OMap.dropMatching_append_left _ _ _ _ hhead, ih hnd.2]
      simp [hji]

theorem entriesN_branch_child_drop (pk : Nibs) (v : Option Bytes) (cs : Nib → Trie) (i : Nib)
    (rest : Nibs) (n : Nat) (c' : Trie)
    (hc' : entriesN c' = OMap.dropMatching rest n (entriesN (cs i))) :
    entriesN (branch pk v (setChild cs i c')) =
      OMap.dropMatching (pk ++ i :: rest) n (entriesN (branch pk v cs)) := by
  rw [entriesN_branch, entriesN_branch]
  have hkey := append_cons_isPrefixOf_self pk i rest
  have hce := dropMatching_childEntries (fun j => entriesN (cs j)) (List.finRange 16) i rest n
    (List.nodup_finRange 16)
  have hE : childEntries (fun j => entriesN (setChild cs i c' j)) (List.finRange 16) =
      childEntries (fun j => if j = i then OMap.dropMatching rest n (entriesN (cs i))
        else entriesN (cs j)) (List.finRange 16) := by
    apply childEntries_congr
    intro j _
    by_cases hj : j = i
    · subst hj; simp [hc']
    · simp [setChild_other _ _ _ _ hj, hj]
  cases v with
  | none =>
    dsimp only
    rw [List.nil_append, List.nil_append, dropMatching_map_prefix, hce, hE]
  | some x =>
    dsimp only
    rw [OMap.dropMatching_append_left _ _ [(pk, x)] _ (by simp [hkey]),
      dropMatching_map_prefix, hce, hE]


/-- Needed of the sub-trie under the prefix: `deleteNodesLimit` deletes below the children before the value of
    their branch, so a key that is a proper prefix of another outlives it (known finding `clrl-children-first`). -/
def Flat (pre : Nibs) (t : Trie) : Prop :=
  ∀ k1 k2 v1 v2, lookup t k1 = some v1 → lookup t k2 = some v2 →
    pre.isPrefixOf k1 = true → k1.isPrefixOf k2 = true → k1 = k2

theorem Flat.mono {pre pre' : Nibs} {t : Trie} (hf : Flat pre t) (h : pre.isPrefixOf pre' = true) :
    Flat pre' t :=
  fun k1 k2 v1 v2 h1 h2 h3 h4 => hf k1 k2 v1 v2 h1 h2 (isPrefixOf_trans h h3) h4

theorem Flat.child {pk : Nibs} {v : Option Bytes} {cs : Nib → Trie} {i : Nib} {rest : Nibs}
    (hf : Flat (pk ++ i :: rest) (branch pk v cs)) : Flat rest (cs i) := by
  intro k1 k2 v1 v2 h1 h2 h3 h4
  have := hf (pk ++ i :: k1) (pk ++ i :: k2) v1 v2 (by rw [lookup_branch_child]; exact h1)
    (by rw [lookup_branch_child]; exact h2)
    (by rw [isPrefixOf_append_left]; simpa using h3)
    (by rw [isPrefixOf_append_left]; simpa using h4)
  have := List.append_cancel_left this
  simpa using this

theorem Flat.branch_none {pk : Nibs} {v : Option Bytes} {cs : Nib → Trie}
    (hc : Canon (branch pk v cs)) (hf : Flat [] (branch pk v cs)) : v = none := by
  cases hv : v with
  | none => rfl
  | some x =>
    exfalso
    obtain ⟨i, hi⟩ := canon_branch_child hc
    obtain ⟨k, y, hk⟩ := canon_has_key (cs i) (hc.1 i) hi
    have := hf pk (pk ++ i :: k) x y (by rw [lookup_branch_self, hv])
      (by rw [lookup_branch_child]; exact hk) rfl (isPrefixOf_append_self _ _)
    exact append_cons_ne_self pk i k this.symm

theorem Flat.nil_of_prefix {pre pk : Nibs} {v : Option Bytes} {cs : Nib → Trie}
    (hp : pre.isPrefixOf pk = true) (hf : Flat pre (branch pk v cs)) : Flat [] (branch pk v cs) := by
  intro k1 k2 v1 v2 h1 h2 _ h4
  exact hf k1 k2 v1 v2 h1 h2 (isPrefixOf_trans hp (branch_key_prefix h1)) h4

/-- `deleteNodesLimit` at one node, as proved for canonical `Flat []` tries (`deleteNodesLimit_spec`) -/
structure DnlSpec (t : Trie) (n : Nat) (r : Trie × Nat) : Prop where
  entries : entriesN r.1 = (entriesN t).drop n
  count : r.2 = min n (entriesN t).length
  canon : Canon r.1

/-- the count step of `dnl_loop`: `d` deleted so far, `e` entries of this child, `l` the limit, `t` entries of the
    children to come -/
theorem min_sub_add (d e l t : Nat) (h : e < l) : d + e + min (l - e) t = d + min l (e + t) := by
  rw [Nat.add_assoc, ← Nat.add_min_add_left, Nat.add_sub_cancel' (Nat.le_of_lt h)]

/-- The loop of `deleteNodesLimit` over the children `l` still to visit.  Invariant: the branch over
    the current children holds exactly the entries of the children still to visit.  Deleting below
    child `i` is `dropMatching` with the prefix of that child slot, so the loop as a whole drops
    the first `limit` entries.  The branch has no value (`dnlStep pk none`): under `Flat []` a canonical
    branch has none (`Flat.branch_none`). -/
theorem dnl_loop (pk : Nibs) (cs : Nib → Trie) (rec : Nib → Nat → Trie × Nat)
    (hrec : ∀ i lim, DnlSpec (cs i) lim (rec i lim)) :
    ∀ (l : List Nib) (s : DnlState), l.Nodup → s.result = none →
      (∀ j ∈ l, s.cs j = cs j) → (∀ j, Canon (s.cs j)) →
      entriesN (branch pk none s.cs) =
        (childEntries (fun i => entriesN (cs i)) l).map (fun e => (pk ++ e.1, e.2)) →
      let out := dnlOut none (l.foldl (dnlStep pk none cs rec) s)
      let T := (childEntries (fun i => entriesN (cs i)) l).map (fun e => (pk ++ e.1, e.2))
      entriesN out.1 = T.drop s.limit ∧ out.2 = s.deleted + min s.limit T.length ∧ Canon out.1 := by
  intro l
  induction l with
  | nil =>
    intro s _ hres _ _ _
    simp [dnlOut, hres, childEntries, entriesN]
  | cons i l' ih =>
    intro s hnd hres hl hcan hB
    obtain ⟨hi_l', hnd'⟩ := List.nodup_cons.mp hnd
    have hl' : ∀ j ∈ l', s.cs j = cs j := fun j hj => hl j (List.mem_cons_of_mem _ hj)
    simp only [List.foldl_cons]
    cases hnil : (cs i).isNil with
    | true =>
      have hci := (isNil_iff _).mp hnil
      have hstep : dnlStep pk none cs rec s i = s := by simp [dnlStep, hnil]
      rw [hstep]
      have hT : childEntries (fun i => entriesN (cs i)) (i :: l') =
          childEntries (fun i => entriesN (cs i)) l' := by
        rw [childEntries_cons, hci]; rfl
      rw [hT] at hB ⊢
      exact ih s hnd' hres hl' hcan hB
    | false =>
      obtain ⟨hr1, hr2, hr3⟩ := hrec i s.limit
      have hcan' : ∀ j, Canon (setChild s.cs i (rec i s.limit).1 j) := canon_setChild hcan i hr3
      -- the branch over the new children: the entries of child `i` lose their first `limit`
      have hB' : entriesN (branch pk none (setChild s.cs i (rec i s.limit).1)) =
          (((entriesN (cs i)).drop s.limit).map (fun e => (i :: e.1, e.2)) ++
            childEntries (fun j => entriesN (cs j)) l').map (fun e => (pk ++ e.1, e.2)) := by
        rw [entriesN_branch_child_drop pk none s.cs i [] s.limit _
            (by rw [hl i List.mem_cons_self, hr1, OMap.dropMatching_all _ _ _ (fun _ _ => rfl)]),
          hB, dropMatching_map_prefix, dropMatching_childEntries _ _ _ _ _ hnd,
          childEntries_cons, if_pos rfl, OMap.dropMatching_all _ _ _ (fun _ _ => rfl)]
        congr 2
        exact childEntries_congr _ _ _ fun j hj => if_neg fun (e : j = i) => hi_l' (e ▸ hj)
      simp only [dnlStep, hres, Option.isSome_none, hnil, Bool.or_self, Bool.false_eq_true, if_false,
        Option.isNone_none, Bool.and_true]
      rw [childEntries_cons]
      cases hall : (childIdx (setChild s.cs i (rec i s.limit).1)).isEmpty with
      | true =>
        simp only [if_true]
        rw [foldl_dnlStep_done _ _ _ _ _ _ (by simp)]
        have h0 : entriesN (branch pk none (setChild s.cs i (rec i s.limit).1)) = [] := by
          rw [entriesN_branch_none, childEntries, List.flatMap_eq_nil_iff.mpr fun j _ => by
            rw [childIdx_nil (List.isEmpty_iff.mp hall) j]; rfl]; rfl
        rw [hB', List.map_eq_nil_iff, List.append_eq_nil_iff, List.map_eq_nil_iff,
          List.drop_eq_nil_iff] at h0
        simp only [dnlOut, h0.2, List.append_nil, List.map_map, List.length_map]
        refine ⟨?_, ?_, trivial⟩
        · simp [entriesN, List.drop_eq_nil_iff, h0.1]
        · rw [hr2]
      | false =>
        simp only [Bool.false_eq_true, if_false]
        by_cases hlim0 : s.limit - (rec i s.limit).2 = 0
        · -- the limit is reached inside this child
          simp only [hlim0, if_true]
          rw [foldl_dnlStep_done _ _ _ _ _ _ (by simp)]
          have hle : s.limit ≤ (entriesN (cs i)).length := by
            rw [hr2, Nat.sub_eq_zero_iff_le] at hlim0; exact (Nat.le_min.mp hlim0).2
          simp only [dnlOut]
          refine ⟨?_, ?_, ?_⟩
          · rw [entriesN_handleDeletion pk none _ pk (fun h => absurd h Bool.false_ne_true), hB']
            simp [List.drop_append, List.map_drop, Nat.sub_eq_zero_of_le hle]
          · rw [hr2, Nat.min_eq_left hle, Nat.min_eq_left]
            simp only [List.length_map, List.length_append]
            exact Nat.le_trans hle (Nat.le_add_right _ _)
          · have hex : ∃ j, setChild s.cs i (rec i s.limit).1 j ≠ nil := by
              have : childIdx (setChild s.cs i (rec i s.limit).1) ≠ [] := by
                intro e; rw [e] at hall; simp at hall
              obtain ⟨j, hj⟩ := List.exists_mem_of_ne_nil _ this
              exact ⟨j, (mem_childIdx _ j).mp hj⟩
            exact (canon_handleDeletion pk none _ pk hcan' (Or.inr hex)).2
        · -- the child is gone entirely and the limit is not reached
          simp only [hlim0, if_false]
          have hlt : (entriesN (cs i)).length < s.limit := by
            rw [hr2, Nat.sub_eq_zero_iff_le, Nat.le_min] at hlim0
            exact Nat.lt_of_not_le fun h => hlim0 ⟨Nat.le_refl _, h⟩
          have hr2' : (rec i s.limit).2 = (entriesN (cs i)).length :=
            hr2.trans (Nat.min_eq_right (Nat.le_of_lt hlt))
          have hdrop : (entriesN (cs i)).drop s.limit = [] :=
            List.drop_eq_nil_iff.mpr (Nat.le_of_lt hlt)
          rw [hdrop] at hB'
          obtain ⟨h1, h2, h3⟩ := ih
            { cs := setChild s.cs i (rec i s.limit).1, limit := s.limit - (rec i s.limit).2,
              deleted := s.deleted + (rec i s.limit).2, result := none }
            hnd' rfl
            (fun j hj => (setChild_other _ _ _ _ fun (e : j = i) => hi_l' (e ▸ hj)).trans (hl' j hj))
            hcan' hB'
          simp only at h1 h2
          refine ⟨?_, ?_, h3⟩
          · rw [h1, hr2']
            simp [List.drop_append, Nat.le_of_lt hlt]
          · rw [h2, hr2']
            simp only [List.length_map, List.length_append]
            exact min_sub_add _ _ _ _ hlt


theorem deleteNodesLimit_spec (t : Trie) (n : Nat) (hc : Canon t) (hf : Flat [] t) :
    DnlSpec t n (deleteNodesLimit t n) := by
  induction t generalizing n with
  | nil => exact ⟨List.drop_nil.symm, (Nat.min_zero n).symm, trivial⟩
  | leaf pk v =>
    simp only [deleteNodesLimit]
    split
    · rename_i h; subst h; exact ⟨rfl, (Nat.zero_min _).symm, trivial⟩
    · rename_i h
      have : 1 ≤ n := Nat.pos_of_ne_zero h
      exact ⟨(List.drop_eq_nil_iff.mpr this).symm, (Nat.min_eq_right this).symm, trivial⟩
  | branch pk v cs ih =>
    have hvn := Flat.branch_none hc hf
    subst hvn
    have hcs := hc.1
    simp only [deleteNodesLimit]
    split
    · rename_i h; subst h; exact ⟨rfl, (Nat.zero_min _).symm, hc⟩
    · have hloop := dnl_loop pk cs (fun i lim => deleteNodesLimit (cs i) lim)
        (fun i lim => ih i lim (hcs i) (Flat.child (rest := []) (hf.mono rfl))) (List.finRange 16)
        { cs := cs, limit := n, deleted := 0, result := none } (List.nodup_finRange 16) rfl
        (fun _ _ => rfl) hcs (entriesN_branch_none pk cs)
      rw [dnlBranch_eq]
      refine ⟨?_, ?_, hloop.2.2⟩
      · rw [entriesN_branch_none]; exact hloop.1
      · rw [entriesN_branch_none]; simpa using hloop.2.1


structure CplSpec (t : Trie) (pre : Nibs) (n : Nat) (r : Trie × Nat × Bool) : Prop where
  entries : entriesN r.1 = OMap.dropMatching pre n (entriesN t)
  count : r.2.1 = min n (OMap.keysWithPrefix pre (entriesN t)).length
  flag : r.2.2 = decide ((OMap.keysWithPrefix pre (entriesN t)).length ≤ n)
  canon : Canon r.1

theorem cplSpec_of_dnl {t : Trie} {pre : Nibs} {n : Nat}
    (hall : ∀ e ∈ entriesN t, pre.isPrefixOf e.1 = true) {r : Trie × Nat}
    (h : DnlSpec t n r) : CplSpec t pre n (r.1, r.2, r.1.isNil) := by
  obtain ⟨h1, h2, h3⟩ := h
  refine ⟨?_, ?_, ?_, h3⟩
  · rw [OMap.dropMatching_all _ _ _ hall]; exact h1
  · rw [OMap.keysWithPrefix_all _ _ hall]; exact h2
  · rw [OMap.keysWithPrefix_all _ _ hall, isNil_eq_decide_of_canon h3, h1]
    simp only [List.length_drop]
    congr 1
    apply propext
    omega

theorem keysWithPrefix_branch_child_length (pk : Nibs) (v : Option Bytes) (cs : Nib → Trie)
    (i : Nib) (rest : Nibs) :
    (OMap.keysWithPrefix (pk ++ i :: rest) (entriesN (branch pk v cs))).length =
      (OMap.keysWithPrefix rest (entriesN (cs i))).length := by
  simp only [OMap.keysWithPrefix, filter_prefix_branch_child, List.length_map]

theorem child_slot_prefix_self (pk : Nibs) (i : Nib) :
    (decide ((pk ++ [i]).length = pk.length + 1) && (pk ++ [i]).dropLast == pk) = true := by
  simp

theorem not_proper_of_prefix (pk : Nibs) (i : Nib) (rest : Nibs) :
    (decide ((pk ++ i :: rest).length ≤ pk.length) || decide (lcpLen pk (pk ++ i :: rest) < pk.length)) = false := by
  simp [lcpLen_prefix]

/-- the prefix is a child slot: `clearPrefixLimitChild` -/
theorem clearPrefixLimitAtNode_branch_slot (pk : Nibs) (v : Option Bytes) (cs : Nib → Trie) (i : Nib)
    (n : Nat) :
    clearPrefixLimitAtNode (branch pk v cs) (pk ++ [i]) n =
      if (cs i).isNil then (branch pk v cs, 0, true)
      else if (deleteNodesLimit (cs i) n).2 = 0 then (branch pk v cs, 0, false)
      else (handleDeletion pk v (setChild cs i (deleteNodesLimit (cs i) n).1) (pk ++ [i]),
        (deleteNodesLimit (cs i) n).2, (deleteNodesLimit (cs i) n).1.isNil) := by
  simp only [clearPrefixLimitAtNode, append_cons_isPrefixOf_self, child_slot_prefix_self,
    Bool.false_eq_true, if_false, if_true, List.drop_left]

theorem clearPrefixLimitAtNode_branch_child (pk : Nibs) (v : Option Bytes) (cs : Nib → Trie)
    (i j : Nib) (rest : Nibs) (n : Nat) :
    clearPrefixLimitAtNode (branch pk v cs) (pk ++ i :: j :: rest) n =
      if (clearPrefixLimitAtNode (cs i) (j :: rest) n).2.1 = 0 then
        (branch pk v cs, 0, (clearPrefixLimitAtNode (cs i) (j :: rest) n).2.2)
      else (handleDeletion pk v (setChild cs i (clearPrefixLimitAtNode (cs i) (j :: rest) n).1)
        (pk ++ i :: j :: rest), (clearPrefixLimitAtNode (cs i) (j :: rest) n).2) := by
  have hB : (decide ((pk ++ i :: j :: rest).length = pk.length + 1) &&
      (pk ++ i :: j :: rest).dropLast == pk) = false := by simp
  simp only [clearPrefixLimitAtNode, append_cons_isPrefixOf_self, hB, not_proper_of_prefix,
    Bool.false_eq_true, if_false, List.drop_left]

namespace CplSpec

theorem unchanged {t : Trie} {pre : Nibs} (n : Nat) (hc : Canon t)
    (hm : OMap.keysWithPrefix pre (entriesN t) = []) : CplSpec t pre n (t, 0, true) := by
  have hnone : ∀ e ∈ entriesN t, pre.isPrefixOf e.1 = false := fun e he =>
    Bool.eq_false_iff.mpr (List.filter_eq_nil_iff.mp (List.map_eq_nil_iff.mp hm) e he)
  refine ⟨(OMap.dropMatching_none _ _ _ hnone).symm, ?_, ?_, hc⟩ <;> simp [hm]

theorem child {pk : Nibs} {v : Option Bytes} {cs : Nib → Trie} (hc : Canon (branch pk v cs)) (i : Nib)
    {rest : Nibs} {n : Nat} {r : Trie × Nat × Bool} (hr : CplSpec (cs i) rest n r) :
    CplSpec (branch pk v cs) (pk ++ i :: rest) n
      (handleDeletion pk v (setChild cs i r.1) (pk ++ i :: rest), r.2) := by
  obtain ⟨h1, h2, h3, h4⟩ := hr
  refine ⟨?_, ?_, ?_, ?_⟩
  · rw [← entriesN_branch_child_drop pk v cs i rest n r.1 h1]
    exact entriesN_handleDeletion _ _ _ _ fun _ => isPrefixOf_append_self pk (i :: rest)
  · rw [keysWithPrefix_branch_child_length]; exact h2
  · rw [keysWithPrefix_branch_child_length]; exact h3
  · exact (canon_handleDeletion pk v _ _ (canon_setChild hc.1 i h4)
      (canon_branch_after_set hc _ _)).2

end CplSpec

/-- `hn`: at a leaf the Go function ignores the limit (`clearPrefixLimitAtNode (leaf [1] [2]) [] 0 = (nil, 1, true)`);
    the zero limit is caught by the exported method only -/
theorem clearPrefixLimitAtNode_spec (t : Trie) (pre : Nibs) (n : Nat) (hn : 0 < n)
    (hc : Canon t) (hf : Flat pre t) : CplSpec t pre n (clearPrefixLimitAtNode t pre n) := by
  induction t generalizing pre with
  | nil => exact .unchanged n trivial rfl
  | leaf pk v =>
    simp only [clearPrefixLimitAtNode]
    cases h : pre.isPrefixOf pk with
    | true =>
      obtain ⟨m, rfl⟩ : ∃ m, n = m + 1 := ⟨n - 1, by omega⟩
      refine ⟨?_, ?_, ?_, trivial⟩ <;> simp [entriesN, OMap.keysWithPrefix, OMap.dropMatching, h]
      cases m <;> rfl
    | false => exact .unchanged n trivial (by simp [entriesN, OMap.keysWithPrefix, h])
  | branch pk v cs ih =>
    rcases prefix_cases pre pk with hA | ⟨i, rest, rfl⟩ | ⟨h1, h2⟩
    · simp only [clearPrefixLimitAtNode, hA, if_true]
      exact cplSpec_of_dnl (fun e he => isPrefixOf_trans hA (entriesN_branch_prefix he))
        (deleteNodesLimit_spec _ n hc (Flat.nil_of_prefix hA hf))
    · -- the keys with the prefix are those of child `i`
      have hlen := keysWithPrefix_branch_child_length pk v cs i rest
      cases rest with
      | nil =>
        rw [clearPrefixLimitAtNode_branch_slot]
        cases hnil : (cs i).isNil with
        | true =>
          rw [(isNil_iff _).mp hnil] at hlen
          exact .unchanged n hc (List.eq_nil_of_length_eq_zero hlen)
        | false =>
          have hci : cs i ≠ nil := fun e => by rw [e] at hnil; cases hnil
          have hd := deleteNodesLimit_spec (cs i) n (hc.1 i) (Flat.child (rest := []) hf)
          have hEi : 0 < (entriesN (cs i)).length :=
            List.length_pos_iff.mpr fun e => hci (canon_entries_nil (hc.1 i) e)
          have hpos : (deleteNodesLimit (cs i) n).2 ≠ 0 := by rw [hd.count]; omega
          rw [if_neg Bool.false_ne_true, if_neg hpos]
          -- not `exact .child …`: with the result type known first the unifier unfolds
          -- `handleDeletion` before `r` is determined
          have := CplSpec.child hc i (cplSpec_of_dnl (pre := []) (fun _ _ => rfl) hd)
          exact this
      | cons j rest =>
        rw [clearPrefixLimitAtNode_branch_child]
        have hIH := ih i (j :: rest) (hc.1 i) (Flat.child hf)
        split
        · -- nothing was counted below the child, so nothing there has the prefix
          rename_i hz
          have hm : (OMap.keysWithPrefix (j :: rest) (entriesN (cs i))).length = 0 := by
            have := hIH.count; rw [hz] at this; omega
          rw [hIH.flag, hm]
          exact .unchanged n hc (List.eq_nil_of_length_eq_zero (hlen.trans hm))
        · have := CplSpec.child hc i hIH
          exact this
    · simp only [clearPrefixLimitAtNode, h1, dropLast_ne_of_off h2, Bool.and_false,
        lcpLen_lt_of_off h2, decide_true, Bool.or_true, Bool.false_eq_true, if_false, if_true]
      exact .unchanged n hc (OMap.keysWithPrefix_none _ _ fun e he =>
        off_of_diverge h1 h2 (entriesN_branch_prefix he))

end Trie
open Trie

namespace Rep

theorem flat_of_regions {t : Trie} {es : Entries} (h : Rep t es) (p : Bytes)
    (hp : trimRegion p es = false) (hnest : nestedRegion p es = false) :
    Flat (trimZero (toNibs p)) t := by
  intro k1 k2 v1 v2 h1 h2 h3 h4
  obtain ⟨e1, he1, rfl, _⟩ := h.lookup_mem h1
  obtain ⟨e2, he2, rfl, _⟩ := h.lookup_mem h2
  rw [trim_agree hp e1 he1] at h3
  rw [isPrefixOf_toNibs] at h4
  have h5 : p.isPrefixOf e2.1 = true := isPrefixOf_trans h3 h4
  have m1 := (OMap.mem_keysWithPrefix p e1.1 es).mpr ⟨h3, e1.2, he1⟩
  have m2 := (OMap.mem_keysWithPrefix p e2.1 es).mpr ⟨h5, e2.2, he2⟩
  by_cases heq : e1.1 = e2.1
  · rw [heq]
  · exfalso
    have : nestedRegion p es = true := by
      simp only [nestedRegion, List.any_eq_true, Bool.and_eq_true, Bool.not_eq_true', beq_eq_false_iff_ne]
      exact ⟨e1.1, m1, e2.1, m2, h4, heq⟩
    rw [hnest] at this; cases this

theorem clearPrefixLimit {t : Trie} {es : Entries} (h : Rep t es) (p : Bytes) (n : Nat)
    (hp : trimRegion p es = false) (hnest : nestedRegion p es = false) :
    Rep (Trie.clearPrefixLimit t p n).1 (OMap.clearPrefixLimit p n es).1 ∧
    (Trie.clearPrefixLimit t p n).2 = (OMap.clearPrefixLimit p n es).2 := by
  unfold Trie.clearPrefixLimit OMap.clearPrefixLimit
  by_cases hn : n = 0
  · simp [hn, h]
  · simp only [hn, if_false]
    have hpos : 0 < n := Nat.pos_of_ne_zero hn
    rw [keyLEToNibbles_eq]
    obtain ⟨h1, h2, h3, h4⟩ := clearPrefixLimitAtNode_spec t (trimZero (toNibs p)) n hpos h.canon
      (h.flat_of_regions p hp hnest)
    rw [h.entries] at h1 h2 h3
    rw [OMap.dropMatching_mapK_of n (trim_agree hp)] at h1
    rw [OMap.keysWithPrefix_mapK_of (trim_agree hp), List.length_map] at h2 h3
    exact ⟨⟨OMap.sorted_dropMatching p n h.sorted, h4, h1⟩, Prod.ext h2 h3⟩

end Rep
end Gossamer
