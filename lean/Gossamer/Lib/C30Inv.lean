/-
Every primitive of peerstate.go changes the node and the no-slot flag of one peer and moves the two
counters with that peer's slot occupancy: it is an instance of `place`, and the invariant is proved for
`place` once.  The invariant `InvX` carries the slot maxima as an optional clause, because the code
keeps them only for histories that are `safeRun` (known finding unreserve-over-max), and lets the ban
clause be suspended for one peer.
-/
import Gossamer.Lib.C30Rep
import Gossamer.Lib.AList
namespace Gossamer.C30
variable {n : Nat}

/-- the peers fit the uint32 counters `numIn`/`numOut`, so a count of peers never wraps -/
def Fits (n : Nat) : Prop := n ≤ 4294967295

def SameExcept (s s' : PS n) (p : Fin n) : Prop :=
  ∀ q, q ≠ p → s'.nodes q = s.nodes q ∧ s'.noSlot q = s.noSlot q

theorem upd_same {α : Type} (f : Fin n → α) (p : Fin n) (v : α) : upd f p v p = v := by simp [upd]
theorem upd_other {α : Type} (f : Fin n → α) (p q : Fin n) (v : α) (h : q ≠ p) : upd f p v q = f q := by
  simp [upd, h]

theorem upd_self {α : Type} (f : Fin n → α) (p : Fin n) : upd f p (f p) = f := by
  funext q
  by_cases h : q = p
  · rw [h, upd_same]
  · rw [upd_other f p q _ h]

/-- `isInSlot s p` and `isOutSlot s p` are, by definition, `occ .ingoing` / `occ .outgoing` of `s.nodes p`
    and `s.noSlot p` -/
def occ (d : MS) (o : Option Node) (b : Bool) : Bool :=
  match o with
  | some nd => nd.st == d && !b
  | none => false

/-- for `slotGuard` (Lib/C30Ops), which has to be decidable -/
def nodeProp (o : Option Node) (P : Node → Prop) : Prop :=
  match o with
  | some nd => P nd
  | none => True

instance (o : Option Node) (P : Node → Prop) [∀ nd, Decidable (P nd)] : Decidable (nodeProp o P) :=
  match o with
  | some nd => inferInstanceAs (Decidable (P nd))
  | none => isTrue trivial

/-- `cntIn` and `cntOut` are, by definition, `cnt .ingoing` and `cnt .outgoing` -/
def cnt (d : MS) (s : PS n) : Nat := (allPeers n).countP (fun q => occ d (s.nodes q) (s.noSlot q))

theorem cnt_le (d : MS) (s : PS n) : cnt d s ≤ n := by
  have := List.countP_le_length (p := fun q => occ d (s.nodes q) (s.noSlot q)) (l := List.finRange n)
  rwa [List.length_finRange] at this

theorem cnt_point (d : MS) (s s' : PS n) (p : Fin n) (h : SameExcept s s' p) :
    cnt d s' + (occ d (s.nodes p) (s.noSlot p)).toNat = cnt d s + (occ d (s'.nodes p) (s'.noSlot p)).toNat :=
  countP_point (allPeers n) (List.nodup_finRange n) (fun q => occ d (s.nodes q) (s.noSlot q))
    (fun q => occ d (s'.nodes q) (s'.noSlot q)) p (List.mem_finRange p)
    (fun q hq => by simp only [(h q hq).1, (h q hq).2])

/-- how a counter must move when the slot-occupancy of one peer goes from `b` to `b'` -/
def ctrUpd (old : Nat) (b b' : Bool) : Nat :=
  if b = b' then old else if b' then inc32 old else dec32 old

theorem ctrUpd_self (c : Nat) (b : Bool) : ctrUpd c b b = c := if_pos rfl

theorem ctrUpd_eq (hn : Fits n) (c c' : Nat) (b b' : Bool) (h : c' + b.toNat = c + b'.toNat)
    (hc' : c' ≤ n) : ctrUpd c b b' = c' := by
  cases b <;> cases b'
  · exact h.symm
  · cases (show c' = c + 1 from h)
    exact if_neg (Nat.ne_of_lt (Nat.lt_of_lt_of_le hc' hn))
  · cases (show c = c' + 1 from h.symm)
    rfl
  · exact Nat.succ.inj h.symm

structure Inv (s : PS n) : Prop where
  cin : s.numIn = cntIn s
  cout : s.numOut = cntOut s
  noban : ∀ p nd, s.nodes p = some nd → nd.st.connected = true → bannedThreshold ≤ nd.rep
  range : ∀ p nd, s.nodes p = some nd → InRange nd.rep
  resNoSlot : ∀ p, s.reserved p = true → s.noSlot p = true

/-- a step at the point `p`: `s'` differs from `s` in the record of `p` (and the counters) only; the maxima stay -/
structure Pt (s s' : PS n) (p : Fin n) : Prop where
  frame : SameExcept s s' p
  maxIn : s'.maxIn = s.maxIn
  maxOut : s'.maxOut = s.maxOut

theorem Pt.trans {s s' s'' : PS n} {p : Fin n} (h1 : Pt s s' p) (h2 : Pt s' s'' p) : Pt s s'' p :=
  ⟨fun q hq => ⟨((h2.frame q hq).1).trans (h1.frame q hq).1, ((h2.frame q hq).2).trans (h1.frame q hq).2⟩,
   h2.maxIn.trans h1.maxIn, h2.maxOut.trans h1.maxOut⟩

def place (s : PS n) (p : Fin n) (o : Option Node) (b : Bool) : PS n :=
  { s with nodes := upd s.nodes p o, noSlot := upd s.noSlot p b,
           numIn := ctrUpd s.numIn (occ .ingoing (s.nodes p) (s.noSlot p)) (occ .ingoing o b),
           numOut := ctrUpd s.numOut (occ .outgoing (s.nodes p) (s.noSlot p)) (occ .outgoing o b) }

@[simp] theorem place_nodes_self (s : PS n) (p : Fin n) (o : Option Node) (b : Bool) :
    (place s p o b).nodes p = o := upd_same _ _ _
@[simp] theorem place_noSlot_self (s : PS n) (p : Fin n) (o : Option Node) (b : Bool) :
    (place s p o b).noSlot p = b := upd_same _ _ _

theorem place_pt (s : PS n) (p : Fin n) (o : Option Node) (b : Bool) : Pt s (place s p o b) p :=
  ⟨fun _ hq => ⟨upd_other _ _ _ _ hq, upd_other _ _ _ _ hq⟩, rfl, rfl⟩

theorem cnt_place (hn : Fits n) (d : MS) (s : PS n) (p : Fin n) (o : Option Node) (b : Bool) (c : Nat)
    (hc : c = cnt d s) :
    ctrUpd c (occ d (s.nodes p) (s.noSlot p)) (occ d o b) = cnt d (place s p o b) := by
  subst hc
  have h := cnt_point d s _ p (place_pt s p o b).frame
  rw [place_nodes_self, place_noSlot_self] at h
  exact ctrUpd_eq hn _ _ _ _ h (cnt_le _ _)

def SlotsOk (s : PS n) : Prop := s.numIn ≤ s.maxIn ∧ s.numOut ≤ s.maxOut

/-- node `o` with no-slot flag `b` does not put `p` into a slot of `s` unless `p` has it already or one is free -/
def Free (s : PS n) (p : Fin n) (o : Option Node) (b : Bool) : Prop :=
  (occ .ingoing o b = true → occ .ingoing (s.nodes p) (s.noSlot p) = true ∨ s.numIn < s.maxIn) ∧
  (occ .outgoing o b = true → occ .outgoing (s.nodes p) (s.noSlot p) = true ∨ s.numOut < s.maxOut)

theorem cnt_point_le (d : MS) {s s' : PS n} {p : Fin n} (h : SameExcept s s' p) (m : Nat) (hm : cnt d s ≤ m)
    (hf : occ d (s'.nodes p) (s'.noSlot p) = true → occ d (s.nodes p) (s.noSlot p) = true ∨ cnt d s < m) :
    cnt d s' ≤ m := by
  have e := cnt_point d s s' p h
  cases hb' : occ d (s'.nodes p) (s'.noSlot p) with
  | false => rw [hb'] at e; exact Nat.le_trans (Nat.le.intro e) hm
  | true =>
    rw [hb'] at e
    cases hf hb' with
    | inl hb => rw [hb] at e; exact Nat.succ.inj e ▸ hm
    | inr hlt => exact Nat.le_trans (Nat.le.intro e) hlt

theorem slots_point {s s' : PS n} {p : Fin n} (hin : s.numIn = cntIn s) (hout : s.numOut = cntOut s)
    (hin' : s'.numIn = cntIn s') (hout' : s'.numOut = cntOut s') (hpt : Pt s s' p) (hS : SlotsOk s)
    (hf : Free s p (s'.nodes p) (s'.noSlot p)) : SlotsOk s' := by
  unfold SlotsOk
  rw [hpt.maxIn, hpt.maxOut, hin', hout']
  have h1 := hS.1
  have h2 := hS.2
  have f1 := hf.1
  have f2 := hf.2
  rw [hin] at h1 f1
  rw [hout] at h2 f2
  exact ⟨cnt_point_le .ingoing hpt.frame _ h1 f1, cnt_point_le .outgoing hpt.frame _ h2 f2⟩

/-- `Inv`, the configured maxima `mi`, `mo` (parameters: what `run_inv2` says a history leaves as they
    were), and, under `K`, the slot maxima (`K` is `False` where only `Inv` is wanted and `True` under
    `safeRun`).  For `x = some p` the ban clause is suspended for peer `p`: the state between a
    reputation change and the disconnect that follows it. -/
structure InvX (K : Prop) (mi mo : Nat) (x : Option (Fin n)) (s : PS n) : Prop where
  cin : s.numIn = cntIn s
  cout : s.numOut = cntOut s
  noban : ∀ p nd, x ≠ some p → s.nodes p = some nd → nd.st.connected = true → bannedThreshold ≤ nd.rep
  range : ∀ p nd, s.nodes p = some nd → InRange nd.rep
  resNoSlot : ∀ p, s.reserved p = true → s.noSlot p = true
  maxIn : s.maxIn = mi
  maxOut : s.maxOut = mo
  slots : K → SlotsOk s

theorem Inv.toX {s : PS n} (h : Inv s) : InvX False s.maxIn s.maxOut none s :=
  ⟨h.cin, h.cout, fun p nd _ => h.noban p nd, h.range, h.resNoSlot, rfl, rfl, False.elim⟩

section prims
variable {K : Prop} {mi mo : Nat} {s : PS n} {p : Fin n}

theorem InvX.inv (h : InvX K mi mo none s) : Inv s :=
  ⟨h.cin, h.cout, fun p nd => h.noban p nd (fun e => nomatch e), h.range, h.resNoSlot⟩

theorem InvX.suspend (h : InvX K mi mo none s) (p : Fin n) : InvX K mi mo (some p) s :=
  { h with noban := fun q nd _ => h.noban q nd (fun e => nomatch e) }

theorem InvX.resume (h : InvX K mi mo (some p) s)
    (hx : ∀ nd, s.nodes p = some nd → nd.st.connected = true → bannedThreshold ≤ nd.rep) :
    InvX K mi mo none s :=
  { h with noban := fun q nd _ hq hc =>
      if e : q = p then hx nd (e ▸ hq) hc
      else h.noban q nd (fun e' => e (Option.some.inj e').symm) hq hc }

theorem InvX.setReserved {x : Option (Fin n)} (h : InvX K mi mo x s) (p : Fin n) (r : Bool)
    (hr : r = true → s.noSlot p = true) : InvX K mi mo x { s with reserved := upd s.reserved p r } :=
  { h with resNoSlot := fun q hq => (by
      by_cases e : q = p
      · subst e; exact hr ((upd_same _ _ _).symm.trans hq)
      · exact h.resNoSlot q ((upd_other _ _ _ _ e).symm.trans hq)) }

theorem place_suspended (hn : Fits n) (h : InvX K mi mo (some p) s) (o : Option Node) (b : Bool)
    (hres : s.reserved p = true → b = true) (ho : ∀ nd, o = some nd → InRange nd.rep)
    (hf : K → Free s p o b) : InvX K mi mo (some p) (place s p o b) := by
  have hin := cnt_place hn .ingoing s p o b _ h.cin
  have hout := cnt_place hn .outgoing s p o b _ h.cout
  have fr := (place_pt s p o b).frame
  refine ⟨hin, hout, ?_, ?_, ?_, h.maxIn, h.maxOut, fun k =>
    slots_point h.cin h.cout hin hout (place_pt s p o b) (h.slots k)
      (by rw [place_nodes_self, place_noSlot_self]; exact hf k)⟩
  · intro q nd e hq
    have e' : q ≠ p := fun e' => e (e' ▸ rfl)
    rw [(fr q e').1] at hq
    exact h.noban q nd e hq
  · intro q nd hq
    by_cases e : q = p
    · subst e; rw [place_nodes_self] at hq; exact ho nd hq
    · rw [(fr q e).1] at hq; exact h.range q nd hq
  · intro q hq
    by_cases e : q = p
    · subst e; rw [place_noSlot_self]; exact hres hq
    · rw [(fr q e).2]; exact h.resNoSlot q hq

theorem place_invX (hn : Fits n) (h : InvX K mi mo none s) (o : Option Node) (b : Bool)
    (hres : s.reserved p = true → b = true)
    (ho : ∀ nd, o = some nd → InRange nd.rep ∧ (nd.st.connected = true → bannedThreshold ≤ nd.rep))
    (hf : K → Free s p o b) : InvX K mi mo none (place s p o b) :=
  (place_suspended hn (h.suspend p) o b hres (fun nd e => (ho nd e).1) hf).resume
    (fun nd e => by rw [place_nodes_self] at e; exact (ho nd e).2)

/-- `hnd` with a variable `o0`: the callers have split on `s.nodes p`, after which `hin`, `hout` are `rfl`
    about the value of the case, not about `s.nodes p` -/
theorem setNode_susp (hn : Fits n) (h : InvX K mi mo none s) {o0 : Option Node} (hnd : s.nodes p = o0)
    (o : Option Node) (hin : occ .ingoing o (s.noSlot p) = occ .ingoing o0 (s.noSlot p))
    (hout : occ .outgoing o (s.noSlot p) = occ .outgoing o0 (s.noSlot p))
    (ho : ∀ nd, o = some nd → InRange nd.rep) : InvX K mi mo (some p) (setNode s p o) := by
  subst hnd
  have e : setNode s p o = place s p o (s.noSlot p) := by
    unfold place
    rw [hin, hout, ctrUpd_self, ctrUpd_self, upd_self]
    rfl
  rw [e]
  exact place_suspended hn (h.suspend p) o _ (h.resNoSlot p) ho
    (fun _ => ⟨fun e => .inl (hin ▸ e), fun e => .inl (hout ▸ e)⟩)

theorem setNode_invX (hn : Fits n) (h : InvX K mi mo none s) {o0 : Option Node} (hnd : s.nodes p = o0)
    (o : Option Node) (hin : occ .ingoing o (s.noSlot p) = occ .ingoing o0 (s.noSlot p))
    (hout : occ .outgoing o (s.noSlot p) = occ .outgoing o0 (s.noSlot p))
    (ho : ∀ nd, o = some nd → InRange nd.rep ∧ (nd.st.connected = true → bannedThreshold ≤ nd.rep)) :
    InvX K mi mo none (setNode s p o) :=
  (setNode_susp hn h hnd o hin hout (fun nd e => (ho nd e).1)).resume
    (fun nd e => (ho nd ((upd_same _ _ _).symm.trans e)).2)

end prims

end Gossamer.C30
