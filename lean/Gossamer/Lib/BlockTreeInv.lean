import Gossamer.Lib.BlockTreeOps
import Gossamer.Lib.BlockTreeNumbers

namespace Gossamer.BlockTree

/-- what holds of every reachable tree.  `leavesMem` is set equality and `leavesNodup` makes it a permutation
    (`Inv.leaves_perm`): the order of the leaf map is left free, it is what C16's `it` ranges over. -/
structure Inv (bt : BT) : Prop where
  nodup : (descF [bt.root]).Nodup
  nums : LinkedNums [bt.root]
  leavesNodup : (bt.leaves.map (·.hash)).Nodup
  leavesMem : ∀ x, x ∈ bt.leaves ↔ x ∈ leavesF [bt.root]

theorem inv_init (h n a : Nat) : Inv (NewBlockTreeFromRoot h n a) := by
  constructor <;> simp [NewBlockTreeFromRoot, descF, LinkedNums, subsF, leavesF]

theorem Inv.leaves_perm {bt : BT} (hi : Inv bt) : bt.leaves.Perm (leavesF [bt.root]) :=
  (List.perm_ext_iff_of_nodup (nodup_of_map hi.leavesNodup)
    (nodup_of_map (leaves_hash_nodup hi.nodup))).2 hi.leavesMem

theorem leafStore_fresh {v : Info} {l : List Info} (h : v.hash ∉ l.map (·.hash)) : leafStore v l = l ++ [v] := by
  have : l.any (fun x => decide (x.hash = v.hash)) = false :=
    List.any_eq_false.2 fun x hx e => h (List.mem_map.2 ⟨x, hx, of_decide_eq_true e⟩)
  rw [leafStore, this]; rfl

theorem foldl_store : ∀ (l acc : List Info), ((acc ++ l).map (·.hash)).Nodup →
    l.foldl (fun m x => leafStore x m) acc = acc ++ l := by
  intro l
  induction l with
  | nil => simp
  | cons x xs ih =>
    intro acc hd
    have hx : x.hash ∉ acc.map (·.hash) := fun hm => by
      rw [List.map_append, List.nodup_append] at hd
      exact hd.2.2 _ hm _ (List.mem_map_of_mem (.head _)) rfl
    rw [List.foldl_cons, leafStore_fresh hx, ih (acc ++ [x]) (by simpa using hd), List.append_assoc]; rfl

theorem leafReplace_eq {l : List Info} {p n : Info} (hn : n.hash ∉ l.map (·.hash)) :
    leafReplace l p n = l.filter (fun x => x.hash ≠ p.hash) ++ [n] :=
  leafStore_fresh fun hm => hn ((List.filter_sublist.map _).subset hm)

theorem addBlock_ok {bt bt' : BT} {hd : Header} {arr : Nat} (h : bt.addBlock hd arr = .ok bt') :
    ∃ p prim, findF hd.parent [bt.root] = some p ∧ findF hd.hash [bt.root] = none ∧
      p.info.number + 1 = hd.number ∧ hd.kind = some prim ∧
      bt' = ⟨bt.root.addChild hd.parent (.mk ⟨hd.hash, hd.number, arr, prim⟩ []),
             leafReplace bt.leaves p.info ⟨hd.hash, hd.number, arr, prim⟩⟩ := by
  unfold BT.addBlock BT.getNode at h
  cases hp : findF hd.parent [bt.root] with
  | none => simp [hp] at h
  | some p =>
    simp only [hp] at h
    cases hh : findF hd.hash [bt.root] with
    | some x => simp [hh] at h
    | none =>
      simp only [hh, Option.isSome_none, Bool.false_eq_true, if_false] at h
      by_cases hnum : p.info.number + 1 = hd.number
      · have h0 : hd.number ≠ 0 := by omega
        simp only [hnum, ne_eq, not_true_eq_false, if_false, h0, not_false_eq_true, if_true] at h
        cases hk : hd.kind with
        | none => simp [hk] at h
        | some prim =>
          simp only [hk] at h
          cases h
          exact ⟨p, prim, rfl, rfl, hnum, rfl, rfl⟩
      · simp [hnum] at h

theorem inv_add {bt bt' : BT} {hd : Header} {arr : Nat} (hi : Inv bt) (h : bt.addBlock hd arr = .ok bt') :
    Inv bt' := by
  obtain ⟨p, prim, hp, hh, hnum, hk, rfl⟩ := addBlock_ok h
  have hpm : hd.parent ∈ descF [bt.root] := findF_mem hp
  generalize hn : (⟨hd.hash, hd.number, arr, prim⟩ : Info) = n
  have hfresh : n.hash ∉ descF [bt.root] := by rw [← hn]; exact findF_none.1 hh
  have hnl : n.hash ∉ bt.leaves.map (·.hash) := by
    intro hm
    obtain ⟨x, hx, he⟩ := List.mem_map.1 hm
    exact hfresh (he ▸ leaf_hash_mem ((hi.leavesMem x).1 hx))
  refine ⟨nodup_addChild hi.nodup hpm hfresh,
    linkedNums_addChild hi.nodup hp hfresh (by rw [← hn]; exact hnum.symm) hi.nums, ?_, fun x => ?_⟩
  · show ((leafReplace bt.leaves p.info n).map (·.hash)).Nodup
    rw [leafReplace_eq hnl, List.map_append]
    exact nodup_snoc ((List.filter_sublist.map _).nodup hi.leavesNodup)
      fun hm => hnl ((List.filter_sublist.map _).subset hm)
  · show x ∈ leafReplace bt.leaves p.info n ↔ x ∈ leavesF [bt.root.addChild hd.parent (.mk n [])]
    rw [leafReplace_eq hnl, mem_leaves_addChild hi.nodup hpm hfresh]
    simp only [List.mem_append, List.mem_filter, List.mem_singleton, hi.leavesMem, (findF_some hp).2]
    simp

theorem prune_cases (bt : BT) (fh : Hash) :
    (fh = bt.root.info.hash ∨ findF fh [bt.root] = none) ∧ bt.prune fh = (bt, []) ∨
    ∃ n, fh ≠ bt.root.info.hash ∧ findF fh [bt.root] = some n ∧
      bt.prune fh = (⟨n, (leavesF [n]).foldl (fun m l => leafStore l m) []⟩, pruneF n [bt.root]) := by
  unfold BT.prune BT.getNode
  by_cases h : fh = bt.root.info.hash
  · simp [h]
  · cases hf : findF fh [bt.root] with
    | none => simp [h]
    | some n => exact Or.inr ⟨n, h, rfl, by simp [h]⟩

theorem inv_prune {bt : BT} (hi : Inv bt) (fh : Hash) : Inv (bt.prune fh).1 := by
  rcases prune_cases bt fh with ⟨_, h⟩ | ⟨n, hne, hf, h⟩
  · rw [h]; exact hi
  · rw [h]
    have hns : n ∈ subsF [bt.root] := (findF_some hf).1
    have hnd : (descF [n]).Nodup := (subs_sublist hns).nodup hi.nodup
    have hl := foldl_store (leavesF [n]) [] (by simpa using leaves_hash_nodup hnd)
    constructor
    · exact hnd
    · exact hi.nums.subs hns
    · show (((leavesF [n]).foldl (fun m l => leafStore l m) []).map (·.hash)).Nodup
      rw [hl]; simpa using leaves_hash_nodup hnd
    · intro x
      show x ∈ (leavesF [n]).foldl (fun m l => leafStore l m) [] ↔ x ∈ leavesF [n]
      rw [hl]; simp

theorem Inv.numOK {bt : BT} (hi : Inv bt) : numOKF bt.root.info.number [bt.root] :=
  ⟨fun c hc => by rw [List.mem_singleton.1 hc], hi.nums⟩

theorem Inv.number_ge {bt : BT} (hi : Inv bt) : ∀ x ∈ infosF [bt.root], bt.root.info.number ≤ x.number :=
  numOKF_ge hi.numOK

end Gossamer.BlockTree
