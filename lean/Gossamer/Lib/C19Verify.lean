/-
C19: base selection, the GHOST walk as the relation `Run` (`walk` computes it), the visited-headers loop; at the end the two
functions of the call site `VerifyBlockJustification`: `setIdLoop` (`setIdLoop_spec`) and `resign` (`mem_resign`).
-/
import Gossamer.Model.C19
import Gossamer.Lib.C19Chain
namespace Gossamer.C19

theorem minPre_none {l : List Pre} (h : minPre l = none) : l = [] := by
  cases l with
  | nil => rfl
  | cons p ps =>
    rw [minPre] at h
    split at h
    · cases h
    · split at h <;> cases h

theorem minPre_spec : ∀ (l : List Pre) (b : Pre), minPre l = some b →
    b ∈ l ∧ ∀ p ∈ l, b.num ≤ p.num := by
  intro l
  induction l with
  | nil => exact nofun
  | cons p ps ih =>
    intro b h
    rw [minPre] at h
    cases hm : minPre ps with
    | none =>
      rw [hm] at h; cases h
      rw [minPre_none hm]
      exact ⟨List.mem_cons_self, List.forall_mem_cons.2 ⟨Nat.le_refl _, nofun⟩⟩
    | some q =>
      simp only [hm] at h
      obtain ⟨hq, hall⟩ := ih q hm
      by_cases hlt : q.num < p.num
      · rw [if_pos hlt] at h; cases h
        exact ⟨List.mem_cons_of_mem _ hq, List.forall_mem_cons.2 ⟨Nat.le_of_lt hlt, hall⟩⟩
      · rw [if_neg hlt] at h; cases h
        exact ⟨List.mem_cons_self, List.forall_mem_cons.2 ⟨Nat.le_refl _, fun x hx =>
          Nat.le_trans (Nat.le_of_not_lt hlt) (hall x hx)⟩⟩

theorem lastMin_spec : ∀ (l : List Pre) (m r : Pre), lastMin (some m) l = some r →
    r ∈ m :: l ∧ ∀ p ∈ m :: l, r.num ≤ p.num := by
  intro l
  induction l with
  | nil => intro m r h; cases h; exact ⟨List.mem_cons_self, List.forall_mem_cons.2 ⟨Nat.le_refl _, nofun⟩⟩
  | cons p ps ih =>
    intro m r h
    rw [lastMin] at h
    by_cases hle : p.num ≤ m.num
    · rw [if_pos hle] at h
      obtain ⟨a, b⟩ := ih p r h
      exact ⟨List.mem_cons_of_mem _ a, List.forall_mem_cons.2 ⟨Nat.le_trans (b p List.mem_cons_self) hle, b⟩⟩
    · rw [if_neg hle] at h
      obtain ⟨a, b⟩ := ih m r h
      simp only [List.mem_cons, forall_eq_or_imp] at a b ⊢
      exact ⟨a.imp_right Or.inr, b.1, Nat.le_trans b.1 (Nat.le_of_lt (Nat.lt_of_not_le hle)), b.2⟩

theorem lastMin_none_spec {l : List Pre} {r : Pre} (h : lastMin none l = some r) :
    r ∈ l ∧ ∀ p ∈ l, r.num ≤ p.num := by
  cases l with
  | nil => cases h
  | cons p ps => exact lastMin_spec ps p r h

theorem lastMin_isSome : ∀ (l : List Pre) (m : Pre), ∃ r, lastMin (some m) l = some r := by
  intro l
  induction l with
  | nil => exact fun m => ⟨m, rfl⟩
  | cons p ps ih =>
    intro m
    rw [lastMin]
    split
    · exact ih p
    · exact ih m

/-- the shortcut for a precommit on the base itself is the empty route -/
theorem visitLoop_cons (c : Chain) (base : Nat) (p : Pre) (ps : List Pre) (vis : List Nat) :
    visitLoop c base (p :: ps) vis =
      if !p.sigok then .error .errSig else match pathTo c base p.blk with
        | none => .error .errAncestry
        | some path => visitLoop c base ps (path ++ vis) := by
  rw [visitLoop]
  by_cases hb : base = p.blk
  · rw [if_pos hb, ← hb, pathTo_self]; rfl
  · rw [if_neg hb]; cases pathTo c base p.blk <;> rfl

theorem visitLoop_spec (c : Chain) (base : Nat) : ∀ (l : List Pre) (vis vis' : List Nat),
    visitLoop c base l vis = .ok vis' →
    (∀ p ∈ l, p.sigok = true ∧ ∃ path, pathTo c base p.blk = some path) ∧
    (∀ h, h ∈ vis' ↔ h ∈ vis ∨ ∃ p ∈ l, ∃ path, pathTo c base p.blk = some path ∧ h ∈ path) := by
  intro l
  induction l with
  | nil =>
    intro vis vis' h
    cases h
    exact ⟨nofun, fun h => ⟨Or.inl, fun h' => h'.elim id fun ⟨_, hp, _⟩ => nomatch hp⟩⟩
  | cons p ps ih =>
    intro vis vis' h
    rw [visitLoop_cons] at h
    by_cases hsig : (!p.sigok) = true
    · rw [if_pos hsig] at h; cases h
    rw [if_neg hsig] at h
    cases hpt : pathTo c base p.blk with
    | none => rw [hpt] at h; cases h
    | some path =>
      rw [hpt] at h
      obtain ⟨a, b⟩ := ih _ vis' h
      refine ⟨List.forall_mem_cons.2 ⟨⟨by simpa using hsig, path, hpt⟩, a⟩, fun hh => ?_⟩
      rw [b hh, List.mem_append]
      constructor
      · rintro ((h1 | h1) | ⟨x, hx, h2⟩)
        · exact Or.inr ⟨p, List.mem_cons_self, path, hpt, h1⟩
        · exact Or.inl h1
        · exact Or.inr ⟨x, List.mem_cons_of_mem _ hx, h2⟩
      · rintro (h1 | ⟨x, hx, path', hp, hm⟩)
        · exact Or.inl (Or.inr h1)
        · rcases List.mem_cons.1 hx with rfl | hx
          · cases hpt.symm.trans hp
            exact Or.inl (Or.inl hm)
          · exact Or.inr ⟨x, hx, path', hp, hm⟩

theorem visitLoop_error (c : Chain) (base : Nat) : ∀ (l : List Pre) (vis : List Nat) (e : JRes),
    visitLoop c base l vis = .error e → e = .errSig ∨ e = .errAncestry := by
  intro l
  induction l with
  | nil => exact nofun
  | cons p ps ih =>
    intro vis e h
    rw [visitLoop_cons] at h
    by_cases hsig : (!p.sigok) = true
    · rw [if_pos hsig] at h; cases h; exact Or.inl rfl
    rw [if_neg hsig] at h
    cases hpt : pathTo c base p.blk with
    | none => rw [hpt] at h; cases h; exact Or.inr rfl
    | some path => rw [hpt] at h; exact ih _ _ h

theorem visitLoop_ok (c : Chain) (base : Nat) : ∀ (l : List Pre) (vis : List Nat),
    (∀ p ∈ l, p.sigok = true ∧ ∃ path, pathTo c base p.blk = some path) →
    ∃ vis', visitLoop c base l vis = .ok vis' := by
  intro l
  induction l with
  | nil => exact fun vis _ => ⟨vis, rfl⟩
  | cons p ps ih =>
    intro vis h
    obtain ⟨⟨hsig, path, hpath⟩, hrest⟩ := List.forall_mem_cons.1 h
    rw [visitLoop_cons, hsig, hpath]
    exact ih _ hrest

theorem sameSet_iff (a b : List Nat) : sameSet a b = true ↔ ∀ h, h ∈ a ↔ h ∈ b := by
  unfold sameSet
  simp only [Bool.and_eq_true, List.all_eq_true, decide_eq_true_eq]
  constructor
  · rintro ⟨h1, h2⟩ h; exact ⟨h1 h, h2 h⟩
  · intro h; exact ⟨fun x hx => (h x).1 hx, fun x hx => (h x).2 hx⟩

theorem mem_dedup (l : List Nat) (x : Nat) : x ∈ dedup l ↔ x ∈ l := by
  induction l with
  | nil => simp [dedup]
  | cons y ys ih =>
    simp only [dedup]
    split
    · rename_i hy
      rw [ih]
      constructor
      · intro h; simp [h]
      · intro h
        rcases List.mem_cons.1 h with rfl | h
        · exact hy
        · exact h
    · simp [ih]

theorem mem_children {c : Chain} {tr : List Tracked} {cur x : Nat} :
    x ∈ children c tr cur ↔ c.step x = some cur ∧ ∃ t ∈ tr, desc c x t.first.blk = true := by
  unfold children
  rw [mem_dedup, List.mem_filterMap]
  simp only [childToward_iff]
  exact ⟨fun ⟨t, ht, hs, hd⟩ => ⟨hs, t, ht, hd⟩, fun ⟨hs, t, ht, hd⟩ => ⟨t, ht, hs, hd⟩⟩

theorem mem_condChildren {vs : VoterSet} {c : Chain} {tr : List Tracked} {cur x : Nat} :
    x ∈ condChildren vs c tr cur ↔ c.step x = some cur ∧ (∃ t ∈ tr, desc c x t.first.blk = true) ∧
      vs.threshold ≤ weightOn vs c tr x := by
  unfold condChildren
  simp only [List.mem_filter, mem_children, decide_eq_true_eq, and_assoc]

theorem condChildren_step {vs : VoterSet} {c : Chain} {tr : List Tracked} {cur x : Nat}
    (h : x ∈ condChildren vs c tr cur) : c.step x = some cur :=
  (mem_condChildren.1 h).1

/-- what is asked of `pick`, the resolution of the vote graph's child order.  The Go code takes the first child in the
    graph's order, which is legal; so are `pickToward`, `pickAway`. -/
def LegalPick (pick : List Nat → Nat) : Prop := ∀ l, l ≠ [] → pick l ∈ l

inductive Run (pick : List Nat → Nat) (vs : VoterSet) (c : Chain) (tr : List Tracked) : Nat → Nat → Prop
  | stop {cur : Nat} : condChildren vs c tr cur = [] → Run pick vs c tr cur cur
  | step {cur g : Nat} : condChildren vs c tr cur ≠ [] →
      Run pick vs c tr (pick (condChildren vs c tr cur)) g → Run pick vs c tr cur g

section
variable {pick pick' : List Nat → Nat} {vs : VoterSet} {c : Chain} {tr : List Tracked}

/-- fuel for the way down: a child has a higher `upBound` than its parent, and none exceeds `c.par.length + 1` -/
theorem walk_run (hp : LegalPick pick) : ∀ (f cur : Nat), c.par.length + 1 ≤ f + upBound c cur →
    Run pick vs c tr cur (walk pick vs c tr f cur) := by
  intro f
  induction f with
  | zero =>
    intro cur hd
    refine .stop (List.eq_nil_iff_forall_not_mem.2 fun x hx => ?_)
    have := upBound_step (condChildren_step hx)
    have := upBound_le c x
    omega
  | succ f ih =>
    intro cur hd
    rw [walk]
    cases hcc : condChildren vs c tr cur with
    | nil => exact .stop hcc
    | cons y ys =>
      have hne : condChildren vs c tr cur ≠ [] := by rw [hcc]; exact List.cons_ne_nil _ _
      have := upBound_step (condChildren_step (hp _ hne))
      refine .step hne ?_
      rw [hcc] at this ⊢
      exact ih _ (by omega)

theorem ghost_run (hp : LegalPick pick) (cur : Nat) :
    Run pick vs c tr cur (walk pick vs c tr (c.par.length + 1) cur) :=
  walk_run hp _ cur (Nat.le_add_right _ _)

theorem Run.det {cur g g' : Nat} (h : Run pick vs c tr cur g) (h' : Run pick vs c tr cur g') : g = g' := by
  induction h with
  | stop hn => cases h' with
    | stop _ => rfl
    | step hne _ => exact absurd hn hne
  | step hne _ ih => cases h' with
    | stop hn => exact absurd hn hne
    | step _ h2 => exact ih h2

theorem Run.walk (hp : LegalPick pick) {cur g : Nat} (h : Run pick vs c tr cur g) :
    walk pick vs c tr (c.par.length + 1) cur = g :=
  (ghost_run hp cur).det h

theorem Run.terminal {cur g : Nat} (h : Run pick vs c tr cur g) : ∀ x, x ∉ condChildren vs c tr g := by
  induction h with
  | stop hn => exact fun x => hn ▸ List.not_mem_nil
  | step _ _ ih => exact ih

theorem Run.spec (hp : LegalPick pick) {start g : Nat} (h : Run pick vs c tr start g) :
    desc c start g = true ∧
    (vs.threshold ≤ weightOn vs c tr start → vs.threshold ≤ weightOn vs c tr g) ∧
    (g = start ∨ ∃ t ∈ tr, desc c g t.first.blk = true) := by
  induction h with
  | stop _ => exact ⟨desc_refl _ _, id, Or.inl rfl⟩
  | step hne _ ih =>
    obtain ⟨hstep, ⟨t, ht, hdesc⟩, hw⟩ := mem_condChildren.1 (hp _ hne)
    obtain ⟨a, b, d⟩ := ih
    exact ⟨desc_trans (desc_iff.2 (Up.step hstep (Up.refl _))) a, fun _ => b hw,
      Or.inr (d.elim (fun e => ⟨t, ht, e ▸ hdesc⟩) id)⟩

/-- a run that ends in `t` is also a run of any `pick'` that agrees with `pick` wherever `pick` steps towards `t` -/
theorem Run.of_pick (hp : LegalPick pick) {t : Nat}
    (hagree : ∀ cur, condChildren vs c tr cur ≠ [] → desc c (pick (condChildren vs c tr cur)) t = true →
      pick' (condChildren vs c tr cur) = pick (condChildren vs c tr cur))
    {cur g : Nat} (h : Run pick vs c tr cur g) (hg : g = t) : Run pick' vs c tr cur t := by
  induction h with
  | stop hn => exact hg ▸ .stop hn
  | @step cur g hne h ih =>
    refine .step hne ?_
    rw [hagree cur hne (hg ▸ (h.spec hp).1)]
    exact ih hg

/-- completeness of the walk: it ends in `t` when no child of `t` qualifies (`hterm`) and, at every block above `t`, the
    child towards `t` qualifies and is the only one that does (`hstep`) -/
theorem Run.reach (hp : LegalPick pick) {t : Nat} (hterm : ∀ x, x ∉ condChildren vs c tr t)
    (hstep : ∀ cur x, Up c t x → c.step x = some cur →
      x ∈ condChildren vs c tr cur ∧ ∀ z ∈ condChildren vs c tr cur, z = x)
    {cur g : Nat} (h : Run pick vs c tr cur g) (hu : Up c t cur) : g = t := by
  induction h with
  | @stop cur hn =>
    -- a block above `t` has the child towards `t` among its qualifying children
    apply Classical.byContradiction
    intro hcur
    obtain ⟨x, hx, hux⟩ := hu.child hcur
    have := (hstep cur x hux hx).1
    rw [hn] at this; cases this
  | @step cur g hne _ ih =>
    by_cases hcur : cur = t
    · exact absurd (hp _ hne) (hcur ▸ hterm _)
    · obtain ⟨x, hx, hux⟩ := hu.child hcur
      exact ih ((hstep cur x hux hx).2 _ (hp _ hne) ▸ hux)

end

/-- `GetSetIDByBlockNumber`: the set id `j` returned for block number `n` satisfies `change j < n ≤ change (j+1)` (no lower
    bound for set 0, no upper bound for the last set).  The second hypothesis is the loop invariant: the set above
    `curr + 1` starts at or after `n`. -/
theorem setIdLoop_spec (g : GState) (n : Nat) : ∀ (fuel curr j : Nat), curr + 1 ≤ fuel →
    (g.changeAt (curr + 2) = none ∨ ∃ u, g.changeAt (curr + 2) = some u ∧ n ≤ u) →
    setIdLoop g n fuel curr = some j →
    (j = 0 ∨ ∃ l, g.changeAt j = some l ∧ l < n) ∧
    (g.changeAt (j + 1) = none ∨ ∃ u, g.changeAt (j + 1) = some u ∧ n ≤ u) := by
  intro fuel
  induction fuel with
  | zero => intro curr j hf; omega
  | succ fuel ih =>
    intro curr j hf hq h
    -- the loop goes on with `curr - 1`, whose upper neighbour is `curr + 1`
    have next : curr ≠ 0 → (g.changeAt (curr + 1) = none ∨ ∃ u, g.changeAt (curr + 1) = some u ∧ n ≤ u) →
        setIdLoop g n fuel (curr - 1) = some j → _ := fun h0 hq' h' =>
      ih (curr - 1) j (by omega) (by rwa [show curr - 1 + 2 = curr + 1 by omega]) h'
    rw [setIdLoop] at h
    cases hu : g.changeAt (curr + 1) with
    | none =>
      simp only [hu] at h
      by_cases h0 : curr = 0
      · rw [if_pos h0] at h; cases h
        exact ⟨Or.inl rfl, Or.inl (h0 ▸ hu)⟩
      · rw [if_neg h0] at h
        exact next h0 (Or.inl hu) h
    | some upper =>
      simp only [hu] at h
      cases hl : g.changeAt curr with
      | none => rw [hl] at h; cases h
      | some lower =>
        simp only [hl] at h
        by_cases hc : n ≤ upper ∧ lower < n
        · rw [if_pos hc] at h; cases h
          exact ⟨Or.inr ⟨lower, hl, hc.2⟩, Or.inr ⟨upper, hu, hc.1⟩⟩
        rw [if_neg hc] at h
        by_cases hgt : upper < n
        · rw [if_pos hgt] at h; cases h
          exact ⟨Or.inr ⟨upper, hu, hgt⟩, hq⟩
        rw [if_neg hgt] at h
        by_cases h0 : curr = 0
        · rw [if_pos h0] at h; cases h
          exact ⟨Or.inl rfl, Or.inr ⟨upper, h0 ▸ hu, Nat.le_of_not_lt hgt⟩⟩
        · rw [if_neg h0] at h
          exact next h0 (Or.inr ⟨upper, hu, Nat.le_of_not_lt hgt⟩) h

theorem mem_resign {sset sid : Nat} {pcs : List Pre} {q : Pre} (h : q ∈ resign sset sid pcs) :
    ∃ p ∈ pcs, q = { p with sigok := p.sigok && sset == sid } := by
  unfold resign at h
  obtain ⟨p, hp, rfl⟩ := List.mem_map.1 h
  exact ⟨p, hp, rfl⟩

end Gossamer.C19
