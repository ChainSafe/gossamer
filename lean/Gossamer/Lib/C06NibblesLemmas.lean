/-
C06: the byte-level nibble helpers (`C06Nibbles.lean`) refine their counterparts on plain
nibble lists.  `PN.abs` / `NK.abs` / `NS.abs` / `PFX.abs` are the abstraction functions.
Offsets and lengths are split by parity (`even_or_odd`), after which the `/ 2` and `% 2` of the model
compute.  `nv` is a `def`, so the byte facts of Lib/Nibble are restated for it at the head of the file.
No lemma for `Compare` and `NibbleSlice.Pop`.  Nothing in the `TrieDB*` proofs uses this file: the trie
model works on plain nibble lists, and that the Go code calls each helper where the model uses the list
operation is tied by the correspondence run.
-/
import Gossamer.Lib.C06Nibbles
import Gossamer.Lib.TrieDBKeys
namespace Gossamer.C06.Nb
open Gossamer Gossamer.Trie

/-- a nibble as the byte the Go code passes around -/
def nv (x : Nib) : UInt8 := UInt8.ofNat x.val

theorem ofNat_toNat (b : UInt8) : UInt8.ofNat b.toNat = b := by simp

theorem nv_eq (y : Nib) : nv y = byteOf 0 y := Nibble.ofNat_val y
theorem shr4 (b : UInt8) : b >>> 4 = nv (hiNib b) := Nibble.shr4 b
theorem shr4' (b : UInt8) : b >>> 4 = byteOf 0 (hiNib b) := (shr4 b).trans (nv_eq _)
theorem and0F (b : UInt8) : b &&& 0x0F = nv (loNib b) := Nibble.and0F b
theorem or_nv (x y : Nib) : byteOf x 0 ||| nv y = byteOf x y := Nibble.or_nibs x y
theorem or_hi_lo (x y : Nib) : byteOf x 0 ||| byteOf 0 y = byteOf x y := by rw [← nv_eq, or_nv]
theorem nv_shl (y : Nib) : (nv y) <<< 4 = byteOf y 0 := by rw [Nibble.shl4, nv, Nibble.lo_ofNat_val]
theorem nv_inj (x y : Nib) (h : nv x = nv y) : x = y := Nibble.ofNat_val_inj h

theorem shl_or_shr (a b : UInt8) : a <<< 4 ||| b >>> 4 = byteOf (loNib a) (hiNib b) := by
  rw [Nibble.shl4, shr4', or_hi_lo]

def PN.abs (n : PN) : Nibs := (toNibs n.data).drop n.offset

def PN.WF (n : PN) : Prop := n.offset ≤ 2 * n.data.length

def NK.abs (k : NK) : Nibs := (toNibs k.data).drop k.offset

def NK.WF (k : NK) : Prop := k.offset ≤ 1 ∧ (k.offset = 1 → k.data ≠ [])

def PFX.abs (p : PFX) : Nibs :=
  toNibs p.key ++ (match p.padded with | some b => [hiNib b] | none => [])

theorem PN.abs_even (d : Bytes) (s : Nat) : PN.abs ⟨d, 2 * s⟩ = toNibs (d.drop s) := toNibs_drop d s

theorem PN.abs_odd (d : Bytes) (s : Nat) (h : s < d.length) :
    PN.abs ⟨d, 2 * s + 1⟩ = loNib (d.getD s 0) :: toNibs (d.drop (s + 1)) := toNibs_drop_odd d s h

theorem even_or_odd (n : Nat) : (∃ s, n = 2 * s) ∨ ∃ s, n = 2 * s + 1 := by
  have h := (Nat.div_add_mod n 2).symm
  rcases Nat.mod_two_eq_zero_or_one n with h2 | h2 <;> rw [h2] at h
  · exact Or.inl ⟨_, h⟩
  · exact Or.inr ⟨_, h⟩

theorem two_mul_div (s : Nat) : 2 * s / 2 = s := Nat.mul_div_cancel_left s Nat.two_pos
theorem two_mul_succ_div (s : Nat) : (2 * s + 1) / 2 = s := by
  rw [Nat.mul_add_div Nat.two_pos]; rfl
theorem two_mul_succ_mod (s : Nat) : (2 * s + 1) % 2 = 1 := by
  rw [Nat.mul_add_mod]

theorem lt_of_odd_le {s n : Nat} (h : 2 * s + 1 ≤ 2 * n) : s < n := by omega

theorem padNib_even (m : Nat) : padNib (2 * m) = [] := by rw [padNib, Nat.mul_mod_right]; rfl
theorem padNib_odd (m : Nat) : padNib (2 * m + 1) = [0] := by rw [padNib, two_mul_succ_mod]; rfl

theorem C06_nibbles_len_refines (n : PN) : n.len = n.abs.length := by
  simp only [PN.len, PN.abs, List.length_drop, length_toNibs]

theorem C06_nibbles_at_refines (n : PN) (i : Nat) (h : i < n.abs.length) :
    n.nib i = nv (n.abs[i]) := by
  simp only [PN.abs, List.getElem_drop, PN.nib, atLeft, toNibs_get]
  rcases Nat.mod_two_eq_zero_or_one (n.offset + i) with hp | hp
  · simp only [hp, Nat.zero_ne_one, if_false, if_true, shr4]
  · simp only [hp, Nat.one_ne_zero, if_false, if_true, and0F]

theorem C06_nibbles_mid_refines (n : PN) (i : Nat) : (n.mid i).abs = n.abs.drop i := by
  simp only [PN.mid, PN.abs, List.drop_drop]

theorem C06_nibbles_advance_refines (n : PN) (i : Nat) :
    (i ≤ n.abs.length → ∃ m, n.advance i = some m ∧ m.abs = n.abs.drop i) ∧
    (n.abs.length < i → n.advance i = none) := by
  rw [← C06_nibbles_len_refines]
  constructor
  · intro h
    exact ⟨n.mid i, if_neg (Nat.not_lt.mpr h), C06_nibbles_mid_refines n i⟩
  · intro h; exact if_pos h

theorem C06_nibbles_nodeKey_refines (n : PN) :
    n.nodeKey.abs = n.abs ∧ (PN.ofNodeKey n.nodeKey).abs = n.abs ∧ n.nodeKey.offset ≤ 1 := by
  have h : (toNibs (n.data.drop (n.offset / 2))).drop (n.offset % 2) = (toNibs n.data).drop n.offset := by
    rw [← toNibs_drop, List.drop_drop, Nat.div_add_mod]
  exact ⟨h, h, Nat.le_of_lt_succ (Nat.mod_lt _ Nat.two_pos)⟩

/-- `Nibbles.Left()` and `NibbleSlice.Prefix()` are the same function of the packed data `d` and a
    nibble count `k`; `JoinedBytes()` of the result is the `prefixBytes` of the model's database keys.
    `p` enters through an equation so that both instantiate the lemma with `rfl`. -/
theorem pfx_refines (d : Bytes) (k : Nat) (h : k ≤ 2 * d.length) (p : PFX)
    (hp : p = if k % 2 = 0 then ⟨d.take (k / 2), none⟩
              else ⟨d.take (k / 2), some (padLeft (d.getD (k / 2) 0))⟩) :
    p.abs = (toNibs d).take k ∧ p.joined = prefixBytes ((toNibs d).take k) := by
  subst hp
  rcases even_or_odd k with ⟨s, rfl⟩ | ⟨s, rfl⟩
  · simp only [Nat.mul_mod_right, two_mul_div, if_true, PFX.abs, PFX.joined, toNibs_take,
      prefixBytes_toNibs, List.append_nil, and_self]
  · have hlt : s < d.length := lt_of_odd_le h
    simp only [two_mul_succ_mod, two_mul_succ_div, Nat.one_ne_zero, if_false, PFX.abs, PFX.joined,
      toNibs_take_odd _ _ hlt, prefixBytes_snoc, padLeft, Nibble.andF0, hi_byteOf, and_self]

/-- `Left()` is the packed form of the nibbles consumed so far, and `JoinedBytes()` is exactly the
    `prefixBytes` of the model's database keys -/
theorem C06_nibbles_left_refines (n : PN) (h : n.WF) :
    n.left.abs = (toNibs n.data).take n.offset ∧
    n.left.joined = prefixBytes ((toNibs n.data).take n.offset) :=
  pfx_refines n.data n.offset h _ rfl

/-- the database-key prefix determines the nibble path up to the zero padding of an odd path:
    equal prefixes of paths of equal length come from equal paths -/
theorem C06_nibbles_prefix_injective (p q : Nibs) (h : prefixBytes p = prefixBytes q) :
    (p.length = q.length → p = q) ∧
    (p = q ∨ (q.length % 2 = 1 ∧ p = q ++ [0]) ∨ (p.length % 2 = 1 ∧ q = p ++ [0])) := by
  have := prefixBytes_eq p q h
  refine ⟨fun hl => ?_, this⟩
  rcases this with h | ⟨_, h⟩ | ⟨_, h⟩
  · exact h
  · rw [h] at hl; simp at hl
  · rw [h] at hl; simp at hl

theorem biggestDepth_eq (a b : Bytes) : biggestDepth a b = Trie.lcpLen (toNibs a) (toNibs b) := by
  induction a generalizing b with
  | nil => cases b <;> rfl
  | cons x r ih =>
    cases b with
    | nil => rfl
    | cons y t =>
      simp only [biggestDepth, toNibs, Trie.lcpLen, leftCommon, padLeft, Nibble.andF0]
      by_cases hxy : x = y
      · subst hxy
        simp only [ne_eq, not_true_eq_false, if_false, if_true, ih, Nat.add_comm 2]
      · have hne : ¬ (hiNib x = hiNib y ∧ loNib x = loNib y) := fun h => hxy (byte_ext h.1 h.2)
        by_cases hh : hiNib x = hiNib y
        · have hl : ¬ loNib x = loNib y := fun e => hne ⟨hh, e⟩
          simp only [ne_eq, hxy, not_false_eq_true, if_true, if_false, hh, hl]
        · have : ¬ byteOf (hiNib x) 0 = byteOf (hiNib y) 0 := fun e => hh (by
            have := congrArg hiNib e; rwa [hi_byteOf, hi_byteOf] at this)
          simp only [ne_eq, hxy, not_false_eq_true, if_true, if_false, hh, this]

theorem cpLoop_eq (n them : PN) : ∀ fuel i, i + fuel = min n.abs.length them.abs.length →
    cpLoop n them fuel i = i + Trie.lcpLen (n.abs.drop i) (them.abs.drop i) := by
  intro fuel
  induction fuel with
  | zero =>
    intro i hi
    have : n.abs.drop i = [] ∨ them.abs.drop i = [] := by
      rcases Nat.le_total n.abs.length them.abs.length with h | h
      · exact Or.inl (List.drop_eq_nil_of_le (Nat.le_of_eq (by rw [← Nat.min_eq_left h]; exact hi.symm)))
      · exact Or.inr (List.drop_eq_nil_of_le (Nat.le_of_eq (by rw [← Nat.min_eq_right h]; exact hi.symm)))
    rcases this with e | e <;> rw [e]
    · rfl
    · rw [lcpLen_nil_right]; rfl
  | succ f ih =>
    intro i hi
    have hlt : i < min n.abs.length them.abs.length := hi ▸ Nat.lt_add_of_pos_right (Nat.succ_pos f)
    have h1 : i < n.abs.length := Nat.lt_of_lt_of_le hlt (Nat.min_le_left _ _)
    have h2 : i < them.abs.length := Nat.lt_of_lt_of_le hlt (Nat.min_le_right _ _)
    simp only [cpLoop, C06_nibbles_at_refines n i h1, C06_nibbles_at_refines them i h2,
      lcpLen_drop _ _ i h1 h2]
    by_cases he : n.abs[i] = them.abs[i]
    · simp only [he, ne_eq, not_true_eq_false, if_false, if_true]
      rw [ih (i + 1) (by rw [Nat.add_right_comm]; exact hi), Nat.add_assoc, Nat.add_comm 1]
    · have : nv n.abs[i] ≠ nv them.abs[i] := fun e => he (nv_inj _ _ e)
      simp only [ne_eq, this, not_false_eq_true, if_true, he, if_false, Nat.add_zero]

/-- both code paths of `CommonPrefix`: byte-wise for equal alignment, nibble-wise otherwise -/
theorem C06_nibbles_commonPrefix_refines (n them : PN) (h1 : n.WF) (h2 : them.WF) :
    n.commonPrefix them = Trie.lcpLen n.abs them.abs := by
  have hloop : cpLoop n them (min n.len them.len) 0 = Trie.lcpLen n.abs them.abs := by
    rw [C06_nibbles_len_refines, C06_nibbles_len_refines, cpLoop_eq n them _ 0 (Nat.zero_add _)]
    exact Nat.zero_add _
  obtain ⟨d1, o1⟩ := n
  obtain ⟨d2, o2⟩ := them
  unfold PN.commonPrefix
  rcases even_or_odd o1 with ⟨s1, rfl⟩ | ⟨s1, rfl⟩ <;> rcases even_or_odd o2 with ⟨s2, rfl⟩ | ⟨s2, rfl⟩
  · simp only [Nat.mul_mod_right, two_mul_div, if_true, ne_eq, not_true_eq_false, if_false, biggestDepth_eq,
      PN.abs_even]
  · simp only [Nat.mul_mod_right, two_mul_succ_mod, Nat.zero_ne_one, if_false]
    exact hloop
  · simp only [Nat.mul_mod_right, two_mul_succ_mod, Nat.one_ne_zero, if_false]
    exact hloop
  · have l1 : s1 < d1.length := lt_of_odd_le h1
    have l2 : s2 < d2.length := lt_of_odd_le h2
    simp only [two_mul_succ_mod, two_mul_succ_div, if_true, ne_eq, Nat.one_ne_zero, not_false_eq_true,
      padRight, and0F, PN.abs_odd _ _ l1, PN.abs_odd _ _ l2, Trie.lcpLen, biggestDepth_eq]
    by_cases hq : loNib (d1.getD s1 0) = loNib (d2.getD s2 0)
    · simp only [hq, not_true_eq_false, if_false, if_true]
    · have : nv (loNib (d1.getD s1 0)) ≠ nv (loNib (d2.getD s2 0)) := fun e => hq (nv_inj _ _ e)
      simp only [this, not_false_eq_true, if_true, hq, if_false]

theorem C06_nibbles_startsWith_refines (n them : PN) (h1 : n.WF) (h2 : them.WF) :
    n.startsWith them = them.abs.isPrefixOf n.abs ∧ (n.equal them = true ↔ n.abs = them.abs) := by
  have hsw : n.startsWith them = them.abs.isPrefixOf n.abs := by
    unfold PN.startsWith
    rw [C06_nibbles_commonPrefix_refines n them h1 h2, C06_nibbles_len_refines, Bool.eq_iff_iff,
      beq_iff_eq, lcpLen_eq_length_iff]
  refine ⟨hsw, ?_⟩
  unfold PN.equal
  rw [hsw, C06_nibbles_len_refines, C06_nibbles_len_refines, Bool.and_eq_true, beq_iff_eq]
  constructor
  · intro ⟨hl, hp⟩
    obtain ⟨r, hr⟩ := isPrefixOf_iff.mp hp
    rw [hr, List.length_append] at hl
    rw [hr, List.eq_nil_of_length_eq_zero (by omega : r.length = 0), List.append_nil]
  · intro h
    rw [h]; exact ⟨rfl, isPrefixOf_self _⟩

theorem rightPartial_even (d : Bytes) (s : Nat) : PN.rightPartial ⟨d, 2 * s⟩ = ⟨0, 0, d.drop s⟩ := by
  have : (2 * d.length - 2 * s) % 2 = 0 := by rw [← Nat.mul_sub]; exact Nat.mul_mod_right 2 _
  simp only [PN.rightPartial, PN.len, this, Nat.lt_irrefl, if_false, two_mul_div]

theorem rightPartial_odd (d : Bytes) (s : Nat) (h : s < d.length) :
    PN.rightPartial ⟨d, 2 * s + 1⟩ = ⟨1, d.getD s 0, d.drop (s + 1)⟩ := by
  have : (2 * d.length - (2 * s + 1)) % 2 = 1 := by omega
  simp only [PN.rightPartial, PN.len, this, Nat.one_pos, if_true, two_mul_succ_div]

/-- `packNibs`: the partial key bytes of the spec encoding -/
theorem C06_nibbles_right_refines (n : PN) (h : n.WF) : n.right = packNibs n.abs := by
  obtain ⟨d, o⟩ := n
  unfold PN.right packNibs
  rcases even_or_odd o with ⟨s, rfl⟩ | ⟨s, rfl⟩
  · simp only [rightPartial_even, Nat.lt_irrefl, if_false, List.nil_append, PN.abs_even, length_toNibs,
      Nat.mul_mod_right, if_true, packEven_toNibs]
  · have hlt : s < d.length := lt_of_odd_le h
    simp only [rightPartial_odd _ _ hlt, Nat.one_pos, if_true, PN.abs_odd _ _ hlt, List.length_cons,
      length_toNibs, two_mul_succ_mod, Nat.one_ne_zero, if_false, packEven_toNibs, padRight, and0F]
    rfl

theorem toNibs_shiftLeft : ∀ d : Bytes, d ≠ [] → toNibs (shiftLeft d) = (toNibs d).drop 1 ++ [0]
  | [], h => absurd rfl h
  | [a], _ => by simp only [shiftLeft, toNibs, Nibble.shl4, hi_byteOf, lo_byteOf]; rfl
  | a :: b :: r, _ => by
    have ih := toNibs_shiftLeft (b :: r) (List.cons_ne_nil _ _)
    simp only [shiftLeft, toNibs, shl_or_shr, hi_byteOf, lo_byteOf] at ih ⊢
    rw [ih]; rfl

theorem toNibs_shiftRightFrom (p : UInt8) : ∀ d : Bytes,
    toNibs (shiftRightFrom p d) = loNib p :: (toNibs d ++ [0])
  | [] => by simp only [shiftRightFrom, toNibs, Nibble.shl4, hi_byteOf, lo_byteOf]; rfl
  | a :: r => by
    simp only [shiftRightFrom, toNibs, shl_or_shr, hi_byteOf, lo_byteOf, toNibs_shiftRightFrom a r]
    rfl

theorem nk_offset_le (k : NK) (h : k.WF) : k.offset ≤ (toNibs k.data).length := by
  obtain ⟨ko, kd⟩ := k
  obtain ⟨h1, h2⟩ := h
  rw [length_toNibs]
  cases kd with
  | nil =>
    have : ko ≠ 1 := fun e => h2 e rfl
    simp only at h1 ⊢; omega
  | cons x r => simp only [List.length_cons] at h1 ⊢; omega

/-- the zero nibble appended when the offset changes is padding: the Go callers overwrite it
    (`combineKey`) or drop it (`NodeKeyRange`) -/
theorem C06_nibbles_shiftKey_refines (k : NK) (h : k.WF) (offset : Nat) (ho : offset ≤ 1) :
    (k.shiftKey offset).1.WF ∧ (k.shiftKey offset).1.offset = offset ∧
    (k.shiftKey offset).2 = decide (k.offset ≠ offset) ∧
    (k.shiftKey offset).1.abs = if k.offset = offset then k.abs else k.abs ++ [0] := by
  obtain ⟨ko, kd⟩ := k
  obtain ⟨h1, h2⟩ := h
  have hk : ko = 0 ∨ ko = 1 := by simp only at h1; omega
  have ho' : offset = 0 ∨ offset = 1 := by omega
  rcases hk with rfl | rfl <;> rcases ho' with rfl | rfl
  · exact ⟨⟨h1, h2⟩, rfl, rfl, rfl⟩
  · have hne : shiftRightFrom 0 kd ≠ [] := by cases kd <;> exact List.cons_ne_nil _ _
    refine ⟨⟨Nat.le_refl 1, fun _ => hne⟩, rfl, rfl, ?_⟩
    show (toNibs (shiftRightFrom 0 kd)).drop 1 = _
    rw [toNibs_shiftRightFrom]; rfl
  · refine ⟨⟨Nat.zero_le 1, fun e => absurd e Nat.zero_ne_one⟩, rfl, rfl, ?_⟩
    exact toNibs_shiftLeft kd (h2 rfl)
  · exact ⟨⟨h1, h2⟩, rfl, rfl, rfl⟩

theorem pad_split (D : Bytes) (N : Nibs) (hN : toNibs D = N ++ [0]) :
    ∃ D' h, D = D' ++ [byteOf h 0] ∧ N = toNibs D' ++ [h] := by
  have hne : D ≠ [] := by intro e; rw [e] at hN; exact List.cons_ne_nil _ _ (List.append_eq_nil_iff.mp hN.symm).2
  have hD := (List.dropLast_concat_getLast hne).symm
  generalize D.getLast hne = l at hD
  rw [hD, toNibs_append] at hN
  have hN' : (toNibs D.dropLast ++ [hiNib l]) ++ [loNib l] = N ++ [0] := by
    rw [← hN, List.append_assoc]; rfl
  have hlo : loNib l = 0 := List.singleton_inj.mp (List.append_inj_right' hN' rfl)
  refine ⟨D.dropLast, hiNib l, ?_, (List.append_inj_left' hN' rfl).symm⟩
  rw [← hlo, byteOf_hi_lo]; exact hD

theorem toNibs_fill (D' : Bytes) (h y : Nib) :
    toNibs (D' ++ [byteOf h 0 ||| nv y]) = toNibs D' ++ [h, y] := by
  rw [or_nv, toNibs_append]; simp only [toNibs, hi_byteOf, lo_byteOf]

/-- `combineKey(start, end)` concatenates the two partial keys -/
theorem C06_nibbles_combineKey_refines (s e : NK) (hs : s.WF) (he : e.WF) :
    (combineKey s e).abs = s.abs ++ e.abs ∧ (combineKey s e).WF := by
  have hso := nk_offset_le s hs
  obtain ⟨hw, hoff, _, hab⟩ := C06_nibbles_shiftKey_refines s hs ((s.offset + e.offset) % 2)
    (Nat.le_of_lt_succ (Nat.mod_lt _ Nat.two_pos))
  obtain ⟨eo, ed⟩ := e
  obtain ⟨he1, he2⟩ := he
  have hso1 := hs.1
  unfold combineKey
  rcases (by simp only at he1; omega : eo = 0 ∨ eo = 1) with rfl | rfl
  · -- the end key is byte aligned: no shift, plain append
    have hfin : (s.offset + 0) % 2 = s.offset := by omega
    rw [hfin] at hw hoff hab
    simp only [hfin, Nat.lt_irrefl, if_false]
    rw [if_pos rfl] at hab
    generalize (s.shiftKey s.offset).1 = s1 at hw hoff hab ⊢
    refine ⟨?_, ⟨hw.1, fun h1 e' => hw.2 h1 (List.append_eq_nil_iff.mp e').1⟩⟩
    have h1o := nk_offset_le s1 hw
    simp only [NK.abs, toNibs_append, List.drop_zero] at hab ⊢
    rw [List.drop_append_of_le_length h1o, hab]
  · -- the end key starts with a half byte: it fills the padding nibble left by the shift
    obtain ⟨e0, er, rfl⟩ : ∃ e0 er, ed = e0 :: er := by
      cases ed with
      | nil => exact absurd rfl (he2 rfl)
      | cons a r => exact ⟨a, r, rfl⟩
    have hfin : ¬ s.offset = (s.offset + 1) % 2 := by omega
    rw [if_neg hfin] at hab
    simp only [Nat.one_pos, if_true, List.getD_cons_zero, List.drop_one, List.tail_cons]
    generalize (s.shiftKey ((s.offset + 1) % 2)).1 = s1 at hw hoff hab ⊢
    have h1o := nk_offset_le s1 hw
    have hsplit : toNibs s1.data = ((toNibs s1.data).take s1.offset ++ s.abs) ++ [0] := by
      rw [List.append_assoc, ← hab, NK.abs, List.take_append_drop]
    obtain ⟨D', h, hD, hN⟩ := pad_split _ _ hsplit
    simp only [hD, List.getLast?_concat, List.dropLast_concat, padRight, and0F]
    refine ⟨?_, ⟨hw.1, fun _ => List.append_ne_nil_of_left_ne_nil (List.append_ne_nil_of_right_ne_nil _ (List.cons_ne_nil _ _)) _⟩⟩
    have hlen : ((toNibs s1.data).take s1.offset).length = s1.offset := List.length_take_of_le h1o
    have e1 : toNibs D' ++ [h, loNib e0] = (toNibs s1.data).take s1.offset ++ (s.abs ++ [loNib e0]) := by
      rw [← List.append_assoc, hN, List.append_assoc]; rfl
    show List.drop s1.offset (toNibs (D' ++ [byteOf h 0 ||| nv (loNib e0)] ++ er)) = _
    rw [toNibs_append, toNibs_fill, e1, List.append_assoc, List.drop_left' hlen, List.append_assoc]
    rfl

theorem NK.abs_window (d : Bytes) (s e r : Nat) :
    NK.abs ⟨r, (d.drop s).take (e - s)⟩ = ((toNibs d).drop (2 * s + r)).take (2 * (e - s) - r) := by
  simp only [NK.abs, ← toNibs_take, ← toNibs_drop, List.drop_take, List.drop_drop]

theorem NK.abs_dropLast (k : NK) :
    NK.abs ⟨k.offset, k.data.dropLast⟩ = k.abs.take (k.abs.length - 2) := by
  simp only [NK.abs, List.dropLast_eq_take, ← toNibs_take, List.drop_take, List.length_drop,
    length_toNibs, Nat.mul_sub_one, Nat.sub_right_comm]

theorem window_len {s r e x : Nat} (h : 2 * e = 2 * s + r + x) : 2 * (e - s) - r = x := by
  rw [Nat.mul_sub, h, Nat.add_assoc, Nat.add_sub_cancel_left, Nat.add_sub_cancel_left]

/-- `NodeKeyRange(nb)`: the first `nb` nibbles (all of them when `nb ≥ Len()`) -/
theorem C06_nibbles_nodeKeyRange_refines (n : PN) (h : n.WF) (nb : Nat) :
    (n.nodeKeyRange nb).abs = n.abs.take nb := by
  have hlen : n.len = n.abs.length := C06_nibbles_len_refines n
  have hoff : 2 * (n.offset / 2) + n.offset % 2 = n.offset := Nat.div_add_mod _ _
  have hend := Nat.div_add_mod (n.offset + nb) 2
  unfold PN.nodeKeyRange
  by_cases hge : nb ≥ n.len
  · rw [if_pos hge, (C06_nibbles_nodeKey_refines n).1, List.take_of_length_le (hlen ▸ hge)]
  · have hlt : nb < 2 * n.data.length - n.offset := Nat.not_le.mp hge
    simp only [hge, if_false]
    by_cases hal : (n.offset + nb) % 2 = 0
    · rw [hal] at hend
      rw [if_pos hal, NK.abs_window, hoff, window_len (by rw [hoff]; exact hend)]
      rfl
    · rw [if_neg hal]
      -- the range ends inside a byte: take one byte more, shift, drop the last byte
      rw [Nat.mod_two_ne_zero.mp hal] at hend
      have hwf : NK.WF ⟨n.offset % 2,
          (n.data.drop (n.offset / 2)).take ((n.offset + nb) / 2 + 1 - n.offset / 2)⟩ := by
        refine ⟨Nat.le_of_lt_succ (Nat.mod_lt _ Nat.two_pos), fun _ => List.ne_nil_of_length_pos ?_⟩
        rw [List.length_take, List.length_drop]
        exact Nat.lt_min.mpr ⟨Nat.sub_pos_of_lt (Nat.lt_succ_of_le (Nat.div_le_div_right (Nat.le_add_right _ _))),
          Nat.sub_pos_of_lt (Nat.div_lt_of_lt_mul (Nat.lt_of_sub_pos (Nat.zero_lt_of_lt hlt)))⟩
      have hX : NK.abs ⟨n.offset % 2,
          (n.data.drop (n.offset / 2)).take ((n.offset + nb) / 2 + 1 - n.offset / 2)⟩ =
          n.abs.take (nb + 1) := by
        rw [NK.abs_window, hoff, window_len (x := nb + 1) (by rw [hoff]; exact congrArg (· + 1) hend)]
        rfl
      obtain ⟨-, -, -, hab⟩ := C06_nibbles_shiftKey_refines _ hwf (nb % 2)
        (Nat.le_of_lt_succ (Nat.mod_lt _ Nat.two_pos))
      have hpar : ¬ n.offset % 2 = nb % 2 := fun e =>
        hal (by rw [Nat.add_mod, e, ← Nat.two_mul, Nat.mul_mod_right])
      rw [if_neg hpar, hX] at hab
      generalize (NK.shiftKey _ (nb % 2)).1 = r at hab ⊢
      have hXl : (n.abs.take (nb + 1)).length = nb + 1 := by
        rw [List.length_take, ← hlen]; exact Nat.min_eq_left hlt
      have e2 : nb + 1 + 1 - 2 = nb := rfl
      show NK.abs ⟨r.offset, r.data.dropLast⟩ = _
      rw [NK.abs_dropLast, hab, List.length_append, hXl, List.length_singleton, e2,
        List.take_append_of_le_length (by rw [hXl]; exact Nat.le_succ nb), List.take_take,
        Nat.min_eq_left (Nat.le_succ nb)]

def NS.abs (n : NS) : Nibs := (toNibs n.inner).take n.len

/-- `padNib n.len` (TrieDBKeys) -/
def NS.pad (n : NS) : Nibs := if n.len % 2 = 1 then [0] else []

/-- `inner` holds exactly the nibbles, an odd count padded with one zero nibble -/
def NS.WF (n : NS) : Prop := n.len ≤ 2 * n.inner.length ∧ toNibs n.inner = n.abs ++ n.pad

theorem NS.abs_length (n : NS) (h : n.WF) : n.abs.length = n.len := by
  rw [NS.abs, List.length_take, length_toNibs]; exact Nat.min_eq_left h.1

theorem NS.mk_refines (inner : Bytes) (len : Nat) (N : Nibs) (hl : N.length = len)
    (h : toNibs inner = N ++ padNib len) : NS.abs ⟨inner, len⟩ = N ∧ NS.WF ⟨inner, len⟩ := by
  have habs : NS.abs ⟨inner, len⟩ = N := by
    show (toNibs inner).take len = N
    rw [h]; exact List.take_left' hl
  refine ⟨habs, ?_, ?_⟩
  · show len ≤ 2 * inner.length
    rw [← length_toNibs, h, List.length_append, hl]; exact Nat.le_add_right _ _
  · rw [habs]; exact h

theorem zero_or (b : UInt8) : (0 : UInt8) ||| b = b := by simp

theorem nsEmpty_refines : NS.empty.WF ∧ NS.empty.abs = [] :=
  ⟨⟨Nat.le_refl 0, rfl⟩, rfl⟩

theorem C06_nibbles_push_refines (n : NS) (h : n.WF) (x : Nib) :
    (n.push (nv x)).abs = n.abs ++ [x] ∧ (n.push (nv x)).WF := by
  have hal := NS.abs_length n h
  obtain ⟨-, h2⟩ := h
  obtain ⟨inner, len⟩ := n
  unfold NS.push
  rcases even_or_odd len with ⟨m, rfl⟩ | ⟨m, rfl⟩
  · simp only [NS.pad, Nat.mul_mod_right, Nat.zero_ne_one, if_false, List.append_nil] at h2
    simp only [Nat.mul_mod_right, if_true, pushAtLeft, Nat.zero_ne_one, if_false, zero_or, nv_shl]
    refine NS.mk_refines _ _ _ (by rw [List.length_append, hal]; rfl) ?_
    simp only [toNibs_append, h2, toNibs, hi_byteOf, lo_byteOf, padNib_odd, List.append_assoc,
      List.cons_append, List.nil_append]
  · simp only [NS.pad, two_mul_succ_mod, if_true] at h2
    obtain ⟨D', hn, rfl, hN⟩ := pad_split _ _ h2
    simp only [two_mul_succ_mod, Nat.one_ne_zero, if_false, pushAtLeft, if_true, NS.setLast,
      List.getLast?_concat, Option.getD_some, List.dropLast_concat]
    refine NS.mk_refines _ _ _ (by rw [List.length_append, hal]; rfl) ?_
    rw [toNibs_fill, show 2 * m + 1 + 1 = 2 * (m + 1) from rfl, padNib_even, hN, List.append_nil,
      List.append_assoc]; rfl

/-- `Prefix()`: the database-key prefix of the path accumulated in the slice -/
theorem C06_nibbles_nsPrefix_refines (n : NS) (h : n.WF) :
    n.pfx.abs = n.abs ∧ n.pfx.joined = prefixBytes n.abs :=
  pfx_refines n.inner n.len h.1 _ rfl

theorem C06_nibbles_dropLasts_refines (n : NS) (h : n.WF) (num : Nat) :
    (n.dropLasts num).abs = n.abs.take (n.len - num) ∧ (n.dropLasts num).WF := by
  have hal := NS.abs_length n h
  unfold NS.dropLasts
  by_cases h0 : num = 0
  · rw [if_pos h0, h0, Nat.sub_zero, List.take_of_length_le (Nat.le_of_eq hal)]
    exact ⟨rfl, h⟩
  · rw [if_neg h0]
    by_cases hge : num ≥ n.len
    · rw [if_pos hge, Nat.sub_eq_zero_of_le hge]
      exact ⟨rfl, nsEmpty_refines.1⟩
    · rw [if_neg hge]
      have hle : n.len - num ≤ n.abs.length := hal ▸ Nat.sub_le _ _
      have hlen : (n.abs.take (n.len - num)).length = n.len - num := List.length_take_of_le hle
      have htake : ∀ e, e ≤ n.abs.length → (toNibs n.inner).take e = n.abs.take e := fun e he => by
        rw [h.2, List.take_append_of_le_length he]
      have hi := h.1
      generalize n.len - num = e at hle hlen ⊢
      rcases even_or_odd e with ⟨m, rfl⟩ | ⟨m, rfl⟩
      · simp only [Nat.mul_mod_right, two_mul_div, ne_eq, not_true_eq_false, if_false, Nat.add_zero]
        refine NS.mk_refines _ _ _ hlen ?_
        rw [← toNibs_take, htake _ hle, padNib_even, List.append_nil]
      · have hm : m < n.inner.length := lt_of_odd_le (Nat.le_trans (hal ▸ hle) hi)
        have ht : n.inner.take (m + 1) = n.inner.take m ++ [n.inner.getD m 0] := by
          rw [List.take_add_one, List.getD_eq_getElem?_getD, List.getElem?_eq_getElem hm]; rfl
        simp only [two_mul_succ_mod, two_mul_succ_div, ne_eq, Nat.one_ne_zero, not_false_eq_true,
          if_true, ht, NS.setLast, List.getLast?_concat, Option.getD_some, List.dropLast_concat]
        refine NS.mk_refines _ _ _ hlen ?_
        rw [toNibs_append, padLeft, Nibble.andF0, ← htake _ hle, toNibs_take_odd _ _ hm, padNib_odd]
        simp only [toNibs, hi_byteOf, lo_byteOf, List.append_assoc, List.cons_append,
          List.nil_append]

/-- the data stage of `AppendPartial` -/
def NS.appendData (n : NS) (D : Bytes) : NS :=
  { inner :=
      if 2 * n.inner.length - n.len = 0 then n.inner ++ D
      else
        match D with
        | [] => n.inner
        | d0 :: _ => NS.setLast n.inner (padLeft (n.inner.getLast?.getD 0) ||| d0 >>> 4) ++ NS.shiftedTail D
    len := n.len + 2 * D.length }

theorem appendPartial_eq (n : NS) (p : Partial) :
    n.appendPartial p = (if p.first = 1 then n.push (atLeft 1 p.paddedNibble) else n).appendData p.data := rfl

theorem shiftedTail_eq : ∀ D : Bytes, NS.shiftedTail D = shiftLeft D
  | [] => rfl
  | [a] => rfl
  | a :: b :: r => by rw [NS.shiftedTail, shiftLeft, shiftedTail_eq (b :: r)]

theorem appendData_refines (n : NS) (h : n.WF) (D : Bytes) :
    (n.appendData D).abs = n.abs ++ toNibs D ∧ (n.appendData D).WF := by
  have hal := NS.abs_length n h
  obtain ⟨h1, h2⟩ := h
  obtain ⟨inner, len⟩ := n
  have hl : (NS.abs ⟨inner, len⟩ ++ toNibs D).length = len + 2 * D.length := by
    rw [List.length_append, hal, length_toNibs]
  have hi : 2 * inner.length = len + (padNib len).length := by
    rw [← length_toNibs, h2, List.length_append, hal]; rfl
  replace h2 : toNibs inner = NS.abs ⟨inner, len⟩ ++ padNib len := h2
  unfold NS.appendData
  rcases even_or_odd len with ⟨m, rfl⟩ | ⟨m, rfl⟩
  · rw [padNib_even] at hi h2
    rw [List.append_nil] at h2
    simp only [hi, List.length_nil, Nat.add_zero, Nat.sub_self, if_true]
    refine NS.mk_refines _ _ _ hl ?_
    rw [toNibs_append, h2, ← Nat.mul_add, padNib_even, List.append_nil]
  · rw [padNib_odd] at hi h2
    simp only [hi, List.length_singleton, Nat.add_sub_cancel_left, Nat.one_ne_zero, if_false]
    cases D with
    | nil =>
      refine NS.mk_refines _ _ _ hl ?_
      show toNibs inner = (_ ++ []) ++ padNib (2 * m + 1)
      rw [List.append_nil, padNib_odd]; exact h2
    | cons d0 r =>
      obtain ⟨D', hn, rfl, hN⟩ := pad_split _ _ h2
      have hbyte : padLeft (byteOf hn 0) ||| d0 >>> 4 = byteOf hn (hiNib d0) := by
        rw [padLeft, Nibble.andF0, hi_byteOf, shr4', or_hi_lo]
      simp only [NS.setLast, List.getLast?_concat, Option.getD_some, List.dropLast_concat, hbyte,
        shiftedTail_eq]
      refine NS.mk_refines _ _ _ hl ?_
      rw [toNibs_append, toNibs_append, toNibs_shiftLeft _ (List.cons_ne_nil _ _), hN,
        show 2 * m + 1 + 2 * (d0 :: r).length = 2 * (m + (d0 :: r).length) + 1 by
          rw [Nat.mul_add, Nat.add_right_comm], padNib_odd]
      simp only [toNibs, hi_byteOf, lo_byteOf, List.drop_succ_cons, List.drop_zero, List.append_assoc,
        List.cons_append, List.nil_append]

/-- `AppendPartial(s.RightPartial())` appends the nibbles of `s` -/
theorem C06_nibbles_appendPartial_refines (n : NS) (h : n.WF) (s : PN) (hs : s.WF) :
    (n.appendPartial s.rightPartial).abs = n.abs ++ s.abs ∧ (n.appendPartial s.rightPartial).WF := by
  obtain ⟨d, o⟩ := s
  rw [appendPartial_eq]
  rcases even_or_odd o with ⟨t, rfl⟩ | ⟨t, rfl⟩
  · rw [rightPartial_even, if_neg Nat.zero_ne_one, PN.abs_even]
    exact appendData_refines n h _
  · have hlt : t < d.length := lt_of_odd_le hs
    simp only [rightPartial_odd _ _ hlt, if_true, atLeft, and0F, PN.abs_odd _ _ hlt]
    obtain ⟨hp1, hp2⟩ := C06_nibbles_push_refines n h (loNib (d.getD t 0))
    obtain ⟨ha1, ha2⟩ := appendData_refines _ hp2 (d.drop (t + 1))
    exact ⟨by rw [ha1, hp1, List.append_assoc]; rfl, ha2⟩

/-- `AppendOptionalSliceAndNibble(slice, index)`: the path grows by the partial key and the child
    index; the count returned is the number of nibbles added -/
theorem C06_nibbles_appendOpt_refines (n : NS) (h : n.WF) (s : Option PN) (hs : ∀ x, s = some x → x.WF)
    (i : Option Nib) :
    (n.appendOpt s (i.map nv)).1.abs =
      n.abs ++ (match s with | some x => x.abs | none => []) ++ (match i with | some y => [y] | none => []) ∧
    (n.appendOpt s (i.map nv)).1.WF ∧
    (n.appendOpt s (i.map nv)).2 =
      (match s with | some x => x.abs.length | none => 0) + (match i with | some _ => 1 | none => 0) := by
  cases s with
  | none =>
    cases i with
    | none => exact ⟨by rw [List.append_nil, List.append_nil]; rfl, h, rfl⟩
    | some y =>
      obtain ⟨h1, h2⟩ := C06_nibbles_push_refines n h y
      exact ⟨by rw [List.append_nil]; exact h1, h2, rfl⟩
  | some x =>
    obtain ⟨a1, a2⟩ := C06_nibbles_appendPartial_refines n h x (hs x rfl)
    cases i with
    | none => exact ⟨by rw [List.append_nil]; exact a1, a2, C06_nibbles_len_refines x⟩
    | some y =>
      obtain ⟨h1, h2⟩ := C06_nibbles_push_refines _ a2 y
      rw [a1] at h1
      simp only [NS.appendOpt, Option.map_some]
      exact ⟨h1, h2, congrArg (· + 1) (C06_nibbles_len_refines x)⟩

end Gossamer.C06.Nb
