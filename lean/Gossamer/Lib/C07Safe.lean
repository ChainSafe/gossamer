/-
Robustness of the decoders of `Gossamer.Lib.TrieCodec`: on every input the outcome is a value or an
error (`Safe`), never a Go panic and never the model's fuel running out.  A primitive stage either errs
or leaves a suffix of what it was given (`Reads`); the recursion into inlined children ends because each
level consumes a non-zero header byte (`nz`, `decodeF_safe`).
-/
import Gossamer.Lib.TrieCodecLemmas
namespace Gossamer.C07
open Gossamer Gossamer.TrieCodec

def Safe {α : Type} (o : Out α) : Prop := o ≠ .panic ∧ o ≠ .fuel

@[simp] theorem safe_ok {α : Type} (a : α) : Safe (.ok a) := ⟨nofun, nofun⟩
@[simp] theorem safe_err {α : Type} (e : Err) : Safe (.err e : Out α) := ⟨nofun, nofun⟩

theorem Safe.cases {α : Type} {o : Out α} (h : Safe o) : (∃ a, o = .ok a) ∨ ∃ e, o = .err e := by
  cases o with
  | ok a => exact Or.inl ⟨a, rfl⟩
  | err e => exact Or.inr ⟨e, rfl⟩
  | panic => exact absurd rfl h.1
  | fuel => exact absurd rfl h.2

/-- The termination measure of the recursion into inlined children.  Length does not decrease: a lenient
    `readBuf` zero-pads, so the buffer of an inlined child can be longer than what was left of the input.
    Padding adds no non-zero byte (`nz_pad`), and a header byte `0` is the empty node, which ends the descent. -/
def nz (b : Bytes) : Nat := b.countP (· != 0)

theorem nz_take (n : Nat) (r : Bytes) : nz (r.take n) ≤ nz r := (List.take_sublist n r).countP_le
theorem nz_drop (n : Nat) (r : Bytes) : nz (r.drop n) ≤ nz r := (List.drop_sublist n r).countP_le
theorem nz_cons (b : UInt8) (r : Bytes) : nz r ≤ nz (b :: r) := by
  simp [nz, List.countP_cons]
theorem nz_cons_ne (b : UInt8) (r : Bytes) (h : b ≠ 0) : nz (b :: r) = nz r + 1 := by
  simp [nz, h]
theorem nz_pad (a : Bytes) (k : Nat) : nz (a ++ List.replicate k 0) = nz a := by
  simp [nz, List.countP_append, List.countP_replicate]
theorem nz_le_length (r : Bytes) : nz r ≤ r.length := List.countP_le_length

/-- `rest a`: what the stage leaves of its input `r` -/
def Reads {α : Type} (rest : α → Bytes) (o : Out α) (r : Bytes) : Prop :=
  (∃ e, o = .err e) ∨ ∃ a k, o = .ok a ∧ rest a = r.drop k

namespace Reads
variable {α : Type} {rest : α → Bytes} {o : Out α} {r : Bytes}

theorem safe (h : Reads rest o r) : Safe o := by
  rcases h with ⟨e, rfl⟩ | ⟨a, _, rfl, _⟩ <;> simp

theorem nz_le (h : Reads rest o r) {a : α} (ha : o = .ok a) : nz (rest a) ≤ nz r := by
  rcases h with ⟨e, rfl⟩ | ⟨a', k, rfl, hk⟩
  · cases ha
  · cases ha; rw [hk]; exact nz_drop k r

theorem err (e : Err) : Reads rest (.err e : Out α) r := Or.inl ⟨e, rfl⟩
theorem ok (a : α) (k : Nat) (h : rest a = r.drop k) : Reads rest (.ok a) r := Or.inr ⟨a, k, rfl, h⟩

theorem cons (b : UInt8) (h : Reads rest o r) : Reads rest o (b :: r) := by
  rcases h with h | ⟨a, k, h1, h2⟩
  · exact Or.inl h
  · exact Or.inr ⟨a, k + 1, h1, h2⟩

end Reads

theorem decodeLenRun_reads (v : Variant) : ∀ (r : Bytes) (acc : UInt16),
    Reads (·.2.2) (decodeLenRun v acc r) r
  | [], _ => .err _
  | b :: r, acc => by
    simp only [decodeLenRun]
    split
    · exact .err _
    · split
      · exact .ok _ 1 rfl
      · exact (decodeLenRun_reads v r _).cons b

/-- relative to what follows the header byte, so that `decodeHeader_nz` can count that byte separately -/
theorem decodeHeader_reads (b : UInt8) (t : Bytes) : Reads (·.2.2) (decodeHeader (b :: t)) t := by
  simp only [decodeHeader]
  split
  · exact .err _
  · split
    · exact .ok _ 0 rfl
    · split
      · exact .ok _ 0 rfl
      · exact decodeLenRun_reads _ t _

theorem decodeHeader_safe : (bs : Bytes) → Safe (decodeHeader bs)
  | [] => safe_err _
  | b :: t => (decodeHeader_reads b t).safe

theorem decodeHeader_nz (bs : Bytes) (v : Variant) (pkl : Nat) (r : Bytes)
    (h : decodeHeader bs = .ok (v, pkl, r)) (hv : v ≠ emptyV) : nz r + 1 ≤ nz bs := by
  cases bs with
  | nil => simp [decodeHeader] at h
  | cons b t =>
    have hb : b ≠ 0 := by
      intro e; subst e
      rw [decodeHeader_zero] at h
      simp at h
      exact hv h.1.symm
    rw [nz_cons_ne b t hb]
    exact Nat.succ_le_succ ((decodeHeader_reads b t).nz_le h)

/-- the slice expression of `decodeKey` is in range: two nibbles were read for every byte -/
theorem decodeKey_reads (pkl : Nat) (r : Bytes) : Reads (·.2) (decodeKey pkl r) r := by
  unfold decodeKey
  split
  · exact .ok _ 0 rfl
  · dsimp only
    split
    · exact .err _
    · rename_i got r' hr
      split
      · exact .err _
      · rename_i hl
        have := keyLEToNibbles_length got
        have h2 : ¬ (pkl % 2 > (keyLEToNibbles got).length) := by simp at hl; omega
        rw [if_neg h2]
        exact .ok _ _ (readN_drop hr)

theorem decodeHashedValue_reads (r : Bytes) : Reads (·.2) (decodeHashedValue r) r := by
  unfold decodeHashedValue
  split
  · exact .err _
  · rename_i got r' hr
    split
    · exact .err _
    · exact .ok _ _ (readN_drop hr)

theorem decodeLeaf_safe (strict : Bool) (v : Variant) (pkl : Nat) (r : Bytes) :
    Safe (decodeLeaf strict v pkl r) := by
  unfold decodeLeaf
  rcases (decodeKey_reads pkl r).safe.cases with ⟨⟨pk, r1⟩, h⟩ | ⟨e, h⟩ <;> rw [h]
  · dsimp only
    split
    · rcases (decodeHashedValue_reads r1).safe.cases with ⟨⟨x, _⟩, h⟩ | ⟨e, h⟩ <;> rw [h] <;> simp
    · split <;> simp
  · exact safe_err _

theorem readBuf_nz (strict : Bool) (n : Nat) (r buf r' : Bytes) (h : readBuf strict n r = some (buf, r')) :
    nz buf ≤ nz r ∧ nz r' ≤ nz r := by
  unfold readBuf at h
  cases r with
  | nil => simp at h
  | cons x xs =>
    simp only [] at h
    split at h
    · simp at h
    · simp only [Option.some.injEq, Prod.mk.injEq] at h
      obtain ⟨h1, h2⟩ := h
      subst h1; subst h2
      exact ⟨by rw [nz_pad]; exact nz_take _ _, nz_drop _ _⟩

theorem scaleBytes_nz (strict : Bool) (r hash r' : Bytes) (h : scaleBytes strict r = some (hash, r')) :
    nz hash ≤ nz r ∧ nz r' ≤ nz r := by
  unfold scaleBytes at h
  cases hc : compactLen strict r with
  | none => simp [hc] at h
  | some q =>
    obtain ⟨len, r1⟩ := q
    have h1 : nz r1 ≤ nz r := by obtain ⟨k, rfl⟩ := compactLen_rest hc; exact nz_drop _ _
    simp only [hc] at h
    split at h
    · simp at h
    · split at h
      · simp at h; rw [h.1, ← h.2]; exact ⟨by simp [nz], h1⟩
      · have := readBuf_nz strict len r1 hash r' h
        omega

theorem decodeKids_safe (strict : Bool) (dec : Bytes → Out Node) (B : Nat)
    (hd : ∀ h, nz h < B → Safe (dec h)) :
    ∀ (bits : List Bool) (r : Bytes), nz r < B → Safe (decodeKids strict dec bits r)
  | [], _, _ => safe_ok _
  | false :: bs, r, hr => by
    simp only [decodeKids]
    rcases (decodeKids_safe strict dec B hd bs r hr).cases with ⟨cs, h⟩ | ⟨e, h⟩ <;> rw [h] <;> simp
  | true :: bs, r, hr => by
    simp only [decodeKids]
    split
    · simp
    · rename_i hash r' hs
      obtain ⟨hz1, hz2⟩ := scaleBytes_nz strict r hash r' hs
      have h2 := decodeKids_safe strict dec B hd bs r' (by omega)
      generalize hcdef : (ite (hash.length < hashLength) _ _ : Out Node) = c
      have hc : Safe c := by
        subst hcdef
        split
        · split
          · simp
          · exact hd hash (by omega)
        · simp
      rcases hc.cases with ⟨cn, rfl⟩ | ⟨e, rfl⟩
      · dsimp only
        rcases h2.cases with ⟨cs, h⟩ | ⟨e, h⟩ <;> rw [h] <;> simp
      · exact safe_err _

theorem decodeBranch_safe (strict : Bool) (dec : Bytes → Out Node) (B : Nat)
    (hd : ∀ h, nz h < B → Safe (dec h)) (v : Variant) (pkl : Nat) (r : Bytes) (hr : nz r < B) :
    Safe (decodeBranch strict dec v pkl r) := by
  unfold decodeBranch
  have hK := decodeKids_safe strict dec B hd
  rcases (decodeKey_reads pkl r).safe.cases with ⟨⟨pk, r1⟩, hkey⟩ | ⟨e, hkey⟩ <;> rw [hkey]
  · have hz1 := (decodeKey_reads pkl r).nz_le hkey
    cases r1 with
    | nil => exact safe_err _
    | cons b0 r1' =>
      have hz2 : nz (List.drop 1 r1') ≤ nz (b0 :: r1') :=
        Nat.le_trans (nz_drop 1 r1') (nz_cons b0 r1')
      dsimp only at hz1 ⊢
      split
      · split
        · exact safe_err _
        · rename_i val r3 hs
          have hz3 := (scaleBytes_nz strict _ val r3 hs).2
          rcases (hK (bitmapBits b0 (r1'.headD 0)) r3 (by omega)).cases with ⟨cs, h⟩ | ⟨e, h⟩ <;>
            rw [h] <;> simp
      · split
        · have hR := decodeHashedValue_reads (List.drop 1 r1')
          rcases hR.safe.cases with ⟨⟨hv, r3⟩, hs⟩ | ⟨e, hs⟩ <;> rw [hs]
          · have hz3 := hR.nz_le hs
            dsimp only at hz3 ⊢
            rcases (hK (bitmapBits b0 (r1'.headD 0)) r3 (by omega)).cases with ⟨cs, h⟩ | ⟨e, h⟩ <;>
              rw [h] <;> simp
          · exact safe_err _
        · rcases (hK (bitmapBits b0 (r1'.headD 0)) (List.drop 1 r1') (by omega)).cases with
            ⟨cs, h⟩ | ⟨e, h⟩ <;> rw [h] <;> simp
  · exact safe_err _

theorem decodeF_safe (strict : Bool) : ∀ (f : Nat) (bs : Bytes), nz bs < f → Safe (decodeF strict f bs)
  | 0, _, h => by omega
  | f + 1, bs, hbs => by
    simp only [decodeF]
    rcases (decodeHeader_safe bs).cases with ⟨⟨v, pkl, r⟩, hdr⟩ | ⟨e, hdr⟩ <;> rw [hdr]
    · dsimp only
      split
      · simp
      · rename_i hne
        have hz := decodeHeader_nz bs v pkl r hdr hne
        split
        · exact decodeLeaf_safe strict v pkl r
        · split
          · exact decodeBranch_safe strict _ f (decodeF_safe strict f) v pkl r (by omega)
          · simp
    · exact safe_err _

theorem tdecodeHashedValue_safe (quirk : Bool) (r : Bytes) : Safe (tdecodeHashedValue quirk r) := by
  unfold tdecodeHashedValue
  split
  · simp
  · split
    · simp
    · split <;> simp

/-- the `panic(err)` after `scale.Unmarshal` is unreachable: a child hash is unmarshalled only when
    32 bytes or more were read -/
theorem tdecodeKids_safe (quirk strict : Bool) : ∀ (bits : List Bool) (r : Bytes),
    Safe (tdecodeKids quirk strict bits r)
  | [], _ => safe_ok _
  | false :: bs, r => by
    simp only [tdecodeKids]
    rcases (tdecodeKids_safe quirk strict bs r).cases with ⟨cs, h⟩ | ⟨e, h⟩ <;> rw [h] <;> simp
  | true :: bs, r => by
    simp only [tdecodeKids]
    split
    · simp
    · rename_i hash r' _
      have h2 : ∀ c : TChild, Safe (match tdecodeKids quirk strict bs r' with
          | .ok cs => .ok (c :: cs) | o => o) := by
        intro c
        rcases (tdecodeKids_safe quirk strict bs r').cases with ⟨cs, h⟩ | ⟨e, h⟩ <;> rw [h] <;> simp
      split
      · exact h2 _
      · rename_i hl
        obtain ⟨h, hu⟩ : ∃ h, unmarshalH256 quirk hash = some h := by simp [unmarshalH256, hl]
        rw [hu]
        exact h2 _

theorem tdecodeLeaf_safe (quirk strict : Bool) (v : Variant) (d : Bytes) (o : Nat) (r : Bytes) :
    Safe (tdecodeLeaf quirk strict v d o r) := by
  unfold tdecodeLeaf
  split
  · rcases (tdecodeHashedValue_safe quirk r).cases with ⟨⟨h, _⟩, e⟩ | ⟨e', e⟩ <;> rw [e] <;> simp
  · split <;> simp

theorem tdecodeBranch_safe (quirk strict : Bool) (v : Variant) (d : Bytes) (o : Nat) (r : Bytes) :
    Safe (tdecodeBranch quirk strict v d o r) := by
  unfold tdecodeBranch
  have hK : ∀ (bits : List Bool) (r : Bytes) (f : List TChild → TNode),
      Safe (match tdecodeKids quirk strict bits r with
        | .ok cs => .ok (f cs) | .err e => .err e | .panic => .panic | .fuel => .fuel) := by
    intro bits r f
    rcases (tdecodeKids_safe quirk strict bits r).cases with ⟨cs, h⟩ | ⟨e, h⟩ <;> rw [h] <;> simp
  split
  · rename_i b0 b1 r2
    dsimp only
    split
    · split
      · simp
      · exact hK _ _ _
    · split
      · rcases (tdecodeHashedValue_safe quirk r2).cases with ⟨⟨hv, r3⟩, e⟩ | ⟨e', e⟩ <;> rw [e]
        · exact hK _ _ _
        · exact safe_err _
      · exact hK _ _ _
  · simp

theorem tdecodeKey_safe (pkl : Nat) (r : Bytes) : Safe (tdecodeKey pkl r) := by
  unfold tdecodeKey
  split
  · simp
  · dsimp only
    split
    · simp
    · split <;> simp

theorem tdecodeG_safe (quirk strict : Bool) (bs : Bytes) : Safe (tdecodeG quirk strict bs) := by
  unfold tdecodeG
  rcases (decodeHeader_safe bs).cases with ⟨⟨v, pkl, r⟩, h⟩ | ⟨e, h⟩ <;> rw [h]
  · dsimp only
    split
    · simp
    · rcases (tdecodeKey_safe pkl r).cases with ⟨⟨d, o, r1⟩, h⟩ | ⟨e, h⟩ <;> rw [h]
      · dsimp only
        split
        · exact tdecodeLeaf_safe quirk strict v d o r1
        · split
          · exact tdecodeBranch_safe quirk strict v d o r1
          · simp
      · exact safe_err _
  · exact safe_err _

end Gossamer.C07
