/-
Request planning: a plan is a chain of back-to-back requests (`Consecutive`), and such a chain asks for the heights of
one interval; the loop of `NewAscendingBlockRequests` builds one as long as no start wraps.
-/
import Gossamer.Model.C31
namespace Gossamer.C31

def heights (rs : List PReq) : List Nat := rs.flatMap (fun r => List.range' r.start r.max)

/-- `rs` is a chain of back-to-back requests from height `s` up to (excluding) height `e` -/
def Consecutive : Nat → List PReq → Nat → Prop
  | s, [], e => s = e
  | s, r :: rs, e => r.start = s ∧ Consecutive (s + r.max) rs e

theorem heights_of_consecutive {rs : List PReq} {s e : Nat} (h : Consecutive s rs e) :
    ∃ n, e = s + n ∧ heights rs = List.range' s n := by
  induction rs generalizing s with
  | nil => exact ⟨0, h.symm, rfl⟩
  | cons r rs ih =>
    obtain ⟨n, he, hh⟩ := ih h.2
    refine ⟨r.max + n, he.trans (Nat.add_assoc ..), ?_⟩
    rw [← List.range'_append_1, ← hh, ← h.1]
    rfl

/-- The loop with `cnt + 1` iterations to go (the last of them being iteration `n - 1`) asks for `cnt` full
    requests and a last one of `l` blocks: `missing`, or a full one when `missing = 0`; no start wraps as long as
    the end `e` of the range fits into a `uint`. -/
theorem planLoop_consecutive (n m l : Nat) (hl : l = if m ≠ 0 then m else maxBlocks) (hm : m ≤ maxBlocks) :
    ∀ (cnt i start e : Nat), i + (cnt + 1) = n → start + maxBlocks * cnt + l = e → e ≤ W →
      Consecutive start (planLoop n m (cnt + 1) i start) e
      ∧ ∀ r ∈ planLoop n m (cnt + 1) i start, 1 ≤ r.max ∧ r.max ≤ maxBlocks := by
  have hM : 1 ≤ maxBlocks := by decide
  have hl1 : 1 ≤ l ∧ l ≤ maxBlocks := by
    split at hl <;> omega
  intro cnt
  induction cnt with
  | zero =>
    intro i start e hi he _
    have hlast : i = n - 1 := by omega
    simp only [planLoop, hlast, true_and, ← hl, Consecutive, List.mem_singleton, forall_eq]
    exact ⟨by omega, hl1⟩
  | succ cnt ih =>
    intro i start e hi he hW
    have hlast : ¬ i = n - 1 := by omega
    rw [Nat.mul_succ] at he
    obtain ⟨ihc, ihb⟩ := ih (i + 1) (start + maxBlocks) e (by omega) (by omega) hW
    rw [planLoop]
    simp only [hlast, false_and, if_false, Nat.mod_eq_of_lt (show start + maxBlocks < W by omega)]
    refine ⟨⟨rfl, ihc⟩, ?_⟩
    intro r hr
    rcases List.mem_cons.mp hr with rfl | h
    · exact ⟨hM, Nat.le_refl _⟩
    · exact ihb r h

/-- the block count computed with wrap-around is the true count, except for the whole `uint` range -/
theorem diff_eq (a b : Nat) (hab : a ≤ b) (hb : b < W) (hfull : ¬ (a = 0 ∧ b = W - 1)) :
    (b + W - ((a + W - 1) % W)) % W = b + 1 - a := by
  simp only [W] at *
  omega

end Gossamer.C31
