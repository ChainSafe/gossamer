/-
C36, node level: every operation of the model appends a SAFE segment to the write log (given the node
invariant) and re-establishes the node invariant; the segment
writes the highest round / set id key at most once, which is what makes that key crash-atomic (`hrs_atomic`).
-/
import Gossamer.Lib.C36DB
namespace Gossamer.C36

/-- `unfin`: StoreTrie precedes AddBlock.  `last` serves the early return of `handleFinalised` (the block asked for is
    the last finalised one), `gen` the loop `finLoop`, which skips the genesis id without writing it. -/
structure NInv (n : Node) : Prop where
  dbinv : DBInv n.db
  unfin : ∀ b ∈ n.unfin, n.db.node b.root = true
  last : HdrOK n.db n.last
  gen : HdrOK n.db genesisId

/-- number of writes of the highest round / set id key in a log.  Every operation writes it at most once (the
    counter of `Reach` / `Step`), so that a crash inside the operation sees the old or the new value and never a
    third (`hrs_atomic`). -/
def hrsW : W → Nat
  | .hrs _ _ => 1
  | _ => 0
def hrsE : Entry → Nat
  | .put w => hrsW w
  | .batch ws => (ws.map hrsW).sum
def hrsCount (l : List Entry) : Nat := (l.map hrsE).sum

theorem hrsCount_append (a b : List Entry) : hrsCount (a ++ b) = hrsCount a + hrsCount b := by
  simp [hrsCount, List.map_append, List.sum_append]

theorem hrs_write {db : DB} {w : W} (h : hrsW w = 0) : (db.write w).hrs = db.hrs := by
  cases w <;> first | rfl | (simp [hrsW] at h)

theorem hrs_writes : ∀ {ws : List W} {db : DB}, (ws.map hrsW).sum = 0 → (ws.foldl DB.write db).hrs = db.hrs
  | [], _, _ => rfl
  | w :: ws, db, h => by
    have h' : hrsW w = 0 ∧ (ws.map hrsW).sum = 0 := by simpa [Nat.add_eq_zero_iff] using h
    show (ws.foldl DB.write (db.write w)).hrs = db.hrs
    rw [hrs_writes h'.2, hrs_write h'.1]

theorem hrs_apply {db : DB} {e : Entry} (h : hrsE e = 0) : (db.apply e).hrs = db.hrs := by
  cases e with
  | put w => exact hrs_write h
  | batch ws => exact hrs_writes h

theorem hrs_replay : ∀ {l : List Entry} {db : DB}, hrsCount l = 0 → (replay db l).hrs = db.hrs
  | [], _, _ => rfl
  | e :: es, db, h => by
    have h' : hrsE e = 0 ∧ hrsCount es = 0 := by simpa [hrsCount, Nat.add_eq_zero_iff] using h
    show (replay (db.apply e) es).hrs = db.hrs
    rw [hrs_replay h'.2, hrs_apply h'.1]

theorem hrs_atomic : ∀ (seg : List Entry) (db : DB) (i : Nat), hrsCount seg ≤ 1 →
    (replay db (seg.take i)).hrs = db.hrs ∨ (replay db (seg.take i)).hrs = (replay db seg).hrs
  | [], _, _, _ => Or.inl (by simp [replay])
  | _ :: _, _, 0, _ => Or.inl (by simp [replay])
  | e :: es, db, i + 1, h => by
    have hsum : hrsE e + hrsCount es ≤ 1 := by simpa [hrsCount] using h
    show (replay (db.apply e) (es.take i)).hrs = db.hrs ∨
      (replay (db.apply e) (es.take i)).hrs = (replay (db.apply e) es).hrs
    by_cases he : hrsE e = 0
    · rcases hrs_atomic es (db.apply e) i (by omega) with h1 | h1
      · exact Or.inl (by rw [h1, hrs_apply he])
      · exact Or.inr h1
    · have hz : hrsCount es = 0 := by omega
      have hz' : hrsCount (es.take i) = 0 := by
        have : hrsCount (es.take i) + hrsCount (es.drop i) = hrsCount es := by
          rw [← hrsCount_append, List.take_append_drop]
        omega
      exact Or.inr (by rw [hrs_replay hz', hrs_replay hz])

/-- not reachability: `n'` is `n` plus a SAFE log segment that writes the highest round / set id key at most `c` times -/
def Reach (n n' : Node) (c : Nat) : Prop :=
  ∃ seg, n'.log = n.log ++ seg ∧ n'.db = replay n.db seg ∧ SafeSeg n.db seg ∧ hrsCount seg ≤ c

theorem Reach.same {n n' : Node} (hlog : n'.log = n.log) (hdb : n'.db = n.db) : Reach n n' 0 :=
  ⟨[], by simp [hlog], by simp [hdb, replay], trivial, by simp [hrsCount]⟩

theorem Reach.trans {a b c : Node} {c1 c2 : Nat} (h1 : Reach a b c1) (h2 : Reach b c c2) :
    Reach a c (c1 + c2) := by
  obtain ⟨s1, l1, d1, f1, k1⟩ := h1
  obtain ⟨s2, l2, d2, f2, k2⟩ := h2
  refine ⟨s1 ++ s2, by simp [l2, l1], by rw [d2, d1, replay_append], SafeSeg.append f1 (d1 ▸ f2), ?_⟩
  rw [hrsCount_append]; omega

theorem Reach.mono {a b : Node} {c c' : Nat} (h : Reach a b c) (hc : c ≤ c') : Reach a b c' := by
  obtain ⟨s, l, d, f, k⟩ := h
  exact ⟨s, l, d, f, Nat.le_trans k hc⟩

theorem Reach.keeps {a b : Node} {c : Nat} (h : Reach a b c) : Keeps a.db b.db := by
  obtain ⟨s, _, d, f, _⟩ := h
  rw [d]; exact keeps_replay f

/-- a function of the invariant of `n`: a proof `s : Step n n' c` is used by applying it, `s h : NInv n' ∧ Reach n n' c` -/
def Step (n n' : Node) (c : Nat) : Prop := NInv n → NInv n' ∧ Reach n n' c

theorem Step.trans {a b c : Node} {k1 k2 : Nat} (h1 : Step a b k1) (h2 : Step b c k2) : Step a c (k1 + k2) :=
  fun h => ⟨(h2 (h1 h).1).1, (h1 h).2.trans (h2 (h1 h).1).2⟩

theorem Step.mono {a b : Node} {c c' : Nat} (h : Step a b c) (hc : c ≤ c') : Step a b c' :=
  fun hi => ⟨(h hi).1, (h hi).2.mono hc⟩

theorem Step.refl (n : Node) : Step n n 0 := fun h => ⟨h, Reach.same rfl rfl⟩

theorem Step.same {n n' : Node} (hdb : n'.db = n.db) (hlog : n'.log = n.log)
    (hun : ∀ b ∈ n'.unfin, b ∈ n.unfin) (hl : n'.last = n.last) : Step n n' 0 :=
  fun h => ⟨⟨hdb ▸ h.dbinv, fun b hb => hdb ▸ h.unfin b (hun b hb), by rw [hdb, hl]; exact h.last,
    hdb ▸ h.gen⟩, Reach.same hlog hdb⟩

theorem Step.then_same {a b b' : Node} {c : Nat} (h : Step a b c) (hdb : b'.db = b.db) (hlog : b'.log = b.log)
    (hun : ∀ x ∈ b'.unfin, x ∈ b.unfin) (hl : b'.last = b.last) : Step a b' c :=
  h.trans (Step.same hdb hlog hun hl)

/-- for the early returns of the Go code -/
theorem Step.ite_fst {α : Type} {n : Node} {k : Nat} {c : Prop} [Decidable c] {x y : Node × α}
    (hx : Step n x.1 k) (hy : Step n y.1 k) : Step n (if c then x else y).1 k := by
  split <;> assumption

theorem Step.ite {n x y : Node} {k : Nat} {c : Prop} [Decidable c]
    (hx : Step n x k) (hy : Step n y k) : Step n (if c then x else y) k := by
  split <;> assumption

theorem Step.emit {n : Node} {e : Entry} (hs : NInv n → SafeE n.db e) : Step n (n.emit e) (hrsE e) := by
  intro h
  have k := keeps_apply (hs h)
  refine ⟨⟨k.inv h.dbinv, fun b hb => k.node _ (h.unfin b hb), k.hdrok _ h.last, k.hdrok _ h.gen⟩,
    [e], rfl, rfl, ⟨hs h, trivial⟩, by simp [hrsCount]⟩

theorem Step.batch {n : Node} {ws : List W} (hs : NInv n → SafeWs n.db ws) (hz : ∀ w ∈ ws, hrsW w = 0) :
    Step n (n.emit (.batch ws)) 0 :=
  List.sum_eq_zero_iff_forall_eq_nat.mpr (List.forall_mem_map.mpr hz) ▸ Step.emit (e := .batch ws) hs

theorem Step.put {n : Node} {w : W} (hs : NInv n → SafeW n.db w) (hw : hrsW w = 0 := by rfl) :
    Step n (n.put w) 0 :=
  hw ▸ Step.emit (e := .put w) hs

theorem emit_pres {P : DB → Prop} (hP : ∀ db w, P db → P (db.write w)) (n : Node) (e : Entry) (h : P n.db) :
    P (n.emit e).db :=
  apply_pres hP e h

theorem getNode_id {tree : List Hdr} {h : Nat} {b : Hdr} (hb : getNode tree h = some b) : b.id = h := by
  have := List.find?_some hb
  simpa using this

theorem accumulate_mem (tree : List Hdr) (start : Nat) : ∀ (c : Nat) (cur : Hdr) (acc l : List Nat),
    accumulate tree start c cur acc = some l →
    (∀ x ∈ acc, x ∈ l.tail) ∧ (0 < c → cur.id ∈ l.tail)
  | 0, cur, acc, l, h => by
    simp only [accumulate] at h
    split at h
    · cases h; simp
    · cases h
  | c + 1, cur, acc, l, h => by
    simp only [accumulate] at h
    split at h
    · cases h
    · rename_i p _
      have ih := (accumulate_mem tree start c p (cur.id :: acc) l h).1
      exact ⟨fun x hx => ih x (List.mem_cons_of_mem _ hx), fun _ => ih _ (List.mem_cons_self ..)⟩

theorem range_mem {tree : List Hdr} {a b : Nat} {l : List Nat}
    (h : rangeInMemory tree a b = some l) (hab : b ≠ a) : b ∈ l.tail := by
  simp only [rangeInMemory] at h
  split at h
  · rename_i e s he hs
    split at h
    · cases h
    · have hid := getNode_id he
      by_cases hc : e.number - s.number = 0
      · rw [hc] at h
        simp only [accumulate] at h
        split at h
        · rename_i heq; exact absurd (hid ▸ heq) hab
        · cases h
      · have := (accumulate_mem tree a _ e [] l h).2 (Nat.pos_of_ne_zero hc)
        rwa [hid] at this
  · cases h

/-- The batch the loop returns consists of `hsh` puts only, which are safe in any database; that every block of the
    chain is fully stored afterwards is what the `fin` put needs. -/
theorem finLoop_spec : ∀ (chain : List Nat) (n : Node) (acc : List W),
    NInv n → (∀ w ∈ acc, ∃ x y, w = .hsh x y) →
    NInv (finLoop n acc chain).1 ∧ Reach n (finLoop n acc chain).1 0 ∧
    ∀ b, (finLoop n acc chain).2 = some b →
      (∀ w ∈ b, ∃ x y, w = .hsh x y) ∧ ∀ c ∈ chain, HdrOK (finLoop n acc chain).1.db c
  | [], n, acc, h, hacc => by
    simp only [finLoop]
    exact ⟨h, Reach.same rfl rfl, fun b hb => by cases hb; exact ⟨hacc, by simp⟩⟩
  | c :: rest, n, acc, h, hacc => by
    rw [finLoop]
    by_cases hg : c = genesisId
    · rw [if_pos hg]
      obtain ⟨hinv, hreach, hpost⟩ := finLoop_spec rest n acc h hacc
      refine ⟨hinv, hreach, fun b hb => ⟨(hpost b hb).1, fun x hx => ?_⟩⟩
      rcases List.mem_cons.mp hx with rfl | hx
      · exact hreach.keeps.hdrok _ (hg ▸ h.gen)
      · exact (hpost b hb).2 x hx
    · rw [if_neg hg]
      split
      · exact ⟨h, Reach.same rfl rfl, fun b hb => by cases hb⟩
      · rename_i b hfind
        have hbmem : b ∈ n.unfin := List.mem_of_find?_eq_some hfind
        have hbid : b.id = c := by simpa using List.find?_some hfind
        -- the four puts of one block
        let n2 := if b.number = 1 then (n.put (.hdr b)).put .fsn else n.put (.hdr b)
        let n5 : Node := { (n2.put (.blb c)).put (.arr c) with
          unfin := ((n2.put (.blb c)).put (.arr c)).unfin.filter (fun x => x.id ≠ c) }
        have s : Step n n5 0 :=
          ((((Step.put (w := .hdr b) (fun hi => hi.unfin b hbmem)).trans
            (Step.ite (Step.put (w := .fsn) (fun _ => trivial)) (Step.refl _))).trans
            (Step.put (w := .blb c) (fun _ => trivial))).trans
            (Step.put (w := .arr c) (fun _ => trivial))).then_same rfl rfl (fun x hx => (List.mem_filter.mp hx).1) rfl
        obtain ⟨h5, r5⟩ := s h
        -- header written first (neither `fsn`, `blb` nor `arr` touch it), trie stored before, body by `blb`
        have hhdr : n2.db.hdr c = some b := by
          show (if b.number = 1 then (n.put (.hdr b)).put .fsn else n.put (.hdr b)).db.hdr c = some b
          split <;> exact if_pos hbid.symm
        have hok : HdrOK n5.db c := ⟨b, hhdr, r5.keeps.node _ (h.unfin b hbmem), if_pos rfl⟩
        have hacc' : ∀ w ∈ acc ++ [W.hsh b.number c], ∃ x y, w = .hsh x y := by
          intro w hw
          rcases List.mem_append.mp hw with hw | hw
          · exact hacc w hw
          · exact ⟨b.number, c, by simpa using hw⟩
        obtain ⟨hinv, hreach, hpost⟩ := finLoop_spec rest n5 (acc ++ [W.hsh b.number c]) h5 hacc'
        refine ⟨hinv, r5.trans hreach, fun bb hb => ⟨(hpost bb hb).1, fun x hx => ?_⟩⟩
        rcases List.mem_cons.mp hx with rfl | hx
        · exact hreach.keeps.hdrok _ hok
        · exact (hpost bb hb).2 x hx

theorem handleFinalised_spec (n : Node) (h : Nat) (hi : NInv n) :
    NInv (handleFinalised n h).1 ∧ Reach n (handleFinalised n h).1 0 ∧
    ((handleFinalised n h).2 = true → HdrOK (handleFinalised n h).1.db h) := by
  unfold handleFinalised
  by_cases hl : h = n.last
  · rw [if_pos hl]
    exact ⟨hi, Reach.same rfl rfl, fun _ => hl ▸ hi.last⟩
  · rw [if_neg hl]
    split
    · exact ⟨hi, Reach.same rfl rfl, fun hf => by cases hf⟩
    · rename_i chain hrange
      have hmem := range_mem hrange hl
      obtain ⟨hinv, hreach, hpost⟩ := finLoop_spec chain.tail n [] hi (by simp)
      generalize hr : finLoop n [] chain.tail = r at hinv hreach hpost
      obtain ⟨n', ob⟩ := r
      cases ob with
      | none => exact ⟨hinv, hreach, fun hf => by cases hf⟩
      | some batch =>
        obtain ⟨hb, hok⟩ := hpost batch rfl
        have := Step.batch (n := n') (fun _ => safeWs_of_forall _ fun w hw _ => by obtain ⟨x, y, rfl⟩ := hb w hw; trivial)
          (fun w hw => by obtain ⟨x, y, rfl⟩ := hb w hw; rfl) hinv
        exact ⟨this.1, hreach.trans this.2, fun _ => this.2.keeps.hdrok _ (hok h hmem)⟩

theorem prune_step (n : Node) (h : Nat) : Step n (prune n h) 0 := by
  unfold prune
  refine Step.ite (Step.refl _) ?_
  split
  · exact Step.refl _
  · exact Step.same rfl rfl (fun x hx => (List.mem_filter.mp hx).1) rfl

theorem prune_db (n : Node) (h : Nat) : (prune n h).db = n.db := by
  unfold prune
  split
  · rfl
  · split <;> rfl

theorem setFinalisedHash_step (n : Node) (h r s : Nat) : Step n (setFinalisedHash n h r s).1 1 := by
  unfold setFinalisedHash
  refine Step.ite_fst ((Step.refl n).mono (Nat.zero_le 1)) (Step.ite_fst ((Step.refl n).mono (Nat.zero_le 1)) ?_)
  intro hi
  obtain ⟨hinv, hreach, hpost⟩ := handleFinalised_spec n h hi
  generalize hr : handleFinalised n h = res at hinv hreach hpost
  obtain ⟨n1, ok⟩ := res
  cases ok with
  | false => exact ⟨hinv, hreach.mono (by omega)⟩
  | true =>
    have hok := hpost rfl
    let n2 := n1.put (.fin r s h)
    have sfin : Step n1 n2 0 := Step.put (w := .fin r s h) (fun _ => hok)
    obtain ⟨j1, j2⟩ := sfin hinv
    have hok2 : HdrOK n2.db h := j2.keeps.hdrok _ hok
    have r2 : Reach n n2 1 := (hreach.trans j2).mono (by omega)
    simp only
    split
    · exact ⟨j1, r2⟩
    · rename_i r0 hs hhrs
      split
      · exact ⟨j1, r2⟩
      · -- the finalised-hash key of (r, s) was just written, and the stored set id is not above `s`
        obtain ⟨k1, k2⟩ := Step.emit (n := n2) (e := .put (.hrs r s))
          (fun _ => ⟨⟨h, if_pos ⟨rfl, rfl⟩⟩, by
            show setOf (n1.put (.fin r s h)).db ≤ s
            simp only [setOf, hhrs]; omega⟩) j1
        obtain ⟨p1, p2⟩ := prune_step (n2.put (.hrs r s)) h k1
        refine ⟨⟨p1.dbinv, p1.unfin, ?_, p1.gen⟩, ?_⟩
        · show HdrOK (prune (n2.put (.hrs r s)) h).db h
          rw [prune_db]; exact k2.keeps.hdrok _ hok2
        · -- unpacked and packed again: the log and database of `{ _ with last := h }` and the count `0 + 0 + 1 + 0` are
          -- those asked for only up to unfolding, which `exact` of the whole is slow to see
          obtain ⟨seg, l, d, f, k⟩ := ((hreach.trans j2).trans k2).trans p2
          exact ⟨seg, l, d, f, k⟩

theorem startNext_none (cfg : Cfg) {n : Node} (h : n.db.curSet = none) (tag eff : Nat) :
    startNext cfg n tag eff = (n, false) := by
  unfold startNext
  rw [h]

/-- the three writes of `startNextAuthoritySet`, in the order of the code before and after the repair -/
theorem startNext_some (cfg : Cfg) {n : Node} {cur : Nat} (h : n.db.curSet = some cur) (tag eff : Nat) :
    startNext cfg n tag eff =
      (if cfg.incrementFirst then
         ((n.put (.curSet (cur + 1))).put (.auth (cur + 1) tag)).put (.change (cur + 1) eff)
       else ((n.put (.auth (cur + 1) tag)).put (.change (cur + 1) eff)).put (.curSet (cur + 1)), true) := by
  have h2 : ((n.put (.auth (cur + 1) tag)).put (.change (cur + 1) eff)).db.curSet = some cur := h
  unfold startNext
  rw [h]
  simp only [h2]
  split <;> rfl

/-- `{}` is the repaired write order (`Cfg.incrementFirst = false`): only for it are the steps safe -/
theorem startNext_step (n : Node) (tag eff : Nat) : Step n (startNext {} n tag eff).1 0 := by
  cases h : n.db.curSet with
  | none => rw [startNext_none {} h]; exact Step.refl n
  | some cur =>
    rw [startNext_some {} h]
    -- the set id is written last, when its authorities and activation block are on disk
    exact ((Step.put (w := .auth (cur + 1) tag) (fun _ => trivial)).trans
      (Step.put (w := .change (cur + 1) eff) (fun _ => trivial))).trans
      (Step.put (w := .curSet (cur + 1)) (fun _ => ⟨⟨tag, if_pos rfl⟩, ⟨eff, if_pos rfl⟩⟩))

theorem startNext_mem (cfg : Cfg) (n : Node) (tag eff : Nat) :
    (startNext cfg n tag eff).1.unfin = n.unfin ∧ (startNext cfg n tag eff).1.last = n.last := by
  cases h : n.db.curSet with
  | none => rw [startNext_none cfg h]; exact ⟨rfl, rfl⟩
  | some cur =>
    rw [startNext_some cfg h]
    -- not `rfl`: on a chain of puts it first tries to identify the two nodes field by field, which is slow to fail
    split <;> simp only [Node.put, Node.emit, and_self]

theorem handleDigest_step (n : Node) (b : Hdr) (spec : ChangeSpec) : Step n (handleDigest n b spec).1 0 := by
  cases spec with
  | sc d t =>
    simp only [handleDigest]
    split
    · exact Step.refl _
    · exact Step.same rfl rfl (fun _ h => h) rfl
  | fc d bf t =>
    simp only [handleDigest]
    split
    · exact Step.refl _
    · exact Step.same rfl rfl (fun _ h => h) rfl

theorem applyForced_step (n : Node) (b : Hdr) : Step n (applyForced {} n b).1 0 := by
  unfold applyForced
  simp only
  split
  · exact Step.refl _
  · exact Step.refl _
  · split
    · exact Step.refl _
    · exact Step.refl _
    · rename_i fc _ _ _
      have s2 := startNext_step n fc.tag fc.bestFin
      generalize hr : startNext {} n fc.tag fc.bestFin = res at s2
      obtain ⟨n2, ok⟩ := res
      cases ok with
      | false => exact s2
      | true => exact s2.then_same rfl rfl (fun _ h => h) rfl

theorem applyScheduled_step (n : Node) (b : Hdr) : Step n (applyScheduled {} n b).1 0 := by
  unfold applyScheduled
  split
  · exact Step.refl _
  · rename_i forced _
    have s0 : Step n { n with forced := forced } 0 := Step.same rfl rfl (fun _ h => h) rfl
    refine Step.ite_fst s0 ?_
    split
    · exact s0
    · split
      · exact s0
      · exact Step.same rfl rfl (fun _ h => h) rfl
    · rename_i p _
      exact Step.trans (Step.same (n := n) (n' := { n with forced := forced, sched := p.kids }) rfl rfl (fun _ h => h) rfl)
        (startNext_step _ p.change.tag b.number)

theorem mem_insertSorted {x y : Nat} : ∀ {l : List Nat}, y ∈ insertSorted x l → y = x ∨ y ∈ l
  | [], h => by simpa [insertSorted] using h
  | z :: zs, h => by
    simp only [insertSorted] at h
    split at h
    · rcases List.mem_cons.mp h with h | h
      · exact Or.inl h
      · exact Or.inr h
    · split at h
      · exact Or.inr h
      · rcases List.mem_cons.mp h with h | h
        · exact Or.inr (h ▸ List.mem_cons_self ..)
        · rcases mem_insertSorted h with h | h
          · exact Or.inl h
          · exact Or.inr (List.mem_cons_of_mem _ h)

theorem mem_sortDedup {y : Nat} : ∀ {l : List Nat}, y ∈ sortDedup l → y ∈ l
  | [], h => by simp [sortDedup] at h
  | x :: xs, h => by
    have h' : y ∈ insertSorted x (sortDedup xs) := h
    rcases mem_insertSorted h' with h | h
    · exact h ▸ List.mem_cons_self ..
    · exact List.mem_cons_of_mem _ (mem_sortDedup h)

theorem handleNextEpoch_step (n : Node) (b : Hdr) : Step n (handleNextEpoch n b) 0 :=
  Step.trans (Step.same (n := n) (n' := { n with memNed := if n.memNed.contains (epochOf b.number + 1, b.id) then n.memNed
      else n.memNed ++ [(epochOf b.number + 1, b.id)] }) rfl rfl (fun _ h => h) rfl)
    (Step.put (w := .ned (epochOf b.number + 1) b.id) (fun _ => trivial))

theorem handleNextConfig_step (n : Node) (b : Hdr) : Step n (handleNextConfig n b) 0 :=
  Step.trans (Step.same (n := n) (n' := { n with memNcd := if n.memNcd.contains (epochOf b.number + 1, b.id) then n.memNcd
      else n.memNcd ++ [(epochOf b.number + 1, b.id)] }) rfl rfl (fun _ h => h) rfl)
    (Step.put (w := .ncd (epochOf b.number + 1) b.id) (fun _ => trivial))

/-- `P`: the definition that makes the announcements redundant is persisted -/
theorem deleteLoop_step {P : DB → Prop} (hP : ∀ db w, P db → P (db.write w)) (mk : Nat → Nat → W)
    (hz : ∀ e h, hrsW (mk e h) = 0) (mem : List (Nat × Nat)) : ∀ (epochs : List Nat) (n : Node),
    (∀ e ∈ epochs, ∀ db h, P db → SafeW db (mk e h)) → P n.db → Step n (deleteLoop mk mem n epochs) 0
  | [], n, _, _ => Step.refl n
  | e :: es, n, hsafe, hp => by
    rw [deleteLoop]
    refine Step.trans ?_ (deleteLoop_step hP mk hz mem es _ (fun x hx => hsafe x (List.mem_cons_of_mem _ hx))
      (emit_pres hP n _ hp))
    exact Step.batch (fun _ => safeWs_map hP (mk e) (hsafe e (List.mem_cons_self ..)) _ n.db hp)
      (fun w hw => by obtain ⟨h, _, rfl⟩ := List.mem_map.mp hw; exact hz e h)

theorem epochs_le {mem : List (Nat × Nat)} {ne : Nat} :
    ∀ e ∈ sortDedup ((mem.filter (fun p => p.1 ≤ ne)).map (·.1)), e ≤ ne := by
  intro e he
  obtain ⟨p, hp, rfl⟩ := List.mem_map.mp (mem_sortDedup he)
  simpa using (List.mem_filter.mp hp).2

theorem finalizeNed_step (n : Node) (b : Hdr) : Step n (finalizeNed n b).1 0 := by
  unfold finalizeNed
  refine Step.ite_fst (Step.refl _) (Step.ite_fst (Step.refl _) (Step.ite_fst (Step.refl _)
    (Step.ite_fst (Step.refl _) ?_)))
  -- the definition is written BEFORE the announcements are deleted
  refine Step.then_same (b := deleteLoop .delNed _ (n.put (.einfo (epochOf b.number + 1))) _) ?_ rfl rfl
    (fun _ h => h) rfl
  exact (Step.put (w := .einfo (epochOf b.number + 1)) (fun _ => trivial)).trans
    (deleteLoop_step (P := fun db => db.einfo (epochOf b.number + 1) = true) (fun _ w h => einfo_write w h)
      .delNed (fun _ _ => rfl) _ _ _ (fun e he _ _ hp => ⟨_, epochs_le e he, hp⟩) (if_pos rfl))

theorem finalizeNcd_step (n : Node) (b : Hdr) : Step n (finalizeNcd n b).1 0 := by
  unfold finalizeNcd
  refine Step.ite_fst (Step.refl _) (Step.ite_fst (Step.refl _) (Step.ite_fst (Step.refl _)
    (Step.ite_fst (Step.refl _) ?_)))
  refine Step.then_same (b := deleteLoop .delNcd _ (n.put (.cinfo (epochOf b.number + 1))) _) ?_ rfl rfl
    (fun _ h => h) rfl
  exact (Step.put (w := .cinfo (epochOf b.number + 1)) (fun _ => trivial)).trans
    (deleteLoop_step (P := fun db => db.cinfo (epochOf b.number + 1) = true) (fun _ w h => cinfo_write w h)
      .delNcd (fun _ _ => rfl) _ _ _ (fun e he _ _ hp => ⟨_, epochs_le e he, hp⟩) (if_pos rfl))

theorem finHandlers_step (n : Node) (b : Hdr) : Step n (finHandlers {} n b).1 0 := by
  unfold finHandlers
  let n0 : Node := if b.number ≠ 0 ∧ (pendingMany n.memNed (epochOf b.number + 1) ∨
      pendingMany n.memNcd (epochOf b.number + 1)) then { n with nondet := true } else n
  have s0 : Step n n0 0 := Step.ite (Step.same rfl rfl (fun _ h => h) rfl) (Step.refl n)
  exact ((s0.trans (finalizeNed_step n0 b)).trans (finalizeNcd_step _ b)).trans (applyScheduled_step _ b)

theorem doImport_step (n : Node) (b : Hdr) (parentRoot : Nat) (dirty : Bool) (chg : Option ChangeSpec)
    (ne nc : Bool) (hroot : dirty = false → b.root = parentRoot) :
    Step n (doImport {} n b parentRoot dirty chg ne nc).1 0 := by
  unfold doImport
  by_cases hpr : n.db.node parentRoot = false
  · rw [if_pos hpr]; exact Step.refl _
  · rw [if_neg hpr]
    have hpr : n.db.node parentRoot = true := by simpa using hpr
    have hnode : (n.emit (.batch (if dirty then [.node b.root] else []))).db.node b.root = true := by
      cases hd : dirty
      · rw [hroot hd]; exact hpr
      · exact if_pos rfl
    let e : Entry := .batch (if dirty then [.node b.root] else [])
    have s1 : Step n (n.emit e) 0 :=
      Step.batch (fun _ => safeWs_of_forall _ fun w hw _ => by cases dirty <;> simp_all [SafeW])
        (fun w hw => by cases dirty <;> simp_all [hrsW])
    simp only
    split
    · exact s1
    · exact s1
    · rename_i res tree _ _ _
      let n2 : Node := if res = .ok then
          { n.emit e with tree := tree, unfin := b :: (n.emit e).unfin.filter (fun x => x.id ≠ b.id) }
        else n.emit e
      have s2 : Step (n.emit e) n2 0 := by
        refine Step.ite (fun hi => ⟨⟨hi.dbinv, ?_, hi.last, hi.gen⟩, Reach.same rfl rfl⟩) (Step.refl _)
        intro x hx
        rcases List.mem_cons.mp hx with rfl | hx
        · exact hnode
        · exact hi.unfin x (List.mem_filter.mp hx).1
      let r3 : Node × Bool := match chg with
        | none => (n2, true)
        | some spec => handleDigest n2 b spec
      have s3 : Step n2 r3.1 0 := by
        cases chg with
        | none => exact Step.refl _
        | some spec => exact handleDigest_step n2 b spec
      have s123 : Step n r3.1 0 := (s1.trans s2).trans s3
      show Step n (match r3 with
        | (n, okDigest) =>
          if (!okDigest) = true then (n, "e-digest")
          else
            match applyForced {} (if nc = true then handleNextConfig (if ne = true then handleNextEpoch n b else n) b
                else (if ne = true then handleNextEpoch n b else n)) b with
            | (n, false) => (n, "e-forced")
            | (n, true) => (n, "ok")).1 0
      obtain ⟨n3, ok3⟩ := r3
      refine Step.ite_fst s123 ?_
      have sall : Step n (applyForced {} (if nc = true then handleNextConfig (if ne = true then handleNextEpoch n3 b else n3) b
          else (if ne = true then handleNextEpoch n3 b else n3)) b).1 0 :=
        Step.trans (Step.trans (Step.trans s123 (Step.ite (handleNextEpoch_step n3 b) (Step.refl _)))
          (Step.ite (handleNextConfig_step _ b) (Step.refl _))) (applyForced_step _ b)
      split <;> (rename_i heq; rw [heq] at sall; exact sall)

theorem doFin_step (n : Node) (id r s : Nat) : Step n (doFin {} n id r s).1 1 := by
  unfold doFin
  have s1 := setFinalisedHash_step n id r s
  generalize setFinalisedHash n id r s = res at s1
  obtain ⟨n1, ok⟩ := res
  cases ok with
  | false => exact s1
  | true =>
    refine Step.ite_fst ?_ s1
    split
    · exact s1
    · rename_i b _
      exact s1.trans (finHandlers_step n1 b)

/-- lib/grandpa `finalise` after its first three puts (justification, prevotes, precommits) -/
theorem doGfin_rest (n : Node) (id r s : Nat) :
    Step (((n.put (.jcp id)).put (.pv r s)).put (.pc r s)) (doGfin {} n id r s).1 1 := by
  unfold doGfin
  simp only
  split
  · exact (Step.refl _).mono (Nat.zero_le 1)
  · have s4 := doFin_step (((n.put (.jcp id)).put (.pv r s)).put (.pc r s)) id r s
    generalize doFin {} _ id r s = res at s4
    obtain ⟨n4, ok, str⟩ := res
    cases ok with
    | false => exact s4
    | true => exact s4.trans (Step.put (w := .lfr r) (fun _ => trivial))

theorem gfinPuts_step (n : Node) (id r s : Nat) :
    Step n (((n.put (.jcp id)).put (.pv r s)).put (.pc r s)) 0 :=
  ((Step.put (w := .jcp id) (fun _ => trivial)).trans (Step.put (w := .pv r s) (fun _ => trivial))).trans
    (Step.put (w := .pc r s) (fun _ => trivial))

theorem doGfin_step (n : Node) (id r s : Nat) : Step n (doGfin {} n id r s).1 1 :=
  (gfinPuts_step n id r s).trans (doGfin_rest n id r s)

theorem define_root {n : Node} {id parent k v : Nat} {b : Hdr} {pr : Nat} {dirty : Bool}
    (h : define n id parent k v = some (b, pr, dirty)) : dirty = false → b.root = pr := by
  unfold define at h
  split at h
  · cases h
  · rename_i p _
    simp only at h
    split at h
    · rename_i b' _
      split at h
      · rename_i hc
        cases h
        intro hd
        have : ¬ (setKey p.root k v ≠ p.root) := by simpa using hd
        rw [hc.2.1]; exact Classical.not_not.mp this
      · cases h
    · cases h
      intro hd
      have : ¬ (setKey p.root k v ≠ p.root) := by simpa using hd
      exact Classical.not_not.mp this

theorem step_step (n : Node) (op : Op) : Step n (step {} n op) 1 := by
  unfold step
  cases op with
  | imp id parent k v chg ne nc =>
    simp only [step?]
    cases hdef : define n id parent k v with
    | none => exact (Step.refl n).mono (by omega)
    | some t =>
      obtain ⟨b, pr, dirty⟩ := t
      have s0 : Step n (if n.defs.any (fun x => x.id = id) then n else { n with defs := n.defs ++ [b] }) 0 :=
        Step.ite (Step.refl n) (Step.same rfl rfl (fun _ h => h) rfl)
      exact (s0.trans (doImport_step _ b pr dirty chg ne nc (define_root hdef))).mono (Nat.zero_le 1)
  | fin id r s =>
    simp only [step?]
    exact doFin_step n id r s
  | gfin id r s =>
    simp only [step?]
    exact doGfin_step n id r s
  | just id =>
    simp only [step?]
    exact (Step.put (w := .jcp id) (fun _ => trivial)).mono (Nat.zero_le 1)
  | pv r s =>
    simp only [step?]
    exact (Step.put (w := .pv r s) (fun _ => trivial)).mono (Nat.zero_le 1)
  | pc r s =>
    simp only [step?]
    exact (Step.put (w := .pc r s) (fun _ => trivial)).mono (Nat.zero_le 1)
  | lr r =>
    simp only [step?]
    exact (Step.put (w := .lfr r) (fun _ => trivial)).mono (Nat.zero_le 1)

end Gossamer.C36
