import Gossamer.Lib.C23Spec
import Gossamer.Lib.C23Step
namespace Gossamer.C23

theorem lookup_cons (k v : Nat) (m : List (Nat × Nat)) (i : Nat) :
    lookup ((k, v) :: m) i = if k = i then some v else lookup m i := by
  unfold lookup
  by_cases h : k = i <;> simp [List.find?, h]

/-- what a step may do to `setId` and the two tables -/
inductive CoreStep (s s' : St) : Prop where
  | same (h1 : s'.setId = s.setId) (h2 : s'.auths = s.auths) (h3 : s'.change = s.change)
  | next (tag n : Nat) (h1 : s'.setId = s.setId + 1) (h2 : s'.auths = (s.setId + 1, tag) :: s.auths)
      (h3 : s'.change = (s.setId + 1, n) :: s.change)

theorem step_core (t : Tree) (s : St) (op : Op) : CoreStep s (step t s op).1 := by
  cases op with
  | imp b =>
    refine importBlock_rule (fun s1 => s1.setId = s.setId ∧ s1.auths = s.auths ∧ s1.change = s.change)
      (.same rfl rfl rfl) (fun _ => by split <;> exact ⟨rfl, rfl, rfl⟩) (fun _ _ _ _ h _ => h) (fun _ _ _ _ h _ => h)
      (fun _ h => .same h.1 h.2.1 h.2.2)
      fun s1 fc ⟨h1, h2, h3⟩ => .next fc.tag fc.best (congrArg (· + 1) h1) (h1 ▸ h2 ▸ rfl) (h1 ▸ h3 ▸ rfl)
  | fin b =>
    refine finalise_rule (.same rfl rfl rfl) ?_
    rintro _ _ rfl roots' _
    exact ⟨.same rfl rfl rfl, fun tag => .next tag _ rfl rfl rfl⟩

/-- the tables hold exactly the set ids `0..setId` -/
def KeysOK (s : St) : Prop :=
  ∀ i, ((lookup s.auths i).isSome = decide (i ≤ s.setId)) ∧ ((lookup s.change i).isSome = decide (i ≤ s.setId))

theorem keysOK_init : KeysOK St.init := by
  intro i
  simp only [St.init, lookup_cons]
  by_cases h : 0 = i
  · subst h; simp
  · have : ¬ i ≤ 0 := by omega
    simp [h, this, lookup]

theorem lookup_isSome_cons {m : List (Nat × Nat)} {k : Nat} (v : Nat)
    (h : ∀ i, (lookup m i).isSome = decide (i ≤ k)) (i : Nat) :
    (lookup ((k + 1, v) :: m) i).isSome = decide (i ≤ k + 1) := by
  rw [lookup_cons]
  by_cases e : k + 1 = i
  · rw [if_pos e, decide_eq_true (Nat.le_of_eq e.symm)]; rfl
  · rw [if_neg e, h i, decide_eq_decide]; omega

theorem keysOK_step (t : Tree) (s : St) (op : Op) (h : KeysOK s) : KeysOK (step t s op).1 := by
  cases step_core t s op with
  | same h1 h2 h3 => intro i; rw [h1, h2, h3]; exact h i
  | next tag n h1 h2 h3 =>
    intro i
    rw [h1, h2, h3]
    exact ⟨lookup_isSome_cons tag (fun i => (h i).1) i, lookup_isSome_cons n (fun i => (h i).2) i⟩

theorem step_keeps (t : Tree) (s : St) (op : Op) (i : Nat) (hi : i ≤ s.setId) :
    lookup (step t s op).1.auths i = lookup s.auths i ∧ lookup (step t s op).1.change i = lookup s.change i := by
  cases step_core t s op with
  | same h1 h2 h3 => rw [h2, h3]; exact ⟨rfl, rfl⟩
  | next tag n h1 h2 h3 =>
    rw [h2, h3, lookup_cons, lookup_cons]
    have : ¬ s.setId + 1 = i := by omega
    simp [this]

theorem topBelow_self (f : Nat → Nat) {n c : Nat} (h : f c < n) : topBelow f n c = c := by
  cases c with
  | zero => rfl
  | succ c => exact if_pos h

theorem topBelow_congr (f g : Nat → Nat) (n : Nat) : ∀ (k : Nat), (∀ i, i ≤ k → f i = g i) →
    topBelow f n k = topBelow g n k
  | 0, _ => rfl
  | k + 1, h => by
    rw [topBelow, topBelow, h (k + 1) (Nat.le_refl _), topBelow_congr f g n k fun i hi => h i (Nat.le_succ_of_le hi)]

/-- One turn of the Go loop with both table entries present.  Its tests `n ≤ upper ∧ n > lower`, `n > upper` come to the
    two strict comparisons of one unfolding of `topBelow`, so the change blocks need not increase. -/
theorem setIdAtLoop_step {change : List (Nat × Nat)} {f : Nat → Nat} {c : Nat} (n fuel : Nat)
    (h1 : lookup change (c + 1) = some (f (c + 1))) (h0 : lookup change c = some (f c)) :
    setIdAtLoop change n (fuel + 1) c =
      if f (c + 1) < n then some (c + 1) else if f c < n then some c
      else if c = 0 then some 0 else setIdAtLoop change n fuel (c - 1) := by
  rw [setIdAtLoop, h1, h0]
  dsimp only
  by_cases a : f (c + 1) < n
  · rw [if_neg (fun h => Nat.not_le_of_lt a h.1), if_pos a, if_pos a]
  · by_cases b : f c < n
    · rw [if_pos ⟨Nat.le_of_not_lt a, b⟩, if_neg a, if_pos b]
    · rw [if_neg (fun h => b h.2), if_neg a, if_neg a, if_neg b]

/-- `K` is the current set id (the table has entries `0..K`); `fuel ≥ c` turns are enough to count `c` down to 0 -/
theorem setIdAtLoop_eq (change : List (Nat × Nat)) (f : Nat → Nat) (K n : Nat)
    (hf : ∀ i, i ≤ K → lookup change i = some (f i)) :
    ∀ (c fuel : Nat), c + 1 ≤ K → c ≤ fuel → setIdAtLoop change n (fuel + 1) c = some (topBelow f n (c + 1)) := by
  intro c
  induction c using Nat.strongRecOn with
  | _ c ih =>
    intro fuel hK hfuel
    rw [setIdAtLoop_step n fuel (hf _ hK) (hf _ (Nat.le_of_succ_le hK)), topBelow]
    by_cases a : f (c + 1) < n
    · rw [if_pos a, if_pos a]
    · rw [if_neg a, if_neg a]
      by_cases b : f c < n
      · rw [if_pos b, topBelow_self f b]
      · rw [if_neg b]
        match c, fuel, hfuel with
        | 0, _, _ => rfl
        | c + 1, fuel + 1, hfuel =>
          exact ih c (Nat.lt_succ_self c) fuel (Nat.le_of_succ_le hK) (Nat.le_of_succ_le_succ hfuel)

theorem setIdAt_eq (s : St) (h : KeysOK s) (n : Nat) :
    setIdAt s n = some (topBelow (fun i => (lookup s.change i).getD 0) n s.setId) := by
  have hf : ∀ i, i ≤ s.setId → lookup s.change i = some ((lookup s.change i).getD 0) := by
    intro i hi
    have := (h i).2
    rw [decide_eq_true hi] at this
    cases hl : lookup s.change i with
    | none => rw [hl] at this; cases this
    | some v => rfl
  have hnone : lookup s.change (s.setId + 1) = none := by
    have := (h (s.setId + 1)).2
    rw [decide_eq_false (Nat.not_succ_le_self _)] at this
    cases hl : lookup s.change (s.setId + 1) with
    | none => rfl
    | some v => rw [hl] at this; cases this
  unfold setIdAt
  rw [setIdAtLoop, hnone]
  dsimp only
  cases hk : s.setId with
  | zero => rfl
  | succ k => exact setIdAtLoop_eq s.change _ s.setId n hf k _ (Nat.le_of_eq hk.symm) (Nat.le_succ k)

end Gossamer.C23
