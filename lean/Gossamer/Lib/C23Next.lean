/-
C23: `NextGrandpaAuthorityChange`.  Along histories in which no block is imported twice the nodes of every level of
the scheduled-change tree are announced by pairwise unrelated blocks (`PairF`, kept by `changeTree.importChange`
itself), so at most one root and at most one forced change lie on the chain of a block; the model's "first match"
answers are the specification's minimum.
-/
import Gossamer.Lib.C23Refine
namespace Gossamer.C23

inductive PairF (t : Tree) : List Node → Prop
  | nil : PairF t []
  | cons {c : Ann} {kids rest : List Node} (h : ∀ r ∈ rest, Unrel t c r.ann) (hk : PairF t kids) (hr : PairF t rest) :
      PairF t (.mk c kids :: rest)

theorem PairF.kids {t : Tree} {l : List Node} (h : PairF t l) : ∀ r ∈ l, PairF t r.kids := by
  induction h with
  | nil => exact fun _ hr => nomatch hr
  | cons _ hk _ _ ihr =>
    intro r hr
    rcases List.mem_cons.1 hr with rfl | hr
    · exact hk
    · exact ihr r hr

theorem PairF.filter {t : Tree} {l : List Node} (h : PairF t l) (keep : Node → Bool) : PairF t (l.filter keep) := by
  induction h with
  | nil => exact .nil
  | @cons c kids rest h hk _ _ ihr =>
    rw [List.filter_cons]
    by_cases hc : keep (.mk c kids) = true
    · rw [if_pos hc]; exact .cons (fun r hr => h r (List.mem_filter.1 hr).1) hk ihr
    · rw [if_neg hc]; exact ihr

theorem PairF.top {t : Tree} {l : List Node} (h : PairF t l) : l.Pairwise (fun a b => Unrel t a.ann b.ann) := by
  induction h with
  | nil => exact .nil
  | cons h _ _ _ ihr => exact .cons h ihr

theorem Shrinks.pairF {t : Tree} {l l' : List Node} (h : Shrinks l l') (hp : PairF t l) : PairF t l' := by
  cases h with
  | same => exact hp
  | kids hr => exact hp.kids _ hr
  | filter keep => exact hp.filter keep

/-- a node announced by the new change's block stops the import (`dup`), a strict ancestor takes the change below
    it, and past all others it is unrelated to them -/
theorem pairF_schedImport {t : Tree} (wf : t.WF) (isD : IsD) (pc : Ann) : ∀ (l l' : List Node),
    schedImport t isD pc l = .ok l' → PairF t l →
    (∀ x ∈ blocksF l, isD x pc.blk = some (anc t x pc.blk) ∧ (anc t pc.blk x = true → x = pc.blk)) →
    PairF t l' ∧ ∀ r ∈ l', r.ann.blk = pc.blk ∨ ∃ r0 ∈ l, r0.ann.blk = r.ann.blk := by
  refine forest_ind ?_ ?_
  · intro l' h _ _
    rw [schedImport_nil] at h; cases h
    exact ⟨.cons (fun _ hr => nomatch hr) .nil .nil, fun r hr => Or.inl (List.mem_singleton.1 hr ▸ rfl)⟩
  · intro c kids rest ihk ihr l' h hp hyp
    cases hp with
    | cons hu hk hr =>
      have hc := hyp c.blk (mem_blocksF_cons.2 (Or.inl rfl))
      rw [schedImport_cons] at h
      by_cases e : pc.blk = c.blk
      · rw [if_pos e] at h; cases h
      · rw [if_neg e, hc.1] at h
        dsimp only at h
        by_cases hd : anc t c.blk pc.blk = true ∧ num t c.blk < num t pc.blk
        · rw [if_pos hd] at h
          obtain ⟨k, hk', rfl⟩ := map_eq_ok h
          refine ⟨.cons hu (ihk k hk' hk fun x hx => hyp x (mem_blocksF_cons.2 (Or.inr (Or.inl hx)))).1 hr,
            fun r hrm => Or.inr ?_⟩
          rcases List.mem_cons.1 hrm with rfl | hrm
          · exact ⟨_, List.mem_cons_self .., rfl⟩
          · exact ⟨r, List.mem_cons_of_mem _ hrm, rfl⟩
        · rw [if_neg hd] at h
          obtain ⟨r', hr', rfl⟩ := map_eq_ok h
          have ih := ihr r' hr' hr fun x hx => hyp x (mem_blocksF_cons.2 (Or.inr (Or.inr hx)))
          have hna : anc t c.blk pc.blk = false :=
            Bool.eq_false_iff.2 fun ha => hd ⟨ha, num_lt_of_anc_ne wf ha (Ne.symm e)⟩
          refine ⟨.cons (fun r hrm => ?_) hk ih.1, fun r hrm => ?_⟩
          · rcases ih.2 r hrm with eb | ⟨r0, h0, eb⟩
            · exact ⟨eb ▸ hna, eb ▸ Bool.eq_false_iff.2 fun ha => e (hc.2 ha).symm⟩
            · exact ⟨eb ▸ (hu r0 h0).1, eb ▸ (hu r0 h0).2⟩
          · rcases List.mem_cons.1 hrm with rfl | hrm
            · exact Or.inr ⟨_, List.mem_cons_self .., rfl⟩
            · exact (ih.2 r hrm).imp_right fun ⟨r0, h0, eb⟩ => ⟨r0, List.mem_cons_of_mem _ h0, eb⟩

/-- every level of the change tree is pairwise unrelated and no node is announced by genesis: what `nextChange_eq` needs
    beyond `Inv` -/
def NInv (t : Tree) (s : St) : Prop := PairF t s.roots ∧ ∀ x ∈ blocksF s.roots, x ≠ 0

theorem nInv_empty {t : Tree} {s : St} (hr : s.roots = []) : NInv t s := by
  rw [NInv, hr, blocksF_nil]
  exact ⟨.nil, fun _ hx => nomatch hx⟩

theorem nInv_step {t : Tree} (wf : t.WF) {s : St} (hi : Inv t s) (hn : NInv t s)
    (op : Op) (hfresh : FreshOp t s op) : NInv t (step t s op).1 := by
  cases op with
  | imp b =>
    refine importBlock_rule (P := NInv t) (fun s1 => Mid t s1 b ∧ NInv t s1) hn ?_ ?_ ?_ (fun _ h => h.2)
      (fun _ _ _ => nInv_empty rfl)
    · intro hpar
      rw [addBlock_fresh hfresh]
      exact ⟨mid_add wf hi.live hi.forced hi.roots ⟨hpar, hfresh⟩, hn⟩
    · exact fun s1 d f hd ⟨m, h1⟩ hfi => ⟨mid_forced m hd hfi, h1⟩
    · intro s1 d r hd ⟨m, h1⟩ hri
      refine ⟨mid_sched m hd hri, ?_, fun x hx => ?_⟩
      · exact (pairF_schedImport wf _ d s1.roots r hri h1.1 fun x hx =>
          ⟨isDesc_eq_anc wf (m.roots x hx) (hd ▸ m.inbt), hd ▸ m.tip_tracked wf x hx⟩).1
      · rcases schedImport_blocks t _ d s1.roots r hri x hx with rfl | hx
        · exact hd ▸ m.pos
        · exact h1.2 x hx
  | fin b =>
    refine finalise_rule (P := NInv t) hn fun _ s1 _ roots' hsh => ?_
    have : NInv t { s1 with forced := prunedForced t s1 b, roots := roots' } :=
      ⟨hsh.pairF hn.1, fun x hx => hn.2 x (hsh.blocks hx)⟩
    -- `NInv` reads `roots` only, which `startNext` leaves alone
    exact ⟨this, fun _ => this⟩

theorem nextChange_eq {t : Tree} (wf : t.WF) {s : St} {p : Spec} (hs : Sim t s p) (hi : Inv t s) (hn : NInv t s)
    (x : Nat) (hx : inBt t s x = true) : nextChange t s x = some (p.nextChange t x) := by
  have hx' := (inBt_iff t s x).1 hx
  have hF := lookupForced_pure (cond := nextForcedCond t s x (num t x))
    (P := fun c => anc t c.blk x && decide (eff t c ≤ num t x)) s.forced fun c hc => by
      rw [nextForcedCond, isDesc_eq_anc wf (Or.inl (hi.forced.live hc)) hx]
  have hR := lookupRoots_pure (cond := nextRootCond t s x (num t x))
    (P := fun r => anc t r.ann.blk x && decide (eff t r.ann ≤ num t x)) s.roots fun r hr => by
      rw [nextRootCond, isDesc_eq_anc wf (hi.roots _ (mem_blocksF_of_mem hr)) hx]
  -- the specification's candidates: at most one of each kind, since two ancestors of `x` are related
  have hcf : p.forced.filter (fun f => anc t f.blk x && decide (eff t f ≤ num t x)) =
      (s.forced.find? (fun c => anc t c.blk x && decide (eff t c ≤ num t x))).toList :=
    forced_filter_perm wf hi.forced.2 hs.forced x _
  have hcr : (p.std.map Node.ann).filter (fun c => anc t c.blk x && decide (eff t c ≤ num t x)) =
      ((s.roots.find? (fun r => anc t r.ann.blk x && decide (eff t r.ann ≤ num t x))).toList).map Node.ann := by
    rw [hs.std, List.filter_map, List.filter_filter,
      ← filter_eq_find_toList (fun r : Node => anc t r.ann.blk x && decide (eff t r.ann ≤ num t x))
        (R := fun a b => Unrel t a.ann b.ann)
        (fun a b h h1 h2 => h.not_anc wf (Bool.and_eq_true_iff.1 h1).1 (Bool.and_eq_true_iff.1 h2).1) _ hn.1.top]
    refine congrArg _ (List.filter_congr fun r hr => ?_)
    -- a root on the chain of `x` is announced by a known block
    show (anc t r.ann.blk x && decide (eff t r.ann ≤ num t x) && s.live.contains r.ann.blk) = _
    cases ha : anc t r.ann.blk x with
    | false => rfl
    | true => rw [List.contains_eq_mem, decide_eq_true (tracked_live wf hi.roots (mem_blocksF_of_mem hr) hx'.2 ha),
        Bool.and_true]
  unfold nextChange Spec.nextChange
  dsimp only
  rw [hF, hR, hcf, hcr]
  cases s.forced.find? (fun c => anc t c.blk x && decide (eff t c ≤ num t x)) with
  | none => cases s.roots.find? (fun r => anc t r.ann.blk x && decide (eff t r.ann ≤ num t x)) <;> rfl
  | some f =>
    cases hro : s.roots.find? (fun r => anc t r.ann.blk x && decide (eff t r.ann ≤ num t x)) with
    | none => exact if_pos (Or.inr rfl)
    | some r =>
      -- 0 means "none" in the code; an effective number of a tracked change is never 0
      have hpos : eff t r.ann ≠ 0 := by
        have := num_succ wf (Nat.pos_of_ne_zero (hn.2 _ (mem_blocksF_of_mem (List.mem_of_find?_eq_some hro))))
        rw [eff, this]; omega
      show (if eff t f < eff t r.ann ∨ eff t r.ann = 0 then some (eff t f) else some (eff t r.ann)) =
        some (min (eff t f) (eff t r.ann))
      by_cases hlt : eff t f < eff t r.ann
      · rw [if_pos (Or.inl hlt), Nat.min_eq_left (Nat.le_of_lt hlt)]
      · rw [if_neg (fun h => h.elim hlt hpos), Nat.min_eq_right (Nat.le_of_not_lt hlt)]

/-- what holds between model and specification along a history in scope -/
structure Good (t : Tree) (s : St) (p : Spec) : Prop where
  sim : Sim t s p
  inv : Inv t s
  ninv : NInv t s

theorem good_init {t : Tree} (wf : t.WF) : Good t St.init Spec.init := ⟨sim_init t, inv_init wf, nInv_empty rfl⟩

theorem good_run {t : Tree} (wf : t.WF) : ∀ (ops : List Op) {s : St} {p : Spec}, Good t s p → Scoped t s ops →
    Spec.trace t p ops = trace t s ops ∧ Good t (run t s ops) (Spec.run t p ops)
  | [], _, _, g, _ => ⟨rfl, g⟩
  | op :: ops, _, _, g, hsc => by
    have h1 := sim_step wf g.sim g.inv op hsc.1 hsc.2.1
    have h2 := good_run wf ops
      ⟨h1.2, inv_step wf g.inv op (inScope_fresh hsc.1), nInv_step wf g.inv g.ninv op (inScope_fresh hsc.1)⟩ hsc.2.2
    exact ⟨by rw [Spec.trace, trace, h1.1, h2.1], h2.2⟩

end Gossamer.C23
