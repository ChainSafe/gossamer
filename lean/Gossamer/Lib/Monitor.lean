/-
Lock discipline of a Go object guarded by one sync.Mutex / sync.RWMutex, in two halves.
The table: per method its lock mode and its access to the guarded fields, extracted from the Go source; the
  decidable checks `disciplined` / `raceFree` over it are what the drivers run.
The executions: invocations `acquire ; micro-step* ; release` under a reader/writer lock, the micro-steps of
  different invocations interleaving arbitrarily, subject only to the lock semantics.  `mutual_exclusion` rests on
  the lock rules alone (`Excl`); the simulation (`Sim`) behind `linearizable` on `Excl` and on the purity of readers.
Joining the halves is left to the object; the executions never mention a table.  A user gives each call the mode the
  table assigns to its method (`mode := modeIn t name`, one-step body: `C34.invOf`, `C35.invOf`, `C35.invOfL`), asks
  of the table `raceFree` and that the modifying methods are classified `.writes`, gets their mode by `modeIn_lock`,
  hence `ReadersPure`, and instantiates `linearizable_atomic` / `mutual_exclusion`.
NOT modelled: the Go memory model, real goroutine schedules, code that touches the shared state outside a critical
section (that is what the lock table is checked for).
-/
import Gossamer.Lib.AList
namespace Gossamer.Monitor

inductive Mode | none | rlock | lock
deriving DecidableEq, Repr

inductive Access | pure | reads | writes
deriving DecidableEq, Repr

structure Method where
  name : String
  mode : Mode
  access : Access
deriving DecidableEq, Repr

def excludes (a b : Mode) : Bool :=
  (a == .lock && b != .none) || (b == .lock && a != .none)

def conflict (a b : Access) : Bool :=
  (a == .writes && b != .pure) || (b == .writes && a != .pure)

/-- no two (not necessarily distinct) methods can conflict without excluding each other -/
def raceFree (t : List Method) : Bool :=
  t.all fun m1 => t.all fun m2 => !conflict m1.access m2.access || excludes m1.mode m2.mode

def wellLocked (m : Method) : Bool :=
  match m.access with
  | .pure => true
  | .reads => m.mode != .none
  | .writes => m.mode == .lock

/-- method by method, where `raceFree` is pair by pair; the two agree once some method writes
    (`disciplined_raceFree`, `raceFree_disciplined`), and `raceFree` is the one the drivers run -/
def disciplined (t : List Method) : Bool := t.all wellLocked

theorem conflict_iff (a b : Access) :
    conflict a b = true ↔ (a = .writes ∧ b ≠ .pure) ∨ (b = .writes ∧ a ≠ .pure) := by
  simp [conflict]

theorem excludes_iff (a b : Mode) :
    excludes a b = true ↔ (a = .lock ∧ b ≠ .none) ∨ (b = .lock ∧ a ≠ .none) := by
  simp [excludes]

theorem wellLocked_writes {m : Method} (w : wellLocked m = true) (h : m.access = .writes) :
    m.mode = .lock := by
  unfold wellLocked at w
  rw [h] at w
  simpa using w

theorem wellLocked_touches {m : Method} (w : wellLocked m = true) (h : m.access ≠ .pure) :
    m.mode ≠ .none := by
  unfold wellLocked at w
  split at w
  · contradiction
  · simpa using w
  · intro h'; rw [h'] at w; cases w

theorem wellLocked_pair (m1 m2 : Method) (w1 : wellLocked m1 = true) (w2 : wellLocked m2 = true) :
    (!conflict m1.access m2.access || excludes m1.mode m2.mode) = true := by
  cases hc : conflict m1.access m2.access
  · rfl
  · -- the writer of a conflicting pair holds the exclusive lock, the other one some lock
    show excludes m1.mode m2.mode = true
    rw [excludes_iff]
    rcases (conflict_iff _ _).mp hc with ⟨h1, h2⟩ | ⟨h1, h2⟩
    · exact Or.inl ⟨wellLocked_writes w1 h1, wellLocked_touches w2 h2⟩
    · exact Or.inr ⟨wellLocked_writes w2 h1, wellLocked_touches w1 h2⟩

theorem disciplined_raceFree (t : List Method) (h : disciplined t = true) : raceFree t = true := by
  simp only [raceFree, disciplined, List.all_eq_true] at *
  intro m1 h1 m2 h2
  exact wellLocked_pair m1 m2 (h m1 h1) (h m2 h2)

theorem wellLocked_of_raceFree (m w : Method) (hwa : w.access = .writes)
    (a : (!conflict m.access w.access || excludes m.mode w.mode) = true)
    (c : (!conflict m.access m.access || excludes m.mode m.mode) = true) : wellLocked m = true := by
  unfold wellLocked
  split
  · rfl
  · rename_i hr
    rw [(conflict_iff _ _).mpr (Or.inr ⟨hwa, by rw [hr]; decide⟩)] at a
    rcases (excludes_iff _ _).mp a with ⟨h, _⟩ | ⟨_, h⟩
    · rw [h]; rfl
    · simpa using h
  · rename_i hr
    rw [(conflict_iff _ _).mpr (Or.inl ⟨hr, by rw [hr]; decide⟩)] at c
    rcases (excludes_iff _ _).mp c with ⟨h, _⟩ | ⟨h, _⟩ <;> simpa using h

theorem raceFree_disciplined (t : List Method) (h : raceFree t = true)
    (hw : ∃ m ∈ t, m.access = .writes) : disciplined t = true := by
  simp only [raceFree, disciplined, List.all_eq_true] at *
  obtain ⟨w, hwt, hwa⟩ := hw
  intro m hm
  exact wellLocked_of_raceFree m w hwa (h m hm w hwt) (h m hm m hm)

def Mode.ofString? : String → Option Mode
  | "none" => some .none | "RLock" => some .rlock | "Lock" => some .lock | _ => Option.none

def Access.ofString? : String → Option Access
  | "pure" => some .pure | "reads" => some .reads | "writes" => some .writes | _ => Option.none

def Mode.toString : Mode → String
  | .none => "none" | .rlock => "RLock" | .lock => "Lock"

def Access.toString : Access → String
  | .pure => "pure" | .reads => "reads" | .writes => "writes"

def Access.rank : Access → Nat
  | .pure => 0 | .reads => 1 | .writes => 2

def maxAccess : List (Mode × Access) → Access
  | [] => .pure
  | (_, a) :: r => let b := maxAccess r; if a.rank ≥ b.rank then a else b

def parseSegs : List String → Option (List (Mode × Access))
  | [] => some []
  | [_] => Option.none
  | m :: a :: rest => do
    let m ← Mode.ofString? m
    let a ← Access.ofString? a
    let r ← parseSegs rest
    pure ((m, a) :: r)

/-- one table entry as printed by the harness: `<mode> <access>`, or
    `split <mode> <access> <mode> <access> …` when the guarded fields are touched in more than
    one lock region.  A split method is not one critical section, so it counts as unlocked. -/
def Method.parse? (name : String) (ws : List String) : Option Method :=
  match ws with
  | [m, a] => do
    let m ← Mode.ofString? m
    let a ← Access.ofString? a
    pure { name, mode := m, access := a }
  | "split" :: rest => do
    let segs ← parseSegs rest
    pure { name, mode := .none, access := maxAccess segs }
  | _ => Option.none

/-- table text: entries `Name:<mode> <access>` joined by `,` -/
def parseTable (s : String) : Option (List Method) :=
  (s.splitOn ",").mapM fun ent =>
    match ent.splitOn ":" with
    | [n, body] => Method.parse? n ((body.splitOn " ").filter (· ≠ ""))
    | _ => Option.none

def Method.render (m : Method) : String := s!"{m.mode.toString} {m.access.toString}"

/-- verdict over a table extracted from the current source: `safe` iff `raceFree`; otherwise
    `racy <first method that breaks the monitor rule>`.  A method split into several critical sections was parsed
    as unlocked, so check-then-act shows up here. -/
def verdict (t : List Method) : String :=
  if raceFree t then "safe"
  else match t.find? (fun m => !wellLocked m) with
    | some m => s!"racy {m.name}"
    | Option.none => "racy"

def ofTriples (t : List (String × String × String)) : Option (List Method) :=
  t.mapM fun (n, m, a) => do
    let m ← Mode.ofString? m
    let a ← Access.ofString? a
    pure { name := n, mode := m, access := a }

def modeIn (t : List Method) (name : String) : Mode :=
  match t.find? (·.name == name) with
  | some m => m.mode
  | Option.none => .none

def accessIn (t : List Method) (name : String) : Access :=
  match t.find? (·.name == name) with
  | some m => m.access
  | Option.none => .pure

theorem entry_of_accessIn {t : List Method} {name : String} (h : accessIn t name ≠ .pure) :
    ∃ m ∈ t, m.access = accessIn t name ∧ m.mode = modeIn t name := by
  unfold accessIn modeIn
  unfold accessIn at h
  cases hf : t.find? (·.name == name) with
  | none => rw [hf] at h; exact absurd rfl h
  | some m => exact ⟨m, List.mem_of_find?_eq_some hf, rfl, rfl⟩

/-- in a race-free table a method classified as a writer holds the exclusive lock -/
theorem modeIn_lock {t : List Method} (hrf : raceFree t = true) {name : String}
    (h : accessIn t name = .writes) : modeIn t name = .lock := by
  obtain ⟨m, hm, ha, hmo⟩ := entry_of_accessIn (t := t) (name := name) (by rw [h]; decide)
  rw [h] at ha
  have hd := raceFree_disciplined t hrf ⟨m, hm, ha⟩
  rw [← hmo]
  exact wellLocked_writes (List.all_eq_true.mp hd m hm) ha

theorem modeIn_ne_none {t : List Method} (hrf : raceFree t = true) (hw : ∃ m ∈ t, m.access = .writes)
    {name : String} (h : accessIn t name = .reads) : modeIn t name ≠ .none := by
  obtain ⟨m, hm, ha, hmo⟩ := entry_of_accessIn (t := t) (name := name) (by rw [h]; decide)
  rw [h] at ha
  have hd := raceFree_disciplined t hrf hw
  rw [← hmo]
  exact wellLocked_touches (List.all_eq_true.mp hd m hm) (by rw [ha]; decide)

/-- an invocation of a method: the lock it takes and its body split into atomic micro-steps
    over the shared state `σ` and a local store `ρ` (the final local store is the result) -/
structure Inv (σ ρ : Type) where
  mode : Mode
  body : List (σ → ρ → σ × ρ)
  init : ρ

inductive Ev | acq (i : Nat) | step (i : Nat) | rel (i : Nat)

/-- configuration: shared state, in-flight invocations (program counter, local store), and the
    log of released invocations (most recent first) with their results -/
structure Cfg (σ ρ : Type) where
  shared : σ
  fl : Nat → Option (Nat × ρ)
  log : List (Nat × ρ)

def upd {α : Type} (f : Nat → Option α) (i : Nat) (v : Option α) : Nat → Option α :=
  fun j => if j = i then v else f j

@[simp] theorem upd_same {α : Type} (f : Nat → Option α) (i : Nat) (v : Option α) : upd f i v i = v := by
  simp [upd]

theorem upd_other {α : Type} (f : Nat → Option α) (i j : Nat) (v : Option α) (h : j ≠ i) :
    upd f i v j = f j := by simp [upd, h]

/-- `acq` follows sync.RWMutex: an exclusive acquire needs nobody inside, a shared acquire needs no exclusive holder
    inside.  An invocation whose mode is `.none` can never acquire: a call of an unlocked method does not run
    unprotected here, it never runs, and the theorems are silent about it. -/
inductive Step {σ ρ : Type} (invs : Nat → Inv σ ρ) : Cfg σ ρ → Ev → Cfg σ ρ → Prop
  | acq (c : Cfg σ ρ) (i : Nat)
      (hfree : c.fl i = none)
      (hmode : (invs i).mode ≠ .none)
      (hexcl : (invs i).mode = .lock → ∀ j, c.fl j = none)
      (hshared : ∀ j, c.fl j ≠ none → (invs j).mode ≠ .lock) :
      Step invs c (.acq i) { c with fl := upd c.fl i (some (0, (invs i).init)) }
  | step (c : Cfg σ ρ) (i pc : Nat) (l : ρ) (f : σ → ρ → σ × ρ)
      (hin : c.fl i = some (pc, l))
      (hf : (invs i).body[pc]? = some f) :
      Step invs c (.step i)
        { c with shared := (f c.shared l).1, fl := upd c.fl i (some (pc + 1, (f c.shared l).2)) }
  | rel (c : Cfg σ ρ) (i pc : Nat) (l : ρ)
      (hin : c.fl i = some (pc, l))
      (hend : pc = (invs i).body.length) :
      Step invs c (.rel i) { c with fl := upd c.fl i none, log := (i, l) :: c.log }

inductive Steps {σ ρ : Type} (invs : Nat → Inv σ ρ) : Cfg σ ρ → List Ev → Cfg σ ρ → Prop
  | nil (c : Cfg σ ρ) : Steps invs c [] c
  | cons (c c1 c2 : Cfg σ ρ) (e : Ev) (es : List Ev) :
      Step invs c e c1 → Steps invs c1 es c2 → Steps invs c (e :: es) c2

def runBody {σ ρ : Type} (body : List (σ → ρ → σ × ρ)) (s : σ) (l : ρ) : σ × ρ :=
  body.foldl (fun p f => f p.1 p.2) (s, l)

def seqRun {σ ρ : Type} (invs : Nat → Inv σ ρ) (s : σ) : List Nat → σ × List (Nat × ρ)
  | [] => (s, [])
  | i :: is =>
    let p := runBody (invs i).body s (invs i).init
    let q := seqRun invs p.1 is
    (q.1, (i, p.2) :: q.2)

theorem seqRun_append {σ ρ : Type} (invs : Nat → Inv σ ρ) (s : σ) (a b : List Nat) :
    seqRun invs s (a ++ b) =
      ((seqRun invs (seqRun invs s a).1 b).1, (seqRun invs s a).2 ++ (seqRun invs (seqRun invs s a).1 b).2) := by
  induction a generalizing s with
  | nil => simp [seqRun]
  | cons i is ih => simp [seqRun, ih]

/-- the monitor rule, semantically: holders of the read lock leave the shared state unchanged -/
def ReadersPure {σ ρ : Type} (invs : Nat → Inv σ ρ) : Prop :=
  ∀ i, (invs i).mode = .rlock → ∀ f ∈ (invs i).body, ∀ s l, (f s l).1 = s

theorem readersPure_of_lock {σ ρ : Type} {invs : Nat → Inv σ ρ} (h : ∀ i, (invs i).mode = .lock) :
    ReadersPure invs :=
  fun i hr => by rw [h i] at hr; cases hr

theorem runBody_pure {σ ρ : Type} (body : List (σ → ρ → σ × ρ))
    (h : ∀ f ∈ body, ∀ s l, (f s l).1 = s) (s : σ) (l : ρ) : (runBody body s l).1 = s :=
  foldl_inv (fun p f => f p.1 p.2) (fun _ p => p.1 = s) (fun f => ∀ s l, (f s l).1 = s)
    (fun _ p _ hf hp => (hf p.1 p.2).trans hp) body [] (s, l) h rfl

theorem runBody_snoc {σ ρ : Type} (body : List (σ → ρ → σ × ρ)) (f : σ → ρ → σ × ρ) (s : σ) (l : ρ) :
    runBody (body ++ [f]) s l = f (runBody body s l).1 (runBody body s l).2 := by
  simp [runBody, List.foldl_append]

theorem upd_ne_none {α : Type} {f : Nat → Option α} {i j : Nat} {v : Option α}
    (h : upd f i v j ≠ none) : j = i ∨ f j ≠ none := by
  by_cases hji : j = i
  · exact Or.inl hji
  · rw [upd_other f i j v hji] at h; exact Or.inr h

/-- who may be inside together, by the lock rules alone -/
structure Excl {σ ρ : Type} (invs : Nat → Inv σ ρ) (c : Cfg σ ρ) : Prop where
  held : ∀ i, c.fl i ≠ none → (invs i).mode ≠ .none
  alone : ∀ i j, c.fl i ≠ none → (invs i).mode = .lock → c.fl j ≠ none → j = i

theorem Excl.shared_rlock {σ ρ : Type} {invs : Nat → Inv σ ρ} {c : Cfg σ ρ}
    (hE : Excl invs c) {i j : Nat} (hi : c.fl i ≠ none) (hj : c.fl j ≠ none) (hij : i ≠ j) :
    (invs i).mode = .rlock := by
  cases h : (invs i).mode with
  | none => exact absurd h (hE.held i hi)
  | rlock => rfl
  | lock => exact absurd (hE.alone i j hi h hj).symm hij

theorem inside_of_upd {α : Type} {f : Nat → Option α} {i j : Nat} {v : Option α} (hi : f i ≠ none)
    (h : upd f i v j ≠ none) : f j ≠ none := by
  rcases upd_ne_none h with rfl | h
  · exact hi
  · exact h

theorem Excl.anti {σ ρ : Type} {invs : Nat → Inv σ ρ} {c c' : Cfg σ ρ} (hE : Excl invs c)
    (h : ∀ j, c'.fl j ≠ none → c.fl j ≠ none) : Excl invs c' :=
  ⟨fun j hj => hE.held j (h j hj), fun a b ha hal hb => hE.alone a b (h a ha) hal (h b hb)⟩

theorem excl_step {σ ρ : Type} (invs : Nat → Inv σ ρ) (c c' : Cfg σ ρ) (e : Ev) (hE : Excl invs c)
    (hs : Step invs c e c') : Excl invs c' := by
  cases hs with
  | acq i hfree hmode hexcl hshared =>
    constructor
    · intro j hj
      rcases upd_ne_none hj with rfl | hj
      · exact hmode
      · exact hE.held j hj
    · intro a b ha hal hb
      rcases upd_ne_none ha with rfl | ha
      · rcases upd_ne_none hb with rfl | hb
        · rfl
        · exact absurd (hexcl hal b) hb
      · exact absurd hal (hshared a ha)
  | step i pc l f hin hf => exact hE.anti fun j => inside_of_upd (by rw [hin]; simp)
  | rel i pc l hin hend => exact hE.anti fun j => inside_of_upd (by rw [hin]; simp)

/-- simulation invariant, for a configuration that obeys the lock rules.  `sA`: the state of the sequential
    execution of the released invocations, from which every in-flight invocation has executed a prefix of its body;
    it is the shared state when no exclusive holder is inside. -/
structure Sim {σ ρ : Type} (invs : Nat → Inv σ ρ) (s0 : σ) (c : Cfg σ ρ) (sA : σ) : Prop where
  seq : seqRun invs s0 (c.log.reverse.map (·.1)) = (sA, c.log.reverse)
  prog : ∀ i pc l, c.fl i = some (pc, l) →
    runBody ((invs i).body.take pc) sA (invs i).init = (c.shared, l)
  quiet : (∀ j, c.fl j ≠ none → (invs j).mode ≠ .lock) → c.shared = sA

theorem sim_step {σ ρ : Type} (invs : Nat → Inv σ ρ) (hp : ReadersPure invs) (s0 sA : σ)
    (c c' : Cfg σ ρ) (e : Ev) (hE : Excl invs c) (hI : Sim invs s0 c sA) (hs : Step invs c e c') :
    ∃ sA', Sim invs s0 c' sA' := by
  cases hs with
  | acq i hfree hmode hexcl hshared =>
    have hq : c.shared = sA := hI.quiet hshared
    refine ⟨sA, hI.seq, ?_, fun _ => hq⟩
    intro j pc l (hj : upd c.fl i _ j = _)
    by_cases hji : j = i
    · subst hji
      rw [upd_same] at hj
      cases hj
      rw [hq]; rfl
    · rw [upd_other _ _ _ _ hji] at hj
      exact hI.prog j pc l hj
  | step i pc l f hin hf =>
    have hfm : f ∈ (invs i).body := List.mem_of_getElem? hf
    have hi_in : c.fl i ≠ none := by rw [hin]; simp
    refine ⟨sA, hI.seq, ?_, ?_⟩
    · intro j pc' l' (hj : upd c.fl i _ j = _)
      by_cases hji : j = i
      · subst hji
        rw [upd_same] at hj
        cases hj
        rw [List.take_add_one, hf, Option.toList_some, runBody_snoc, hI.prog j pc l hin]
      · rw [upd_other _ _ _ _ hji] at hj
        have hjn : c.fl j ≠ none := by rw [hj]; simp
        -- `i` is not alone inside, so it is a reader and `f` leaves the shared state alone
        show runBody _ sA _ = ((f c.shared l).1, l')
        rw [hp i (hE.shared_rlock hi_in hjn (Ne.symm hji)) f hfm c.shared l]
        exact hI.prog j pc' l' hj
    · intro hall
      have hr : (invs i).mode = .rlock := by
        cases h : (invs i).mode with
        | none => exact absurd h (hE.held i hi_in)
        | rlock => rfl
        | lock => exact absurd h (hall i (by simp))
      show (f c.shared l).1 = sA
      rw [hp i hr f hfm c.shared l]
      exact hI.quiet (fun j hj => hall j (by
        show upd c.fl i _ j ≠ none
        by_cases hji : j = i
        · subst hji; simp
        · rw [upd_other _ _ _ _ hji]; exact hj))
  | rel i pc l hin hend =>
    have hi_in : c.fl i ≠ none := by rw [hin]; simp
    have hprog := hI.prog i pc l hin
    rw [hend, List.take_length] at hprog
    -- the sequential run extended by `i` ends in the current shared state
    refine ⟨c.shared, ?_, ?_, fun _ => rfl⟩
    · show seqRun invs s0 (((i, l) :: c.log).reverse.map (·.1)) = (c.shared, ((i, l) :: c.log).reverse)
      rw [List.reverse_cons, List.map_append, seqRun_append, hI.seq]
      simp only [seqRun, List.map_cons, List.map_nil, hprog]
    · intro j pc' l' (hj : upd c.fl i none j = _)
      have hji : j ≠ i := fun h => by rw [h, upd_same] at hj; cases hj
      rw [upd_other _ _ _ _ hji] at hj
      have hjn : c.fl j ≠ none := by rw [hj]; simp
      -- `j` was inside together with `i`, so `i` was a reader and its whole body changed nothing
      have hpure := runBody_pure _ (hp i (hE.shared_rlock hi_in hjn (Ne.symm hji))) sA (invs i).init
      rw [hprog] at hpure
      show runBody _ c.shared _ = (c.shared, l')
      have := hI.prog j pc' l' hj
      rw [← hpure] at this
      exact this

def Cfg.init {σ ρ : Type} (s0 : σ) : Cfg σ ρ := { shared := s0, fl := fun _ => none, log := [] }

theorem excl_reach {σ ρ : Type} (invs : Nat → Inv σ ρ) (s0 : σ) (es : List Ev) (c : Cfg σ ρ)
    (hs : Steps invs (Cfg.init s0) es c) : Excl invs c := by
  have h0 : Excl invs (Cfg.init s0) := ⟨fun _ h => absurd rfl h, fun _ _ h => absurd rfl h⟩
  generalize Cfg.init s0 = c0 at hs h0
  induction hs with
  | nil c => exact h0
  | cons c c1 c2 e es h1 _ ih => exact ih (excl_step invs c c1 e h0 h1)

theorem sim_reach {σ ρ : Type} (invs : Nat → Inv σ ρ) (hp : ReadersPure invs) (s0 : σ)
    (es : List Ev) (c : Cfg σ ρ) (hs : Steps invs (Cfg.init s0) es c) :
    Excl invs c ∧ ∃ sA, Sim invs s0 c sA := by
  have h0 : Excl invs (Cfg.init s0) ∧ ∃ sA, Sim invs s0 (Cfg.init s0) sA :=
    ⟨excl_reach invs s0 [] _ (.nil _), s0, rfl, fun _ _ _ h => (nomatch h), fun _ => rfl⟩
  generalize Cfg.init s0 = c0 at hs h0
  induction hs with
  | nil c => exact h0
  | cons c c1 c2 e es h1 _ ih =>
    obtain ⟨hE, sA, hI⟩ := h0
    exact ih ⟨excl_step invs c c1 e hE h1, sim_step invs hp s0 sA c c1 e hE hI h1⟩

/-- **Mutual exclusion.**  At every reachable configuration two distinct invocations are inside together only
    if both hold the read lock — by the lock rules alone, whatever the bodies do. -/
theorem mutual_exclusion {σ ρ : Type} (invs : Nat → Inv σ ρ) (s0 : σ)
    (es : List Ev) (c : Cfg σ ρ) (hs : Steps invs (Cfg.init s0) es c)
    (i j : Nat) (hi : c.fl i ≠ none) (hj : c.fl j ≠ none) (hij : i ≠ j) :
    (invs i).mode = .rlock ∧ (invs j).mode = .rlock :=
  have hE := excl_reach invs s0 es c hs
  ⟨hE.shared_rlock hi hj hij, hE.shared_rlock hj hi (Ne.symm hij)⟩

/-- **Monitor theorem.**  Under the reader/writer lock semantics, if read-lock holders do not
    modify the shared state, then after any concurrent execution that ends with nobody inside a
    critical section, the shared state and the result of every invocation are those of the
    sequential execution of the invocations in the order of their release events (`c.log`, the release
    being the linearization point).  That this order extends real-time order is not stated: no theorem here
    relates `c.log` to the event list `es`. -/
theorem linearizable {σ ρ : Type} (invs : Nat → Inv σ ρ) (hp : ReadersPure invs) (s0 : σ)
    (es : List Ev) (c : Cfg σ ρ) (hs : Steps invs (Cfg.init s0) es c) (hq : ∀ j, c.fl j = none) :
    seqRun invs s0 (c.log.reverse.map (·.1)) = (c.shared, c.log.reverse) := by
  obtain ⟨_, sA, hI⟩ := sim_reach invs hp s0 es c hs
  rw [hI.seq, hI.quiet (fun j hj => absurd (hq j) hj)]

/-- `mutual_exclusion` with the hypothesis of `linearizable` added (it is not used) -/
theorem no_conflict {σ ρ : Type} (invs : Nat → Inv σ ρ) (hp : ReadersPure invs) (s0 : σ)
    (es : List Ev) (c : Cfg σ ρ) (hs : Steps invs (Cfg.init s0) es c)
    (i j : Nat) (hi : c.fl i ≠ none) (hj : c.fl j ≠ none) (hij : i ≠ j) :
    (invs i).mode = .rlock ∧ (invs j).mode = .rlock :=
  mutual_exclusion invs s0 es c hs i j hi hj hij

/-- `linearizable` for incomplete executions: whenever no exclusive holder is inside, the shared state is that of
    the sequential execution of the released invocations -/
theorem prefix_consistent {σ ρ : Type} (invs : Nat → Inv σ ρ) (hp : ReadersPure invs) (s0 : σ)
    (es : List Ev) (c : Cfg σ ρ) (hs : Steps invs (Cfg.init s0) es c)
    (hq : ∀ j, c.fl j ≠ none → (invs j).mode = .rlock) :
    c.shared = (seqRun invs s0 (c.log.reverse.map (·.1))).1 := by
  obtain ⟨_, sA, hI⟩ := sim_reach invs hp s0 es c hs
  rw [hI.seq]
  exact hI.quiet (fun j hj => by rw [hq j hj]; decide)

section Atomic
variable {σ ρ op : Type} (step : σ → op → ρ × σ) (run : σ → List op → List ρ × σ)
  (hnil : ∀ s, run s [] = ([], s))
  (hcons : ∀ s o os, run s (o :: os) = ((step s o).1 :: (run (step s o).2 os).1, (run (step s o).2 os).2))
  (invs : Nat → Inv σ ρ) (calls : Nat → op)
  (hbody : ∀ i, (invs i).body = [fun s _ => ((step s (calls i)).2, (step s (calls i)).1)])
include hnil hcons hbody

theorem seqRun_atomic (order : List Nat) (s : σ) :
    seqRun invs s order = ((run s (order.map calls)).2, order.zip (run s (order.map calls)).1) := by
  induction order generalizing s with
  | nil => rw [List.map_nil, hnil]; rfl
  | cons i is ih =>
    rw [List.map_cons, hcons, List.zip_cons_cons]
    simp only [seqRun, hbody i, runBody, List.foldl_cons, List.foldl_nil, ih]

/-- `linearizable` in terms of the model run of the calls in release order -/
theorem linearizable_atomic (hp : ReadersPure invs) (s0 : σ) (es : List Ev) (c : Cfg σ ρ)
    (hs : Steps invs (Cfg.init s0) es c) (hq : ∀ j, c.fl j = none) :
    c.shared = (run s0 ((c.log.reverse.map (·.1)).map calls)).2 ∧
    c.log.reverse = (c.log.reverse.map (·.1)).zip (run s0 ((c.log.reverse.map (·.1)).map calls)).1 := by
  have h := linearizable invs hp s0 es c hs hq
  rw [seqRun_atomic step run hnil hcons invs calls hbody] at h
  exact ⟨(congrArg Prod.fst h).symm, (congrArg Prod.snd h).symm⟩

end Atomic

/-- non-vacuity: an invocation with a one-step body can run alone and ends with nobody inside -/
theorem solo_one {σ ρ : Type} (invs : Nat → Inv σ ρ) (i : Nat) (f : σ → ρ → σ × ρ)
    (hbody : (invs i).body = [f]) (hmode : (invs i).mode ≠ .none) (s0 : σ) :
    ∃ c, Steps invs (Cfg.init s0) [.acq i, .step i, .rel i] c ∧ (∀ j, c.fl j = none) ∧
      c.log = [(i, (f s0 (invs i).init).2)] ∧ c.shared = (f s0 (invs i).init).1 := by
  let l0 := (invs i).init
  let r := f s0 l0
  let c1 : Cfg σ ρ := ⟨s0, upd (fun _ => none) i (some (0, l0)), []⟩
  let c2 : Cfg σ ρ := ⟨r.1, upd c1.fl i (some (0 + 1, r.2)), []⟩
  let c3 : Cfg σ ρ := ⟨r.1, upd c2.fl i none, [(i, r.2)]⟩
  have h1 : Step invs (Cfg.init s0) (.acq i) c1 :=
    Step.acq (Cfg.init s0) i rfl hmode (fun _ _ => rfl) (fun j hj => absurd rfl hj)
  have h2 : Step invs c1 (.step i) c2 :=
    Step.step c1 i 0 l0 f (by simp [c1]) (by rw [hbody]; rfl)
  have h3 : Step invs c2 (.rel i) c3 :=
    Step.rel c2 i (0 + 1) r.2 (by simp [c2]) (by rw [hbody]; rfl)
  refine ⟨c3, Steps.cons _ _ _ _ _ h1 (Steps.cons _ _ _ _ _ h2 (Steps.cons _ _ _ _ _ h3 (Steps.nil _))), ?_, rfl, rfl⟩
  intro j
  by_cases hj : j = i
  · simp [c3, hj]
  · simp [c3, c2, c1, upd, hj]

/-- non-vacuity of concurrency: two read-lock holders are inside together -/
example : ∃ c : Cfg Nat Unit,
    Steps (fun _ => ({ mode := .rlock, body := [], init := () } : Inv Nat Unit)) (Cfg.init 7)
      [.acq 0, .acq 1] c ∧ c.fl 0 ≠ none ∧ c.fl 1 ≠ none := by
  let invs : Nat → Inv Nat Unit := fun _ => { mode := .rlock, body := [], init := () }
  let c0 : Cfg Nat Unit := Cfg.init 7
  have h1 : Step invs c0 (.acq 0) { c0 with fl := upd c0.fl 0 (some (0, ())) } :=
    Step.acq c0 0 rfl (by simp [invs]) (fun h => by simp [invs] at h) (fun j _ => by simp [invs])
  let c1 : Cfg Nat Unit := { c0 with fl := upd c0.fl 0 (some (0, ())) }
  have h2 : Step invs c1 (.acq 1) { c1 with fl := upd c1.fl 1 (some (0, ())) } :=
    Step.acq c1 1 (by simp [c1, upd, c0, Cfg.init]) (by simp [invs]) (fun h => by simp [invs] at h)
      (fun j _ => by simp [invs])
  exact ⟨_, Steps.cons _ _ _ _ _ h1 (Steps.cons _ _ _ _ _ h2 (Steps.nil _)), by simp [upd, c1], by simp [upd]⟩

end Gossamer.Monitor
