/-
The write discipline of one trie operation.  `Frame` fixes the heap `hp0` at the start of the operation, the root
`r0` and the generation `g` of the trie operated on.  `Good F hp`: the current heap differs from `hp0` only in the
way copy-on-write allows.  Cells are only added, with generation `g`; an old cell that is not OWNED (`Own0`:
reachable from `r0` in `hp0`, with generation `g`) keeps all fields but the `MerkleValue` cache; the region `W`
(reachable from `r0` in `hp0`, or new) only points into `W`; `wf` is `HeapWF` written out; every
admissible view of another trie (`Frame.Adm`) still reads the same Merkle values (`VP`).  The functions of
`in_memory.go` keep it (`TrieHeapOps`) through `Good.write` (a write to one owned or new cell) and `Good.of_calc`
(a transparent cache write).
-/
import Gossamer.Lib.TrieHeapView
namespace Gossamer
namespace TrieHeap

structure Frame where
  H : Bytes → Bytes
  hp0 : Heap
  r0 : Option Nat
  g : Nat

namespace Frame

def R0 (F : Frame) (a : Nat) : Prop := ReachO F.hp0 F.r0 a
def Own0 (F : Frame) (a : Nat) : Prop := F.R0 a ∧ (F.hp0.get a).gen = F.g
def W (F : Frame) (a : Nat) : Prop := F.R0 a ∨ F.hp0.size ≤ a

/-- A view of another trie that the operation must not disturb.
    `root`: the operation hashes its own root `r0` with the ROOT flavour (`ensureMV` on `c.troot`, see
    `good_calcRootMV`), which a reader that meets `r0` as a non-root node of `P` would misread; `r0 = ρ` is allowed
    (`Flav`).  This hypothesis is where the premise of the hash clause of C03 comes from: `C03.mut_step`
    instantiates `P` with `PD hp ρ`, the cells strictly below the other trie's root, so `root` becomes "the acting
    trie's root is not strictly below `ρ`" in `C03.Same.hash` and in `C03_isolated`.
    `old`: only cells that `Good.frame` protects (old, not owned) can be promised to a reader, `ρ` included. -/
structure Adm (F : Frame) (P : Nat → Prop) (ρ : Nat) : Prop where
  view : View F.hp0 P ρ
  old : ∀ a, (P a ∨ a = ρ) → a < F.hp0.size ∧ ¬ F.Own0 a
  root : ∀ r, F.r0 = some r → ¬ P r

end Frame

def InW (F : Frame) (hp : Heap) (x : Nat) : Prop := F.W x ∧ x < hp.size

structure Good (F : Frame) (hp : Heap) : Prop where
  size : F.hp0.size ≤ hp.size
  gen : ∀ a, a < F.hp0.size → (hp.get a).gen = (F.hp0.get a).gen
  frame : ∀ a, a < F.hp0.size → ¬ F.Own0 a →
    (hp.get a).strip = (F.hp0.get a).strip ∧ (hp.get a).dirty = (F.hp0.get a).dirty
  fresh : ∀ a, F.hp0.size ≤ a → a < hp.size → (hp.get a).gen = F.g
  kids : ∀ a, F.W a → ∀ i x, (hp.get a).kids i = some x → InW F hp x
  wf : ∀ a, a < hp.size → ∀ i x, (hp.get a).kids i = some x → x < hp.size
  views : ∀ P ρ, F.Adm P ρ → VP F.H P ρ F.hp0 hp

theorem InW.mono {F : Frame} {hp hp' : Heap} {x : Nat} (h : InW F hp x) (hs : hp.size ≤ hp'.size) :
    InW F hp' x := ⟨h.1, Nat.lt_of_lt_of_le h.2 hs⟩

theorem Good.own_or_fresh {F : Frame} {hp : Heap} (hg : Good F hp) {a : Nat} (ha : InW F hp a)
    (hgen : (hp.get a).gen = F.g) : F.Own0 a ∨ F.hp0.size ≤ a := by
  by_cases hlt : a < F.hp0.size
  · left
    rcases ha.1 with hr | hf
    · exact ⟨hr, by rw [← hg.gen a hlt]; exact hgen⟩
    · omega
  · right; omega

theorem Frame.Adm.not_mem {F : Frame} {P : Nat → Prop} {ρ : Nat} (ad : F.Adm P ρ) {a : Nat}
    (h : F.Own0 a ∨ F.hp0.size ≤ a) : ¬ (P a ∨ a = ρ) := by
  intro hv
  obtain ⟨h1, h2⟩ := ad.old a hv
  rcases h with h | h
  · exact h2 h
  · omega

theorem Good.init (F : Frame) (hwf : HeapWF F.hp0) :
    Good F F.hp0 where
  size := Nat.le_refl _
  gen := fun _ _ => rfl
  frame := fun _ _ _ => ⟨rfl, rfl⟩
  fresh := fun a h1 h2 => by omega
  kids := by
    intro a ha i x hk
    rcases ha with hr | hf
    · obtain ⟨r, hr0, hr⟩ := reachO_iff.mp hr
      exact ⟨Or.inl (reachO_iff.mpr ⟨r, hr0, hr.tail i hk⟩), hwf a (kid_lt hk) i x hk⟩
    · exact absurd (kid_lt hk) (Nat.not_lt.mpr hf)
  wf := hwf
  views := fun P ρ _ => VP.refl F.H P ρ F.hp0

theorem Good.write {F : Frame} {hp hp' : Heap} (hg : Good F hp) {b : Nat} (hof : F.Own0 b ∨ F.hp0.size ≤ b)
    (hs : hp.size ≤ hp'.size) (hs' : ∀ x, x < hp'.size → x ≠ b → x < hp.size)
    (hget : ∀ x, x ≠ b → hp'.get x = hp.get x)
    (hgen : (hp'.get b).gen = F.g) (hk : ∀ i x, (hp'.get b).kids i = some x → InW F hp x) :
    Good F hp' := by
  refine ⟨Nat.le_trans hg.size hs, ?_, ?_, ?_, ?_, ?_, ?_⟩
  · intro a ha
    by_cases e : a = b
    · rw [e, hgen]
      rcases hof with h | h
      · exact h.2.symm
      · omega
    · rw [hget a e]; exact hg.gen a ha
  · intro a ha ho
    have e : a ≠ b := fun e => by
      rcases hof with h | h
      · exact ho (e ▸ h)
      · omega
    rw [hget a e]; exact hg.frame a ha ho
  · intro a h1 h2
    by_cases e : a = b
    · rw [e]; exact hgen
    · rw [hget a e]; exact hg.fresh a h1 (hs' a h2 e)
  · intro a ha i x hx
    by_cases e : a = b
    · rw [e] at hx; exact (hk i x hx).mono hs
    · rw [hget a e] at hx; exact (hg.kids a ha i x hx).mono hs
  · intro a ha i x hx
    by_cases e : a = b
    · rw [e] at hx; exact Nat.lt_of_lt_of_le (hk i x hx).2 hs
    · rw [hget a e] at hx; exact Nat.lt_of_lt_of_le (hg.wf a (hs' a ha e) i x hx) hs
  · intro P ρ ad
    exact (hg.views P ρ ad).frame (fun a ha => hget a (fun e => ad.not_mem hof (e ▸ ha)))

theorem Good.alloc {F : Frame} {hp : Heap} (hg : Good F hp) (n : HNode) (hgen : n.gen = F.g)
    (hk : ∀ i x, n.kids i = some x → InW F hp x) :
    Good F (hp.alloc n).1 ∧ InW F (hp.alloc n).1 hp.size := by
  have hge : F.hp0.size ≤ hp.size := hg.size
  refine ⟨hg.write (b := hp.size) (Or.inr hge) (by simp) (fun x hx e => ?_)
    (fun x e => by rw [Heap.get_alloc, if_neg e]) ?_ ?_, Or.inr hge, by simp⟩
  · rw [Heap.size_alloc] at hx; omega
  · rw [Heap.get_alloc_self]; exact hgen
  · rw [Heap.get_alloc_self]; exact hk

theorem Good.modify {F : Frame} {hp : Heap} (hg : Good F hp) {a : Nat} (ha : InW F hp a)
    (hgen : (hp.get a).gen = F.g) (f : HNode → HNode) (hf : (f (hp.get a)).gen = (hp.get a).gen)
    (hk : ∀ i x, (f (hp.get a)).kids i = some x → InW F hp x) : Good F (hp.modify a f) := by
  have he := Heap.get_modify_self f ha.2
  refine hg.write (hg.own_or_fresh ha hgen) (by simp) (fun x hx _ => by simpa using hx)
    (fun x e => Heap.get_modify_ne f e) ?_ ?_
  · rw [he, hf]; exact hgen
  · rw [he]; exact hk

theorem Good.of_mvOnly {F : Frame} {hp hp' : Heap} (hg : Good F hp) (hm : MvOnly hp hp')
    (hv : ∀ P ρ, F.Adm P ρ → View hp P ρ → VP F.H P ρ hp hp') : Good F hp' := by
  refine ⟨by rw [hm.size]; exact hg.size, ?_, ?_, ?_, ?_, hm.cacheOnly.wf hg.wf, fun P ρ ad =>
    (hg.views P ρ ad).trans ad.view (hv P ρ ad (ad.view.next (hg.views P ρ ad)))⟩
  · intro a ha; rw [strip_gen (hm.cell a).1]; exact hg.gen a ha
  · intro a ha ho
    obtain ⟨h1, h2⟩ := hg.frame a ha ho
    exact ⟨(hm.cell a).1.trans h1, (hm.cell a).2.trans h2⟩
  · intro a h1 h2; rw [hm.size] at h2; rw [strip_gen (hm.cell a).1]; exact hg.fresh a h1 h2
  · intro a ha i x hx
    rw [hm.kids] at hx
    exact (hg.kids a ha i x hx).mono (by rw [hm.size]; exact Nat.le_refl _)

theorem Good.of_calc {F : Frame} {hp hp' : Heap} (hg : Good F hp) (t : Tr F.H hp hp') : Good F hp' :=
  hg.of_mvOnly t.mvOnly (fun _ _ _ v => VP.of_tr v t)

end TrieHeap
end Gossamer
