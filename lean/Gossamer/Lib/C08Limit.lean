/-
C08: the removal loops.  The loop of `storageDiff.clearPrefix` / `deleteChildLimit` walks the
selected candidates in ascending order until the limit is used up (`limitLoop_take`); without a
limit it deletes them all (`Overlay.clearAll`).  The loop of the specification walks the same
candidate list and takes the same initial segment (`Overlay.limited`); with no transaction open the
ordered map's own limited prefix clear does the same (`clearPrefixLimit_spec`, except for the
finding `limit0-reports-remaining`), and `DeleteChildLimit` deletes in place the first keys the
limit allows (`deleteKeysLimit_eq`, any backend).
-/
import Gossamer.Lib.C08Overlay
namespace Gossamer.C08
open Gossamer

/-- the candidates processed before the limit is used up; `isOld k` = the key is in the committed
    trie (consumes one unit) -/
def takeLim (isOld : Bytes → Bool) : List Bytes → Option Nat → List Bytes
  | [], _ => []
  | k :: r, limit =>
    if limit = some 0 then []
    else k :: takeLim isOld r (if isOld k then limit.map (· - 1) else limit)

theorem takeLim_subset (isOld : Bytes → Bool) (ks : List Bytes) :
    ∀ limit x, x ∈ takeLim isOld ks limit → x ∈ ks := by
  induction ks with
  | nil => intro limit x h; simp [takeLim] at h
  | cons k r ih =>
    intro limit x h
    simp only [takeLim] at h
    split at h
    · simp at h
    · rcases List.mem_cons.mp h with h | h
      · simp [h]
      · exact List.mem_cons_of_mem _ (ih _ x h)

theorem takeLim_none (isOld : Bytes → Bool) (ks : List Bytes) : takeLim isOld ks none = ks := by
  induction ks with
  | nil => rfl
  | cons k r ih =>
    have e : (if isOld k = true then Option.map (· - 1) (none : Option Nat) else none) = none := by
      split <;> rfl
    simp only [takeLim, reduceCtorEq, if_false, e, ih]

theorem takeLim_allOld {isOld : Bytes → Bool} (ks : List Bytes) (h : ∀ k ∈ ks, isOld k = true)
    (n : Nat) : takeLim isOld ks (some n) = ks.take n := by
  induction ks generalizing n with
  | nil => simp [takeLim]
  | cons k r ih =>
    cases n with
    | zero => simp [takeLim]
    | succ m =>
      simp only [takeLim, List.take_succ_cons, Option.some.injEq, Nat.add_one_ne_zero, if_false,
        h k (by simp), if_true, Option.map_some, Nat.add_sub_cancel]
      rw [ih (fun x hx => h x (by simp [hx]))]

theorem takeLim_zero (isOld : Bytes → Bool) (ks : List Bytes) : takeLim isOld ks (some 0) = [] := by
  cases ks with
  | nil => rfl
  | cons k r => exact if_pos rfl

/-- `hnew`: Go spares the limit for the keys in `newKeys`, the specification charges it for the keys of
    the committed map; on the candidates the two tests are complements -/
theorem limitLoop_take {σ : Type} (del : σ → Bytes → σ) (sel : Bytes → Bool) (nk : List Bytes)
    (isOld : Bytes → Bool) (ks : List Bytes)
    (hnew : ∀ k ∈ ks, sel k = true → nk.contains k = !isOld k) :
    ∀ (limit : Option Nat) (s : σ) (n : Nat),
      limitLoop del sel nk ks limit s n =
        ((takeLim isOld (ks.filter sel) limit).foldl del s,
          n + (takeLim isOld (ks.filter sel) limit).length) := by
  induction ks with
  | nil => intro limit s n; rfl
  | cons k r ih =>
    intro limit s n
    have ih := ih fun x hx => hnew x (List.mem_cons_of_mem _ hx)
    rw [limitLoop]
    by_cases h0 : limit = some 0
    · rw [if_pos h0, h0, takeLim_zero]; rfl
    · rw [if_neg h0]
      by_cases h1 : sel k = true
      · have e : (if nk.contains k = true then limit else Option.map (· - 1) limit) =
            (if isOld k = true then Option.map (· - 1) limit else limit) := by
          rw [hnew k List.mem_cons_self h1]; cases isOld k <;> simp
        rw [if_pos h1, List.filter_cons_of_pos h1, takeLim, if_neg h0, e, ih]
        simp only [List.foldl_cons, List.length_cons, Prod.mk.injEq, true_and]
        omega
      · rw [if_neg h1, List.filter_cons_of_neg h1, ih]

theorem specLoop_take (back : Entries) (ks : List Bytes) :
    ∀ (limit : Option Nat) (t : Entries) (n : Nat),
      specLoop back ks limit t n =
        ((takeLim (fun k => (OMap.get k back).isSome) ks limit).foldl (fun t k => OMap.erase k t) t,
          n + (takeLim (fun k => (OMap.get k back).isSome) ks limit).length) := by
  induction ks with
  | nil => intro limit t n; rfl
  | cons k r ih =>
    intro limit t n
    simp only [specLoop, takeLim]
    by_cases h0 : limit = some 0
    · simp [h0]
    · simp only [h0, if_false, List.foldl_cons, List.length_cons]
      rw [ih]
      simp only [Prod.mk.injEq, true_and]
      omega

theorem not_mem_of_mem_newKeys {keys tk : List Bytes} {x : Bytes}
    (h : x ∈ keys.filter (fun k => !tk.contains k)) : x ∉ tk := by
  simpa using (List.mem_filter.mp h).2

/-- the candidate list of `storageDiff.clearPrefix` is strictly ascending -/
theorem sorted_candidates {ups : KMap Bytes} (hu : KMap.Sorted ups) {ks : List Bytes}
    (hk : KSet.Sorted ks) :
    KSet.Sorted (sortKeys (((KMap.keys ups).filter (fun k => !ks.contains k)) ++ ks)) :=
  sorted_sortKeys_append (KSet.sorted_filter (KMap.sorted_keys hu) _) hk fun _ => not_mem_of_mem_newKeys

theorem mem_newKeys_or (keys tk : List Bytes) (y : Bytes) :
    (y ∈ keys.filter (fun k => !tk.contains k) ∨ y ∈ tk) ↔ (y ∈ keys ∨ y ∈ tk) := by
  by_cases hy : y ∈ tk <;> simp [hy]

theorem mem_candidates (keys tk : List Bytes) (y : Bytes) :
    y ∈ sortKeys (keys.filter (fun k => !tk.contains k) ++ tk) ↔ (y ∈ keys ∨ y ∈ tk) := by
  rw [mem_sortKeys, List.mem_append, mem_newKeys_or]

/-- `deleteChildLimit` builds the same candidate list with the committed keys first -/
theorem mem_killCandidates (keys tk : List Bytes) (y : Bytes) :
    y ∈ sortKeys (tk ++ keys.filter (fun k => !tk.contains k)) ↔ (y ∈ keys ∨ y ∈ tk) := by
  rw [mem_sortKeys, List.mem_append, Or.comm, mem_newKeys_or]

theorem sorted_killCandidates {ups : KMap Bytes} (hu : KMap.Sorted ups) {ks : List Bytes}
    (hk : KSet.Sorted ks) :
    KSet.Sorted (sortKeys (ks ++ (KMap.keys ups).filter (fun k => !ks.contains k))) :=
  sorted_sortKeys_append hk (KSet.sorted_filter (KMap.sorted_keys hu) _) fun _ hx hy =>
    not_mem_of_mem_newKeys hy hx

/-- the keys `clearPrefix` deletes: keys of the upserts or of the trie that have the prefix -/
def clearKeys (ups : KMap Bytes) (p : Bytes) (trieKeys : List Bytes) : List Bytes :=
  (sortKeys (((KMap.keys ups).filter (fun k => !trieKeys.contains k)) ++ trieKeys)).filter
    (fun k => p.isPrefixOf k)

theorem mem_clearKeys {ups : KMap Bytes} {p : Bytes} {tk : List Bytes} {x : Bytes} :
    x ∈ clearKeys ups p tk ↔ (p.isPrefixOf x = true ∧ (x ∈ KMap.keys ups ∨ x ∈ tk)) := by
  unfold clearKeys
  rw [List.mem_filter, mem_candidates, and_comm]

theorem clearPrefixG_none {σ : Type} (del : σ → Bytes → σ) (ups : KMap Bytes) (s : σ) (p : Bytes)
    (tk : List Bytes) :
    (clearPrefixG del ups s p tk none).1 = (clearKeys ups p tk).foldl del s := by
  show (limitLoop del _ _ _ none s 0).1 = _
  rw [limitLoop_take del _ _ (fun k => !List.contains _ k) _ fun _ _ _ => (Bool.not_not _).symm,
    takeLim_none]
  rfl

theorem Overlay.clearAll {base res : Entries} {c : CDiff} (h : Overlay base c.upserts c.deletes res)
    (p : Bytes) {tk : List Bytes}
    (htk : ∀ y, y ∈ tk ↔ (OMap.get y base ≠ none ∧ p.isPrefixOf y = true)) :
    Overlay base ((clearKeys c.upserts p tk).foldl CDiff.delete c).upserts
      ((clearKeys c.upserts p tk).foldl CDiff.delete c).deletes (OMap.clearPrefix p res) := by
  have hfil : res.filter (fun e => !(clearKeys c.upserts p tk).contains e.1) =
      OMap.clearPrefix p res := by
    apply List.filter_congr
    intro e he
    have hmem := (h.mem_res e.1).mp (List.mem_map.mpr ⟨e, he, rfl⟩)
    by_cases hpe : p.isPrefixOf e.1 = true
    · have : e.1 ∈ clearKeys c.upserts p tk :=
        mem_clearKeys.mpr ⟨hpe, hmem.imp_right fun hb =>
          (htk e.1).mpr ⟨(omap_mem_keys _ _).mp hb.1, hpe⟩⟩
      simp [hpe, this]
    · have : e.1 ∉ clearKeys c.upserts p tk := fun hm => hpe (mem_clearKeys.mp hm).1
      simp [hpe, this]
  exact hfil ▸ h.foldDelete _

theorem specLimit_eq {res base : Entries} (sel : Bytes → Bool)
    {G : List Bytes} (hGs : KSet.Sorted G)
    (hG : ∀ y, y ∈ G ↔ sel y = true ∧ (OMap.get y res ≠ none ∨ OMap.get y base ≠ none))
    (limit : Option Nat) :
    let T := takeLim (fun k => (OMap.get k base).isSome) G limit
    specLimit res base sel limit =
      (res.filter (fun e => !T.contains e.1), T.length, T.length == G.length) := by
  intro T
  have hc : unionKeys ((res.map (·.1)).filter sel) ((base.map (·.1)).filter sel) = G := by
    apply KSet.ext (sorted_unionKeys _ _) hGs
    intro y
    rw [mem_unionKeys, hG, List.mem_filter, List.mem_filter, omap_mem_keys, omap_mem_keys]
    exact or_and_right.symm.trans and_comm
  unfold specLimit
  simp only [hc, specLoop_take base G, Nat.zero_add,
    foldl_erase_eq_filter]
  rfl

theorem specLimit_fst (t back : Entries) (sel : Bytes → Bool) (limit : Option Nat) :
    ∃ T : List Bytes, (specLimit t back sel limit).1 = t.filter (fun e => !T.contains e.1) := by
  unfold specLimit
  simp only [specLoop_take back, foldl_erase_eq_filter]
  exact ⟨_, rfl⟩

theorem sorted_specLimit {t : Entries} (ht : OMap.Sorted t) (back : Entries) (sel : Bytes → Bool)
    (limit : Option Nat) : OMap.Sorted (specLimit t back sel limit).1 := by
  obtain ⟨T, h⟩ := specLimit_fst t back sel limit
  rw [h]
  exact OMap.sorted_filter _ ht

section
variable {base : Entries} {ups : KMap Bytes} {dels : KSet} {res : Entries}

/-- `tk` = the selected keys of the committed map (what `keysWithPrefix` collects), `G` = the
    ascending candidate list the Go loop walks, `T` = the initial segment of it that the Go loop and
    the specification both process.  `hsel` keeps the finding `alldeleted-counts-nonmatching` out:
    Go reports `allDeleted` by comparing the count with the length of the WHOLE candidate list, new
    keys without the prefix included. -/
theorem Overlay.limited {σ : Type} (del : σ → Bytes → σ) (s : σ) (h : Overlay base ups dels res)
    (sel : Bytes → Bool) {tk G : List Bytes}
    (htk : ∀ y, y ∈ tk ↔ (OMap.get y base ≠ none ∧ sel y = true))
    (hsel : ∀ k ∈ KMap.keys ups, sel k = true)
    (hGs : KSet.Sorted G) (hG : ∀ y, y ∈ G ↔ (y ∈ KMap.keys ups ∨ y ∈ tk)) (limit : Option Nat) :
    ∃ T : List Bytes, (∀ y ∈ T, y ∈ G) ∧ (limit = none → T = G) ∧
      limitLoop del sel ((KMap.keys ups).filter (fun k => !tk.contains k)) G limit s 0 =
        (T.foldl del s, T.length) ∧
      specLimit res base sel limit =
        (res.filter (fun e => !T.contains e.1), T.length, T.length == G.length) := by
  have cand : ∀ k ∈ G, sel k = true ∧ ((k ∈ tk ∧ OMap.get k base ≠ none) ∨
      (k ∉ tk ∧ k ∈ KMap.keys ups ∧ OMap.get k base = none)) := by
    intro k hk
    by_cases hkt : k ∈ tk
    · exact ⟨((htk k).mp hkt).2, Or.inl ⟨hkt, ((htk k).mp hkt).1⟩⟩
    · have hu := ((hG k).mp hk).resolve_right hkt
      have hs := hsel k hu
      exact ⟨hs, Or.inr ⟨hkt, hu, Classical.byContradiction fun hb => hkt ((htk k).mpr ⟨hb, hs⟩)⟩⟩
  have hnew : ∀ k ∈ G, ((KMap.keys ups).filter (fun k => !tk.contains k)).contains k =
      !(OMap.get k base).isSome := by
    intro k hk
    rcases (cand k hk).2 with ⟨hkt, hb⟩ | ⟨hkt, hu, hb⟩
    · simp [hkt, Option.isSome_iff_ne_none.mpr hb]
    · simp [hkt, hu, hb]
  have hG' : ∀ y, y ∈ G ↔ sel y = true ∧ (OMap.get y res ≠ none ∨ OMap.get y base ≠ none) := by
    intro y
    rw [← omap_mem_keys, h.mem_res, omap_mem_keys]
    constructor
    · intro hy
      refine ⟨(cand y hy).1, ?_⟩
      rcases (cand y hy).2 with ⟨_, hb⟩ | ⟨_, hu, _⟩
      · exact Or.inr hb
      · exact Or.inl (Or.inl hu)
    · rintro ⟨hs, (hu | ⟨hb, _⟩) | hb⟩
      · exact (hG y).mpr (Or.inl hu)
      · exact (hG y).mpr (Or.inr ((htk y).mpr ⟨hb, hs⟩))
      · exact (hG y).mpr (Or.inr ((htk y).mpr ⟨hb, hs⟩))
  refine ⟨_, takeLim_subset _ G limit, fun e => e ▸ takeLim_none _ G, ?_,
    specLimit_eq sel hGs hG' limit⟩
  rw [limitLoop_take del sel _ _ G (fun k hk _ => hnew k hk),
    List.filter_eq_self.mpr fun k hk => (cand k hk).1, Nat.zero_add]

theorem Overlay.clearLimited {σ : Type} (del : σ → Bytes → σ) (s : σ) (h : Overlay base ups dels res)
    (p : Bytes) {tk : List Bytes}
    (htk : ∀ y, y ∈ tk ↔ (OMap.get y base ≠ none ∧ p.isPrefixOf y = true)) (htkS : KSet.Sorted tk)
    (hsel : ∀ k ∈ KMap.keys ups, p.isPrefixOf k = true) (limit : Option Nat) :
    ∃ (T : List Bytes) (c : Nat × Bool), (∀ y ∈ T, y ∈ KMap.keys ups ∨ y ∈ tk) ∧
      clearPrefixG del ups s p tk limit = (T.foldl del s, c) ∧
      specLimit res base (fun k => p.isPrefixOf k) limit =
        (res.filter (fun e => !T.contains e.1), c) := by
  obtain ⟨T, hT, _, hm, hs⟩ := h.limited del s (fun k => p.isPrefixOf k) htk hsel
    (sorted_candidates h.sups htkS) (mem_candidates _ _) limit
  refine ⟨T, _, fun y hy => (mem_candidates _ _ y).mp (hT y hy), ?_, hs⟩
  unfold clearPrefixG
  simp only [hm]

end

theorem specLimit_self {es : Entries} (sel : Bytes → Bool) {G : List Bytes}
    (hGs : KSet.Sorted G) (hG : ∀ y, y ∈ G ↔ (OMap.get y es ≠ none ∧ sel y = true)) :
    (∀ n, specLimit es es sel (some n) =
      (es.filter (fun e => !(G.take n).contains e.1), (G.take n).length,
        (G.take n).length == G.length)) ∧
    specLimit es es sel none = (es.filter (fun e => !G.contains e.1), G.length, true) := by
  have hG' : ∀ y, y ∈ G ↔ (sel y = true ∧ (OMap.get y es ≠ none ∨ OMap.get y es ≠ none)) :=
    fun y => by rw [hG, or_self, and_comm]
  have hold : ∀ k ∈ G, (fun k => (OMap.get k es).isSome) k = true :=
    fun k hk => Option.isSome_iff_ne_none.mpr ((hG k).mp hk).1
  constructor
  · intro n
    rw [show specLimit es es sel (some n) = _ from specLimit_eq sel hGs hG' (some n),
      takeLim_allOld G hold n]
  · rw [show specLimit es es sel none = _ from specLimit_eq sel hGs hG' none, takeLim_none,
      beq_self_eq_true]

theorem dropMatching_eq (p : Bytes) : ∀ (es : Entries), OMap.Sorted es → ∀ n,
    OMap.dropMatching p n es =
      es.filter (fun e => !(((OMap.keysWithPrefix p es).take n).contains e.1)) := by
  intro es
  induction es with
  | nil => intro _ n; cases n <;> simp [OMap.dropMatching]
  | cons e r ih =>
    intro hs n
    cases n with
    | zero => simp [OMap.dropMatching, filter_const_true]
    | succ m =>
      simp only [OMap.dropMatching]
      have hr : ∀ x ∈ r, x.1 ≠ e.1 := fun x hx => (klt_ne (hs.1 x hx)).symm
      by_cases hp : p.isPrefixOf e.1 = true
      · have hM : OMap.keysWithPrefix p (e :: r) = e.1 :: OMap.keysWithPrefix p r := by
          unfold OMap.keysWithPrefix; simp [hp]
        simp only [hp, if_true, hM, List.take_succ_cons, List.filter_cons, List.contains_cons,
          beq_self_eq_true, Bool.true_or, Bool.not_true, Bool.false_eq_true, if_false]
        rw [ih hs.2 m]
        apply List.filter_congr
        intro x hx
        have : (x.1 == e.1) = false := by simpa using hr x hx
        simp [this]
      · have hM : OMap.keysWithPrefix p (e :: r) = OMap.keysWithPrefix p r := by
          unfold OMap.keysWithPrefix; simp [hp]
        have hne : ((OMap.keysWithPrefix p r).take (m + 1)).contains e.1 = false :=
          Bool.eq_false_iff.mpr fun hc => hp ((mem_keysWithPrefix_iff_get p r e.1).mp
            ((List.take_sublist _ _).subset (List.contains_iff_mem.mp hc))).2
        simp only [hp, Bool.false_eq_true, if_false, hM, List.filter_cons, hne, Bool.not_false,
          if_true]
        rw [ih hs.2 (m + 1)]

theorem clearPrefixLimit_spec (p : Bytes) (n : Nat) {es : Entries} (hs : OMap.Sorted es)
    (h0 : n ≠ 0 ∨ OMap.keysWithPrefix p es ≠ []) :
    OMap.clearPrefixLimit p n es = specLimit es es (fun k => p.isPrefixOf k) (some n) := by
  rw [(specLimit_self _ (keysWithPrefix_sorted hs p) (mem_keysWithPrefix_iff_get p es)).1 n]
  unfold OMap.clearPrefixLimit
  by_cases hn : n = 0
  · subst hn
    have hlen : (OMap.keysWithPrefix p es).length ≠ 0 :=
      fun h => (h0.resolve_left (fun h => h rfl)) (List.length_eq_zero_iff.mp h)
    have : ((0 : Nat) == (OMap.keysWithPrefix p es).length) = false := by
      cases h : (OMap.keysWithPrefix p es).length with
      | zero => exact absurd h hlen
      | succ m => rfl
    simp only [if_true, List.take_zero, List.contains_nil, Bool.not_false, filter_const_true,
      List.length_nil, this]
  · simp only [hn, if_false, List.length_take]
    rw [dropMatching_eq p es hs n]
    congr 2
    by_cases hle : (OMap.keysWithPrefix p es).length ≤ n
    · have : min n (OMap.keysWithPrefix p es).length = (OMap.keysWithPrefix p es).length := by omega
      simp [hle, this]
    · have : min n (OMap.keysWithPrefix p es).length = n := by omega
      have hne : ¬ n = (OMap.keysWithPrefix p es).length := by omega
      simp [hle, this, hne]

/-- `m` = what is left of the limit -/
theorem deleteKeysLimit_eq {β τ : Type} (B : Backend β τ) (ks : List Bytes) : ∀ (m n : Nat) (c : τ),
    deleteKeysLimit B c ks (n + m) n =
      ((ks.take m).foldl B.T.delete c, n + (ks.take m).length) := by
  induction ks with
  | nil => intro m n c; rw [List.take_nil]; rfl
  | cons k r ih =>
    intro m n c
    cases m with
    | zero => exact if_pos rfl
    | succ m =>
      have h := ih m (n + 1) (B.T.delete c k)
      rw [Nat.add_right_comm n 1 m, Nat.add_right_comm n 1 (r.take m).length] at h
      rw [deleteKeysLimit, if_neg (by omega)]
      exact h

end Gossamer.C08
