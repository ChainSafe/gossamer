/-
C20: bit masks as sets of bits, and weighted sums over voter positions: `wsum` is the weighted sum of Lib/WSum over the
weights paired with their positions (`wsum_eq`), and the threshold of the voter set is put in the linear form that
Lib/WSum's quorum intersection takes (`wsum_super`, `wsum_tol`).
-/
import Gossamer.Model.C20
import Gossamer.Lib.WSum
import Gossamer.Lib.Threshold
namespace Gossamer.C20

theorem testBit_setBit (m p i : Nat) : (setBit m p).testBit i = (m.testBit i || decide (p = i)) := by
  simp [setBit, Nat.testBit_or, Nat.one_shiftLeft, Nat.testBit_two_pow]

theorem insert_testBit (t : Tree) (c : Nat → Mask) (b pos B q : Nat) :
    (insert t c b pos B).testBit q = ((c B).testBit q || (t.le B b && pos == q)) := by
  unfold insert Tree.le
  cases (t.chain b).contains B
  · simp
  · simp only [if_true, testBit_setBit, Bool.true_and]; rfl

theorem bitPos_inj {v v' : Nat} {ph ph' : Bool} :
    bitPos v (phN ph) = bitPos v' (phN ph') ↔ v = v' ∧ ph = ph' := by
  unfold bitPos phN
  cases ph <;> cases ph' <;> simp <;> omega

theorem mask_ne_zero {m : Nat} : m ≠ 0 ↔ ∃ i, m.testBit i = true :=
  ⟨Nat.exists_testBit_of_ne_zero, fun ⟨i, hi⟩ h0 => by rw [h0, Nat.zero_testBit] at hi; cases hi⟩

theorem or_eq_of_testBit_imp {a b : Nat} (h : ∀ q, b.testBit q = true → a.testBit q = true) : a = b ||| a := by
  apply Nat.eq_of_testBit_eq
  intro q
  rw [Nat.testBit_or]
  cases hq : b.testBit q
  · rfl
  · exact h q hq

theorem pos_as_bitPos (i : Nat) : ∃ v ph, i = bitPos v (phN ph) := by
  refine ⟨i / 2, decide (i % 2 = 1), ?_⟩
  unfold bitPos phN
  by_cases h : i % 2 = 1 <;> simp [h] <;> omega

theorem wsumFrom_eq (p : Nat → Bool) : ∀ (ws : List Nat) (i : Nat),
    wsumFrom p i ws = WSum.wsum (·.1) (fun x => p x.2) (ws.zipIdx i) := by
  intro ws
  induction ws with
  | nil => intro _; rfl
  | cons w ws ih => intro i; rw [List.zipIdx_cons]; exact congrArg _ (ih (i + 1))

theorem wsumFrom_congr {p q : Nat → Bool} (ws : List Nat) (i : Nat)
    (h : ∀ j, i ≤ j → j < i + ws.length → p j = q j) : wsumFrom p i ws = wsumFrom q i ws := by
  rw [wsumFrom_eq, wsumFrom_eq]
  exact WSum.wsum_congr fun x hx => h x.2 (List.le_snd_of_mem_zipIdx hx) (List.snd_lt_add_of_mem_zipIdx hx)

theorem wsumFrom_set {p q : Nat → Bool} {v : Nat} (h : ∀ j, j ≠ v → q j = p j) (hp : p v = false)
    (hq : q v = true) : ∀ (ws : List Nat) (i : Nat), i ≤ v →
    wsumFrom q i ws = wsumFrom p i ws + ws.getD (v - i) 0 := by
  intro ws
  induction ws with
  | nil => intros; rfl
  | cons w ws ih =>
    intro i hi
    simp only [wsumFrom]
    by_cases hiv : i = v
    · subst hiv
      rw [hp, hq, wsumFrom_congr ws (i + 1) (fun j h1 _ => h j (by omega)), Nat.sub_self]
      simp only [List.getD_cons_zero, if_true, Bool.false_eq_true, if_false]
      omega
    · rw [h i hiv, ih (i + 1) (by omega), show v - i = v - (i + 1) + 1 by omega, List.getD_cons_succ]
      omega

theorem wsum_eq (ws : List Nat) (p : Nat → Bool) : wsum ws p = WSum.wsum (·.1) (fun x => p x.2) ws.zipIdx :=
  wsumFrom_eq p ws 0

theorem total_eq (ws : List Nat) : WSum.total (·.1) ws.zipIdx = total ws :=
  (wsum_eq ws fun _ => true).symm

theorem wsum_congr {ws : List Nat} {p q : Nat → Bool} (h : ∀ v, v < ws.length → p v = q v) :
    wsum ws p = wsum ws q := by
  rw [wsum_eq, wsum_eq]; exact WSum.wsum_congr fun x hx => h x.2 (List.snd_lt_of_mem_zipIdx hx)

theorem wsum_mono {ws : List Nat} {p q : Nat → Bool} (h : ∀ v, v < ws.length → p v = true → q v = true) :
    wsum ws p ≤ wsum ws q := by
  rw [wsum_eq, wsum_eq]; exact WSum.wsum_mono fun x hx => h x.2 (List.snd_lt_of_mem_zipIdx hx)

theorem wsum_le_total (ws : List Nat) (p : Nat → Bool) : wsum ws p ≤ total ws :=
  wsum_mono (fun _ _ _ => rfl)

theorem wsum_split {ws : List Nat} {p q : Nat → Bool} (h : ∀ v, v < ws.length → q v = true → p v = true) :
    wsum ws p = wsum ws q + wsum ws (fun j => p j && !q j) := by
  simp only [wsum_eq]; exact WSum.wsum_split fun x hx => h x.2 (List.snd_lt_of_mem_zipIdx hx)

theorem wsum_set {ws : List Nat} {p q : Nat → Bool} (v : Nat)
    (h : ∀ j, j ≠ v → q j = p j) (hp : p v = false) (hq : q v = true) :
    wsum ws q = wsum ws p + ws.getD v 0 :=
  wsumFrom_set h hp hq ws 0 (Nat.zero_le v)

theorem threshold_le (n : Nat) : threshold n ≤ n := Nat.sub_le _ _

theorem three_faulty_lt {n : Nat} (h : 0 < n) : 3 * (n - threshold n) < n := Threshold.fg_faulty_lt h

theorem wsum_super {ws : List Nat} (h0 : 0 < total ws) {p : Nat → Bool} (h : threshold (total ws) ≤ wsum ws p) :
    2 * WSum.total (·.1) ws.zipIdx < 3 * WSum.wsum (·.1) (fun x => p x.2) ws.zipIdx := by
  rw [← wsum_eq, total_eq]; exact (Threshold.fg_le _ _ h0).1 h

theorem wsum_tol {ws : List Nat} (h0 : 0 < total ws) {p : Nat → Bool}
    (h : wsum ws p ≤ total ws - threshold (total ws)) :
    3 * WSum.wsum (·.1) (fun x => p x.2) ws.zipIdx < WSum.total (·.1) ws.zipIdx := by
  rw [← wsum_eq, total_eq]
  exact Nat.lt_of_le_of_lt (Nat.mul_le_mul_left 3 h) (three_faulty_lt h0)

end Gossamer.C20
