/-
`C12.decodeA` (Model/C12) is `decode C11.codec` that also carries the largest read buffer (`max`) and
the zero-fill flag (`||`).  Every statement about it says that some relation
`P input result buffer flag reference` holds at each primitive read and survives the ways the walk puts
steps together (`Walk P`); the case analysis of `decodeA` against `decode D`, for any reference codec
`D`, is done once, in `Walk.decodeA`, and each statement is an instance.
-/
import Gossamer.Model.C12
import Gossamer.Lib.C11Decode
namespace Gossamer.C12
open Gossamer Gossamer.Scale

/-- every primitive of the type satisfies `q`: restricts the hypothesis of `Walk.decodeA` on the
    primitive reads to those the type has -/
def allPrim (q : Prim → Bool) : Ty → Bool
  | .prim p => q p
  | .unit => true
  | .pair a b => allPrim q a && allPrim q b
  | .option t => allPrim q t
  | .result a b => allPrim q a && allPrim q b
  | .array _ t => allPrim q t
  | .seq t => allPrim q t
  | .enumNil => true
  | .enumCons _ t rest => allPrim q t && allPrim q rest

theorem allPrim_true (t : Ty) : allPrim (fun _ => true) t = true := by
  induction t <;> simp_all [allPrim]

/-- a relation between a step of the Go walk on an input (result, buffer, zero-fill flag) and a
    reference result, kept by the ways the walk composes steps.  A relation may ignore the reference
    result (`req_walk`, `okBound_walk`: then the codec `D` handed to `Walk.decodeA` is a dummy) -/
structure Walk (P : ∀ {α : Type}, Bytes → Option (α × Bytes) → Nat → Bool → Option (α × Bytes) → Prop) :
    Prop where
  /-- nothing read: the empty struct, zero items, the `none` of an option after its tag -/
  pure : ∀ {α : Type} (v : α) (bs : Bytes), P bs (some (v, bs)) 0 false (some (v, bs))
  /-- no tag byte, or an unknown one: `decodeA` reports the one-byte read of the tag, `req = 1` -/
  fail : ∀ {α : Type} (bs : Bytes), P (α := α) bs none 1 false none
  /-- a tag byte `b` in front of a step: its one-byte buffer joins the maximum -/
  tag : ∀ {α : Type} {r : Bytes} {res s : Option (α × Bytes)} {q : Nat} {z : Bool} (b : UInt8),
    P r res q z s → P (b :: r) res (max 1 q) z s
  map : ∀ {α β : Type} {bs : Bytes} {res s : Option (α × Bytes)} {q : Nat} {z : Bool} (f : α → β),
    P bs res q z s → P bs (res.map (onVal f)) q z (s.map (onVal f))
  /-- the Go step failed and the walk stops with its buffer and flag; the reference `s` may have
      succeeded (the Go `decodeUint` refuses values the canonical decoder takes) and would go on
      with `g` -/
  stop : ∀ {α β : Type} {bs : Bytes} {s : Option (α × Bytes)} {q : Nat} {z : Bool}
    (g : α × Bytes → Option (β × Bytes)), P bs none q z s → P bs none q z (s.bind g)
  /-- the Go step returned `(x, r1)` and a second step runs on `r1`: struct fields, the items of
      an array, the items after a length -/
  bind : ∀ {α β : Type} {bs r1 : Bytes} {x : α} {s1 : Option (α × Bytes)} {q1 q2 : Nat} {z1 z2 : Bool}
    {res2 : Option (β × Bytes)} (g : α × Bytes → Option (β × Bytes)),
    P bs (some (x, r1)) q1 z1 s1 → P r1 res2 q2 z2 (g (x, r1)) →
      P bs res2 (max q1 q2) (z1 || z2) (s1.bind g)

section
variable {P : ∀ {α : Type}, Bytes → Option (α × Bytes) → Nat → Bool → Option (α × Bytes) → Prop}

theorem Walk.decNA (W : Walk P) (f : Bytes → DRes) (g : Bytes → Option (Val × Bytes))
    (h : ∀ bs, P bs (f bs).res (f bs).req (f bs).zf (g bs)) :
    ∀ n bs, P bs (decNA f n bs).res (decNA f n bs).req (decNA f n bs).zf (decN g n bs) := by
  intro n
  induction n with
  | zero => intro bs; exact W.pure [] bs
  | succ n ih =>
    intro bs
    have hb := h bs
    rw [decN_succ_eq]
    simp only [C12.decNA]
    rcases ho : (f bs).res with _ | ⟨v, r⟩
    · rw [ho] at hb; exact W.stop _ hb
    · rw [ho] at hb
      exact W.bind _ hb (W.map (v :: ·) (ih r))

theorem Walk.decodeA (W : Walk P) (D : Codec) (q : Prim → Bool)
    (hp : ∀ p, q p = true → ∀ bs,
      P bs (C11.decPA p bs).res (C11.decPA p bs).req (C11.decPA p bs).zf (D.decP p bs))
    (hl : ∀ bs, P bs (C11.decodeUintV bs) (C11.decodeUintReq bs) false (D.decLen bs)) :
    ∀ t, allPrim q t = true → ∀ bs,
      P bs (decodeA t bs).res (decodeA t bs).req (decodeA t bs).zf (decode D t bs) := by
  intro t
  induction t with
  | prim p => intro h bs; exact hp p h bs
  | unit => intro _ bs; exact W.pure Val.unit bs
  | pair a b iha ihb =>
    intro h bs
    simp only [allPrim, Bool.and_eq_true] at h
    have ha := iha h.1 bs
    rw [decode_pair_eq]
    simp only [C12.decodeA]
    rcases ho : (C12.decodeA a bs).res with _ | ⟨x, r⟩
    · rw [ho] at ha; exact W.stop _ ha
    · rw [ho] at ha
      exact W.bind _ ha (W.map (Val.pair x) (ihb h.2 r))
  | option t ih =>
    intro h bs
    rcases bs with _ | ⟨tag, r⟩
    · exact W.fail []
    · rw [decode_option_eq]; simp only [C12.decodeA]
      split
      · exact W.tag tag (W.pure Val.none r)
      · split
        · exact W.map Val.some (W.tag tag (ih h r))
        · exact W.fail _
  | result a b iha ihb =>
    intro h bs
    simp only [allPrim, Bool.and_eq_true] at h
    rcases bs with _ | ⟨tag, r⟩
    · exact W.fail []
    · rw [decode_result_eq]; simp only [C12.decodeA]
      split
      · exact W.map Val.ok (W.tag tag (iha h.1 r))
      · split
        · exact W.map Val.err (W.tag tag (ihb h.2 r))
        · exact W.fail _
  | array n t ih =>
    intro h bs
    rw [decode_array_eq]
    exact W.map Val.list (W.decNA _ _ (ih h) n bs)
  | seq t ih =>
    intro h bs
    have hb := hl bs
    rw [decode_seq_eq]
    simp only [C12.decodeA]
    split
    · rename_i hu; rw [hu] at hb; exact W.stop _ hb
    · rename_i n r hu; rw [hu] at hb
      exact W.bind _ hb (W.map Val.list (W.decNA _ _ (ih h) n r))
  | enumNil => intro _ bs; exact W.fail bs
  | enumCons i t rest iht ihr =>
    intro h bs
    simp only [allPrim, Bool.and_eq_true] at h
    rcases bs with _ | ⟨tag, r⟩
    · exact W.fail []
    · rw [decode_enumCons_eq]; simp only [C12.decodeA]
      split
      · exact W.map (Val.variant i) (W.tag tag (iht h.1 r))
      · -- an index that does not match: the same input at the rest of the chain, no read counted
        exact ihr h.2 (tag :: r)

end

theorem res_walk : Walk (fun {α} _ (res : Option (α × Bytes)) _ _ s => res = s) where
  pure _ _ := rfl
  fail _ := rfl
  tag _ h := h
  map _ h := congrArg _ h
  stop _ h := by rw [← h]; rfl
  bind _ h1 h2 := by rw [← h1]; exact h2

/-- the instrumented walk computes `Unmarshal` (`C11.unmarshal` is `decode C11.codec`) -/
theorem C12_decodeA_res (t : Ty) : ∀ bs, (decodeA t bs).res = decode C11.codec t bs :=
  res_walk.decodeA C11.codec _ (fun _ _ _ => rfl) (fun _ => rfl) t (allPrim_true t)

/-- outcome `(res, zf)` of the Go decoder against the canonical outcome `spec` -/
def Refines {α : Type} (res : Option α) (zf : Bool) (spec : Option α) : Prop :=
  (zf = false → ∀ x, res = some x → spec = some x) ∧ (zf = true → spec = none)

theorem prim_refines (p : Prim) (bs : Bytes) :
    Refines (C11.decPA p bs).res (C11.decPA p bs).zf (Spec.decKind p.kind bs) := by
  have ⟨h1, h2⟩ := C11.decPA_spec p bs
  refine ⟨fun hz x hx => ?_, h2⟩
  rw [h1 hz] at hx
  exact (Option.filter_eq_some_iff.1 hx).1

theorem len_refines (bs : Bytes) : Refines (C11.decodeUintV bs) false (Spec.decLen bs) := by
  refine ⟨fun _ x h => ?_, nofun⟩
  have ⟨hc, hok⟩ := C11.decodeUintV_some.1 h
  exact Spec.decLen_some.2 ⟨hc, C11.uintOk_lt_maxSeqLen hok⟩

theorem Refines.step {α : Type} {x : α} {zf : Bool} {spec : Option α} (h : Refines (some x) zf spec) :
    zf = true ∧ spec = none ∨ zf = false ∧ spec = some x := by
  cases zf with
  | true => exact .inl ⟨rfl, h.2 rfl⟩
  | false => exact .inr ⟨rfl, h.1 rfl x rfl⟩

theorem refines_walk : Walk (fun {α} _ (res : Option (α × Bytes)) _ z s => Refines res z s) where
  pure _ _ := ⟨fun _ _ h => h, nofun⟩
  fail _ := ⟨nofun, nofun⟩
  tag _ h := h
  map _ h := by
    refine ⟨fun hz y hy => ?_, fun hz => by rw [h.2 hz]; rfl⟩
    obtain ⟨x, hx, rfl⟩ := Option.map_eq_some_iff.1 hy
    rw [h.1 hz _ hx]; rfl
  stop _ h := ⟨nofun, fun hz => by rw [h.2 hz]; rfl⟩
  bind _ h1 h2 := by
    -- the first step zero-filled and the canonical decoder has stopped, or both go on from the same rest
    rcases h1.step with ⟨rfl, rfl⟩ | ⟨rfl, rfl⟩
    · exact ⟨nofun, fun _ => rfl⟩
    · exact h2

/-- **No panic**, as far as it is a statement: a buffer filled by `io.ReadFull` (`C11.readFull`) has
    exactly the size it was asked for, so `buf[byteLen-1]` (`decodeBigInt`) and the fixed-size reads
    of `binary.LittleEndian.UintN` are in range.  That every buffer the decoder indexes comes from
    `readFull` is read off Model/C11, not stated; the model is a total function of (type, input), and
    panics of the reflect walk itself are observed by the harness only. -/
theorem C12_no_panic (k : Nat) (bs buf r : Bytes) (h : C11.readFull k bs = some (buf, r)) :
    buf.length = k ∧ bs = buf ++ r ∧ (0 < k → buf.getLast?.isSome = true) := by
  unfold C11.readFull at h
  by_cases hl : bs.length < k
  · simp [hl] at h
  · simp only [hl, if_false, Option.some.injEq, Prod.mk.injEq] at h
    obtain ⟨h1, h2⟩ := h
    subst h1; subst h2
    have hlen : (bs.take k).length = k := by simp; omega
    refine ⟨hlen, by simp, fun hk => ?_⟩
    cases hb : bs.take k with
    | nil => rw [hb] at hlen; simp at hlen; omega
    | cons x xs => simp

/-- the same function as `noByteString` of Model/C12; both names are in statements that stay as
    they are (`C12_alloc_bounded_partial` and Lib/C33Cost with this one,
    `C12_reader_independent_partial` with the model's) -/
def noBytes : Ty → Bool
  | .prim .bytes => false
  | .prim .str => false
  | .prim _ => true
  | .unit => true
  | .pair a b => noBytes a && noBytes b
  | .option t => noBytes t
  | .result a b => noBytes a && noBytes b
  | .array _ t => noBytes t
  | .seq t => noBytes t
  | .enumNil => true
  | .enumCons _ t rest => noBytes t && noBytes rest

theorem decodeUintReq_le (bs : Bytes) : C11.decodeUintReq bs ≤ 8 := by
  cases bs with
  | nil => simp [C11.decodeUintReq]
  | cons b r =>
    simp only [C11.decodeUintReq]
    split
    · omega
    · split
      · split <;> omega
      · omega

theorem decBigReq_le (bs : Bytes) : C11.decBigReq bs ≤ 67 := by
  cases bs with
  | nil => simp [C11.decBigReq]
  | cons b r =>
    have := b.toNat_lt
    simp only [C11.decBigReq]
    split
    · omega
    · split <;> omega

theorem decFixed_req (w : Nat) (s : Bool) (bs : Bytes) : (C11.decFixed w s bs).req = w := by
  unfold C11.decFixed
  cases C11.readFull w bs with
  | none => rfl
  | some p => rfl

theorem prim_req_le (p : Prim) (bs : Bytes) (h : noBytes (.prim p) = true) :
    (C11.decPA p bs).req ≤ 67 := by
  have h1 : (1 : Nat) ≤ 67 := by decide
  cases p <;> simp only [noBytes, Bool.false_eq_true] at h <;> simp only [C11.decPA]
  case compact =>
    have := decodeUintReq_le bs
    unfold C11.decCompact
    split <;> exact Nat.le_trans this (by decide)
  case big =>
    unfold C11.decBig
    split <;> exact decBigReq_le bs
  case bool =>
    unfold C11.decBool
    split
    · exact h1
    · split
      · exact h1
      · split <;> exact h1
  all_goals (rw [decFixed_req]; decide)

theorem req_walk : Walk (fun {α} _ (_ : Option (α × Bytes)) q _ _ => q ≤ 67) where
  pure _ _ := Nat.zero_le _
  fail _ := by decide
  tag _ h := Nat.max_le.2 ⟨by decide, h⟩
  map _ h := h
  stop _ h := h
  bind _ h1 h2 := Nat.max_le.2 ⟨h1, h2⟩

theorem noBytes_eq (t : Ty) : noBytes t = allPrim (fun p => noBytes (.prim p)) t := by
  induction t with
  | pair a b iha ihb => simp only [noBytes, allPrim, iha, ihb]
  | result a b iha ihb => simp only [noBytes, allPrim, iha, ihb]
  | enumCons i t rest iht ihr => simp only [noBytes, allPrim, iht, ihr]
  | option t ih => exact ih
  | array n t ih => exact ih
  | seq t ih => exact ih
  | _ => rfl

theorem decodeA_req_le (t : Ty) (h : noBytes t = true) : ∀ bs, (decodeA t bs).req ≤ 67 :=
  req_walk.decodeA C11.codec _ (fun p hp bs => prim_req_le p bs hp)
    (fun bs => Nat.le_trans (decodeUintReq_le bs) (by decide)) t (noBytes_eq t ▸ h)

/-- `okBound_walk` writes the same relation out for any result type, since the relation of a `Walk` is
    polymorphic in it -/
def OkBound (res : Option (Val × Bytes)) (req : Nat) (zf : Bool) (bs : Bytes) : Prop :=
  zf = false → ∀ v r, res = some (v, r) → req ≤ max 67 bs.length ∧ r.length ≤ bs.length

theorem decBytes_okBound (bs : Bytes) :
    OkBound (C11.decBytes bs).res (C11.decBytes bs).req (C11.decBytes bs).zf bs := by
  intro hz v r h
  obtain ⟨n, r0, hu, _, rfl, _, hq, hn⟩ := C11.decBytes_some h
  have := decodeUintReq_le bs
  have := C11.decodeUintV_length_lt bs n r0 hu
  have := hn hz
  rw [List.length_drop]
  omega

theorem readFull_suffix (k : Nat) (bs buf r : Bytes) (h : C11.readFull k bs = some (buf, r)) :
    r.length ≤ bs.length := by
  have := (C12_no_panic k bs buf r h).2.1
  rw [this]; simp

theorem decFixed_consume (w : Nat) (s : Bool) (bs : Bytes) (v : Val) (r : Bytes)
    (h : (C11.decFixed w s bs).res = some (v, r)) : bs.length = w + r.length := by
  unfold C11.decFixed at h
  split at h
  · cases h
  · cases h
    have := C12_no_panic w bs _ _ ‹_›
    rw [this.2.1, List.length_append, this.1]

theorem prim_okBound (p : Prim) (bs : Bytes) :
    OkBound (C11.decPA p bs).res (C11.decPA p bs).req (C11.decPA p bs).zf bs := by
  by_cases hb : noBytes (.prim p) = true
  · intro hz v r h
    refine ⟨Nat.le_trans (prim_req_le p bs hb) (Nat.le_max_left _ _), ?_⟩
    -- the rest is a suffix: via the canonical decoder
    rw [(Spec.snd.sndP p bs v r ((prim_refines p bs).1 hz _ h)).2]; simp
  · cases p <;> simp [noBytes] at hb
    · exact decBytes_okBound bs
    · exact decBytes_okBound bs

theorem okBound_walk : Walk (fun {α} bs (res : Option (α × Bytes)) q z _ =>
    z = false → ∀ v r, res = some (v, r) → q ≤ max 67 bs.length ∧ r.length ≤ bs.length) where
  pure _ _ := fun _ _ _ h => by cases h; exact ⟨Nat.zero_le _, Nat.le_refl _⟩
  fail _ := nofun
  tag _ h := fun hz v r hr => by
    have ⟨h1, h2⟩ := h hz v r hr
    rw [List.length_cons]; omega
  map _ h := fun hz v r hr => by
    obtain ⟨⟨w, r'⟩, hw, e⟩ := Option.map_eq_some_iff.1 hr
    cases e; exact h hz w _ hw
  stop _ _ := nofun
  bind _ h1 h2 := fun hz v r hr => by
    rw [Bool.or_eq_false_iff] at hz
    have ⟨a1, a2⟩ := h1 hz.1 _ _ rfl
    have ⟨b1, b2⟩ := h2 hz.2 v r hr
    omega

theorem noByteString_eq (t : Ty) :
    noByteString t = allPrim (fun p => noByteString (.prim p)) t := by
  induction t with
  | pair a b iha ihb => simp only [noByteString, allPrim, iha, ihb]
  | result a b iha ihb => simp only [noByteString, allPrim, iha, ihb]
  | enumCons i t rest iht ihr => simp only [noByteString, allPrim, iht, ihr]
  | option t ih => exact ih
  | array n t ih => exact ih
  | seq t ih => exact ih
  | _ => rfl

end Gossamer.C12
