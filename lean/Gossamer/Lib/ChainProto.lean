/-
Protocol-buffers wire format (varint keys, varint and length-delimited fields) and the block
request / response messages of `dot/network/proto/api.v1.proto`, written from the .proto file and
the protobuf encoding specification — the reference encoder / decoder of property C14 for the
non-SCALE messages.  proto3 rules: a scalar equal to zero and an empty `bytes` field are not
written, every element of a repeated field is written, a set `oneof` member is always written.
The decoder is order-insensitive, as the wire format demands: last one wins for singular fields,
repeated fields append, a field number the message does not know is skipped (wire types other
than varint and length-delimited are errors for `parse`, known number or not).  Two encoders: field-number order (`encode`,
what prost emits) and protobuf-go's order (`encodeGo`: members of a `oneof` after the plain fields).
-/
import Gossamer.Base.Bytes
namespace Gossamer.Proto
open Gossamer

def varint (n : Nat) : Bytes :=
  if n < 128 then [UInt8.ofNat n] else UInt8.ofNat (128 + n % 128) :: varint (n / 128)
decreasing_by omega

def unvarint : Bytes → Option (Nat × Bytes)
  | [] => none
  | b :: r =>
    if b.toNat < 128 then some (b.toNat, r)
    else
      match unvarint r with
      | none => none
      | some (n, r') => some (b.toNat - 128 + 128 * n, r')

theorem varint_lt {n : Nat} (h : n < 128) : varint n = [UInt8.ofNat n] := by
  rw [varint]; simp [h]

theorem varint_ge {n : Nat} (h : ¬ n < 128) :
    varint n = UInt8.ofNat (128 + n % 128) :: varint (n / 128) := by
  rw [varint]; simp [h]

theorem varint_ne_nil (n : Nat) : varint n ≠ [] := by
  by_cases h : n < 128
  · rw [varint_lt h]; simp
  · rw [varint_ge h]; simp

/-- the two shapes against which every reader of varints (`unvarint`, `C33.uvar`) is checked -/
theorem varint_ind {P : Nat → Bytes → Prop}
    (last : ∀ (n : Nat) (b : UInt8), n < 128 → b.toNat = n → P n [b])
    (more : ∀ (n : Nat) (b : UInt8), 128 ≤ n → b.toNat = 128 + n % 128 →
      P (n / 128) (varint (n / 128)) → P n (b :: varint (n / 128))) :
    ∀ n, P n (varint n) := by
  intro n
  induction n using Nat.strongRecOn with
  | _ n ih =>
    by_cases h : n < 128
    · rw [varint_lt h]
      exact last n _ h (toNat_ofNat_lt (Nat.lt_trans h (by decide)))
    · rw [varint_ge h]
      have hn : 128 ≤ n := Nat.not_lt.1 h
      exact more n _ hn (toNat_ofNat_lt (Nat.add_lt_add_left (Nat.mod_lt n (by decide)) 128))
        (ih _ (Nat.div_lt_self (Nat.lt_of_lt_of_le (by decide) hn) (by decide)))

theorem unvarint_varint (n : Nat) (r : Bytes) : unvarint (varint n ++ r) = some (n, r) := by
  refine varint_ind (P := fun n bs => unvarint (bs ++ r) = some (n, r)) ?_ ?_ n
  · intro n b hn hb
    simp only [List.cons_append, List.nil_append, unvarint, hb, hn, if_true]
  · intro n b hn hb ih
    simp only [List.cons_append, unvarint, hb, ih, if_neg (Nat.not_lt.2 (Nat.le_add_right 128 _)),
      Nat.add_sub_cancel_left, Nat.mod_add_div]

inductive WVal
  | varint (n : Nat)
  | len (b : Bytes)
deriving DecidableEq, Repr

structure WField where
  num : Nat
  val : WVal
deriving DecidableEq, Repr

def encField (f : WField) : Bytes :=
  match f.val with
  | .varint n => varint (8 * f.num) ++ varint n
  | .len b => varint (8 * f.num + 2) ++ (varint b.length ++ b)

def encFields : List WField → Bytes
  | [] => []
  | f :: fs => encField f ++ encFields fs

/-- fuel = an upper bound of the number of fields (`parse`: the length of the input); field number
    0, wire types other than 0 and 2, and truncated input are errors -/
def decFields : Nat → Bytes → Option (List WField)
  | 0, bs => if bs = [] then some [] else none
  | fuel + 1, bs =>
    if bs = [] then some []
    else
      match unvarint bs with
      | none => none
      | some (key, r) =>
        if key / 8 = 0 then none
        else if key % 8 = 0 then
          match unvarint r with
          | none => none
          | some (n, r') => (decFields fuel r').map (fun fs => ⟨key / 8, .varint n⟩ :: fs)
        else if key % 8 = 2 then
          match unvarint r with
          | none => none
          | some (l, r') =>
            if l ≤ r'.length then
              (decFields fuel (r'.drop l)).map (fun fs => ⟨key / 8, .len (r'.take l)⟩ :: fs)
            else none
        else none

def parse (bs : Bytes) : Option (List WField) := decFields bs.length bs

theorem encField_ne_nil (f : WField) : encField f ≠ [] := by
  unfold encField
  cases f.val with
  | varint n => simp [varint_ne_nil]
  | len b => simp [varint_ne_nil]

theorem decFields_encField (fuel : Nat) (f : WField) (rest : Bytes) (hn : 1 ≤ f.num) :
    decFields (fuel + 1) (encField f ++ rest) = (decFields fuel rest).map (fun fs => f :: fs) := by
  have hne : encField f ++ rest ≠ [] := by simp [encField_ne_nil]
  obtain ⟨num, val⟩ := f
  have h3 : ¬ num = 0 := Nat.ne_of_gt hn
  rw [decFields, if_neg hne]
  cases val with
  | varint n =>
    simp only [encField, List.append_assoc, unvarint_varint, Nat.mul_div_cancel_left num (by decide : 0 < 8),
      Nat.mul_mod_right, if_neg h3, if_true]
  | len b =>
    simp only [encField, List.append_assoc, unvarint_varint, Nat.mul_add_div (by decide : 0 < 8),
      Nat.mul_add_mod, Nat.reduceDiv, Nat.reduceMod, Nat.add_zero, if_neg h3, Nat.reduceEqDiff,
      if_false, if_true, List.length_append, Nat.le_add_right, List.take_left', List.drop_left']

/-- generic in the field loop: `Proto.parse` (`ok` = a field number ≥ 1) and protobuf-go's
    `C33.goParse` (`ok` = `C33.FieldOk`) both read a written body back by this induction -/
theorem loop_encFields {loop : Nat → Bytes → Option (List WField)} {ok : WField → Prop}
    (nil : ∀ fuel, loop fuel [] = some [])
    (step : ∀ fuel f rest, ok f → loop (fuel + 1) (encField f ++ rest) = (loop fuel rest).map (fun fs => f :: fs))
    (fs : List WField) (hf : ∀ f ∈ fs, ok f) :
    ∀ fuel, fs.length ≤ fuel → loop fuel (encFields fs) = some fs := by
  induction fs with
  | nil => intro fuel _; exact nil fuel
  | cons f fs ih =>
    intro fuel hl
    cases fuel with
    | zero => cases hl
    | succ fuel =>
      rw [encFields, step fuel f _ (hf f List.mem_cons_self),
        ih (fun g hg => hf g (List.mem_cons_of_mem f hg)) fuel (Nat.le_of_succ_le_succ hl)]
      rfl

theorem decFields_nil (fuel : Nat) : decFields fuel [] = some [] := by
  cases fuel <;> rfl

theorem length_le_encFields (fs : List WField) : fs.length ≤ (encFields fs).length := by
  induction fs with
  | nil => simp [encFields]
  | cons f fs ih =>
    have := List.length_pos_iff.2 (encField_ne_nil f)
    simp only [encFields, List.length_cons, List.length_append]; omega

theorem parse_encFields (fs : List WField) (hn : ∀ f ∈ fs, 1 ≤ f.num) :
    parse (encFields fs) = some fs :=
  loop_encFields decFields_nil decFields_encField fs hn _ (length_le_encFields fs)

inductive FromBlock
  | unset
  | hash (b : Bytes)
  | number (b : Bytes)
deriving DecidableEq, Repr

/-- `message BlockRequest { uint32 fields = 1; oneof from_block { bytes hash = 2; bytes number = 3; }
     Direction direction = 5; uint32 max_blocks = 6; }` -/
structure BlockRequest where
  fields : Nat
  fromBlock : FromBlock
  direction : Nat
  maxBlocks : Nat
deriving DecidableEq, Repr

def scalar (k n : Nat) : List WField := if n = 0 then [] else [⟨k, .varint n⟩]
def optBytes (k : Nat) (b : Bytes) : List WField := if b = [] then [] else [⟨k, .len b⟩]

def FromBlock.toFields : FromBlock → List WField
  | .unset => []
  | .hash b => [⟨2, .len b⟩]
  | .number b => [⟨3, .len b⟩]

def BlockRequest.toFields (m : BlockRequest) : List WField :=
  scalar 1 m.fields ++ (m.fromBlock.toFields ++ (scalar 5 m.direction ++ scalar 6 m.maxBlocks))

/-- fields in protobuf-go order: the `oneof` member comes last -/
def BlockRequest.toFieldsGo (m : BlockRequest) : List WField :=
  scalar 1 m.fields ++ (scalar 5 m.direction ++ (scalar 6 m.maxBlocks ++ m.fromBlock.toFields))

def BlockRequest.step (m : BlockRequest) (f : WField) : BlockRequest :=
  match f.num, f.val with
  | 1, .varint n => { m with fields := n % 4294967296 }
  | 2, .len b => { m with fromBlock := .hash b }
  | 3, .len b => { m with fromBlock := .number b }
  | 5, .varint n => { m with direction := n }
  | 6, .varint n => { m with maxBlocks := n % 4294967296 }
  | _, _ => m

def BlockRequest.zero : BlockRequest := ⟨0, .unset, 0, 0⟩
def BlockRequest.ofFields (fs : List WField) : BlockRequest := fs.foldl BlockRequest.step .zero

def BlockRequest.encode (m : BlockRequest) : Bytes := encFields m.toFields
def BlockRequest.encodeGo (m : BlockRequest) : Bytes := encFields m.toFieldsGo
def BlockRequest.decode (bs : Bytes) : Option BlockRequest := (parse bs).map BlockRequest.ofFields

def BlockRequest.wf (m : BlockRequest) : Prop := m.fields < 4294967296 ∧ m.maxBlocks < 4294967296

theorem mem_scalar {k n : Nat} {f : WField} : f ∈ scalar k n ↔ n ≠ 0 ∧ f = ⟨k, .varint n⟩ := by
  unfold scalar; split <;> simp [*]

theorem mem_optBytes {k : Nat} {b : Bytes} {f : WField} : f ∈ optBytes k b ↔ b ≠ [] ∧ f = ⟨k, .len b⟩ := by
  unfold optBytes; split <;> simp [*]

theorem fromBlock_nums (x : FromBlock) : ∀ f ∈ x.toFields, 1 ≤ f.num := by
  intro f hf; cases x <;> simp [FromBlock.toFields] at hf <;> subst hf <;> simp

theorem BlockRequest.toFields_nums (m : BlockRequest) : ∀ f ∈ m.toFields, 1 ≤ f.num := by
  intro f hf
  simp only [BlockRequest.toFields, List.mem_append, mem_scalar] at hf
  rcases hf with ⟨_, rfl⟩ | h | ⟨_, rfl⟩ | ⟨_, rfl⟩
  · exact Nat.succ_pos _
  · exact fromBlock_nums _ f h
  · exact Nat.succ_pos _
  · exact Nat.succ_pos _

theorem BlockRequest.toFieldsGo_perm (m : BlockRequest) : m.toFieldsGo.Perm m.toFields := by
  unfold BlockRequest.toFieldsGo BlockRequest.toFields
  rw [← List.append_assoc (scalar 5 _)]
  exact List.perm_append_comm.append_left _

theorem BlockRequest.toFieldsGo_nums (m : BlockRequest) : ∀ f ∈ m.toFieldsGo, 1 ≤ f.num :=
  fun f hf => m.toFields_nums f (m.toFieldsGo_perm.mem_iff.1 hf)

/-! Folding a message from its own fields goes slot by slot: a field that is written fills its
slot (`h1`), one that is left out (zero, empty) leaves a slot that already held that value (`h0`);
`d'` is the message after the field. -/

theorem foldl_scalar {α : Type} {step : α → WField → α} (k : Nat) {n : Nat} {d : α} (d' : α)
    (h0 : n = 0 → d = d') (h1 : step d ⟨k, .varint n⟩ = d') : (scalar k n).foldl step d = d' := by
  unfold scalar; split
  · exact h0 ‹_›
  · exact h1

theorem foldl_optBytes {α : Type} {step : α → WField → α} (k : Nat) {b : Bytes} {d : α} (d' : α)
    (h0 : b = [] → d = d') (h1 : step d ⟨k, .len b⟩ = d') : (optBytes k b).foldl step d = d' := by
  unfold optBytes; split
  · exact h0 ‹_›
  · exact h1

theorem foldl_fromBlock (x : FromBlock) (fl dir mx : Nat) :
    x.toFields.foldl BlockRequest.step ⟨fl, .unset, dir, mx⟩ = ⟨fl, x, dir, mx⟩ := by
  cases x <;> rfl

theorem BlockRequest.ofFields_toFields (m : BlockRequest) (h : m.wf) :
    BlockRequest.ofFields m.toFields = m := by
  obtain ⟨fl, fb, dir, mx⟩ := m
  simp only [BlockRequest.ofFields, BlockRequest.toFields, List.foldl_append]
  rw [foldl_scalar 1 ⟨fl % 4294967296, .unset, 0, 0⟩, foldl_fromBlock,
    foldl_scalar 5 ⟨fl % 4294967296, fb, dir, 0⟩,
    foldl_scalar 6 ⟨fl % 4294967296, fb, dir, mx % 4294967296⟩,
    Nat.mod_eq_of_lt h.1, Nat.mod_eq_of_lt h.2]
  all_goals first | rfl | (rintro rfl; rfl)

theorem BlockRequest.ofFields_toFieldsGo (m : BlockRequest) (h : m.wf) :
    BlockRequest.ofFields m.toFieldsGo = m := by
  obtain ⟨fl, fb, dir, mx⟩ := m
  simp only [BlockRequest.ofFields, BlockRequest.toFieldsGo, List.foldl_append]
  rw [foldl_scalar 1 ⟨fl % 4294967296, .unset, 0, 0⟩, foldl_scalar 5 ⟨fl % 4294967296, .unset, dir, 0⟩,
    foldl_scalar 6 ⟨fl % 4294967296, .unset, dir, mx % 4294967296⟩, foldl_fromBlock,
    Nat.mod_eq_of_lt h.1, Nat.mod_eq_of_lt h.2]
  all_goals first | rfl | (rintro rfl; rfl)

theorem BlockRequest.decode_encode (m : BlockRequest) (h : m.wf) :
    BlockRequest.decode m.encode = some m := by
  simp only [BlockRequest.decode, BlockRequest.encode, parse_encFields _ m.toFields_nums,
    Option.map_some, BlockRequest.ofFields_toFields m h]

theorem BlockRequest.decode_encodeGo (m : BlockRequest) (h : m.wf) :
    BlockRequest.decode m.encodeGo = some m := by
  simp only [BlockRequest.decode, BlockRequest.encodeGo, parse_encFields _ m.toFieldsGo_nums,
    Option.map_some, BlockRequest.ofFields_toFieldsGo m h]

/-- `message BlockData { bytes hash = 1; bytes header = 2; repeated bytes body = 3; bytes receipt = 4;
     bytes message_queue = 5; bytes justification = 6; bool is_empty_justification = 7; }` -/
structure BlockData where
  hash : Bytes
  header : Bytes
  body : List Bytes
  receipt : Bytes
  messageQueue : Bytes
  justification : Bytes
  isEmptyJustification : Bool
deriving DecidableEq, Repr

def bodyFields (bs : List Bytes) : List WField := bs.map (fun b => ⟨3, .len b⟩)
def flag (k : Nat) (b : Bool) : List WField := if b then [⟨k, .varint 1⟩] else []

def BlockData.toFields (d : BlockData) : List WField :=
  optBytes 1 d.hash ++ (optBytes 2 d.header ++ (bodyFields d.body ++ (optBytes 4 d.receipt ++
    (optBytes 5 d.messageQueue ++ (optBytes 6 d.justification ++ flag 7 d.isEmptyJustification)))))

def BlockData.step (d : BlockData) (f : WField) : BlockData :=
  match f.num, f.val with
  | 1, .len b => { d with hash := b }
  | 2, .len b => { d with header := b }
  | 3, .len b => { d with body := d.body ++ [b] }
  | 4, .len b => { d with receipt := b }
  | 5, .len b => { d with messageQueue := b }
  | 6, .len b => { d with justification := b }
  | 7, .varint n => { d with isEmptyJustification := n != 0 }
  | _, _ => d

def BlockData.zero : BlockData := ⟨[], [], [], [], [], [], false⟩
def BlockData.ofFields (fs : List WField) : BlockData := fs.foldl BlockData.step .zero
def BlockData.encode (d : BlockData) : Bytes := encFields d.toFields
def BlockData.decode (bs : Bytes) : Option BlockData := (parse bs).map BlockData.ofFields

theorem mem_flag {k : Nat} {b : Bool} {f : WField} : f ∈ flag k b ↔ b = true ∧ f = ⟨k, .varint 1⟩ := by
  cases b <;> simp [flag]

theorem BlockData.toFields_shape (d : BlockData) :
    ∀ f ∈ d.toFields, (1 ≤ f.num ∧ f.num ≤ 7) ∧ ∀ n, f.val = .varint n → n = 1 := by
  intro f hf
  simp only [BlockData.toFields, List.mem_append, mem_optBytes, bodyFields, List.mem_map, mem_flag] at hf
  rcases hf with ⟨_, rfl⟩ | ⟨_, rfl⟩ | ⟨_, _, rfl⟩ | ⟨_, rfl⟩ | ⟨_, rfl⟩ | ⟨_, rfl⟩ | ⟨_, rfl⟩
  iterate 6 exact ⟨⟨Nat.succ_pos _, Nat.le_of_ble_eq_true rfl⟩, nofun⟩
  exact ⟨⟨Nat.succ_pos _, Nat.le_refl 7⟩, fun n hn => by cases hn; rfl⟩

theorem BlockData.toFields_nums (d : BlockData) : ∀ f ∈ d.toFields, 1 ≤ f.num :=
  fun f hf => (d.toFields_shape f hf).1.1

theorem foldl_flag {α : Type} {step : α → WField → α} (k : Nat) {b : Bool} {d : α} (d' : α)
    (h0 : b = false → d = d') (h1 : b = true → step d ⟨k, .varint 1⟩ = d') :
    (flag k b).foldl step d = d' := by
  cases b
  · exact h0 rfl
  · exact h1 rfl

theorem foldl_bodyFields (d : BlockData) (bs : List Bytes) :
    (bodyFields bs).foldl BlockData.step d = { d with body := d.body ++ bs } := by
  induction bs generalizing d with
  | nil => simp [bodyFields]
  | cons b bs ih =>
    have := ih (BlockData.step d ⟨3, .len b⟩)
    simp only [bodyFields, List.map_cons, List.foldl_cons] at this ⊢
    rw [this]; simp [BlockData.step]

theorem BlockData.ofFields_toFields (d : BlockData) : BlockData.ofFields d.toFields = d := by
  obtain ⟨h, hd, bd, rc, mq, js, ie⟩ := d
  simp only [BlockData.ofFields, BlockData.toFields, List.foldl_append]
  rw [foldl_optBytes 1 ⟨h, [], [], [], [], [], false⟩, foldl_optBytes 2 ⟨h, hd, [], [], [], [], false⟩,
    foldl_bodyFields, foldl_optBytes 4 ⟨h, hd, bd, rc, [], [], false⟩,
    foldl_optBytes 5 ⟨h, hd, bd, rc, mq, [], false⟩, foldl_optBytes 6 ⟨h, hd, bd, rc, mq, js, false⟩,
    foldl_flag 7 ⟨h, hd, bd, rc, mq, js, ie⟩]
  all_goals first | rfl | (rintro rfl; rfl)

theorem BlockData.decode_encode (d : BlockData) : BlockData.decode d.encode = some d := by
  simp only [BlockData.decode, BlockData.encode, parse_encFields _ d.toFields_nums, Option.map_some,
    BlockData.ofFields_toFields]

/-- `message BlockResponse { repeated BlockData blocks = 1; }` -/
structure BlockResponse where
  blocks : List BlockData
deriving DecidableEq, Repr

def BlockResponse.toFields (r : BlockResponse) : List WField :=
  r.blocks.map (fun d => ⟨1, .len d.encode⟩)

/-- nested messages are parsed in turn; an unparsable block fails the whole response -/
def blocksOfFields : List WField → Option (List BlockData)
  | [] => some []
  | f :: fs =>
    match f.num, f.val with
    | 1, .len b =>
      match BlockData.decode b with
      | none => none
      | some d => (blocksOfFields fs).map (fun ds => d :: ds)
    | _, _ => blocksOfFields fs

def BlockResponse.encode (r : BlockResponse) : Bytes := encFields r.toFields
def BlockResponse.decode (bs : Bytes) : Option BlockResponse :=
  match parse bs with
  | none => none
  | some fs => (blocksOfFields fs).map BlockResponse.mk

theorem BlockResponse.toFields_nums (r : BlockResponse) : ∀ f ∈ r.toFields, 1 ≤ f.num := by
  intro f hf
  simp only [BlockResponse.toFields, List.mem_map] at hf
  obtain ⟨b, _, rfl⟩ := hf; simp

theorem blocksOfFields_toFields (ds : List BlockData) :
    blocksOfFields (ds.map (fun d => (⟨1, .len d.encode⟩ : WField))) = some ds := by
  induction ds with
  | nil => rfl
  | cons d ds ih => simp [blocksOfFields, BlockData.decode_encode, ih]

theorem BlockResponse.decode_encode (r : BlockResponse) : BlockResponse.decode r.encode = some r := by
  simp only [BlockResponse.decode, BlockResponse.encode, parse_encFields _ r.toFields_nums]
  simp only [BlockResponse.toFields, blocksOfFields_toFields, Option.map_some]

end Gossamer.Proto
