import Gossamer.Lib.C22Safety
namespace Gossamer.C22

section
variable {B : Type} [DecidableEq B]

structure Inv (vs : Voters) (O : BlockOrder B) (s : State B) : Prop where
  hist : Hist vs O s.sent
  view_sub : ∀ v m, m ∈ s.view v → m ∈ s.sent
  net_sub : ∀ m, m ∈ s.net → m ∈ s.sent
  est_ok : ∀ v r e, s.est v r = some e →
    ∃ (view : List (Msg B)) (g : B), (∀ x, x ∈ view → x ∈ s.sent) ∧ closable vs O view r g e
  fin_ok : ∀ v b, b ∈ s.fin v → ∃ r, hasSuper vs O (votesOf s.sent r .precommit) b

variable {vs : Voters} {O : BlockOrder B}

theorem Inv.init : Inv vs O (State.init : State B) where
  hist := ⟨fun _ _ h => by simp [State.init] at h, fun _ h => by simp [State.init] at h,
           fun _ h => by simp [State.init] at h⟩
  view_sub := fun _ _ h => by simp [State.init] at h
  net_sub := fun _ h => by simp [State.init] at h
  est_ok := fun _ _ _ h => by simp [State.init] at h
  fin_ok := fun _ _ h => by simp [State.init] at h

theorem upd_self {α : Type} (f : Nat → α) (v : Nat) (a : α) : upd f v a v = a := if_pos rfl

theorem upd_of_ne {α : Type} (f : Nat → α) (a : α) {u v : Nat} (h : u ≠ v) : upd f v a u = f u := if_neg h

theorem mem_upd_cons {α : Type} {f : Nat → List α} {v u : Nat} {a x : α}
    (h : x ∈ upd f v (a :: f v) u) : x = a ∨ x ∈ f u := by
  by_cases huv : u = v
  · subst huv; rw [upd_self] at h; exact List.mem_cons.1 h
  · rw [upd_of_ne _ _ huv] at h; exact Or.inr h

theorem Hist.cons {sent : List (Msg B)} (H : Hist vs O sent) (m : Msg B)
    (ha : ∀ m', m' ∈ sent → vs.honest m.voter → m.voter = m'.voter → m.round = m'.round →
      m.stage = m'.stage → m.block = m'.block)
    (hb : vs.honest m.voter → ∀ q, q + 1 = m.round →
      ∃ (view : List (Msg B)) (g e : B), (∀ x, x ∈ view → x ∈ sent) ∧ closable vs O view q g e ∧
        O.le e m.block = true)
    (hc : vs.honest m.voter → m.stage = .precommit →
      ∃ view : List (Msg B), (∀ x, x ∈ view → x ∈ sent) ∧
        hasSuper vs O (votesOf view m.round .prevote) m.block) :
    Hist vs O (m :: sent) where
  hon_single := by
    intro m1 m2 h1 h2 hv hvv hr hs
    rcases List.mem_cons.mp h1 with e1 | h1'
    · rcases List.mem_cons.mp h2 with e2 | h2'
      · rw [e1, e2]
      · rw [e1] at hv hvv hr hs ⊢; exact ha m2 h2' hv hvv hr hs
    · rcases List.mem_cons.mp h2 with e2 | h2'
      · rw [e2] at hvv hr hs ⊢
        have hv' : vs.honest m.voter := by rw [← hvv]; exact hv
        exact (ha m1 h1' hv' hvv.symm hr.symm hs.symm).symm
      · exact H.hon_single m1 m2 h1' h2' hv hvv hr hs
  hon_ext := by
    intro m1 h1 hv q hq
    rcases List.mem_cons.mp h1 with e1 | h1
    · subst e1
      have ⟨view, g, e, hsub, hcl, hle⟩ := hb hv q hq
      exact ⟨view, g, e, List.subset_cons_of_subset _ hsub, hcl, hle⟩
    · have ⟨view, g, e, hsub, hcl, hle⟩ := H.hon_ext m1 h1 hv q hq
      exact ⟨view, g, e, List.subset_cons_of_subset _ hsub, hcl, hle⟩
  hon_pc := by
    intro m1 h1 hv hs
    rcases List.mem_cons.mp h1 with e1 | h1
    · subst e1
      have ⟨view, hsub, hsup⟩ := hc hv hs
      exact ⟨view, List.subset_cons_of_subset _ hsub, hsup⟩
    · have ⟨view, hsub, hsup⟩ := H.hon_pc m1 h1 hv hs
      exact ⟨view, List.subset_cons_of_subset _ hsub, hsup⟩

theorem est_ok_cons {s : State B} (I : Inv vs O s) (m : Msg B) :
    ∀ v r e, s.est v r = some e →
      ∃ (view : List (Msg B)) (g : B), (∀ x, x ∈ view → x ∈ m :: s.sent) ∧ closable vs O view r g e := by
  intro v r e h
  have ⟨view, g, hsub, hc⟩ := I.est_ok v r e h
  exact ⟨view, g, List.subset_cons_of_subset _ hsub, hc⟩

theorem fin_ok_cons {s : State B} (I : Inv vs O s) (m : Msg B) :
    ∀ v b, b ∈ s.fin v → ∃ r, hasSuper vs O (votesOf (m :: s.sent) r .precommit) b := by
  intro v b h
  have ⟨r, hr⟩ := I.fin_ok v b h
  exact ⟨r, hasSuper_mono vs O (votesOf_sub (List.subset_cons_self m _) r .precommit) b hr⟩

/-- the steps `Step.prevote` and `Step.precommit`: the hypotheses are the premises of those two rules -/
theorem Inv.cast {s : State B} (I : Inv vs O s) (m : Msg B)
    (hfresh : ∀ m', m' ∈ s.sent → ¬ (m'.voter = m.voter ∧ m'.round = m.round ∧ m'.stage = m.stage))
    (hext : ∀ q, q + 1 = m.round → ∃ e, s.est m.voter q = some e ∧ O.le e m.block = true)
    (hpc : m.stage = .precommit →
      hasSuper vs O (votesOf (s.view m.voter) m.round .prevote) m.block) :
    Inv vs O (cast s m) where
  hist := by
    apply I.hist.cons m
    · intro m' hm' _ hvv hr hs
      exact absurd ⟨hvv.symm, hr.symm, hs.symm⟩ (hfresh m' hm')
    · intro _ q hq
      have ⟨e, he, hle⟩ := hext q hq
      have ⟨view, g, hsub, hc⟩ := I.est_ok _ _ _ he
      exact ⟨view, g, e, hsub, hc, hle⟩
    · intro _ hs
      exact ⟨s.view m.voter, I.view_sub m.voter, hpc hs⟩
  view_sub := fun v x hx => by
    show x ∈ m :: s.sent
    rcases mem_upd_cons hx with e | hx
    · rw [e]; exact List.mem_cons_self
    · exact List.mem_cons_of_mem _ (I.view_sub _ _ hx)
  net_sub := fun _ hx => List.cons_subset_cons m I.net_sub hx
  est_ok := est_ok_cons I m
  fin_ok := fin_ok_cons I m

theorem Inv.step {s t : State B} (I : Inv vs O s) (h : Step vs O s t) : Inv vs O t := by
  cases h with
  | byzCast m hb =>
    have nh : ¬ vs.honest m.voter := fun hv => by rw [hv.2] at hb; cases hb
    exact ⟨I.hist.cons m (fun _ _ hv => absurd hv nh) (fun hv => absurd hv nh) (fun hv => absurd hv nh),
      fun v x hx => List.mem_cons_of_mem _ (I.view_sub v x hx), fun _ hx => List.cons_subset_cons m I.net_sub hx,
      est_ok_cons I m, fin_ok_cons I m⟩
  | drop i =>
    exact ⟨I.hist, I.view_sub, fun x hx => I.net_sub x (List.mem_of_mem_eraseIdx hx), I.est_ok, I.fin_ok⟩
  | dup m hm =>
    refine ⟨I.hist, I.view_sub, ?_, I.est_ok, I.fin_ok⟩
    intro x hx
    rcases List.mem_cons.mp hx with e | hx
    · rw [e]; exact I.net_sub _ hm
    · exact I.net_sub _ hx
  | reorder net' hp =>
    exact ⟨I.hist, I.view_sub, fun x hx => I.net_sub x (hp.mem_iff.mp hx), I.est_ok, I.fin_ok⟩
  | deliver m v hm =>
    refine ⟨I.hist, fun u x hx => ?_, I.net_sub, I.est_ok, I.fin_ok⟩
    rcases mem_upd_cons hx with e | hx
    · rw [e]; exact I.net_sub _ hm
    · exact I.view_sub _ _ hx
  | prevote v b hv hfresh hext => exact I.cast ⟨s.round v, .prevote, v, b⟩ hfresh hext nofun
  | precommit v b hv hfresh hsup hext => exact I.cast ⟨s.round v, .precommit, v, b⟩ hfresh hext fun _ => hsup
  | advance v g e hv hc =>
    refine ⟨I.hist, I.view_sub, I.net_sub, ?_, I.fin_ok⟩
    intro u r e' he
    dsimp only at he
    by_cases hu : u = v
    · subst hu
      rw [upd_self] at he
      by_cases hr : r = s.round u
      · subst hr
        rw [upd_self] at he
        cases he
        exact ⟨s.view u, g, I.view_sub u, hc⟩
      · rw [upd_of_ne _ _ hr] at he; exact I.est_ok u r e' he
    · rw [upd_of_ne _ _ hu] at he; exact I.est_ok u r e' he
  | finalise v r b hv hsup =>
    refine ⟨I.hist, I.view_sub, I.net_sub, I.est_ok, fun u x hx => ?_⟩
    rcases mem_upd_cons hx with e | hx
    · rw [e]
      exact ⟨r, hasSuper_mono vs O (votesOf_sub (I.view_sub v) r .precommit) b hsup⟩
    · exact I.fin_ok u x hx

theorem Reachable.inv {s : State B} (h : Reachable vs O s) : Inv vs O s := by
  induction h with
  | init => exact Inv.init
  | step s t _ hst ih => exact ih.step hst

theorem Inv.safe {s : State B} (I : Inv vs O s) (hmin : vs.minority) {v1 v2 : Nat} {b1 b2 : B}
    (h1 : b1 ∈ s.fin v1) (h2 : b2 ∈ s.fin v2) : O.comparable b1 b2 :=
  have ⟨r1, hr1⟩ := I.fin_ok v1 b1 h1
  have ⟨r2, hr2⟩ := I.fin_ok v2 b2 h2
  I.hist.safe hmin r1 r2 b1 b2 hr1 hr2

end

end Gossamer.C22
