/-
C31 — the block tree of Model/C31 under `WF`: segments of a chain by numbers (`onChain`, `seg`; what `Range` returns),
the best chain (`canon`, `GetHashByNumber`), and `WF` kept by `addSeg` and by `finalise`.
-/
import Gossamer.Model.C31
namespace Gossamer.C31

/-- block 0 is genesis; every other known block hangs under an earlier known block, one number below.  `t.fin` is
    not constrained. -/
structure WF (t : Tree) : Prop where
  root : t.blocks[0]? = some ⟨0, 0, false⟩
  child : ∀ i, 0 < i → known t i = true →
    parentOf t i < i ∧ known t (parentOf t i) = true ∧ numOf t i = numOf t (parentOf t i) + 1

/-- `x` is the parent of `y` -/
def Link (t : Tree) (x y : Nat) : Prop := y ≠ 0 ∧ known t y = true ∧ parentOf t y = x

/-- neighbours are related by `R`, stated by positions: a segment is a `map` over `range'`, so its neighbours are
    read off by position (`seg_get`) -/
def Linked (R : Nat → Nat → Prop) (l : List Nat) : Prop :=
  ∀ i x y, l[i]? = some x → l[i + 1]? = some y → R x y

theorem linked_reverse {R} {l : List Nat} (h : Linked R l) :
    Linked (fun x y => R y x) l.reverse := by
  intro i x y hx hy
  have hi : i + 1 < l.length := by
    have := (List.getElem?_eq_some_iff.mp hy).1
    simpa using this
  rw [List.getElem?_reverse (by omega)] at hx hy
  have e : l.length - 1 - i = (l.length - 1 - (i + 1)) + 1 := by omega
  rw [e] at hx
  exact h _ y x hy hx

theorem numOf_zero {t : Tree} (wf : WF t) : numOf t 0 = 0 := by
  simp [numOf, wf.root]

theorem known_zero {t : Tree} (wf : WF t) : known t 0 = true := by
  simp [known, wf.root]

theorem ne_zero_of_num_succ {t : Tree} (wf : WF t) {x n : Nat} (h : numOf t x = n + 1) : x ≠ 0 := by
  intro h0
  rw [h0, numOf_zero wf] at h
  cases h

theorem upN_known {t : Tree} (wf : WF t) {h : Nat} (hk : known t h = true) :
    ∀ k n, n + k = numOf t h → known t (upN t h k) = true ∧ numOf t (upN t h k) = n
  | 0, _, e => ⟨hk, e.symm⟩
  | k + 1, n, e => by
    obtain ⟨ihk, ihn⟩ := upN_known wf hk k (n + 1) ((Nat.succ_add_eq_add_succ n k).trans e)
    obtain ⟨_, h2, h3⟩ := wf.child (upN t h k) (Nat.pos_of_ne_zero (ne_zero_of_num_succ wf ihn)) ihk
    exact ⟨h2, Nat.succ.inj (h3.symm.trans ihn)⟩

/-- the block with number `n` on the chain of `d` (meant for `n ≤ numOf t d`) -/
def onChain (t : Tree) (d n : Nat) : Nat := upN t d (numOf t d - n)

/-- the blocks with numbers `lo, …, lo + len - 1` on the chain of `d`, parents first.  Every response is
    such a segment (or its reverse), which is why the serving property holds. -/
def seg (t : Tree) (d lo len : Nat) : List Nat := (List.range' lo len).map (onChain t d)

theorem seg_succ (t : Tree) (d lo len : Nat) :
    seg t d lo (len + 1) = onChain t d lo :: seg t d (lo + 1) len := by
  rw [seg, List.range'_succ]; rfl

theorem seg_length (t : Tree) (d lo len : Nat) : (seg t d lo len).length = len := by
  rw [seg, List.length_map, List.length_range']

theorem seg_concat (t : Tree) (d lo len : Nat) :
    seg t d lo (len + 1) = seg t d lo len ++ [onChain t d (lo + len)] := by
  rw [seg, List.range'_concat, List.map_append, Nat.one_mul]; rfl

theorem onChain_self (t : Tree) (d : Nat) : onChain t d (numOf t d) = d := by
  rw [onChain, Nat.sub_self]; rfl

theorem onChain_known {t : Tree} (wf : WF t) {d n : Nat} (hk : known t d = true) (h : n ≤ numOf t d) :
    known t (onChain t d n) = true ∧ numOf t (onChain t d n) = n :=
  upN_known wf hk (numOf t d - n) n (Nat.add_sub_cancel' h)

theorem onChain_link {t : Tree} (wf : WF t) {d n : Nat} (hk : known t d = true) (h : n + 1 ≤ numOf t d) :
    Link t (onChain t d n) (onChain t d (n + 1)) := by
  obtain ⟨h1, h2⟩ := onChain_known wf hk h
  refine ⟨ne_zero_of_num_succ wf h2, h1, ?_⟩
  rw [onChain, onChain, ← Nat.add_sub_add_right (numOf t d) 1 n, Nat.sub_add_comm h]
  rfl

theorem seg_get (t : Tree) (d lo len : Nat) {i x : Nat} (h : (seg t d lo len)[i]? = some x) :
    i < len ∧ x = onChain t d (lo + i) := by
  have hi : i < len := by simpa [seg] using (List.getElem?_eq_some_iff.mp h).1
  rw [seg, List.getElem?_map, List.getElem?_range' hi] at h
  exact ⟨hi, by simpa using h.symm⟩

theorem seg_linked {t : Tree} (wf : WF t) {d lo len : Nat} (hk : known t d = true)
    (h : lo + len ≤ numOf t d + 1) : Linked (Link t) (seg t d lo len) := by
  intro i x y hx hy
  obtain ⟨_, rfl⟩ := seg_get t d lo len hx
  obtain ⟨hi, rfl⟩ := seg_get t d lo len hy
  exact onChain_link wf hk (by omega)

theorem seg_known {t : Tree} (wf : WF t) {d lo len : Nat} (hk : known t d = true)
    (h : lo + len ≤ numOf t d + 1) : ∀ x ∈ seg t d lo len, known t x = true := by
  intro x hx
  obtain ⟨n, hn, rfl⟩ := List.mem_map.mp hx
  exact (onChain_known wf hk (by have := List.mem_range'_1.mp hn; omega)).1

theorem seg_take (t : Tree) (d lo len m : Nat) : (seg t d lo len).take m = seg t d lo (min m len) := by
  rw [seg, seg, ← List.map_take]
  by_cases h : m ≤ len
  · rw [List.take_range'_of_length_ge h, Nat.min_eq_left h]
  · rw [List.take_range'_of_length_le (Nat.le_of_not_le h), Nat.min_eq_right (Nat.le_of_not_le h)]

theorem seg_drop (t : Tree) (d lo len m : Nat) : (seg t d lo len).drop m = seg t d (lo + m) (len - m) := by
  rw [seg, ← List.map_drop, List.drop_range', Nat.mul_one]
  rfl

theorem pathUp_eq (t : Tree) (d : Nat) : ∀ k lo, lo + k = numOf t d + 1 → pathUp t d k = seg t d lo k
  | 0, _, _ => rfl
  | k + 1, lo, h => by
    rw [pathUp, pathUp_eq t d k (lo + 1) ((Nat.succ_add lo k).trans h), seg_succ, onChain,
      ← (Nat.succ.inj h : lo + k = numOf t d), Nat.add_sub_cancel_left]

/-- `Range(a, a)` succeeds without looking `a` up, hence the last disjunction: `d` is known unless `a = d` -/
theorem range_ok {t : Tree} {a d : Nat} {sub : List Nat} (h : range t a d = some sub) :
    sub = seg t d (numOf t a) (numOf t d + 1 - numOf t a) ∧ numOf t a ≤ numOf t d
      ∧ onChain t d (numOf t a) = a ∧ (a = d ∨ known t d = true) := by
  unfold range at h
  by_cases had : a = d
  · rw [if_pos had] at h
    cases h
    subst had
    refine ⟨?_, Nat.le_refl _, onChain_self t a, .inl rfl⟩
    rw [Nat.add_sub_cancel_left, seg_succ, onChain_self]; rfl
  · rw [if_neg had] at h
    by_cases hd0 : d = 0
    · rw [if_pos hd0] at h; cases h
    rw [if_neg hd0] at h
    cases hkd : known t d
    · rw [hkd] at h; cases h
    cases hka : known t a
    · rw [hkd, hka] at h; cases h
    rw [hkd, hka, if_neg (by decide), if_neg (by decide)] at h
    by_cases hnum : numOf t a > numOf t d
    · rw [if_pos hnum] at h; cases h
    rw [if_neg hnum] at h
    by_cases hup : upN t d (numOf t d - numOf t a) = a
    · rw [if_neg (fun hn => hn hup)] at h
      cases h
      have hle := Nat.le_of_not_lt hnum
      refine ⟨?_, hle, hup, .inr rfl⟩
      rw [Nat.sub_add_comm hle, seg_succ, onChain, hup,
        pathUp_eq t d _ (numOf t a + 1) (by rw [Nat.succ_add, Nat.add_sub_cancel' hle])]
    · rw [if_pos hup] at h; cases h

/-- `onChain` at the best block (`canon_eq`): `GetHashByNumber` for `n ≤ best`.  Requests by number are stated with
    `canon`, the segment lemmas with `onChain`. -/
def canon (t : Tree) (n : Nat) : Nat := upN t (best t) (bestNum t - n)

theorem canon_eq (t : Tree) (n : Nat) : canon t n = onChain t (best t) n := rfl

theorem firstIdx_spec (n : Nat) : ∀ (l : List Blk) (i : Nat),
    firstIdx n l i = 0 ∨ ∃ j b, firstIdx n l i = i + j ∧ l[j]? = some b ∧ b.dead = false
  | [], _ => Or.inl rfl
  | b :: rest, i => by
    simp only [firstIdx]
    split
    · rename_i hb
      exact .inr ⟨0, b, rfl, rfl, by cases hd : b.dead <;> simp_all⟩
    · rcases firstIdx_spec n rest (i + 1) with h0 | ⟨j, b', he, hb', hd'⟩
      · exact .inl h0
      · exact .inr ⟨j + 1, b', by omega, hb', hd'⟩

theorem best_known {t : Tree} (wf : WF t) : known t (best t) = true := by
  rcases firstIdx_spec (maxNum t) t.blocks.toList 0 with h0 | ⟨j, b, he, hb, hd⟩
  · simp only [best, firstWithNum, h0]
    exact known_zero wf
  · rw [Nat.zero_add] at he
    rw [Array.getElem?_toList] at hb
    simp [best, firstWithNum, known, he, hb, hd]

theorem hashByNumber_eq (t : Tree) (n : Nat) :
    hashByNumber t n = if n ≤ bestNum t then some (canon t n) else none := by
  unfold hashByNumber
  by_cases h : n ≤ bestNum t
  · rw [if_pos h, if_neg (Nat.not_lt.mpr h)]; rfl
  · rw [if_neg h, if_pos (Nat.lt_of_not_le h)]

theorem known_lt {t : Tree} {i : Nat} (h : known t i = true) : i < t.size := by
  simp only [known, Tree.size] at *
  by_cases hi : i < t.blocks.size
  · exact hi
  · have : t.blocks[i]? = none := by simp; omega
    simp [this] at h

theorem wf_genesis : WF genesisTree := by
  refine ⟨rfl, ?_⟩
  intro i h0 h1
  have := known_lt h1
  simp only [genesisTree, Tree.size] at this
  have : i < 1 := this
  omega

theorem wf_push {t : Tree} (wf : WF t) {p : Nat} (hp : known t p = true) :
    WF ⟨t.blocks.push ⟨p, numOf t p + 1, false⟩, t.fin⟩ := by
  have hps : p < t.blocks.size := known_lt hp
  generalize ht' : (⟨t.blocks.push ⟨p, numOf t p + 1, false⟩, t.fin⟩ : Tree) = t'
  have hold : ∀ i, i < t.blocks.size →
      known t' i = known t i ∧ parentOf t' i = parentOf t i ∧ numOf t' i = numOf t i := by
    intro i hi
    subst ht'
    simp only [known, parentOf, numOf, Array.getElem?_push, if_neg (Nat.ne_of_lt hi), and_self]
  constructor
  · subst ht'
    show (t.blocks.push _)[0]? = _
    rw [Array.getElem?_push, if_neg (Nat.ne_of_lt (Nat.zero_lt_of_lt hps))]
    exact wf.root
  · intro i h0 hi
    have hlt : i < t.blocks.size + 1 := by
      subst ht'
      exact Array.size_push _ ▸ known_lt hi
    by_cases his : i = t.blocks.size
    · subst his
      have hpar : parentOf t' t.blocks.size = p := by subst ht'; simp [parentOf]
      have hnum : numOf t' t.blocks.size = numOf t p + 1 := by subst ht'; simp [numOf]
      obtain ⟨hk, _, hn⟩ := hold p hps
      rw [hpar, hnum, hk, hn]
      exact ⟨hps, hp, rfl⟩
    · have hlt' : i < t.blocks.size := Nat.lt_of_le_of_ne (Nat.le_of_lt_succ hlt) his
      obtain ⟨hk, hpa, hn⟩ := hold i hlt'
      rw [hk] at hi
      obtain ⟨h1, h2, h3⟩ := wf.child i h0 hi
      obtain ⟨hk', _, hn'⟩ := hold (parentOf t i) (Nat.lt_trans h1 hlt')
      rw [hpa, hn, hk', hn']
      exact ⟨h1, h2, h3⟩

/-- every tree the harness builds (`genesisTree` extended by segments below existing blocks) -/
theorem wf_addSeg : ∀ (k : Nat) {t : Tree} {p : Nat}, WF t → known t p = true → WF (addSeg t k p)
  | 0, _, _, wf, _ => wf
  | k + 1, t, p, wf, hp => by
    simp only [addSeg]
    refine wf_addSeg k (wf_push wf hp) ?_
    simp [known, Tree.size]

theorem upN_parent (t : Tree) (h : Nat) : ∀ k, upN t (parentOf t h) k = upN t h (k + 1)
  | 0 => rfl
  | k + 1 => by
    show parentOf t (upN t (parentOf t h) k) = parentOf t (upN t h (k + 1))
    rw [upN_parent t h k]

theorem eq_zero_of_num_zero {t : Tree} (wf : WF t) {x : Nat} (hk : known t x = true)
    (hn : numOf t x = 0) : x = 0 := by
  by_cases h0 : x = 0
  · exact h0
  · have := (wf.child x (by omega) hk).2.2
    omega

/-- block `i` is kept by `finalise t fin`: an ancestor or a descendant of the finalised block.  The `Prop` form of the
    local test `keep` of `finalise` (`finalise_known`). -/
def keeps (t : Tree) (fin i : Nat) : Prop :=
  (numOf t i ≤ fin ∧ upN t (canon t fin) (fin - numOf t i) = i)
  ∨ (fin ≤ numOf t i ∧ upN t i (numOf t i - fin) = canon t fin)

theorem finalise_get (t : Tree) (fin i : Nat) :
    (finalise t fin).blocks[i]? = t.blocks[i]?.map (fun b =>
      if ((b.num ≤ fin && upN t (canon t fin) (fin - b.num) = i)
          || (fin ≤ b.num && upN t i (b.num - fin) = canon t fin)) = true
      then b else { b with dead := true }) := by
  simp only [finalise, canon, List.getElem?_toArray, List.getElem?_map, List.getElem?_zipIdx,
    Array.getElem?_toList, Option.map_map, Nat.zero_add]
  rfl

theorem finalise_parentOf (t : Tree) (fin i : Nat) : parentOf (finalise t fin) i = parentOf t i := by
  simp only [parentOf, finalise_get]
  cases t.blocks[i]? with
  | none => rfl
  | some b => simp only [Option.map_some]; split <;> rfl

theorem finalise_numOf (t : Tree) (fin i : Nat) : numOf (finalise t fin) i = numOf t i := by
  simp only [numOf, finalise_get]
  cases t.blocks[i]? with
  | none => rfl
  | some b => simp only [Option.map_some]; split <;> rfl

theorem finalise_known (t : Tree) (fin i : Nat) :
    known (finalise t fin) i = true ↔ known t i = true ∧ keeps t fin i := by
  simp only [known, numOf, keeps, finalise_get]
  cases hb : t.blocks[i]? with
  | none => simp
  | some b =>
    simp only [Option.map_some, Option.getD_some]
    split
    · rename_i hk
      simp only [Bool.or_eq_true, Bool.and_eq_true, decide_eq_true_eq] at hk
      simp [hk]
    · rename_i hk
      simp only [Bool.or_eq_true, Bool.and_eq_true, decide_eq_true_eq] at hk
      simp [hk]

theorem finalise_upN (t : Tree) (fin h : Nat) : ∀ k, upN (finalise t fin) h k = upN t h k
  | 0 => rfl
  | k + 1 => by
    show parentOf (finalise t fin) (upN (finalise t fin) h k) = parentOf t (upN t h k)
    rw [finalise_parentOf, finalise_upN t fin h k]

/-- `SetFinalisedHash` of a block of the best chain keeps the state well formed -/
theorem wf_finalise {t : Tree} (wf : WF t) {fin : Nat} (hfin : fin ≤ bestNum t) :
    WF (finalise t fin) := by
  obtain ⟨hfk, hfn⟩ := onChain_known wf (best_known wf) hfin
  rw [← canon_eq] at hfk hfn
  constructor
  · -- genesis is an ancestor of the finalised block
    have h0 : upN t (canon t fin) fin = 0 := by
      obtain ⟨h1, h2⟩ := upN_known wf hfk fin 0 ((Nat.zero_add _).trans hfn.symm)
      exact eq_zero_of_num_zero wf h1 h2
    rw [finalise_get, wf.root]
    simp [h0]
  · intro i hi0 hki
    obtain ⟨hk, hkeep⟩ := (finalise_known t fin i).mp hki
    obtain ⟨h1, h2, h3⟩ := wf.child i hi0 hk
    rw [finalise_parentOf, finalise_numOf, finalise_numOf]
    refine ⟨h1, (finalise_known t fin _).mpr ⟨h2, ?_⟩, h3⟩
    -- the parent of a kept block is kept
    unfold keeps at hkeep ⊢
    rw [h3] at hkeep
    generalize numOf t (parentOf t i) = m at hkeep ⊢
    clear h3 hfn hki
    rcases hkeep with ⟨hle, hup⟩ | ⟨hge, hup⟩
    · left
      refine ⟨Nat.le_of_succ_le hle, ?_⟩
      rw [show fin - m = (fin - (m + 1)) + 1 by omega]
      show parentOf t (upN t (canon t fin) (fin - (m + 1))) = parentOf t i
      rw [hup]
    · by_cases heq : m + 1 = fin
      · left
        subst heq
        rw [Nat.sub_self] at hup
        refine ⟨Nat.le_succ m, ?_⟩
        rw [Nat.add_sub_cancel_left, ← show i = canon t (m + 1) from hup]
        rfl
      · right
        have hfm := Nat.le_of_lt_succ (Nat.lt_of_le_of_ne hge (Ne.symm heq))
        refine ⟨hfm, ?_⟩
        rw [upN_parent, ← Nat.sub_add_comm hfm]
        exact hup

end Gossamer.C31
