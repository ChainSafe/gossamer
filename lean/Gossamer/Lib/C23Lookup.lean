import Gossamer.Lib.C23Sched
namespace Gossamer.C23

/-- a root whose change is due at a finalisation of `b` (number `n`) -/
abbrev dueOn (t : Tree) (b n : Nat) (r : Node) : Bool := decide (eff t r.ann ≤ n) && anc t r.ann.blk b

/-- a child that the finalisation of `b` would skip -/
abbrev skipped (t : Tree) (b n : Nat) (k : Node) : Bool := decide (num t k.ann.blk ≤ n) && anc t k.ann.blk b

theorem kidsCheck_eq (t : Tree) (isD : IsD) (b n : Nat) : ∀ (ks : List Node),
    (∀ k ∈ ks, isD k.ann.blk b = some (anc t k.ann.blk b)) →
    kidsCheck t isD b n ks = if ks.any (skipped t b n) then .error .unfin else .ok true
  | [], _ => rfl
  | k :: ks, h => by
    rw [kidsCheck, h k (List.mem_cons_self ..), List.any_cons]
    dsimp only
    by_cases hs : num t k.ann.blk ≤ n ∧ anc t k.ann.blk b = true
    · rw [if_pos hs, skipped, decide_eq_true hs.1, hs.2]; rfl
    · rw [if_neg hs, kidsCheck_eq t isD b n ks fun x hx => h x (List.mem_cons_of_mem _ hx),
        show skipped t b n k = false from Bool.and_eq_false_imp.2 fun hx =>
          Bool.eq_false_iff.2 fun ha => hs ⟨of_decide_eq_true hx, ha⟩, Bool.false_or]

theorem applicableCond_eq {t : Tree} (wf : t.WF) (isD : IsD) (b n : Nat) (r : Node)
    (hr : isD r.ann.blk b = some (anc t r.ann.blk b))
    (hk : ∀ k ∈ r.kids, isD k.ann.blk b = some (anc t k.ann.blk b)) :
    applicableCond t isD b n r =
      if dueOn t b n r then (if r.kids.any (skipped t b n) then .error .unfin else .ok true) else .ok false := by
  rw [applicableCond, kidsCheck_eq t isD b n r.kids hk, dueOn]
  by_cases h1 : eff t r.ann > n
  · rw [if_pos h1, decide_eq_false (Nat.not_le_of_gt h1)]; rfl
  · rw [if_neg h1, decide_eq_true (Nat.le_of_not_gt h1), Bool.true_and]
    by_cases h2 : b = r.ann.blk
    · rw [if_neg (not_not_intro h2), ← h2, anc_refl wf]; rfl
    · rw [if_pos h2, hr]
      cases anc t r.ann.blk b <;> rfl

theorem lookupRoots_applicable_eq {t : Tree} (wf : t.WF) (isD : IsD) (b n : Nat) : ∀ (roots : List Node),
    (∀ r ∈ roots, isD r.ann.blk b = some (anc t r.ann.blk b) ∧
      ∀ k ∈ r.kids, isD k.ann.blk b = some (anc t k.ann.blk b)) →
    lookupRoots (applicableCond t isD b n) roots =
      match roots.find? (dueOn t b n) with
      | none => .ok none
      | some r => if r.kids.any (skipped t b n) then .error .unfin else .ok (some r)
  | [], _ => rfl
  | r :: rs, h => by
    have hr := h r (List.mem_cons_self ..)
    rw [lookupRoots, applicableCond_eq wf isD b n r hr.1 hr.2, List.find?_cons]
    cases dueOn t b n r with
    | false => exact lookupRoots_applicable_eq wf isD b n rs fun x hx => h x (List.mem_cons_of_mem _ hx)
    | true => dsimp only; cases r.kids.any (skipped t b n) <;> rfl

theorem lookupRoots_pure {cond : Node → Except Err Bool} {P : Node → Bool} : ∀ (roots : List Node),
    (∀ r ∈ roots, cond r = .ok (P r)) → lookupRoots cond roots = .ok (roots.find? P)
  | [], _ => rfl
  | r :: rs, h => by
    rw [lookupRoots, h r (List.mem_cons_self ..), List.find?_cons]
    cases P r with
    | true => rfl
    | false => exact lookupRoots_pure rs fun x hx => h x (List.mem_cons_of_mem _ hx)

theorem lookupForced_pure {cond : Ann → Except Err Bool} {P : Ann → Bool} : ∀ (l : List Ann),
    (∀ c ∈ l, cond c = .ok (P c)) → lookupForced cond l = .ok (l.find? P)
  | [], _ => rfl
  | c :: cs, h => by
    rw [lookupForced, h c (List.mem_cons_self ..), List.find?_cons]
    cases P c with
    | true => rfl
    | false => exact lookupForced_pure cs fun x hx => h x (List.mem_cons_of_mem _ hx)

theorem forcedFind_eq {t : Tree} (wf : t.WF) (isD : IsD) (h n : Nat) : ∀ (l : List Ann),
    (∀ c ∈ l, isD c.blk h = some (anc t c.blk h)) →
    forcedFind t isD h n l = .ok (l.find? (fun c => anc t c.blk h && decide (eff t c = n)))
  | [], _ => rfl
  | c :: cs, hyp => by
    rw [forcedFind, hyp c (List.mem_cons_self ..), List.find?_cons]
    dsimp only
    by_cases he : eff t c = n
    · by_cases ha : anc t c.blk h = true
      · rw [if_pos (And.intro ha he), ite_self, ha, decide_eq_true he]; rfl
      · rw [if_neg (fun x : h = c.blk ∧ _ => ha (x.1 ▸ anc_refl wf _)), if_neg (fun x => ha x.1),
          Bool.eq_false_iff.2 ha]
        exact forcedFind_eq wf isD h n cs fun x hx => hyp x (List.mem_cons_of_mem _ hx)
    · rw [if_neg (fun x => he x.2), if_neg (fun x => he x.2), decide_eq_false he, Bool.and_false]
      exact forcedFind_eq wf isD h n cs fun x hx => hyp x (List.mem_cons_of_mem _ hx)

theorem depCond_eq {t : Tree} {s : St} {fc : Ann} {r : Node}
    (h : isDesc t s r.ann.blk fc.blk = some (anc t r.ann.blk fc.blk)) :
    depCond t s fc r = .ok (decide (eff t r.ann ≤ fc.best) && anc t r.ann.blk fc.blk) := by
  rw [depCond, h]
  by_cases h1 : eff t r.ann > fc.best
  · rw [if_pos h1, decide_eq_false (Nat.not_le_of_gt h1)]; rfl
  · rw [if_neg h1, decide_eq_true (Nat.le_of_not_gt h1)]; rfl

/-- `c.blk ≠ pc.blk` is needed: otherwise `dup` comes first -/
theorem forcedGuard_eq {t : Tree} (isD : IsD) (pc : Ann) : ∀ (oc : List Ann),
    (∀ c ∈ oc, c.blk ≠ pc.blk ∧ isD c.blk pc.blk = some (anc t c.blk pc.blk)) →
    forcedGuard isD pc oc = if oc.any (fun c => anc t c.blk pc.blk) then .error .already else .ok ()
  | [], _ => rfl
  | c :: cs, h => by
    have hc := h c (List.mem_cons_self ..)
    rw [forcedGuard, if_neg hc.1, hc.2, List.any_cons]
    cases anc t c.blk pc.blk with
    | true => rfl
    | false => exact forcedGuard_eq isD pc cs fun x hx => h x (List.mem_cons_of_mem _ hx)

end Gossamer.C23
