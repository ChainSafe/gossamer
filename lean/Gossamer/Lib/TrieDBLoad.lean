/-
C06: loading a node of the committed trie `T0` from the database (`lookupNode` +
`newNodeFromEncoded`): the result is a cached in-memory node that stands for the same trie, its
inlined children decoded in place as new nodes, its hashed children still `persisted`.
`Loads` is all that insert and remove need of the database.  `lookupMem_ok`: `TrieDB.lookup` on a
consistent handle tree.  The empty trie is apart: its root `persisted (H [0])` loads to the empty node
whatever the database holds (`load_empty`).
-/
import Gossamer.Lib.TrieDBPos
namespace Gossamer.C06
open Gossamer Gossamer.Trie

theorem newValue_small {ver : Ver} {v : Bytes} (h : mustBeHashed ver v = false) :
    newValue ver v = .inl v := by
  rw [newValue_eq, h]; rfl

theorem ofEncoded_inline (ver : Ver) (H : Bytes → Bytes) (dec : Bytes → Option ENode)
    (hlen : ∀ x, (H x).length = 32) (t : Trie) :
    (∀ n, NodeOf n t → dec (encodeNode ver H n) = some (viewOf ver H n)) → t ≠ nil →
    (encodeNode ver H t).length < 32 → ∀ fuel, (encodeNode ver H t).length < fuel →
      ofEncoded dec fuel none (encodeNode ver H t) = some (ofTrie ver t) := by
  induction t with
  | nil => intro _ h; exact absurd rfl h
  | leaf pk v =>
    intro hdec _ hs fuel hf
    obtain ⟨f, rfl⟩ := Nat.exists_eq_add_one_of_ne_zero (Nat.ne_of_gt (Nat.zero_lt_of_lt hf))
    have hd := hdec _ (nodeOf_self (by simp))
    have hm := inline_leaf_value hlen hs
    simp only [ofEncoded, hd, viewOf, viewVal, hm, Bool.false_eq_true, if_false,
      NewValueFromEncoded, ofTrie, newValue_small hm]
  | branch pk v cs ih =>
    intro hdec _ hs fuel hf
    obtain ⟨f, rfl⟩ := Nat.exists_eq_add_one_of_ne_zero (Nat.ne_of_gt (Nat.zero_lt_of_lt hf))
    have hd := hdec _ (nodeOf_self (by simp))
    have hkid : ∀ i, kidHandle (ofEncoded dec f none) (viewKid ver H (cs i)) =
        some (ofTrie ver (cs i)) := by
      intro i
      by_cases hc : cs i = nil
      · rw [hc]; rfl
      · have hn' := isNil_false_of_ne hc
        have hsk := inline_branch_child_le hlen hs i hn'
        have hlt : (encodeNode ver H (cs i)).length < 32 := by omega
        simp only [viewKid, hn', Bool.false_eq_true, if_false, hlt, if_true, kidHandle]
        exact ih i (fun n hn => hdec n (nodeOf_child i hn)) hc hlt f (by omega)
    simp only [ofEncoded, hd, viewOf, hkid, Option.isSome_some, List.all_eq_true, implies_true,
      if_true, Option.getD_some, ofTrie]
    cases v with
    | none => rfl
    | some x =>
      have hm := inline_branch_value hlen hs
      simp [viewVal, hm, NewValueFromEncoded, newValue_small hm]

theorem noFresh_ofTrie_small (ver : Ver) (H : Bytes → Bytes) (hlen : ∀ x, (H x).length = 32)
    (t : Trie) : (encodeNode ver H t).length < 32 → noFresh (ofTrie ver t) := by
  induction t with
  | nil => intro _; trivial
  | leaf pk v =>
    intro hs
    simp [ofTrie, noFresh, newValue_small (inline_leaf_value hlen hs), DVal.isFresh]
  | branch pk v cs ih =>
    intro hs
    refine ⟨?_, fun i => ?_⟩
    · intro dv hdv
      obtain ⟨x, rfl, rfl⟩ := Option.map_eq_some_iff.mp hdv
      simp [newValue_small (inline_branch_value hlen hs), DVal.isFresh]
    · show noFresh (ofTrie ver (cs i))
      by_cases hc : cs i = nil
      · rw [hc]; trivial
      · have := inline_branch_child_le hlen hs i (isNil_false_of_ne hc)
        exact ih i (by omega)

theorem read_pos (e : Env) (T0 : Trie) (hdb : DbOk e T0) (pos : Pos)
    (hv : ValidPos e.ver e.H T0 pos) :
    dbGet e.H e.db (rowOf e.ver e.H T0 pos) = some (contentOf e.ver e.H T0 pos) := by
  cases pos with
  | node p =>
    by_cases hp : p = []
    · subst hp
      simp only [rowOf, contentOf, subAt_nil_path]
      exact hdb.root (by simpa using hv.1)
    · have := stored_subAt T0 [] p hdb.stored hv.1 hp (hv.2 hp)
      simpa [rowOf, contentOf] using this
  | val k =>
    obtain ⟨v, hl, hm⟩ := hv
    have := stored_value T0 [] k v hdb.stored hl hm
    simpa [rowOf, contentOf, hl] using this

theorem read_hashAt {e : Env} {T0 : Trie} (hdb : DbOk e T0) {pre : Nibs} {h : Bytes}
    (hh : HashAt e.ver e.H T0 pre h) :
    dbGet e.H e.db (rowKey pre h) = some (encodeNode e.ver e.H (subAt T0 pre)) :=
  hh.2.1 ▸ read_pos e T0 hdb (.node pre) (validPos_of_hashAt hh)

/-- the handle that loading makes of child `c` -/
def kidImg (ver : Ver) (H : Bytes → Bytes) (c : Trie) : Hd :=
  if c.isNil then .none
  else if (encodeNode ver H c).length < 32 then ofTrie ver c
  else .persisted (H (encodeNode ver H c))

theorem kidHandle_view (e : Env) (T0 : Trie) (hdb : DbOk e T0) (c : Trie)
    (hc : c ≠ nil → NodeOf c T0) (f : Nat)
    (hf : c ≠ nil → (encodeNode e.ver e.H c).length < 32 → (encodeNode e.ver e.H c).length < f) :
    kidHandle (ofEncoded e.dec f none) (viewKid e.ver e.H c) = some (kidImg e.ver e.H c) := by
  unfold viewKid kidImg
  by_cases hne : c = nil
  · subst hne; rfl
  · simp only [isNil_false_of_ne hne, Bool.false_eq_true, if_false]
    by_cases hl : (encodeNode e.ver e.H c).length < 32
    · simp only [hl, if_true, kidHandle]
      refine ofEncoded_inline e.ver e.H e.dec hdb.hlen c ?_ hne hl f (hf hne hl)
      exact fun n hn => hdb.dec n (nodeOf_trans hn (hc hne))
    · simp [hl, kidHandle]

theorem kidImg_loads (ver : Ver) (H : Bytes → Bytes) (hlen : ∀ x, (H x).length = 32) (T0 : Trie) (c : Trie)
    (q : Nibs) (hq : subAt T0 q = c) :
    Ok ver H T0 (kidImg ver H c) q ∧ abs T0 (kidImg ver H c) q = c ∧ noFresh (kidImg ver H c) := by
  unfold kidImg
  split
  · rename_i hn; exact ⟨trivial, ((isNil_iff _).mp hn).symm, trivial⟩
  · split
    · rename_i hl
      exact ⟨ok_ofTrie ver H T0 c q, abs_ofTrie ver T0 c q, noFresh_ofTrie_small ver H hlen c hl⟩
    · rename_i hn hl
      have hne : c ≠ nil := fun x => hn ((isNil_iff _).mpr x)
      exact ⟨⟨by rw [hq]; exact hne, by rw [hq], fun _ => by rw [hq]; omega⟩, hq, trivial⟩

def loadedVal (ver : Ver) (H : Bytes → Bytes) (v : Bytes) : DVal :=
  if mustBeHashed ver v then .ref (H v) else .inl v

/-- the cached in-memory node that `lookupNode` makes of the node `n` with hash `h` -/
def loadedImg (ver : Ver) (H : Bytes → Bytes) (h : Bytes) : Trie → Hd
  | nil => .none
  | leaf pk v => .leaf (some h) pk (loadedVal ver H v)
  | branch pk v cs => .branch (some h) pk (v.map (loadedVal ver H)) (fun i => kidImg ver H (cs i))

theorem newValueFromEncoded_view (ver : Ver) (H : Bytes → Bytes) (v : Bytes) :
    NewValueFromEncoded (viewVal ver H v) = loadedVal ver H v := by
  unfold viewVal loadedVal; split <;> rfl

theorem load_eq (e : Env) (T0 : Trie) (hdb : DbOk e T0) (pre : Nibs) (h : Bytes)
    (hh : HashAt e.ver e.H T0 pre h) :
    e.load pre h = some (loadedImg e.ver e.H h (subAt T0 pre)) := by
  have hne := hh.1
  have hnode := nodeOf_subAt T0 pre hne
  have hd := hdb.dec _ hnode
  simp only [Env.load, read_hashAt hdb hh]
  cases hn : subAt T0 pre with
  | nil => exact absurd hn hne
  | leaf pk v =>
    rw [hn] at hd
    simp only [ofEncoded, hd, viewOf, newValueFromEncoded_view, loadedImg]
  | branch pk v cs =>
    rw [hn] at hd hnode
    have hkid : ∀ i, kidHandle (ofEncoded e.dec (encodeNode e.ver e.H (branch pk v cs)).length none)
        (viewKid e.ver e.H (cs i)) = some (kidImg e.ver e.H (cs i)) := by
      intro i
      apply kidHandle_view e T0 hdb
      · exact fun hc => nodeOf_trans (nodeOf_child i (nodeOf_self hc)) hnode
      · exact fun hc hl => inline_child_lt e.ver e.H pk v cs i (isNil_false_of_ne hc) hl
    simp only [ofEncoded, hd, viewOf, hkid, Option.isSome_some, List.all_eq_true, implies_true,
      if_true, Option.getD_some, loadedImg]
    cases v with
    | none => rfl
    | some x => simp [newValueFromEncoded_view]

theorem absV_loaded (ver : Ver) (H : Bytes → Bytes) (T0 : Trie) (fk : Nibs) (v : Bytes)
    (hv : lookup T0 fk = some v) : absV T0 fk (loadedVal ver H v) = v := by
  unfold loadedVal; split <;> simp [absV, hv]

theorem okV_loaded (ver : Ver) (H : Bytes → Bytes) (T0 : Trie) (fk : Nibs) (v : Bytes)
    (hv : lookup T0 fk = some v) : OkV ver H T0 fk (loadedVal ver H v) := by
  unfold loadedVal
  cases hm : mustBeHashed ver v with
  | false => simp [OkV, hm]
  | true => exact ⟨v, hv, hm, rfl⟩

theorem loadedVal_notFresh (ver : Ver) (H : Bytes → Bytes) (v : Bytes) :
    (loadedVal ver H v).isFresh = false := by
  unfold loadedVal; split <;> rfl

theorem loadedImg_loads (ver : Ver) (H : Bytes → Bytes) (hlen : ∀ x, (H x).length = 32) (T0 : Trie)
    (pre : Nibs) (h : Bytes) (hh : HashAt ver H T0 pre h) :
    (loadedImg ver H h (subAt T0 pre)).isMem = true ∧
    Ok ver H T0 (loadedImg ver H h (subAt T0 pre)) pre ∧
    abs T0 (loadedImg ver H h (subAt T0 pre)) pre = subAt T0 pre ∧
    noFresh (loadedImg ver H h (subAt T0 pre)) := by
  have hne := hh.1
  cases hn : subAt T0 pre with
  | nil => exact absurd hn hne
  | leaf pk v =>
    have hv : lookup T0 (pre ++ pk) = some v := lookup_at_leaf hn
    have habs : leaf pk (absV T0 (pre ++ pk) (loadedVal ver H v)) = leaf pk v := by
      rw [absV_loaded ver H T0 _ v hv]
    refine ⟨rfl, ⟨okV_loaded ver H T0 _ v hv, ?_⟩, ?_, ?_⟩
    · intro h' hh'
      cases hh'
      exact ⟨hh, by rw [habs, hn], loadedVal_notFresh ver H v⟩
    · simp only [loadedImg, abs]; exact habs
    · exact loadedVal_notFresh ver H v
  | branch pk v cs =>
    have hkid := fun i => kidImg_loads ver H hlen T0 (cs i) _ (subAt_step hn i)
    have hval : ∀ x, v = some x → lookup T0 (pre ++ pk) = some x := fun x hx => (lookup_at_branch hn).trans hx
    have habs : abs T0 (loadedImg ver H h (branch pk v cs)) pre = branch pk v cs := by
      simp only [loadedImg, abs]
      congr 1
      · cases v with
        | none => rfl
        | some x => simp [absV_loaded ver H T0 _ x (hval x rfl)]
      · funext i
        exact (hkid i).2.1
    have hnf : noFresh (loadedImg ver H h (branch pk v cs)) := by
      refine ⟨?_, fun i => (hkid i).2.2⟩
      intro dv hdv
      obtain ⟨x, rfl, rfl⟩ := Option.map_eq_some_iff.mp hdv
      exact loadedVal_notFresh ver H x
    refine ⟨rfl, ⟨?_, fun i => (hkid i).1, ?_⟩, habs, hnf⟩
    · intro dv hdv
      obtain ⟨x, rfl, rfl⟩ := Option.map_eq_some_iff.mp hdv
      exact okV_loaded ver H T0 _ x (hval x rfl)
    · intro h' hh'
      cases hh'
      exact ⟨hh, habs.trans hn.symm, hnf⟩

/-- every hash reference into `T0` can be loaded, as a consistent, unchanged in-memory node.  This is
    all that `insertAt`/`removeAt` need of the database (TrieDBInsert, TrieDBRemove), so `Put`/`Delete`
    are proved without `DbOk`; it holds of any database when `T0 = nil` (`loads_nil`). -/
def Loads (e : Env) (T0 : Trie) : Prop :=
  ∀ q h, HashAt e.ver e.H T0 q h → ∃ n, e.load q h = some n ∧ n.isMem = true ∧
    Ok e.ver e.H T0 n q ∧ abs T0 n q = subAt T0 q ∧ noFresh n

theorem loads_of_dbOk {e : Env} {T0 : Trie} (hdb : DbOk e T0) : Loads e T0 := fun q h hh =>
  ⟨_, load_eq e T0 hdb q h hh, loadedImg_loads e.ver e.H hdb.hlen T0 q h hh⟩

theorem loads_nil (e : Env) : Loads e nil := fun q _ hh => absurd (subAt_nil q) hh.1

theorem fetchMem_ok (e : Env) (T0 : Trie) (hst : Stored e.ver e.H (dbGet e.H e.db) T0 []) (full : Bytes)
    (fk : Nibs)
    (hfk : fk = toNibs full) (dv : DVal) (hv : OkV e.ver e.H T0 fk dv) :
    fetchMem e full dv = some (absV T0 fk dv) := by
  subst hfk
  cases dv with
  | inl x => rfl
  | fresh x => rfl
  | ref h =>
    obtain ⟨v, hl, hm, rfl⟩ := hv
    have := stored_value T0 [] (toNibs full) v hst hl hm
    rw [List.nil_append, rowKey, prefixBytes_toNibs] at this
    simp [fetchMem, absV, this, hl]

section
variable (e : Env) (full : Bytes) (c : Option Bytes) {pk : Nibs} (bv : Option DVal) (cs : Nib → Hd) (pre : Nibs)

theorem lookupMem_branch_self :
    lookupMem e full (.branch c pk bv cs) pre pk = match bv with | some v => fetchMem e full v | none => none := by
  cases bv <;> simp only [lookupMem, if_true]

theorem lookupMem_branch_child (i : Nib) (rest : Nibs) :
    lookupMem e full (.branch c pk bv cs) pre (pk ++ i :: rest) =
      lookupMem e full (cs i) (pre ++ pk ++ [i]) rest := by
  cases bv <;>
    simp only [lookupMem, (append_cons_ne_self pk i rest).symm, if_false, isPrefixOf_append_self, if_true, List.drop_left]

theorem lookupMem_branch_off {key : Nibs} (hoff : pk.isPrefixOf key = false) :
    lookupMem e full (.branch c pk bv cs) pre key = none := by
  have hne : ¬ pk = key := fun x => (isPrefixOf_false_ne hoff) x.symm
  cases bv <;> simp only [lookupMem, hne, if_false, hoff, Bool.false_eq_true]
end

/-- `TrieDB.lookup` on a consistent handle tree reads the trie the tree stands for: in memory down to the
    first `persisted` handle, from there `TrieLookup` over the rows of `T0` (`lookupData_eq`) -/
theorem lookupMem_ok (e : Env) (T0 : Trie) (hdb : DbOk e T0) (full : Bytes) (hd : Hd) :
    ∀ pre key, pre ++ key = toNibs full → Ok e.ver e.H T0 hd pre →
      lookupMem e full hd pre key = lookup (abs T0 hd pre) key := by
  induction hd with
  | none => intro _ _ _ _; rfl
  | empty c => intro _ _ _ hok; exact hok.elim
  | persisted h =>
    intro pre key hfull hok
    have hne := hok.1
    simp only [lookupMem, lookupDB, read_hashAt hdb hok, abs]
    have hst := stored_at T0 [] pre hdb.stored hne
    rw [List.nil_append] at hst
    exact lookupData_eq e full (subAt T0 pre)
      (fun n hn => hdb.dec n (nodeOf_trans hn (nodeOf_subAt T0 pre hne))) hne
      (key.length + 1) pre key (by omega) hfull hst
  | leaf c pk dv =>
    intro pre key hfull hok
    simp only [lookupMem, abs, lookup_leaf]
    by_cases hk : pk = key
    · subst hk
      simp only [if_true]
      exact fetchMem_ok e T0 hdb.stored full _ hfull dv hok.1
    · have : ¬ key = pk := fun x => hk x.symm
      simp [hk, this]
  | branch c pk dvo cs ih =>
    intro pre key hfull hok
    obtain ⟨hvals, hkids, _⟩ := hok
    simp only [abs]
    rcases key_cases pk key with rfl | ⟨i, rest, rfl⟩ | hoff
    · rw [lookupMem_branch_self, lookup_branch_self]
      cases dvo with
      | none => rfl
      | some dv => exact fetchMem_ok e T0 hdb.stored full _ hfull dv (hvals dv rfl)
    · rw [lookupMem_branch_child, lookup_branch_child]
      exact ih i _ rest (by rw [← hfull]; simp) (hkids i)
    · rw [lookupMem_branch_off _ _ _ _ _ _ hoff, lookup_branch_off _ _ _ _ hoff]

/-- loading the empty node (`db.Get` answers `[0]` for its hash whatever the database holds) -/
theorem load_empty (c : Cfg) (hdec0 : c.dec [0] = some .empty) (s : St) :
    (c.env s).load [] (c.H [0]) = some (.empty (some (c.H [0]))) := by
  simp [Env.load, Cfg.env, dbGet, rowKey, prefixBytes, hasSuffix_self, ofEncoded, hdec0]

theorem doPut_empty (c : Cfg) (hdec0 : c.dec [0] = some .empty) (s : St)
    (hr : s.root = .persisted (c.H [0])) (k v : Bytes) :
    doPut c s k v = .ok { s with root := .leaf none (toNibs k) (newValue c.ver v),
                                 death := c.H [0] :: s.death } := by
  simp only [doPut, hr, insertAt, insertNode, Env.resolve, load_empty c hdec0, afterInspect, Hd.cached,
    Hd.asNew]
  rfl

theorem doDel_empty (c : Cfg) (hdec0 : c.dec [0] = some .empty) (s : St)
    (hr : s.root = .persisted (c.H [0])) (k : Bytes) :
    doDel c s k = .ok { s with root := .persisted (c.H [0]), rootHash := c.H [0],
                               death := c.H [0] :: s.death } := by
  simp only [doDel, hr, removeAt, removeNode, Env.resolve, load_empty c hdec0, afterDelete, Hd.cached]
  rfl

theorem doGet_empty (c : Cfg) (hdec0 : c.dec [0] = some .empty) (s : St)
    (hr : s.root = .persisted (c.H [0])) (k : Bytes) : doGet c s k = none := by
  simp only [doGet, hr, lookupMem, lookupDB, Cfg.env, dbGet, rowKey, prefixBytes, List.nil_append,
    hasSuffix_self, if_true, lookupData, hdec0]

end Gossamer.C06
