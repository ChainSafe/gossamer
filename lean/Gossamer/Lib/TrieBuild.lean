import Gossamer.Lib.TrieCanon
namespace Gossamer
open Rank OMap Trie

theorem lcp_isPrefix_left (a b : Nibs) : (lcp a b).isPrefixOf a = true := by
  obtain ⟨a', _, h1, _, _⟩ := lcp_spec a b
  exact isPrefixOf_iff.mpr ⟨a', h1⟩

theorem lcp_isPrefix_right (a b : Nibs) : (lcp a b).isPrefixOf b = true := by
  obtain ⟨_, b', _, h2, _⟩ := lcp_spec a b
  exact isPrefixOf_iff.mpr ⟨b', h2⟩

theorem lcpAll_isPrefix (es : List (Nibs × Bytes)) : ∀ e ∈ es, (lcpAll es).isPrefixOf e.1 = true := by
  induction es with
  | nil => simp
  | cons e r ih =>
    cases r with
    | nil => simp [lcpAll]
    | cons e2 r2 =>
      intro x hx
      simp only [lcpAll]
      rcases List.mem_cons.mp hx with rfl | hx
      · exact lcp_isPrefix_left _ _
      · exact isPrefixOf_trans (lcp_isPrefix_right _ _) (ih x hx)

/-- The common prefix is maximal: some key ends at it, or two keys leave it by different nibbles.  In `buildF_spec`
    this gives both that the branch is canonical and that every child misses an entry, so that the fuel lasts. -/
theorem lcpAll_max (es : List (Nibs × Bytes)) (hne : es ≠ []) :
    (∃ e ∈ es, e.1 = lcpAll es) ∨
    (∃ e1 ∈ es, ∃ e2 ∈ es, ∃ a r1 b r2, a ≠ b ∧ e1.1 = lcpAll es ++ a :: r1 ∧ e2.1 = lcpAll es ++ b :: r2) := by
  induction es with
  | nil => exact absurd rfl hne
  | cons e r ih =>
    cases r with
    | nil => left; exact ⟨e, by simp, by simp [lcpAll]⟩
    | cons e2 r2 =>
      simp only [lcpAll]
      obtain ⟨ea, qa, h1, h2, h3⟩ := lcp_spec e.1 (lcpAll (e2 :: r2))
      generalize hp : lcp e.1 (lcpAll (e2 :: r2)) = p at *
      cases ea with
      | nil => left; exact ⟨e, by simp, by simpa using h1⟩
      | cons a r1 =>
        cases qa with
        | nil =>
          have hq : lcpAll (e2 :: r2) = p := by simpa using h2
          rcases ih (by simp) with ⟨x, hx, hxe⟩ | ⟨x1, hx1, x2, hx2, a', r1', b', r2', hab, e1, e2'⟩
          · left; exact ⟨x, by simp [hx], by rw [hxe, hq]⟩
          · right
            refine ⟨x1, by simp [hx1], x2, by simp [hx2], a', r1', b', r2', hab, ?_, ?_⟩
            · rw [e1, hq]
            · rw [e2', hq]
        | cons b rb =>
          right
          have hab : a ≠ b := h3 a r1 b rb rfl rfl
          have hpre := lcpAll_isPrefix (e2 :: r2) e2 (by simp)
          rw [h2] at hpre
          obtain ⟨s, hs⟩ := isPrefixOf_iff.mp hpre
          refine ⟨e, by simp, e2, by simp, a, r1, b, rb ++ s, hab, h1, ?_⟩
          rw [hs]; simp

namespace Build

/-- what `buildF` builds from below a branch whose partial key has length `n` (its `es'`) -/
def strip (n : Nat) (es : List (Nibs × Bytes)) : List (Nibs × Bytes) :=
  es.map (fun e => (e.1.drop n, e.2))

/-- distinct keys in the `Pairwise` spelling (`AList.NodupKeys` is `Nodup` of the key list, the same by
    `List.pairwise_map`): `distinct_strip` and `distinct_subEntries` go through `pairwise_map` / `pairwise_cons` -/
def Distinct (es : List (Nibs × Bytes)) : Prop := es.Pairwise (fun a b => a.1 ≠ b.1)

theorem get_isSome_of_mem {es : List (Nibs × Bytes)} {e : Nibs × Bytes} (h : e ∈ es) :
    (OMap.get e.1 es).isSome = true := by
  rw [Option.isSome_iff_ne_none, Ne, OMap.get_eq, AList.lookup_eq_none_iff_keys]
  exact fun hn => hn (List.mem_map_of_mem h)

theorem map_prefix_strip (p : Nibs) (es : List (Nibs × Bytes))
    (hp : ∀ e ∈ es, p.isPrefixOf e.1 = true) :
    (strip p.length es).map (fun e => (p ++ e.1, e.2)) = es := by
  rw [strip, List.map_map]
  refine (List.map_congr_left fun e he => ?_).trans (List.map_id es)
  obtain ⟨s, hs⟩ := isPrefixOf_iff.mp (hp e he)
  exact Prod.ext (by simp [hs]) rfl

theorem get_strip (p : Nibs) (es : List (Nibs × Bytes))
    (hp : ∀ e ∈ es, p.isPrefixOf e.1 = true) (k : Nibs) :
    OMap.get (p ++ k) es = OMap.get k (strip p.length es) := by
  rw [← get_map_prefix p (strip p.length es) k, map_prefix_strip p es hp]

theorem get_subEntries (i : Nib) (r : Nibs) (es : List (Nibs × Bytes)) :
    OMap.get (i :: r) es = OMap.get r (subEntries i es) := by
  induction es with
  | nil => rfl
  | cons e es ih =>
    obtain ⟨k, v⟩ := e
    cases k with
    | nil => simp [subEntries, OMap.get] at ih ⊢; exact ih
    | cons j q =>
      by_cases hj : j = i
      · subst hj
        simp only [subEntries, List.filterMap_cons, if_true, OMap.get, List.cons.injEq, true_and] at ih ⊢
        split
        · rfl
        · exact ih
      · have : ¬ (j :: q = i :: r) := by simp [hj]
        simp only [subEntries, List.filterMap_cons, hj, if_false, OMap.get, this] at ih ⊢
        exact ih

theorem mem_subEntries {i : Nib} {r : Nibs} {v : Bytes} {es : List (Nibs × Bytes)} :
    (r, v) ∈ subEntries i es ↔ (i :: r, v) ∈ es := by
  simp only [subEntries, List.mem_filterMap]
  constructor
  · rintro ⟨⟨k, w⟩, he, hx⟩
    cases k with
    | nil => cases hx
    | cons j q =>
      simp only at hx
      split at hx
      · rename_i hj; subst hj; cases hx; exact he
      · cases hx
  · exact fun h => ⟨_, h, by simp⟩

theorem distinct_strip (p : Nibs) {es : List (Nibs × Bytes)}
    (hp : ∀ e ∈ es, p.isPrefixOf e.1 = true) (hd : Distinct es) : Distinct (strip p.length es) := by
  rw [← map_prefix_strip p es hp, Distinct, List.pairwise_map] at hd
  exact hd.imp fun h e => h (congrArg (p ++ ·) e)

theorem distinct_subEntries (i : Nib) {es : List (Nibs × Bytes)} (hd : Distinct es) :
    Distinct (subEntries i es) := by
  induction es with
  | nil => simp [subEntries, Distinct]
  | cons e r ih =>
    have hd' := List.pairwise_cons.mp hd
    have ihr := ih hd'.2
    obtain ⟨k, v⟩ := e
    cases k with
    | nil => simpa [subEntries] using ihr
    | cons j q =>
      by_cases hj : j = i
      · subst hj
        simp only [subEntries, List.filterMap_cons, if_true]
        refine List.pairwise_cons.mpr ⟨?_, ihr⟩
        intro x hx
        have := hd'.1 _ (mem_subEntries.mp hx)
        simpa using this
      · simpa [subEntries, hj] using ihr

theorem length_filterMap_lt {α β : Type} (f : α → Option β) {l : List α} {a : α}
    (ha : a ∈ l) (hf : f a = none) : (l.filterMap f).length < l.length := by
  induction l with
  | nil => simp at ha
  | cons x r ih =>
    rcases List.mem_cons.mp ha with rfl | h
    · simp only [List.filterMap_cons, hf, List.length_cons]
      exact Nat.lt_succ_of_le (List.length_filterMap_le f r)
    · simp only [List.filterMap_cons, List.length_cons]
      split
      · exact Nat.lt_succ_of_lt (ih h)
      · simp only [List.length_cons]; exact Nat.succ_lt_succ (ih h)

theorem length_subEntries_lt {i : Nib} {es : List (Nibs × Bytes)} {e : Nibs × Bytes} (he : e ∈ es)
    (h : e.1.head? ≠ some i) : (subEntries i es).length < es.length :=
  length_filterMap_lt _ he (by obtain ⟨k, v⟩ := e; cases k <;> simp_all)

theorem mem_strip {p : Nibs} {es : List (Nibs × Bytes)} {e : Nibs × Bytes} {s : Nibs}
    (he : e ∈ es) (hs : e.1 = p ++ s) : (s, e.2) ∈ strip p.length es := by
  simp only [strip, List.mem_map]
  exact ⟨e, he, by simp [hs]⟩

theorem buildF_cons2 (fuel : Nat) (a b : Nibs × Bytes) (r : List (Nibs × Bytes)) :
    buildF (fuel + 1) (a :: b :: r) =
      Trie.branch (lcpAll (a :: b :: r))
        (OMap.get [] (strip (lcpAll (a :: b :: r)).length (a :: b :: r)))
        (fun i => buildF fuel (subEntries i (strip (lcpAll (a :: b :: r)).length (a :: b :: r)))) := rfl

/-- the third conjunct strengthens the induction: `Canon` of the branch asks for non-nil children -/
theorem buildF_spec (fuel : Nat) : ∀ es : List (Nibs × Bytes), es.length ≤ fuel + 1 → Distinct es →
    Canon (buildF fuel es) ∧ (∀ k, lookup (buildF fuel es) k = OMap.get k es) ∧
    (es ≠ [] → buildF fuel es ≠ Trie.nil) := by
  induction fuel with
  | zero =>
    intro es hlen _
    match es, hlen with
    | [], _ => simp [buildF, OMap.get]
    | [e], _ => simp [buildF, OMap.get, eq_comm]
  | succ fuel ih =>
    intro es hlen hd
    match es, hlen, hd with
    | [], _, _ => simp [buildF, OMap.get]
    | [e], _, _ => simp [buildF, OMap.get, eq_comm]
    | a :: b :: r, hlen, hd =>
      rw [buildF_cons2]
      have hab : a.1 ≠ b.1 := (List.pairwise_cons.mp hd).1 b (by simp)
      have ha : a ∈ a :: b :: r := by simp
      have hb : b ∈ a :: b :: r := by simp
      generalize a :: b :: r = es at *
      have hp := lcpAll_isPrefix es
      have hmax := lcpAll_max es (by intro e; rw [e] at ha; simp at ha)
      generalize lcpAll es = p at *
      have hd' : Distinct (strip p.length es) := distinct_strip p hp hd
      have hlen' : (strip p.length es).length = es.length := by simp [strip]
      -- by maximality every child misses an entry (the one at the prefix, or one of the two that fork): the fuel lasts
      have hshort : ∀ i, (subEntries i (strip p.length es)).length ≤ fuel + 1 := by
        intro i
        have : (subEntries i (strip p.length es)).length < es.length := by
          rw [← hlen']
          rcases hmax with ⟨e, he, hep⟩ | ⟨e1, he1, e2, he2, x, r1, y, r2, hxy, h1, h2⟩
          · exact length_subEntries_lt (mem_strip (s := []) he (by simpa using hep)) nofun
          · by_cases hx : x = i
            · exact length_subEntries_lt (mem_strip he2 h2) fun e => hxy (hx.trans (Option.some.inj e).symm)
            · exact length_subEntries_lt (mem_strip he1 h1) fun e => hx (Option.some.inj e)
        omega
      have hIH := fun i => ih (subEntries i (strip p.length es)) (hshort i) (distinct_subEntries i hd')
      have hnn : ∀ e ∈ es, ∀ i s, e.1 = p ++ i :: s →
          buildF fuel (subEntries i (strip p.length es)) ≠ Trie.nil := by
        intro e he i s hs
        exact (hIH i).2.2 (List.ne_nil_of_mem (mem_subEntries.mpr (mem_strip he hs)))
      refine ⟨?_, ?_, by simp⟩
      · refine ⟨fun i => (hIH i).1, ?_⟩
        rcases hmax with ⟨e, he, hep⟩ | ⟨e1, he1, e2, he2, x, r1, y, r2, hxy, h1, h2⟩
        · right
          constructor
          · have := get_isSome_of_mem (mem_strip he (show e.1 = p ++ [] by simpa using hep))
            simpa using this
          · -- another entry lies strictly below the branch key
            have ⟨o, ho, hop⟩ : ∃ o ∈ es, o.1 ≠ p := by
              by_cases hap : a.1 = p
              · exact ⟨b, hb, fun e => hab (hap.trans e.symm)⟩
              · exact ⟨a, ha, hap⟩
            obtain ⟨s, hs⟩ := isPrefixOf_iff.mp (hp o ho)
            cases s with
            | nil => exact absurd (by simpa using hs) hop
            | cons i s => exact ⟨i, hnn o ho i s hs⟩
        · left
          exact ⟨x, y, hxy, hnn e1 he1 x r1 h1, hnn e2 he2 y r2 h2⟩
      · intro k
        rcases key_cases p k with rfl | ⟨i, s, rfl⟩ | hoff
        · rw [lookup_branch_self]
          have := get_strip k es hp []
          simpa using this.symm
        · rw [lookup_branch_child, (hIH i).2.1, ← get_subEntries, ← get_strip p es hp]
        · rw [lookup_branch_off _ _ _ _ hoff, ← map_prefix_strip p es hp, get_map_prefix_off p _ k hoff]

end Build
open Build

theorem buildN_spec {es : List (Nibs × Bytes)} (hd : Distinct es) :
    Canon (buildN es) ∧ ∀ k, lookup (buildN es) k = OMap.get k es := by
  have := buildF_spec es.length es (Nat.le_succ _) hd
  exact ⟨this.1, this.2.1⟩

theorem distinct_of_sorted {es : List (Nibs × Bytes)} (hs : OMap.Sorted es) : Distinct es := by
  rw [OMap.sorted_iff_pairwise] at hs
  exact hs.imp (fun h => klt_ne h)

theorem eq_buildN_of_canon {t : Trie} (h : Canon t) : t = buildN (entriesN t) := by
  have hb := buildN_spec (distinct_of_sorted (sorted_entriesN t))
  apply canon_unique h hb.1
  intro k
  rw [hb.2, get_entriesN]

end Gossamer
