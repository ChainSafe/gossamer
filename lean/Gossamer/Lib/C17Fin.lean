import Gossamer.Lib.C17Tree
namespace Gossamer.C17

/-- what a fully successful `finaliseChain` over `l` does to a state -/
structure ChainDone (head : Nat) (l : List Blk) (st st' : St) : Prop where
  root : st'.root = st.root
  tree : st'.tree = st.tree
  dbNum : st'.dbNum = st.dbNum
  finKey : st'.finKey = st.finKey
  highest : st'.highest = st.highest
  unfinFind : ∀ x, findB st'.unfin x = if x ∈ l.map (·.hash) then none else findB st.unfin x
  unfinMem : ∀ y, y ∈ st'.unfin ↔ y ∈ st.unfin ∧ y.hash ∉ l.map (·.hash)
  triesMem : ∀ r, r ∈ st'.tries ↔ r ∈ st.tries ∧ ∀ b ∈ l, b.hash ≠ head → b.sroot ≠ r
  dbNew : ∀ b ∈ l, findB st'.dbHdr b.hash = some b
  dbOld : ∀ x, x ∉ l.map (·.hash) → findB st'.dbHdr x = findB st.dbHdr x

theorem findB_deleteB_masked (u : List Blk) (p : Blk) (rest : List Blk) (x : Nat) :
    (if x ∈ rest.map (·.hash) then none else findB (deleteB u p.hash) x) =
      if x ∈ (p :: rest).map (·.hash) then none else findB u x := by
  rw [findB_deleteB, List.map_cons]
  by_cases h1 : x = p.hash
  · rw [if_pos h1, if_pos (List.mem_cons.mpr (.inl h1)), ite_self]
  · by_cases h2 : x ∈ rest.map (·.hash)
    · rw [if_pos h2, if_pos (List.mem_cons_of_mem _ h2)]
    · rw [if_neg h2, if_neg h1, if_neg (fun h => (List.mem_cons.mp h).elim h1 h2)]

theorem mem_deleteB_masked {u : List Blk} {p : Blk} {rest : List Blk} {y : Blk} :
    (y ∈ deleteB u p.hash ∧ y.hash ∉ rest.map (·.hash)) ↔ y ∈ u ∧ y.hash ∉ (p :: rest).map (·.hash) := by
  rw [mem_deleteB, List.map_cons, List.mem_cons, not_or, and_assoc]

theorem finaliseChain_ok (genesis head : Nat) {l : List Blk} {st : St} (batch : List (Nat × Nat))
    (hall : ∀ b ∈ l, b.hash ≠ genesis ∧ findB st.unfin b.hash = some b) (hnd : (l.map (·.hash)).Nodup) :
    ∃ st', finaliseChain genesis head st batch l = (st', batch ++ l.map (fun b => (b.number, b.hash)), true) ∧
      ChainDone head l st st' := by
  induction l generalizing st batch with
  | nil =>
    refine ⟨st, by simp [finaliseChain], ⟨rfl, rfl, rfl, rfl, rfl, ?_, ?_, ?_, ?_, ?_⟩⟩ <;> simp
  | cons b rest ih =>
    have hb := hall b (List.mem_cons_self ..)
    rw [List.map_cons, List.nodup_cons] at hnd
    let st1 : St := { st with
      dbHdr := b :: st.dbHdr.filter (fun x => x.hash ≠ b.hash)
      unfin := deleteB st.unfin b.hash
      tries := if head ≠ b.hash then triesDelete st.tries b.sroot else st.tries }
    have hrest : ∀ c ∈ rest, c.hash ≠ genesis ∧ findB st1.unfin c.hash = some c := by
      intro c hc
      have := hall c (List.mem_cons_of_mem _ hc)
      refine ⟨this.1, ?_⟩
      show findB (deleteB st.unfin b.hash) c.hash = some c
      rw [findB_deleteB]
      have hne : c.hash ≠ b.hash := fun h => hnd.1 (List.mem_map.mpr ⟨c, hc, h⟩)
      simp [hne, this.2]
    obtain ⟨st', hrun, hd⟩ := ih (batch ++ [(b.number, b.hash)]) hrest hnd.2
    refine ⟨st', ?_, ?_⟩
    · unfold finaliseChain
      simp only [hb.1, if_false, hb.2]
      rw [hrun]
      simp
    · refine ⟨hd.root, hd.tree, hd.dbNum, hd.finKey, hd.highest, ?unfinFind, ?unfinMem, ?triesMem, ?dbNew, ?dbOld⟩
      case unfinFind =>
        intro x
        rw [hd.unfinFind x]
        show (if x ∈ rest.map (·.hash) then none else findB (deleteB st.unfin b.hash) x) = _
        exact findB_deleteB_masked ..
      case unfinMem =>
        intro y
        rw [hd.unfinMem y]
        exact mem_deleteB_masked (u := st.unfin)
      case triesMem =>
        intro r
        rw [hd.triesMem r]
        show (r ∈ (if head ≠ b.hash then triesDelete st.tries b.sroot else st.tries) ∧ _) ↔ _
        rw [List.forall_mem_cons, ← and_assoc]
        refine and_congr_left' ?_
        by_cases hh : head = b.hash
        · rw [if_neg (not_not_intro hh)]
          exact ⟨fun h => ⟨h, fun hne => absurd hh.symm hne⟩, And.left⟩
        · rw [if_pos hh, mem_triesDelete]
          exact and_congr_right' ⟨fun h _ => Ne.symm h, fun h => Ne.symm (h (Ne.symm hh))⟩
      case dbNew =>
        intro c hc
        rcases List.mem_cons.mp hc with rfl | hc
        · rw [hd.dbOld _ hnd.1]
          show findB (c :: st.dbHdr.filter (fun x => x.hash ≠ c.hash)) c.hash = some c
          rw [findB_cons_filter]; simp
        · exact hd.dbNew c hc
      case dbOld =>
        intro x hx
        simp only [List.map_cons, List.mem_cons, not_or] at hx
        rw [hd.dbOld x hx.2]
        show findB (b :: st.dbHdr.filter (fun y => y.hash ≠ b.hash)) x = _
        rw [findB_cons_filter]; simp [hx.1]

/-- what `dropPruned` over `l` does to a state -/
structure PrunedDone (l : List Blk) (st st' : St) : Prop where
  root : st'.root = st.root
  tree : st'.tree = st.tree
  dbHdr : st'.dbHdr = st.dbHdr
  dbNum : st'.dbNum = st.dbNum
  finKey : st'.finKey = st.finKey
  highest : st'.highest = st.highest
  unfinFind : ∀ x, findB st'.unfin x = if x ∈ l.map (·.hash) then none else findB st.unfin x
  unfinMem : ∀ y, y ∈ st'.unfin ↔ y ∈ st.unfin ∧ y.hash ∉ l.map (·.hash)
  triesSub : ∀ r, r ∈ st'.tries → r ∈ st.tries
  triesGone : ∀ b ∈ l, findB st.unfin b.hash = some b → b.sroot ∉ st'.tries
  /-- a trie survives unless a pruned block found in the map carries its root -/
  triesKeep : ∀ r, r ∈ st.tries → (∀ b ∈ l, ∀ hd, findB st.unfin b.hash = some hd → hd.sroot ≠ r) → r ∈ st'.tries

theorem dropPruned_spec (l : List Blk) (st : St) : PrunedDone l st (dropPruned st l) := by
  induction l generalizing st with
  | nil =>
    refine ⟨rfl, rfl, rfl, rfl, rfl, rfl, ?_, ?_, ?_, ?_, ?_⟩ <;> simp [dropPruned]
  | cons p rest ihl =>
    -- both branches delete `p` from the map; they differ in the tries `T` they leave
    have key : ∀ (T : List Nat), (∀ r, r ∈ T → r ∈ st.tries) →
        (∀ hd, findB st.unfin p.hash = some hd → hd.sroot ∉ T) →
        (∀ r, r ∈ st.tries → (∀ hd, findB st.unfin p.hash = some hd → hd.sroot ≠ r) → r ∈ T) →
        PrunedDone (p :: rest) st (dropPruned { st with unfin := deleteB st.unfin p.hash, tries := T } rest) := by
      intro T hsub hgone hkeep
      have ih := ihl { st with unfin := deleteB st.unfin p.hash, tries := T }
      refine ⟨ih.root, ih.tree, ih.dbHdr, ih.dbNum, ih.finKey, ih.highest, ?unfinFind, ?unfinMem, fun r hr => hsub r (ih.triesSub r hr),
        ?triesGone, ?triesKeep⟩
      case unfinFind =>
        intro x
        rw [ih.unfinFind x]
        exact findB_deleteB_masked ..
      case unfinMem =>
        intro y
        rw [ih.unfinMem y]
        exact mem_deleteB_masked
      case triesGone =>
        intro b hb hfb
        by_cases hbp : b.hash = p.hash
        · rw [hbp] at hfb
          exact fun hm => hgone b hfb (ih.triesSub _ hm)
        · rcases List.mem_cons.mp hb with rfl | hb
          · exact absurd rfl hbp
          · exact ih.triesGone b hb ((findB_deleteB ..).trans ((if_neg hbp).trans hfb))
      case triesKeep =>
        intro r hr hall
        refine ih.triesKeep r (hkeep r hr (fun hd hf => hall p (List.mem_cons_self ..) hd hf)) ?_
        intro b hb hd hf
        replace hf := (findB_deleteB ..).symm.trans hf
        by_cases hbp : b.hash = p.hash
        · rw [if_pos hbp] at hf; cases hf
        · exact hall b (List.mem_cons_of_mem _ hb) hd ((if_neg hbp).symm.trans hf)
    unfold dropPruned
    cases hf : findB st.unfin p.hash with
    | none => exact key st.tries (fun r hr => hr) (fun hd h => by rw [hf] at h; cases h) (fun r hr _ => hr)
    | some hd =>
      refine key (triesDelete st.tries hd.sroot) (fun r hr => (mem_triesDelete.mp hr).1) ?_
        (fun r hr hne => mem_triesDelete.mpr ⟨hr, Ne.symm (hne hd hf)⟩)
      intro hd' h
      rw [hf] at h; cases h
      exact fun hm => (mem_triesDelete.mp hm).2 rfl

end Gossamer.C17
