/-
C20: the relational form of the paper definitions, over the specification alone (no round): `IsTop`, the top element of a
set of blocks (unique; `find?` along a chain computes it), and what the property theorems are stated with: `IsGhost` (g),
`IsFinalized`, `IsEstimate` (E), `SpecCompletable`, `NoGap`.  `Lib/C20SpecEq` shows that the executable definitions of
`Lib/C20Spec` satisfy them, `Lib/C20Rel` that the fields of the round do.
-/
import Gossamer.Lib.C20Tree
namespace Gossamer.C20

variable {t : Tree} {ws : List Nat}

/-- `a` is the top of the set of blocks with `p` (`none`: the set is empty).  g(S), the finalized block and the estimate
of the paper are tops. -/
def IsTop (t : Tree) (p : Nat → Bool) : Option Nat → Prop
  | none => ∀ B, p B = false
  | some g => p g = true ∧ ∀ B, p B = true → B ∈ t.chain g

theorem IsTop.unique (h : t.WF) {p : Nat → Bool} {a b : Option Nat} (ha : IsTop t p a) (hb : IsTop t p b) :
    a = b := by
  cases a with
  | none =>
    cases b with
    | none => rfl
    | some y => exact Bool.noConfusion ((ha y).symm.trans hb.1)
  | some x =>
    cases b with
    | none => exact Bool.noConfusion ((hb x).symm.trans ha.1)
    | some y => exact congrArg some ((Tree.upChain h).antisymm (hb.2 x ha.1) (ha.2 y hb.1))

theorem IsTop.congr {p q : Nat → Bool} (hpq : ∀ B, q B = p B) {a : Option Nat} (ha : IsTop t p a) :
    IsTop t q a := by
  rw [show q = p from funext hpq]; exact ha

theorem chain_find_isTop (h : t.WF) (p : Nat → Bool) (g : Nat) :
    IsTop t (fun B => t.le B g && p B) ((t.chain g).find? p) := by
  cases hf : (t.chain g).find? p with
  | none =>
    intro B
    show (t.le B g && p B) = false
    cases hB : t.le B g
    · rfl
    · exact Bool.eq_false_iff.2 (List.find?_eq_none.1 hf B (Tree.le_iff.1 hB))
  | some F =>
    obtain ⟨f1, f2, f3⟩ := (Tree.upChain h).find p hf
    refine ⟨Bool.and_eq_true_iff.2 ⟨Tree.le_iff.2 f1, f2⟩, fun B hB => ?_⟩
    have hB := Bool.and_eq_true_iff.1 hB
    exact f3 B (Tree.le_iff.1 hB.1) hB.2

/-- `g` is g(S) of the paper for the votes of phase `ph` in `ops`.
This is `IsTop t (superm t ws ops ph)` written out (`isGhost_iff`, by `rfl`), as `IsFinalized` and `IsEstimate` are `IsTop`
of their sets: the three are what the property theorems are stated with, the lemmas are on `IsTop` and are carried over by
the `_iff`s. -/
def IsGhost (t : Tree) (ws : List Nat) (ops : List Op) (ph : Bool) : Option Nat → Prop
  | none => ∀ B, superm t ws ops ph B = false
  | some g => superm t ws ops ph g = true ∧ ∀ B, superm t ws ops ph B = true → B ∈ t.chain g

theorem isGhost_iff (ops : List Op) (ph : Bool) (a : Option Nat) :
    IsGhost t ws ops ph a ↔ IsTop t (superm t ws ops ph) a := by
  cases a <;> exact Iff.rfl

theorem IsGhost.congr {ops ops' : List Op} {ph : Bool}
    (hs : ∀ B, superm t ws ops' ph B = superm t ws ops ph B) {a : Option Nat} (ha : IsGhost t ws ops ph a) :
    IsGhost t ws ops' ph a :=
  (isGhost_iff ops' ph a).2 (((isGhost_iff ops ph a).1 ha).congr hs)

theorem IsGhost.unique (h : t.WF) {ops : List Op} {ph : Bool} {a b : Option Nat}
    (ha : IsGhost t ws ops ph a) (hb : IsGhost t ws ops ph b) : a = b :=
  IsTop.unique h ((isGhost_iff ops ph a).1 ha) ((isGhost_iff ops ph b).1 hb)

/-- the GHOST has the highest block number among the blocks with a supermajority (the paper's wording) -/
theorem IsGhost.highest_number (h : t.WF) {ops : List Op} {ph : Bool} {g : Nat}
    (hg : IsGhost t ws ops ph (some g)) (B : Nat) (hB : superm t ws ops ph B = true) :
    depth t B ≤ depth t g := ((Tree.upChain h).suffix (hg.2 B hB)).length_le

/-- finalized block of the paper: the highest block with a supermajority of both prevotes and precommits -/
def IsFinalized (t : Tree) (ws : List Nat) (ops : List Op) : Option Nat → Prop
  | none => ∀ B, superm t ws ops false B = true → superm t ws ops true B = false
  | some F => superm t ws ops false F = true ∧ superm t ws ops true F = true ∧
      ∀ B, superm t ws ops false B = true → superm t ws ops true B = true → B ∈ t.chain F

theorem isFinalized_iff (ops : List Op) (a : Option Nat) :
    IsFinalized t ws ops a ↔ IsTop t (fun B => superm t ws ops false B && superm t ws ops true B) a := by
  cases a with
  | none => exact forall_congr' fun B => Bool.and_eq_false_imp.symm
  | some g => simp only [IsTop, IsFinalized, Bool.and_eq_true, and_imp, and_assoc]

theorem IsFinalized.unique (h : t.WF) {ops : List Op} {a b : Option Nat}
    (ha : IsFinalized t ws ops a) (hb : IsFinalized t ws ops b) : a = b :=
  IsTop.unique h ((isFinalized_iff ops a).1 ha) ((isFinalized_iff ops b).1 hb)

/-- precommit weight is at the threshold or still at most 2f (always true when total = 3f+1) -/
def NoGap (ws : List Nat) (ops : List Op) : Prop :=
  voteWeight ws ops true ≥ threshold (total ws) ∨ voteWeight ws ops true ≤ 2 * faulty ws

/-- E of the paper relative to the prevote GHOST `g`: the last (deepest) block on the chain of `g` for which
a precommit supermajority is possible -/
def IsEstimate (t : Tree) (ws : List Nat) (ops : List Op) (g : Option Nat) (e : Option Nat) : Prop :=
  match g, e with
  | none, e => e = none
  | some g, none => ∀ B, B ∈ t.chain g → possible t ws ops true B = false
  | some g, some E => E ∈ t.chain g ∧ possible t ws ops true E = true ∧
      ∀ B, B ∈ t.chain g → possible t ws ops true B = true → B ∈ t.chain E

theorem isEstimate_iff (ops : List Op) (g : Nat) (e : Option Nat) :
    IsEstimate t ws ops (some g) e ↔ IsTop t (fun B => t.le B g && possible t ws ops true B) e := by
  cases e with
  | none => simp only [IsTop, IsEstimate, Bool.and_eq_false_imp, Tree.le_iff]
  | some E => simp only [IsTop, IsEstimate, Bool.and_eq_true, and_imp, and_assoc, Tree.le_iff]

theorem IsEstimate.unique (h : t.WF) {ops : List Op} {g a b : Option Nat}
    (ha : IsEstimate t ws ops g a) (hb : IsEstimate t ws ops g b) : a = b := by
  cases g with
  | none => exact Eq.trans ha (Eq.symm hb)
  | some g => exact IsTop.unique h ((isEstimate_iff ops g a).1 ha) ((isEstimate_iff ops g b).1 hb)

/-- completable of the paper: E is defined and (E ≠ g, or no child of g – a block of the tree or a block not
seen yet – can possibly get a precommit supermajority).  It takes GHOST and estimate as given; the executable
`specCompletable` of `Lib/C20Spec` (lower-case `s`) computes the two itself, and `specCompletable_iff` (`Lib/C20SpecEq`)
ties them. -/
def SpecCompletable (t : Tree) (ws : List Nat) (ops : List Op) (g e : Option Nat) : Prop :=
  ∃ G E, g = some G ∧ e = some E ∧
    (E ≠ G ∨ (unseenImpossible ws ops = true ∧ ∀ c, c ∈ t.children G → possible t ws ops true c = false))

theorem specCompletable_some (ops : List Op) (g e : Nat) :
    SpecCompletable t ws ops (some g) (some e) ↔
      (e ≠ g ∨ (unseenImpossible ws ops = true ∧ ∀ c, c ∈ t.children g → possible t ws ops true c = false)) := by
  constructor
  · rintro ⟨G, E, hG, hE, hor⟩
    cases hG; cases hE; exact hor
  · exact fun hor => ⟨g, e, rfl, rfl, hor⟩

theorem not_specCompletable_none_ghost (ops : List Op) (e : Option Nat) : ¬ SpecCompletable t ws ops none e :=
  fun ⟨_, _, hG, _⟩ => by cases hG

theorem not_specCompletable_none_est (ops : List Op) (g : Option Nat) : ¬ SpecCompletable t ws ops g none :=
  fun ⟨_, _, _, hE, _⟩ => by cases hE

end Gossamer.C20
