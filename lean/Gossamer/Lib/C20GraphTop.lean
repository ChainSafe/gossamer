/-
C20 layer (b), proofs: what a GHOST search must return (`Top`), its uniqueness when at most one child of a block
meets the condition, and that the uncompressed `findGhost` returns it.
-/
import Gossamer.Lib.C20GraphInv
import Gossamer.Lib.C20Ghost
namespace Gossamer.C20

variable {t : Tree}

/-- `D` is where a GHOST search from `s` must end.  Not `IsTop` of C20Ghost (the top element of a SET of blocks):
`Top` describes the end of a DESCENT from a start block, which is what both `findGhost`s compute for any condition;
the two coincide for the supermajority condition of a tolerant vote set (`findGhost_isGhost`). -/
structure Top (t : Tree) (c : Nat → Mask) (cond : Mask → Bool) (s D : Nat) : Prop where
  above : s ∈ t.chain D
  lt : D < t.size
  inG : inGraph c D = true
  ok : cond (c D) = true
  stop : ∀ x, x ∈ t.children D → good c cond x = false

theorem cond_anc (h : t.WF) (ins : Ins) {cond : Mask → Bool} (hm : MonoCond cond) {a b : Nat}
    (hab : a ∈ t.chain b) (hb : cond (cumOf t ins b) = true) : cond (cumOf t ins a) = true := by
  rw [or_eq_of_testBit_imp (cum_mono_chain h ins hab)]; exact hm _ _ hb

theorem Top.child_good (h : t.WF) (ins : Ins) {cond : Mask → Bool} (hm : MonoCond cond) {s D : Nat}
    (hT : Top t (cumOf t ins) cond s D) (hne : s ≠ D) :
    ∃ x, x ∈ t.children s ∧ x ∈ t.chain D ∧ good (cumOf t ins) cond x = true := by
  obtain ⟨x, hx, hx0, hxp⟩ := (Tree.upChain h).child_towards hT.above hne
  have hxlt : x < t.size := by have := (Tree.upChain h).mem_le hx; have := hT.lt; omega
  refine ⟨x, Tree.mem_children.2 ⟨hxlt, hx0, hxp⟩, hx, ?_⟩
  simp only [good, Bool.and_eq_true]
  exact ⟨inGraph_anc h ins hx hT.inG, cond_anc h ins hm hx hT.ok⟩

theorem top_eq_start_iff (h : t.WF) (ins : Ins) {cond : Mask → Bool} (hm : MonoCond cond) {s D : Nat}
    (hT : Top t (cumOf t ins) cond s D) :
    D = s ↔ ∀ x, x ∈ t.children s → good (cumOf t ins) cond x = false := by
  constructor
  · intro e; rw [← e]; exact hT.stop
  · intro hno
    apply Classical.byContradiction
    intro hne
    obtain ⟨x, hx, _, hg⟩ := hT.child_good h ins hm (fun e => hne e.symm)
    rw [hno x hx] at hg; cases hg

/-- `n` bounds how many blocks the first end lies below the start: the induction is on it, the start moving to its one
good child -/
theorem top_unique (h : t.WF) (ins : Ins) {cond : Mask → Bool} (hm : MonoCond cond)
    (hu : UniqChild t (cumOf t ins) cond) : ∀ (n s D1 D2 : Nat), t.num D1 - t.num s ≤ n →
    Top t (cumOf t ins) cond s D1 → Top t (cumOf t ins) cond s D2 → D1 = D2 := by
  intro n
  induction n with
  | zero =>
    intro s D1 D2 hn t1 t2
    have h1 : D1 = s := by
      apply Classical.byContradiction
      intro he
      have := Tree.num_lt_of_mem h t1.above (fun e => he e.symm); omega
    subst h1
    exact ((top_eq_start_iff h ins hm t2).2 t1.stop).symm
  | succ n ih =>
    intro s D1 D2 hn t1 t2
    by_cases h1 : s = D1
    · subst h1; exact ((top_eq_start_iff h ins hm t2).2 t1.stop).symm
    · by_cases h2 : s = D2
      · subst h2; exact (top_eq_start_iff h ins hm t1).2 t2.stop
      · -- both searches leave `s` through its one good child
        obtain ⟨x1, hc1, hx1, hg1⟩ := t1.child_good h ins hm h1
        obtain ⟨x2, hc2, hx2, hg2⟩ := t2.child_good h ins hm h2
        have hxx : x1 = x2 := hu s x1 x2 hc1 hc2 hg1 hg2
        subst hxx
        obtain ⟨_, hx0, hxp⟩ := Tree.mem_children.1 hc1
        have hnx : t.num x1 = t.num s + 1 := by rw [Tree.num_pos h (by omega : 0 < x1), hxp]
        exact ih x1 D1 D2 (by omega) { t1 with above := hx1 } { t2 with above := hx2 }

theorem Top.unique (h : t.WF) (ins : Ins) {cond : Mask → Bool} (hm : MonoCond cond)
    (hu : UniqChild t (cumOf t ins) cond) {s D1 D2 : Nat} (t1 : Top t (cumOf t ins) cond s D1)
    (t2 : Top t (cumOf t ins) cond s D2) : D1 = D2 :=
  top_unique h ins hm hu (t.num D1) s D1 D2 (Nat.sub_le _ _) t1 t2

theorem findGhost_top (h : t.WF) (c : Nat → Mask) (cur : Option Nat) (cond : Mask → Bool)
    (hs : ghostStart c cur < t.size) (hin : inGraph c (ghostStart c cur) = true) :
    match findGhost t c cur cond with
    | none => cond (c (ghostStart c cur)) = false
    | some D => Top t c cond (ghostStart c cur) D := by
  cases hf : findGhost t c cur cond with
  | none => exact findGhost_none hf
  | some D =>
    obtain ⟨_, f2, f3, f4, f5⟩ := findGhost_some h hf
    have hg := Bool.and_eq_true_iff.1 f3
    exact ⟨f2, f5 hs, hg.1, hg.2, f4⟩

end Gossamer.C20
