/-
C23: the change tree of pending scheduled changes as a forest.  `changeTree.importChange` and the fork-tree
import of the specification are each one recursion over the forest (`schedImport_cons`, `specImportStd_cons`);
they agree when ancestry answers truthfully for the announcing blocks in the tree and none of them is the
block of the new change.
-/
import Gossamer.Lib.C23Spec
import Gossamer.Lib.C23Step
namespace Gossamer.C23

theorem forest_ind {P : List Node → Prop} (nil : P [])
    (cons : ∀ c kids rest, P kids → P rest → P (.mk c kids :: rest)) (l : List Node) : P l :=
  Node.rec_1 (motive_1 := fun n => ∀ rest, P rest → P (n :: rest)) (fun c kids ihk rest => cons c kids rest ihk)
    nil (fun _ rest ih => ih rest) l

def blocksF : List Node → List Nat
  | [] => []
  | .mk c kids :: rest => c.blk :: (blocksF kids ++ blocksF rest)

theorem blocksF_cons (c : Ann) (kids rest : List Node) :
    blocksF (.mk c kids :: rest) = c.blk :: (blocksF kids ++ blocksF rest) := by rw [blocksF]

theorem blocksF_nil : blocksF [] = [] := by rw [blocksF]

theorem mem_blocksF_cons {x : Nat} {c : Ann} {kids rest : List Node} :
    x ∈ blocksF (.mk c kids :: rest) ↔ x = c.blk ∨ x ∈ blocksF kids ∨ x ∈ blocksF rest := by
  rw [blocksF_cons, List.mem_cons, List.mem_append]

theorem blocksF_append : ∀ (a b : List Node), blocksF (a ++ b) = blocksF a ++ blocksF b
  | [], b => by rw [blocksF_nil]; rfl
  | .mk c kids :: rest, b => by
    rw [List.cons_append, blocksF_cons, blocksF_cons, blocksF_append rest b, List.cons_append, List.append_assoc]

theorem mem_blocksF_of_mem {r : Node} : ∀ {l : List Node}, r ∈ l → r.ann.blk ∈ blocksF l
  | .mk c kids :: rest, h => by
    rcases List.mem_cons.1 h with rfl | h
    · exact mem_blocksF_cons.2 (Or.inl rfl)
    · exact mem_blocksF_cons.2 (Or.inr (Or.inr (mem_blocksF_of_mem h)))

theorem mem_blocksF_kids {r : Node} : ∀ {l : List Node}, r ∈ l → ∀ {x : Nat}, x ∈ blocksF r.kids → x ∈ blocksF l
  | .mk c kids :: rest, h, x, hx => by
    rcases List.mem_cons.1 h with rfl | h
    · exact mem_blocksF_cons.2 (Or.inr (Or.inl hx))
    · exact mem_blocksF_cons.2 (Or.inr (Or.inr (mem_blocksF_kids h hx)))

theorem blocksF_filter_sub (p : Node → Bool) : ∀ (l : List Node) {x : Nat}, x ∈ blocksF (l.filter p) → x ∈ blocksF l
  | [], _, h => h
  | .mk c kids :: rest, x, h => by
    rw [List.filter_cons] at h
    by_cases hp : p (.mk c kids) = true
    · rw [if_pos hp] at h
      exact mem_blocksF_cons.2 ((mem_blocksF_cons.1 h).imp_right (Or.imp_right (blocksF_filter_sub p rest)))
    · rw [if_neg hp] at h
      exact mem_blocksF_cons.2 (Or.inr (Or.inr (blocksF_filter_sub p rest h)))

theorem Shrinks.blocks {l l' : List Node} (h : Shrinks l l') {x : Nat} (hx : x ∈ blocksF l') : x ∈ blocksF l := by
  cases h with
  | same => exact hx
  | kids hr => exact mem_blocksF_kids hr hx
  | filter keep => exact blocksF_filter_sub keep l hx

theorem schedImport_nil (t : Tree) (isD : IsD) (pc : Ann) : schedImport t isD pc [] = .ok [.mk pc []] := by
  rw [schedImport, importKids]; rfl

theorem schedImport_cons (t : Tree) (isD : IsD) (pc c : Ann) (kids rest : List Node) :
    schedImport t isD pc (.mk c kids :: rest) =
      if pc.blk = c.blk then .error .dup
      else match isD c.blk pc.blk with
        | none => .error .anc
        | some d =>
          if d = true ∧ num t c.blk < num t pc.blk then (schedImport t isD pc kids).map (fun k => .mk c k :: rest)
          else (schedImport t isD pc rest).map (.mk c kids :: ·) := by
  have hrest : (match (match importKids t isD pc rest with
      | .error e => .error e | .ok (some rest') => .ok (some (.mk c kids :: rest')) | .ok none => .ok none :
        Except Err (Option (List Node))) with
      | .error e => .error e | .ok (some roots') => .ok roots' | .ok none => .ok (.mk c kids :: rest ++ [.mk pc []])) =
      (schedImport t isD pc rest).map (.mk c kids :: ·) := by
    unfold schedImport
    cases importKids t isD pc rest with
    | error e => rfl
    | ok o => cases o <;> rfl
  rw [schedImport, importKids, importNode]
  by_cases e : pc.blk = c.blk
  · rw [if_pos e, if_pos e]
  · rw [if_neg e, if_neg e]
    cases isD c.blk pc.blk with
    | none => rfl
    | some d =>
      cases d with
      | false => exact hrest
      | true =>
        dsimp only
        by_cases hn : num t pc.blk ≤ num t c.blk
        · rw [if_pos hn, if_neg (fun h => Nat.not_le_of_lt h.2 hn)]
          exact hrest
        · rw [if_neg hn, if_pos ⟨rfl, Nat.lt_of_not_le hn⟩]
          unfold schedImport
          cases importKids t isD pc kids with
          | error e => rfl
          | ok o => cases o <;> rfl

theorem specImportStd_nil (t : Tree) (pc : Ann) : specImportStd t pc [] = [.mk pc []] := by
  rw [specImportStd, specImportKids]; rfl

theorem specImportStd_cons (t : Tree) (pc c : Ann) (kids rest : List Node) :
    specImportStd t pc (.mk c kids :: rest) =
      if c.blk ≠ pc.blk ∧ anc t c.blk pc.blk then .mk c (specImportStd t pc kids) :: rest
      else .mk c kids :: specImportStd t pc rest := by
  rw [specImportStd, specImportKids, specImportNode]
  by_cases h : c.blk ≠ pc.blk ∧ anc t c.blk pc.blk = true
  · rw [if_pos h, if_pos h]
    unfold specImportStd
    cases specImportKids t pc kids <;> rfl
  · rw [if_neg h, if_neg h]
    unfold specImportStd
    cases specImportKids t pc rest <;> rfl

theorem schedImport_blocks (t : Tree) (isD : IsD) (pc : Ann) : ∀ (l l' : List Node),
    schedImport t isD pc l = .ok l' → ∀ x ∈ blocksF l', x = pc.blk ∨ x ∈ blocksF l := by
  refine forest_ind ?_ ?_
  · intro l' h x hx
    rw [schedImport_nil] at h; cases h
    exact (mem_blocksF_cons.1 hx).imp_right fun h => h.elim id id
  · intro c kids rest ihk ihr l' h x hx
    rw [schedImport_cons] at h
    by_cases e : pc.blk = c.blk
    · rw [if_pos e] at h; cases h
    · rw [if_neg e] at h
      cases hd : isD c.blk pc.blk with
      | none => rw [hd] at h; cases h
      | some d =>
        rw [hd] at h
        dsimp only at h
        by_cases hc : d = true ∧ num t c.blk < num t pc.blk
        · rw [if_pos hc] at h
          obtain ⟨k, hk, rfl⟩ := map_eq_ok h
          rcases mem_blocksF_cons.1 hx with hx | hx | hx
          · exact Or.inr (mem_blocksF_cons.2 (Or.inl hx))
          · exact (ihk k hk x hx).imp_right fun h => mem_blocksF_cons.2 (Or.inr (Or.inl h))
          · exact Or.inr (mem_blocksF_cons.2 (Or.inr (Or.inr hx)))
        · rw [if_neg hc] at h
          obtain ⟨r, hr, rfl⟩ := map_eq_ok h
          rcases mem_blocksF_cons.1 hx with hx | hx | hx
          · exact Or.inr (mem_blocksF_cons.2 (Or.inl hx))
          · exact Or.inr (mem_blocksF_cons.2 (Or.inr (Or.inl hx)))
          · exact (ihr r hr x hx).imp_right fun h => mem_blocksF_cons.2 (Or.inr (Or.inr h))

theorem schedImport_eq {t : Tree} (wf : t.WF) (isD : IsD) (pc : Ann) : ∀ (l : List Node),
    (∀ x ∈ blocksF l, isD x pc.blk = some (anc t x pc.blk) ∧ x ≠ pc.blk) →
    schedImport t isD pc l = .ok (specImportStd t pc l) := by
  refine forest_ind ?_ ?_
  · intro _; rw [schedImport_nil, specImportStd_nil]
  · intro c kids rest ihk ihr h
    have hc := h c.blk (mem_blocksF_cons.2 (Or.inl rfl))
    rw [schedImport_cons, specImportStd_cons, if_neg (Ne.symm hc.2), hc.1]
    dsimp only
    by_cases ha : anc t c.blk pc.blk = true
    · rw [if_pos ⟨ha, num_lt_of_anc_ne wf ha hc.2⟩, if_pos ⟨hc.2, ha⟩,
        ihk fun x hx => h x (mem_blocksF_cons.2 (Or.inr (Or.inl hx)))]
      rfl
    · rw [if_neg (fun h => ha h.1), if_neg (fun h => ha h.2),
        ihr fun x hx => h x (mem_blocksF_cons.2 (Or.inr (Or.inr hx)))]
      rfl

theorem specImportStd_filter {t : Tree} (pc : Ann) (keep : Node → Bool)
    (hk : ∀ (c : Ann) (k1 k2 : List Node), keep (.mk c k1) = keep (.mk c k2)) (hpc : keep (.mk pc []) = true) :
    ∀ (l : List Node), (∀ r ∈ l, keep r = false → anc t r.ann.blk pc.blk = false) →
      specImportStd t pc (l.filter keep) = (specImportStd t pc l).filter keep
  | [], _ => by rw [List.filter_nil, specImportStd_nil, List.filter_cons, if_pos hpc]; rfl
  | .mk c kids :: rest, hdead => by
    have ih := specImportStd_filter pc keep hk hpc rest fun r hr => hdead r (List.mem_cons_of_mem _ hr)
    rw [specImportStd_cons, List.filter_cons]
    by_cases hkeep : keep (.mk c kids) = true
    · rw [if_pos hkeep, specImportStd_cons]
      by_cases h : c.blk ≠ pc.blk ∧ anc t c.blk pc.blk = true
      · rw [if_pos h, if_pos h, List.filter_cons, if_pos (hk c _ kids ▸ hkeep)]
      · rw [if_neg h, if_neg h, List.filter_cons, if_pos hkeep, ih]
    · have ha := hdead _ (List.mem_cons_self ..) (Bool.eq_false_iff.2 hkeep)
      rw [if_neg hkeep, if_neg (fun h => Bool.false_ne_true (ha.symm.trans h.2)), List.filter_cons, if_neg hkeep, ih]

end Gossamer.C23
