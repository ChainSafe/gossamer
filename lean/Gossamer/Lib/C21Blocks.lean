/-
`getPossibleSelectedAncestors` (`psa`, `psaLoop`) and `getPossibleSelectedBlocks` (`psb`) for every iteration order:
`PsbChar` says what `psb` returns in terms of the stored votes, `psb_char` proves it.
-/
import Gossamer.Lib.C21Tally
namespace Gossamer.C21

/-- every order in which a Go map is ranged over is a permutation of the map: the hypothesis of every theorem about a
tally function -/
def Perms.Valid (p : Perms) : Prop :=
  (∀ l, (p.votes l).Perm l) ∧ (∀ l, (p.keys l).Perm l) ∧ (∀ l, (p.blocks l).Perm l)

def Ord.Valid (o : Ord) : Prop := ∀ path, (o path).Valid

theorem Ord.Valid.sub {o : Ord} (h : o.Valid) (i : Nat) : (o.sub i).Valid := fun p => h (i :: p)

/-- invariant of the map being built, for an ABSTRACT total `tot`: the search never looks inside it -/
def SelOK (c : Cfg) (tot : Nat → Nat) (th : Nat) (sel : Sel) : Prop :=
  ∀ p ∈ sel, p.1 < c.t.size ∧ p.2 = c.number p.1 ∧ th < tot p.1 ∧ c.fin ∈ c.t.chain p.1

theorem SelOK.known {c : Cfg} {tot : Nat → Nat} {th : Nat} {sel : Sel} (h : SelOK c tot th sel) {p : Nat × Nat} (hp : p ∈ sel) :
    p.1 < c.t.size := (h p hp).1

theorem SelOK.num {c : Cfg} {tot : Nat → Nat} {th : Nat} {sel : Sel} (h : SelOK c tot th sel) {p : Nat × Nat} (hp : p ∈ sel) :
    p.2 = c.number p.1 := (h p hp).2.1

theorem SelOK.super {c : Cfg} {tot : Nat → Nat} {th : Nat} {sel : Sel} (h : SelOK c tot th sel) {p : Nat × Nat} (hp : p ∈ sel) :
    th < tot p.1 := (h p hp).2.2.1

theorem SelOK.fin {c : Cfg} {tot : Nat → Nat} {th : Nat} {sel : Sel} (h : SelOK c tot th sel) {p : Nat × Nat} (hp : p ∈ sel) :
    c.fin ∈ c.t.chain p.1 := (h p hp).2.2.2

/-- one iteration of the loop of `getPossibleSelectedAncestors`: the vote is skipped; or the common ancestor is `curr` and
the function RETURNS, leaving the rest of the votes unread; or `pred` is stored or searched from -/
theorem psaLoop_cons (c : Cfg) (tot : Nat → Nat) (th curr : Nat) (rec : Nat → Sel → Sel) (v : Vote)
    (rest : List Vote) (sel : Sel) :
    ((v.blk = curr ∨ lca c.t v.blk curr = none) ∧
      psaLoop c tot th curr rec (v :: rest) sel = psaLoop c tot th curr rec rest sel) ∨
    (v.blk ≠ curr ∧ lca c.t v.blk curr = some curr ∧ psaLoop c tot th curr rec (v :: rest) sel = sel) ∨
    ∃ pred, v.blk ≠ curr ∧ lca c.t v.blk curr = some pred ∧ pred ≠ curr ∧
      ((th < tot pred ∧ psaLoop c tot th curr rec (v :: rest) sel =
          psaLoop c tot th curr rec rest (aset sel pred (c.number pred))) ∨
       (¬ th < tot pred ∧ psaLoop c tot th curr rec (v :: rest) sel =
          psaLoop c tot th curr rec rest (rec pred sel))) := by
  rw [psaLoop]
  by_cases hv : v.blk = curr
  · exact Or.inl ⟨Or.inl hv, if_pos hv⟩
  rw [if_neg hv]
  cases hl : lca c.t v.blk curr with
  | none => exact Or.inl ⟨Or.inr rfl, rfl⟩
  | some pred =>
    simp only
    by_cases hp : pred = curr
    · exact Or.inr (Or.inl ⟨hv, hp ▸ rfl, if_pos hp⟩)
    rw [if_neg hp]
    refine Or.inr (Or.inr ⟨pred, hv, rfl, hp, ?_⟩)
    by_cases ht : th < tot pred
    · exact Or.inl ⟨ht, if_pos ht⟩
    · exact Or.inr ⟨ht, if_neg ht⟩

theorem psaLoop_inv {c : Cfg} {tot : Nat → Nat} {th curr : Nat} {rec : Nat → Sel → Sel} {P : Sel → Prop} :
    ∀ (l : List Vote),
    (∀ v ∈ l, ∀ pred, lca c.t v.blk curr = some pred → ∀ s, P s →
      (th < tot pred → P (aset s pred (c.number pred))) ∧ P (rec pred s)) →
    ∀ sel, P sel → P (psaLoop c tot th curr rec l sel) := by
  intro l
  induction l with
  | nil => exact fun _ sel h => h
  | cons v rest ih =>
    intro hstep sel h
    obtain ⟨hv, hrest⟩ := List.forall_mem_cons.1 hstep
    rcases psaLoop_cons c tot th curr rec v rest sel with ⟨_, e⟩ | ⟨_, _, e⟩ | ⟨p, _, hl, _, ⟨ht, e⟩ | ⟨_, e⟩⟩ <;>
      rw [e]
    · exact ih hrest sel h
    · exact h
    · exact ih hrest _ ((hv p hl sel h).1 ht)
    · exact ih hrest _ (hv p hl sel h).2

theorem psa_sound {c : Cfg} (hw : c.t.WF) {tot : Nat → Nat} {th : Nat} {va : List Vote}
    (hva : ∀ v ∈ va, c.fin ∈ c.t.chain v.blk) :
    ∀ (f curr : Nat) (sel : Sel), c.fin ∈ c.t.chain curr → SelOK c tot th sel →
      SelOK c tot th (psa c tot th va f curr sel) := by
  intro f
  induction f with
  | zero => exact fun _ _ _ h => h
  | succ f ih =>
    intro curr sel hcf h
    refine psaLoop_inv va (fun v hv pred hl s hs => ?_) sel h
    have hf : c.fin ∈ c.t.chain pred := (lca_isLca hw hl).below _ (hva v hv) hcf
    exact ⟨fun ht p hp => (mem_aset hp).elim (fun e => e ▸ ⟨lca_lt hw hl, rfl, ht, hf⟩) (hs p), ih pred s hf hs⟩

theorem psa_keep {c : Cfg} {tot : Nat → Nat} {th G : Nat} {va : List Vote} :
    ∀ (f curr : Nat) (sel : Sel), (G, c.number G) ∈ sel → (G, c.number G) ∈ psa c tot th va f curr sel := by
  intro f
  induction f with
  | zero => exact fun _ _ h => h
  | succ f ih =>
    exact fun curr sel h =>
      psaLoop_inv va (fun _ _ pred _ s hs => ⟨fun _ => mem_aset_of_mem hs (congrArg c.number), ih pred s hs⟩) sel h

/-- the hypothesis on `l` (no vote descends from `curr`) says that the early `return` is never taken -/
theorem psaLoop_complete {c : Cfg} {tot : Nat → Nat} {th curr G : Nat} {rec : Nat → Sel → Sel}
    (hrec : ∀ p s, (G, c.number G) ∈ s → (G, c.number G) ∈ rec p s) (hG : th < tot G) :
    ∀ (l : List Vote), (∀ v ∈ l, v.blk ≠ curr → lca c.t v.blk curr ≠ some curr) → ∀ (sel : Sel),
      ((∃ y ∈ l, y.blk ≠ curr ∧ lca c.t y.blk curr = some G) ∨ (G, c.number G) ∈ sel) →
      (G, c.number G) ∈ psaLoop c tot th curr rec l sel := by
  intro l
  induction l with
  | nil => exact fun _ sel h => h.elim (fun ⟨_, hy, _⟩ => nomatch hy) id
  | cons v rest ih =>
    intro hne sel h
    obtain ⟨hnv, hner⟩ := List.forall_mem_cons.1 hne
    -- `G` is in `sel'` already, or the vote that finds it is still to come
    have next : ∀ sel', ((G, c.number G) ∈ sel → (G, c.number G) ∈ sel') →
        (lca c.t v.blk curr = some G → v.blk ≠ curr → (G, c.number G) ∈ sel') →
        (G, c.number G) ∈ psaLoop c tot th curr rec rest sel' := by
      intro sel' hkeep hfound
      refine ih hner sel' (h.elim (fun ⟨y, hy, hyc, hyl⟩ => ?_) fun hs => Or.inr (hkeep hs))
      rcases List.mem_cons.1 hy with rfl | hy
      · exact Or.inr (hfound hyl hyc)
      · exact Or.inl ⟨y, hy, hyc, hyl⟩
    rcases psaLoop_cons c tot th curr rec v rest sel with ⟨hs, e⟩ | ⟨hv, hl, _⟩ | ⟨p, _, hl, _, ⟨_, e⟩ | ⟨ht, e⟩⟩
    · rw [e]
      exact next sel id fun hl hv => hs.elim (fun h => absurd h hv) fun h => nomatch h.symm.trans hl
    · exact absurd hl (hnv hv)
    · rw [e]
      refine next _ (mem_aset_of_mem · (congrArg c.number)) fun hlG _ => ?_
      cases hl.symm.trans hlG
      exact mem_aset_self _ _ _
    · rw [e]
      exact next _ (hrec _ _) fun hlG _ => absurd hG (Option.some.inj (hl.symm.trans hlG) ▸ ht)

/-- when no directly voted block has more than `th` votes, a deepest block `G` that has them is the common ancestor
of two votes, one of which (`kx`) has no vote below it: the search started at `kx` never takes the early `return` -/
theorem exists_split {t : Tree} (hw : t.WF) {votes : List (Nat × Vote)} (hk : KnownVotes t votes)
    {e th G : Nat} (hG : G < t.size) (hGt : th < cnt t votes G + e)
    (hD : ∀ kv ∈ votes, cnt t votes kv.2.blk + e ≤ th)
    (hmax : ∀ b, b < t.size → th < cnt t votes b + e → t.depth b ≤ t.depth G)
    (hne : votes ≠ []) :
    ∃ kx ∈ votes, ∃ ky ∈ votes, ky.2.blk ≠ kx.2.blk ∧ lca t ky.2.blk kx.2.blk = some G ∧
      ∀ kv ∈ votes, kv.2.blk ≠ kx.2.blk → lca t kv.2.blk kx.2.blk ≠ some kx.2.blk := by
  have hU : votes.filter (fun kv => isDesc t G kv.2.blk = .yes) ≠ [] := by
    intro hnil
    obtain ⟨kv0, hkv0⟩ := List.exists_mem_of_ne_nil _ hne
    rw [cnt, List.countP_eq_length_filter, hnil, List.length_nil, Nat.zero_add] at hGt
    exact Nat.not_le.2 hGt (Nat.le_trans (Nat.le_add_left _ _) (hD kv0 hkv0))
  obtain ⟨x, hxU, hxmax⟩ := exists_max (fun kv : Nat × Vote => t.depth kv.2.blk) _ hU
  have hxv : x ∈ votes := (List.mem_filter.1 hxU).1
  have hxs := hk x hxv
  have hGx : G ∈ t.chain x.2.blk :=
    (isDesc_yes_iff hG hxs).1 (of_decide_eq_true (List.mem_filter.1 hxU).2)
  have hGne : G ≠ x.2.blk := fun h => Nat.not_le.2 hGt (h ▸ hD x hxv)
  obtain ⟨c', hc'x, hc'0, hc'p⟩ := (Tree.upChain hw).child_towards hGx hGne
  have hc'0 := Nat.pos_of_ne_zero hc'0
  have hc's : c' < t.size := Nat.lt_of_le_of_lt ((Tree.upChain hw).mem_le hc'x) hxs
  -- `c'` is deeper than `G`, so it has no more than `th` votes: some vote below `G` is not below `c'`
  have hd : t.depth c' = t.depth G + 1 := hc'p ▸ (Tree.upChain hw).depth_pos hc'0
  have hc't : cnt t votes c' + e ≤ th := Nat.le_of_not_lt fun hn =>
    Nat.not_succ_le_self _ (hd ▸ hmax c' hc's hn)
  obtain ⟨y, hyv, hyG, hyc⟩ := exists_vote_of_cnt_lt (Nat.lt_of_add_lt_add_right (Nat.lt_of_le_of_lt hc't hGt))
  have hys := hk y hyv
  have hGy : G ∈ t.chain y.2.blk := (isDesc_yes_iff hG hys).1 hyG
  have hc'y : c' ∉ t.chain y.2.blk := fun h => hyc ((isDesc_yes_iff hc's hys).2 h)
  refine ⟨x, hxv, y, hyv, ?_, lca_of_split hw hxs hys hc'0 hc'p hc'x hGy hc'y, ?_⟩
  · intro h; rw [h] at hc'y; exact hc'y hc'x
  · intro kv hkv hne' hl
    have hkvs := hk kv hkv
    have hxk : x.2.blk ∈ t.chain kv.2.blk := (lca_isLca hw hl).left
    have hGk : G ∈ t.chain kv.2.blk := (Tree.upChain hw).trans hGx hxk
    have hkU : kv ∈ votes.filter (fun kv => isDesc t G kv.2.blk = .yes) :=
      List.mem_filter.2 ⟨hkv, decide_eq_true ((isDesc_yes_iff hG hkvs).2 hGk)⟩
    exact Nat.not_lt.2 (hxmax kv hkU) ((Tree.upChain hw).depth_lt hxk fun h => hne' h.symm)

theorem dirFold_mem {tot : Nat → Nat} {th : Nat} (L : List (Vote × Nat)) :
    ∀ q ∈ L.foldl (dirStep tot th) [], ∃ p ∈ L, th < tot p.1.blk ∧ q = (p.1.blk, p.1.num) := by
  refine List.foldlRecOn L _ (motive := fun bl' => ∀ q ∈ bl', ∃ p ∈ L, th < tot p.1.blk ∧
    q = (p.1.blk, p.1.num)) nofun fun bl' ih p hp q hq => ?_
  unfold dirStep at hq
  by_cases ht : th < tot p.1.blk
  · rw [if_pos ht] at hq
    exact (mem_aset hq).elim (fun e => ⟨p, hp, ht, e⟩) (ih q)
  · rw [if_neg ht] at hq
    exact ih q hq

theorem dirFold_keep {tot : Nat → Nat} {th G n : Nat} (L : List (Vote × Nat)) (bl : Sel)
    (hnum : ∀ p ∈ L, p.1.blk = G → p.1.num = n) {p : Vote × Nat} (hp : p ∈ L) (hpG : p.1.blk = G)
    (ht : th < tot G) : (G, n) ∈ L.foldl (dirStep tot th) bl := by
  have keep : ∀ (L : List (Vote × Nat)) (bl : Sel), (∀ p ∈ L, p.1.blk = G → p.1.num = n) →
      (G, n) ∈ bl → (G, n) ∈ L.foldl (dirStep tot th) bl := fun L bl hnum h =>
    List.foldlRecOn L _ h fun bl' ih p hp => by
      unfold dirStep
      split
      · exact mem_aset_of_mem ih fun h => (hnum p hp h.symm).symm
      · exact ih
  subst hpG
  obtain ⟨L1, L2, rfl⟩ := List.append_of_mem hp
  rw [List.foldl_append, List.foldl_cons]
  refine keep L2 _ (fun p' hp' => hnum p' (List.mem_append_right _ (List.mem_cons_of_mem _ hp'))) ?_
  rw [dirStep, if_pos ht, hnum p hp rfl]
  exact mem_aset_self _ _ _

/-- what `getPossibleSelectedBlocks` returns, whatever the iteration orders -/
structure PsbChar (c : Cfg) (votes : List (Nat × Vote)) (e th : Nat) (sel : Sel) : Prop where
  ok : SelOK c (fun b => cnt c.t votes b + e) th sel
  direct : ∀ kv ∈ votes, th < cnt c.t votes kv.2.blk + e → (kv.2.blk, c.number kv.2.blk) ∈ sel
  /-- the early return after the first loop -/
  onlyDirect : (∃ kv ∈ votes, th < cnt c.t votes kv.2.blk + e) → ∀ q ∈ sel, ∃ kv ∈ votes, kv.2.blk = q.1
  /-- only the DEEPEST blocks above the threshold: the early `return` of the search can leave shallower ones unselected -/
  complete : (∀ kv ∈ votes, cnt c.t votes kv.2.blk + e ≤ th) → votes ≠ [] → ∀ G, G < c.t.size →
    th < cnt c.t votes G + e → (∀ b, b < c.t.size → th < cnt c.t votes b + e → c.t.depth b ≤ c.t.depth G) →
    (G, c.number G) ∈ sel
  nil : votes = [] → sel = []

theorem psb_char {c : Cfg} (hw : c.t.WF) {votes : List (Nat × Vote)} (hg : GoodVotes c votes) {o : Ord}
    (ho : o.Valid) (e th : Nat) : PsbChar c votes e th (psb c o votes e th) := by
  have hE : ∀ i w, (∃ p ∈ (o [i]).votes (directVotes votes), p.1 = w) ↔ ∃ kv ∈ votes, kv.2 = w := fun i w =>
    (exists_congr fun p => and_congr_left fun _ => ((ho [i]).1 _).mem_iff).trans
      (List.mem_map.symm.trans mem_keys_directVotes)
  have hva : ∀ v, v ∈ (o [2]).keys ((directVotes votes).map (·.1)) ↔ ∃ kv ∈ votes, kv.2 = v :=
    fun v => (((ho [2]).2.1 _).mem_iff).trans mem_keys_directVotes
  have hnum : ∀ p ∈ (o [0]).votes (directVotes votes), p.1.num = c.number p.1.blk := by
    intro p hp
    obtain ⟨kv, hkv, he⟩ := (hE 0 _).1 ⟨p, hp, rfl⟩
    exact he ▸ (hg kv hkv).2.2
  have hmem : ∀ q ∈ ((o [0]).votes (directVotes votes)).foldl
      (dirStep (fun b => cnt c.t votes b + e) th) [],
      ∃ kv ∈ votes, th < cnt c.t votes kv.2.blk + e ∧ q = (kv.2.blk, kv.2.num) := by
    intro q hq
    obtain ⟨p, hp, ht, he⟩ := dirFold_mem _ q hq
    obtain ⟨kv, hkv, hke⟩ := (hE 0 _).1 ⟨p, hp, rfl⟩
    exact ⟨kv, hkv, hke ▸ ht, hke ▸ he⟩
  have hdir : ∀ kv ∈ votes, th < cnt c.t votes kv.2.blk + e → (kv.2.blk, c.number kv.2.blk) ∈
      ((o [0]).votes (directVotes votes)).foldl (dirStep (fun b => cnt c.t votes b + e) th) [] := by
    intro kv hkv ht
    obtain ⟨p, hp, he⟩ := (hE 0 _).2 ⟨kv, hkv, rfl⟩
    exact dirFold_keep _ [] (fun p hp h => h ▸ hnum p hp) hp (he ▸ rfl) ht
  unfold psb
  simp only [funext (total_eq c.t votes e)]
  by_cases hb : (!(((o [0]).votes (directVotes votes)).foldl
      (dirStep (fun b => cnt c.t votes b + e) th) []).isEmpty) = true
  · -- the first loop selected something: early return
    rw [if_pos hb]
    obtain ⟨q0, hq0⟩ := List.exists_mem_of_ne_nil _ (not_isEmpty_iff.1 hb)
    obtain ⟨kv0, hkv0, ht0, _⟩ := hmem q0 hq0
    refine ⟨fun q hq => ?_, hdir, fun _ q hq => ?_, fun hD => absurd ht0 (Nat.not_lt.2 (hD kv0 hkv0)),
      fun hv => nomatch hv ▸ hkv0⟩
    · obtain ⟨kv, hkv, ht, rfl⟩ := hmem q hq
      exact ⟨(hg kv hkv).1, (hg kv hkv).2.2, ht, (hg kv hkv).2.1⟩
    · obtain ⟨kv, hkv, _, rfl⟩ := hmem q hq
      exact ⟨kv, hkv, rfl⟩
  · -- nothing selected directly: the ancestor search
    rw [if_neg hb]
    have hD : ∀ kv ∈ votes, cnt c.t votes kv.2.blk + e ≤ th := fun kv hkv =>
      Nat.le_of_not_lt fun hn => hb (not_isEmpty_iff.2 (List.ne_nil_of_mem (hdir kv hkv hn)))
    have hkeys : ∀ v ∈ (o [2]).keys ((directVotes votes).map (·.1)), c.fin ∈ c.t.chain v.blk := by
      intro v hv
      obtain ⟨kv, hkv, rfl⟩ := (hva v).1 hv
      exact (hg kv hkv).2.1
    refine ⟨?_, fun kv hkv ht => absurd ht (Nat.not_lt.2 (hD kv hkv)),
      fun ⟨kv, hkv, ht⟩ => absurd ht (Nat.not_lt.2 (hD kv hkv)), ?_, ?_⟩
    · refine List.foldlRecOn _ _ nofun fun _ ih p hp => psa_sound hw hkeys _ _ _ ?_ ih
      obtain ⟨kv, hkv, he⟩ := (hE 1 _).1 ⟨p, hp, rfl⟩
      exact he ▸ (hg kv hkv).2.1
    · intro _ hne G hG hGt hmax
      obtain ⟨kx, hkx, ky, hky, hyx, hl, hnr⟩ := exists_split hw hg.known hG hGt hD hmax hne
      obtain ⟨p, hp, hpe⟩ := (hE 1 _).2 ⟨kx, hkx, rfl⟩
      obtain ⟨L1, L2, hL⟩ := List.append_of_mem hp
      rw [hL, List.foldl_append, List.foldl_cons, hpe]
      -- the search started at `kx` stores `G` in its top-level loop; of the recursive calls and of the searches started
      -- later only `psa_keep` is used.  Completeness therefore needs one level of the recursion, and no lemma of this
      -- file depends on the fuel (that `size + 1` is enough is never needed).
      refine List.foldlRecOn L2 _ (psaLoop_complete (c := c) (G := G) (fun p s hs => psa_keep _ p s hs) hGt _
        (fun v hv hvx => ?_) _ (Or.inl ⟨ky.2, (hva _).2 ⟨ky, hky, rfl⟩, hyx, hl⟩)) fun _ ih _ _ => psa_keep _ _ _ ih
      obtain ⟨kv, hkv, rfl⟩ := (hva v).1 hv
      exact hnr kv hkv hvx
    · rintro rfl
      have h1 : (o [1]).votes ([] : List (Vote × Nat)) = [] := List.Perm.eq_nil ((ho [1]).1 [])
      simp [directVotes, h1]

end Gossamer.C21
