/-
C20 layer (b), proofs: the round on the compressed graph computes the same prevote GHOST, finalized block,
estimate (blocks paired with their numbers) and `completable` as the round of the model.
-/
import Gossamer.Lib.C20GraphGhost
import Gossamer.Lib.C20GraphSim
import Gossamer.Lib.C20GraphAncestor
import Gossamer.Lib.C20Possible
namespace Gossamer.C20

variable {t : Tree} {ws : List Nat}

/-- a block with its number, like `HashNumber` -/
def pr (t : Tree) (o : Option Nat) : Option (Nat × Nat) := o.map (fun B => (B, t.num B))

/-- Left out: `pcGhost`, the memo of `PrecommitGHOST` (`precommitGhostC` is modelled and run by the driver, no theorem
compares it) -/
structure StateSim (t : Tree) (r : Round) (rc : RoundC) : Prop where
  ghost : rc.ghost = pr t r.ghost
  fin : rc.fin = pr t r.fin
  est : rc.est = pr t r.est

theorem sim_ghostStep (h : t.WF) (key : Nat → Nat) (ph : Bool) {ins : Ins} {r : Round} {rc : RoundC}
    (inv : GInv t ins rc.graph) (hcum : r.cum = cumOf t ins) (hcur : rc.cur = r.cur) (heqv : rc.eqv = r.eqv)
    (hs : StateSim t r rc) (hu : UniqChild t r.cum (supermCond ws r.eqv false))
    (hmemo : ∀ b, r.ghost = some b → b < t.size ∧ supermCond ws r.eqv false (r.cum b) = true) :
    StateSim t (ghostStep t ws ph r) (ghostStepC key t ws ph rc) := by
  unfold ghostStep ghostStepC
  simp only [hcur]
  by_cases hc : ph = false ∧ r.cur false ≥ threshold (total ws)
  · simp only [hc, and_self, if_true]
    refine ⟨?_, hs.fin, hs.est⟩
    simp only
    rw [hs.ghost, heqv]
    have := findGhost_refines h inv key (supermCond_mono ws r.eqv false) (hcum ▸ hu) r.ghost
      (fun b hb => ⟨(hmemo b hb).1, fun _ => hcum ▸ (hmemo b hb).2⟩)
    rw [hcum]
    exact this
  · simp only [hc, if_false]; exact hs

/-- `completable` is compared through `FindGHOST` from the estimate, where the "possible" condition need not have a
unique good child: hence `findGhost_at_start`, not `findGhost_refines` -/
theorem sim_update (h : t.WF) (key : Nat → Nat) {ins : Ins} {r : Round} {rc : RoundC}
    (inv : GInv t ins rc.graph) (hcum : r.cum = cumOf t ins) (hcur : rc.cur = r.cur) (heqv : rc.eqv = r.eqv)
    (hs : StateSim t r rc) (hg : ∀ b, r.ghost = some b → b < t.size) :
    StateSim t (update t ws r) (updateC key t ws rc) ∧
    (rc.compl = r.compl → (∀ b, r.ghost = some b → inGraph r.cum b = true) →
      (r.cur true ≥ threshold (total ws) → MonoCond (possibleToPrecommit ws (r.cur true) r.eqv)) →
      (updateC key t ws rc).compl = (update t ws r).compl) := by
  unfold update updateC
  simp only [hcur, heqv]
  by_cases h1 : r.cur false < threshold (total ws)
  · simp only [h1, if_true]; exact ⟨hs, fun hc _ _ => hc⟩
  · simp only [h1, if_false]
    cases hgh : r.ghost with
    | none =>
      have : rc.ghost = none := by rw [hs.ghost, hgh]; rfl
      simp only [this]; exact ⟨hs, fun hc _ _ => hc⟩
    | some b =>
      have hrc : rc.ghost = some (b, t.num b) := by rw [hs.ghost, hgh]; rfl
      have hb := hg b hgh
      simp only [hrc]
      have hfa : ∀ cond, rc.graph.findAncestor key (t.size + 1) cond (t.size + 1) b (t.num b) =
          pr t (findAncestor t r.cum b cond) := by
        intro cond; rw [hcum]; exact findAncestor_refines h inv key cond b hb
      by_cases h2 : r.cur true ≥ threshold (total ws)
      · simp only [h2, if_true, hfa]
        refine ⟨⟨rfl, rfl, rfl⟩, fun _ hin hm => ?_⟩
        have hbin := hin b rfl
        cases hE : findAncestor t r.cum b (possibleToPrecommit ws (r.cur true) r.eqv) with
        | none => rfl
        | some E =>
          simp only [pr, Option.map_some]
          by_cases hEb : E = b
          · subst hEb
            -- estimate = ghost: compare the two searches from it
            have hE : IsTop t _ (some E) := hE ▸ findAncestor_isTop h hbin _
            have hEok := (Bool.and_eq_true_iff.1 hE.1).2
            simp only [bne_self_eq_false, Bool.false_or]
            rw [hcum] at hbin hEok ⊢
            exact findGhost_at_start h inv key (hm trivial) hb hbin hEok
          · have h3 : (E != b) = true := by simpa using hEb
            simp [h3]
      · simp only [h2, if_false]
        exact ⟨⟨rfl, hs.fin, rfl⟩, fun hc _ _ => hc⟩

/-- what the model side has to supply about the state `r'` AFTER the import (`old` = the prevote GHOST before it,
the memo `FindGHOST` restarts from): it only concerns the bookkeeping and the prevote GHOST, which
"update prevote-GHOST"/`update` leave alone (`post_book`, `update_book`) -/
structure StepFacts (t : Tree) (ws : List Nat) (old : Option Nat) (r' : Round) : Prop where
  uniq : UniqChild t r'.cum (supermCond ws r'.eqv false)
  memo : ∀ b, old = some b → b < t.size ∧ supermCond ws r'.eqv false (r'.cum b) = true
  ghost : ∀ b, r'.ghost = some b → b < t.size

/-- the same for the comparison of `completable` (supplied by precommit tolerance and `3 * total ws < MOD`) -/
structure ComplFacts (ws : List Nat) (r' : Round) : Prop where
  inG : ∀ b, r'.ghost = some b → inGraph r'.cum b = true
  mono : r'.cur true ≥ threshold (total ws) → MonoCond (possibleToPrecommit ws (r'.cur true) r'.eqv)

theorem sim_post (h : t.WF) (key : Nat → Nat) (ph : Bool) {ins : Ins} {r : Round} {rc : RoundC}
    (inv : GInv t ins rc.graph) (hcum : r.cum = cumOf t ins) (hcur : rc.cur = r.cur) (heqv : rc.eqv = r.eqv)
    (hs : StateSim t r rc) (f : StepFacts t ws r.ghost (update t ws (ghostStep t ws ph r))) :
    StateSim t (update t ws (ghostStep t ws ph r)) (updateC key t ws (ghostStepC key t ws ph rc)) ∧
    (rc.compl = r.compl → ComplFacts ws (update t ws (ghostStep t ws ph r)) →
      (updateC key t ws (ghostStepC key t ws ph rc)).compl = (update t ws (ghostStep t ws ph r)).compl) := by
  obtain ⟨f1, f2, f3⟩ := f
  obtain ⟨_, _, p3, p4⟩ := post_book t ws ph r
  obtain ⟨_, u2, u3, u4⟩ := update_book t ws (ghostStep t ws ph r)
  have u5 := update_ghost t ws (ghostStep t ws ph r)
  obtain ⟨_, g2, g3, g4⟩ := ghostStep_book t ws ph r
  obtain ⟨_, c2, c3, c4⟩ := ghostStepC_book key t ws ph rc
  rw [p3, p4] at f1 f2
  rw [u5] at f3
  have s1 := sim_ghostStep (ws := ws) h key ph inv hcum hcur heqv hs f1 f2
  obtain ⟨s2, k⟩ := sim_update (ws := ws) h key (c4 ▸ inv) (g4 ▸ hcum) (by rw [c2, g2, hcur]) (by rw [c3, g3, heqv]) s1 f3
  refine ⟨s2, fun hc cf => ?_⟩
  obtain ⟨k1, k2⟩ := cf
  rw [u5, u4] at k1
  rw [u2, u3] at k2
  exact k (by rw [ghostStepC_compl, (ghostStep_memo t ws ph r).2.2]; exact hc) k1 k2

theorem sim_step (h : t.WF) (h0 : 0 < total ws) (key : Nat → Nat) (ops : List Op) (o : Op)
    (hv' : ValidOps t (ops ++ [o])) (htol' : tolerant ws (ops ++ [o]) false = true)
    (hs : StateSim t (run t ws ops) (runC key t ws ops)) :
    StateSim t (run t ws (ops ++ [o])) (runC key t ws (ops ++ [o])) ∧
    ((runC key t ws ops).compl = (run t ws ops).compl → ComplFacts ws (run t ws (ops ++ [o])) →
      (runC key t ws (ops ++ [o])).compl = (run t ws (ops ++ [o])).compl) := by
  obtain ⟨_, hb⟩ := validOps_append hv'
  have htol := (SubVotes.of_append false ops o).tolerant htol'
  have bs := bookSim_run key t ws ops
  have inv := runC_inv h key ws ops
  -- the model side: the new state is that of a tolerant history
  have f : StepFacts t ws (run t ws ops).ghost (run t ws (ops ++ [o])) := by
    refine ⟨superm_uniqChild h h0 _ false htol', fun b hb => ?_, fun b hb => ?_⟩
    · have hs := ghost_superm h h0 htol hb
      exact ⟨superm_lt_size h h0 htol hs, by rw [supermCond_run]; exact (SubVotes.of_append false ops o).superm hs⟩
    · exact superm_lt_size h h0 htol' (ghost_superm h h0 htol' hb)
  rw [run_append] at f ⊢
  rw [runC_append]
  revert f
  refine import_lockstep key (fun r' rc' => StepFacts t ws (run t ws ops).ghost r' →
      StateSim t r' rc' ∧ ((runC key t ws ops).compl = (run t ws ops).compl → ComplFacts ws r' →
        rc'.compl = r'.compl))
    bs.trk o.ph o.v o.sv ?_ ?_ ?_ ?_
  · exact fun _ _ => ⟨hs, fun hc _ => hc⟩  -- nothing new
  · exact fun _ _ hnb => absurd hb hnb  -- first vote, target outside the tree: excluded by `ValidOps` (not in `bookSim_run`)
  · -- first vote
    intro _ _ _ f
    exact sim_post h key o.ph (ins := insOf t ws ops ++ [(o.sv.blk, bitPos o.v (phN o.ph))])
      (insert_inv h inv key _ _ hb) (by rw [cumOf_append, ← bs.cum]) (by rw [bs.cur]) bs.eqv
      ⟨hs.ghost, hs.fin, hs.est⟩ f
  · -- first equivocation
    intro a _ _ _ f
    exact sim_post h key o.ph inv bs.cum bs.cur (by rw [bs.eqv]) ⟨hs.ghost, hs.fin, hs.est⟩ f

theorem sim_run (h : t.WF) (h0 : 0 < total ws) (key : Nat → Nat) : ∀ ops, ValidOps t ops →
    tolerant ws ops false = true →
    StateSim t (run t ws ops) (runC key t ws ops) ∧
    (3 * total ws < MOD → tolerant ws ops true = true → (runC key t ws ops).compl = (run t ws ops).compl) := by
  apply snoc_induction
  · intro _ _; exact ⟨⟨rfl, rfl, rfl⟩, fun _ _ => rfl⟩
  · intro ops o ih hv' htol'
    obtain ⟨s0, c0⟩ := ih (validOps_append hv').1 ((SubVotes.of_append false ops o).tolerant htol')
    obtain ⟨s1, c1⟩ := sim_step h h0 key ops o hv' htol' s0
    exact ⟨s1, fun hov htc => c1 (c0 hov ((SubVotes.of_append true ops o).tolerant htc))
      ⟨fun b hb => superm_inGraph h0 htol' (ghost_superm h h0 htol' hb), fun _ =>
        possible_mono ws _ _ (eqvWeight_run_le t true htc) (by rw [cur_run]; exact wsum_le_total ws _) hov⟩⟩


theorem stateSim_run (h : t.WF) (h0 : 0 < total ws) (key : Nat → Nat) : ∀ ops, ValidOps t ops →
    tolerant ws ops false = true → StateSim t (run t ws ops) (runC key t ws ops) :=
  fun ops hv htol => (sim_run h h0 key ops hv htol).1

/-- The bound is `3 * total`, not the `total ws < MOD` that layer (a) needs: the two `FindGHOST`s from the estimate are compared through `findGhost_at_start`, which wants the closure
`possibleToPrecommit` monotone in ARBITRARY masks (`possible_mono`), also where the node outweighs the precommits
seen and Go's difference wraps. -/
theorem complSim_run (h : t.WF) (h0 : 0 < total ws) (key : Nat → Nat) (hov : 3 * total ws < MOD) :
    ∀ ops, ValidOps t ops → tolerant ws ops false = true → tolerant ws ops true = true →
    (runC key t ws ops).compl = (run t ws ops).compl :=
  fun ops hv htol htolc => (sim_run h h0 key ops hv htol).2 hov htolc

end Gossamer.C20
