/-
C20 layer (b), proofs: the structural invariant w.r.t. a node set and a cumulative-vote function, entry by entry
(`EntryOK`), and the two ways `Insert` re-establishes it: a vote is added to the vote-nodes of a chain ("update
cumulative vote data": `addUp_struct`), and a block becomes a vote-node (`append` and `introduceBranch` both produce
the entry map described in `addNode_struct`).
-/
import Gossamer.Lib.C20GraphContain
namespace Gossamer.C20

variable {t : Tree}

def bumpCum (pos : Nat) (e : Entry) : Entry := { e with cum := setBit e.cum pos }

/-- The loop "update cumulative vote data" of `Insert` in closed form.  It only needs the entry map to have the right
keys and edges (it reads `ancestorNode`), which survive its own writes; the step from `x` to the vote-node `a` above
uses that a vote-node on the chain of `x` other than `x` is on the chain of `a` (`node_above`). -/
theorem addUp_entries (h : t.WF) {N : Nat → Bool} (h0 : N 0 = true) (pos : Nat) :
    ∀ (f : Nat) (g : Graph) (x : Nat), (∀ b, (g.entries b).isSome = N b) →
    (∀ b e, g.entries b = some e → e.ancestors = edge t N b) → x < f → N x = true →
    (Graph.addUp pos f g x).heads = g.heads ∧
    ∀ b, (Graph.addUp pos f g x).entries b =
      if N b = true ∧ b ∈ t.chain x then (g.entries b).map (bumpCum pos) else g.entries b := by
  intro f
  induction f with
  | zero => intro g x _ _ hlt; omega
  | succ f ih =>
    intro g x hnodes hanc hlt hx
    obtain ⟨e, he⟩ : ∃ e, g.entries x = some e := by
      have := hnodes x; rw [hx] at this; exact Option.isSome_iff_exists.1 this
    have hea := hanc x e he
    simp only [Graph.addUp, he]
    cases han : e.ancestorNode with
    | none =>
      have hx0 : x = 0 := eq_zero_of_ancNode_none h h0 ((ancestorNode_spec hea).symm.trans han)
      subst hx0
      refine ⟨rfl, ?_⟩
      intro b
      simp only [Graph.set, Tree.chain_zero, List.mem_singleton]
      by_cases hb : b = 0
      · subst hb; simp [h0, he, bumpCum]
      · simp [hb]
    | some a =>
      have haN : ancNode t N x = some a := (ancestorNode_spec hea).symm.trans han
      have hae := mem_edge_of_ancNode haN
      have haN' := ancNode_isNode h h0 haN
      have hac : a ∈ t.chain x := edge_mem_chain h hae
      have halt : a < x := edge_lt h hae
      have hset_nodes : ∀ b, ((g.set x { e with cum := setBit e.cum pos }).entries b).isSome = N b := by
        intro b
        simp only [Graph.set]
        by_cases hb : b = x
        · subst hb; simp [hx]
        · simp [hb, hnodes b]
      have hset_anc : ∀ b e', (g.set x { e with cum := setBit e.cum pos }).entries b = some e' →
          e'.ancestors = edge t N b := by
        intro b e' hb'
        simp only [Graph.set] at hb'
        by_cases hb : b = x
        · subst hb
          simp only [if_true] at hb'
          rw [← Option.some.inj hb']; exact hea
        · simp only [hb, if_false] at hb'
          exact hanc b e' hb'
      obtain ⟨i1, i2⟩ := ih (g.set x { e with cum := setBit e.cum pos }) a hset_nodes hset_anc (by omega) haN'
      refine ⟨i1, ?_⟩
      intro b
      rw [i2 b]
      by_cases hb : b = x
      · subst hb
        have hnot : ¬ (N b = true ∧ b ∈ t.chain a) := by
          rintro ⟨_, hm⟩
          have := (Tree.upChain h).mem_le hm
          omega
        rw [if_neg hnot]
        simp [Graph.set, hx, t.mem_chain_self b, he, bumpCum]
      · have hiff : (N b = true ∧ b ∈ t.chain a) ↔ (N b = true ∧ b ∈ t.chain x) := by
          constructor
          · rintro ⟨h1, h2⟩; exact ⟨h1, (Tree.upChain h).trans h2 hac⟩
          · rintro ⟨h1, h2⟩; exact ⟨h1, node_above h h0 haN h2 h1 hb⟩
        simp only [Graph.set, hb, if_false]
        by_cases hc : N b = true ∧ b ∈ t.chain x
        · simp [hc, hiff.2 hc]
        · have : ¬ (N b = true ∧ b ∈ t.chain a) := fun hh => hc (hiff.1 hh)
          simp [hc, this]

/-- the five per-entry clauses of `GStruct` for one entry (`GStruct.entryOK`, `GStruct.of_entryOK`), so that what
`Insert` does to each kind of entry is one lemma about that entry -/
structure EntryOK (t : Tree) (N : Nat → Bool) (c : Nat → Mask) (b : Nat) (e : Entry) : Prop where
  number : e.number = t.num b
  anc : e.ancestors = edge t N b
  cum : e.cum = c b
  nodup : e.descendants.Nodup
  desc : ∀ d, d ∈ e.descendants ↔ (N d = true ∧ ancNode t N d = some b)

theorem GStruct.entryOK {N : Nat → Bool} {c : Nat → Mask} {g : Graph} (gs : GStruct t N c g) {b : Nat} {e : Entry}
    (hb : g.entries b = some e) : EntryOK t N c b e :=
  ⟨gs.number b e hb, gs.anc b e hb, gs.cum b e hb, gs.descNodup b e hb, gs.desc b e hb⟩

theorem GStruct.of_entryOK {N : Nat → Bool} {c : Nat → Mask} {g : Graph} (hnodes : ∀ b, (g.entries b).isSome = N b)
    (hok : ∀ b e, g.entries b = some e → EntryOK t N c b e)
    (hheads : ∀ x, x ∈ g.heads ↔ (N x = true ∧ ∀ d, N d = true → ancNode t N d ≠ some x)) : GStruct t N c g :=
  ⟨hnodes, fun b e hb => (hok b e hb).number, fun b e hb => (hok b e hb).anc, fun b e hb => (hok b e hb).cum,
    fun b e hb => (hok b e hb).nodup, fun b e hb => (hok b e hb).desc, hheads⟩

theorem EntryOK.bump {N : Nat → Bool} {c : Nat → Mask} {b : Nat} {e : Entry} (ok : EntryOK t N c b e)
    {hash : Nat} (pos : Nat) (hb : b ∈ t.chain hash) : EntryOK t N (insert t c hash pos) b (bumpCum pos e) :=
  ⟨ok.number, ok.anc, by simp [bumpCum, insert, hb, ok.cum], ok.nodup, ok.desc⟩

theorem EntryOK.keep {N : Nat → Bool} {c : Nat → Mask} {b : Nat} {e : Entry} (ok : EntryOK t N c b e)
    {hash : Nat} (pos : Nat) (hb : b ∉ t.chain hash) : EntryOK t N (insert t c hash pos) b e :=
  ⟨ok.number, ok.anc, by simp [insert, hb, ok.cum], ok.nodup, ok.desc⟩

theorem addUp_struct (h : t.WF) {N : Nat → Bool} {c : Nat → Mask} {g : Graph} (h0 : N 0 = true)
    (gs : GStruct t N c g) (hash pos f : Nat) (hN : N hash = true) (hf : hash < f) :
    GStruct t N (insert t c hash pos) (Graph.addUp pos f g hash) := by
  obtain ⟨hh, hent⟩ := addUp_entries h h0 pos f g hash gs.nodes gs.anc hf hN
  refine GStruct.of_entryOK (fun b => ?_) (fun b e' hb => ?_) (fun x => by rw [hh]; exact gs.heads x)
  · rw [hent b]
    split
    · rw [Option.isSome_map]; exact gs.nodes b
    · exact gs.nodes b
  · rw [hent b] at hb
    by_cases hc : N b = true ∧ b ∈ t.chain hash
    · rw [if_pos hc] at hb
      obtain ⟨e, hg, rfl⟩ := Option.map_eq_some_iff.1 hb
      exact (gs.entryOK hg).bump pos hc.2
    · rw [if_neg hc] at hb
      exact (gs.entryOK hb).keep pos (fun hm => hc ⟨gs.node_of_entry hb, hm⟩)

def truncAt (ancNum : Nat) (e : Entry) : Entry :=
  { e with ancestors := e.ancestors.take (e.number - ancNum) }

/-! `hash`, so far no vote-node and below the vote-node `p`, becomes one; `R` are the vote-nodes that had it on their
edge.  The four kinds of entries afterwards, and the heads. -/
section
variable (h : t.WF) {N : Nat → Bool} {c : Nat → Mask} (h0 : N 0 = true) {hash p : Nat} (hN : N hash = false)
  (hp : ancNode t N hash = some p) {R : List Nat} (hR : ∀ d, d ∈ R ↔ (N d = true ∧ hash ∈ edge t N d))
include h h0 hN hp

include hR in
theorem EntryOK.new {ne : Entry} (hnd : R.Nodup) (h1 : ne.number = t.num hash) (h2 : ne.ancestors = edge t N hash)
    (h3 : ne.descendants = R) (h4 : ne.cum = c hash) : EntryOK t (addNode N hash) c hash ne :=
  ⟨h1, by rw [h2, edge_add_self h], h4, h3 ▸ hnd, fun d => by rw [h3, hR d, below_new h h0 hN hp d]⟩

include hR in
theorem EntryOK.parent {pe : Entry} (ok : EntryOK t N c p pe) :
    EntryOK t (addNode N hash) c p
      { pe with descendants := pe.descendants.filter (fun d => !R.contains d) ++ [hash] } := by
  refine ⟨ok.number, ?_, ok.cum, ?_, fun d => ?_⟩
  · show pe.ancestors = _
    rw [edge_add_of_not_mem (not_mem_edge_anc h hp)]; exact ok.anc
  · show (List.filter _ _ ++ [hash]).Nodup
    rw [List.nodup_append]
    refine ⟨ok.nodup.filter _, by simp, ?_⟩
    intro x hx y hy
    rw [List.mem_singleton.1 hy]
    exact ne_of_true_of_false ((ok.desc x).1 (List.mem_filter.1 hx).1).1 hN
  · rw [below_parent h h0 hN hp d]
    show d ∈ List.filter _ _ ++ [hash] ↔ _
    simp only [List.mem_append, List.mem_filter, List.mem_singleton, Bool.not_eq_true', List.contains_eq_mem,
      decide_eq_false_iff_not, ok.desc d, hR d]
    constructor
    · rintro (⟨⟨h1, h2⟩, h3⟩ | e)
      · exact Or.inr ⟨h1, fun hm => h3 ⟨h1, hm⟩, h2⟩
      · exact Or.inl e
    · rintro (e | ⟨h1, h2, h3⟩)
      · exact Or.inr e
      · exact Or.inl ⟨⟨h1, h3⟩, fun hh => h2 hh.2⟩

theorem EntryOK.cut {d : Nat} {e : Entry} (ok : EntryOK t N c d e) (hd : N d = true) (hm : hash ∈ edge t N d) :
    EntryOK t (addNode N hash) c d (truncAt (t.num hash) e) := by
  have hdh : d ≠ hash := ne_of_true_of_false hd hN
  have hdp : d ≠ p := fun e' => not_mem_edge_anc h hp (e' ▸ hm)
  refine ⟨ok.number, ?_, ok.cum, ok.nodup, fun x => ?_⟩
  · show List.take _ e.ancestors = _
    rw [ok.number, ok.anc, (edge_cut h hN hm).1]
  · show x ∈ e.descendants ↔ _
    rw [ok.desc x, below_other h h0 hN hp hdh hdp x]

theorem EntryOK.rest {b : Nat} {e : Entry} (ok : EntryOK t N c b e) (hb : N b = true) (hm : hash ∉ edge t N b)
    (hbp : b ≠ p) : EntryOK t (addNode N hash) c b e :=
  ⟨ok.number, by rw [edge_add_of_not_mem hm]; exact ok.anc, ok.cum, ok.nodup, fun x => by
    rw [ok.desc x, below_other h h0 hN hp (ne_of_true_of_false hb hN) hbp x]⟩

include hR in
theorem heads_add (x : Nat) :
    (addNode N hash x = true ∧ ∀ d, addNode N hash d = true → ancNode t (addNode N hash) d ≠ some x) ↔
      ((N x = true ∧ ∀ d, N d = true → ancNode t N d ≠ some x) ∧ x ≠ p) ∨ (R = [] ∧ x = hash) := by
  by_cases hxh : x = hash
  · subst hxh
    constructor
    · rintro ⟨_, hall⟩
      refine Or.inr ⟨?_, rfl⟩
      cases hRl : R with
      | nil => rfl
      | cons d0 l =>
        have hd0 := (below_new h h0 hN hp d0).2 ((hR d0).1 (hRl ▸ List.mem_cons_self))
        exact absurd hd0.2 (hall d0 hd0.1)
    · rintro (⟨⟨hx, _⟩, _⟩ | ⟨hRe, _⟩)
      · rw [hx] at hN; cases hN
      · refine ⟨by simp [addNode], fun d hd ha => ?_⟩
        have := (hR d).2 ((below_new h h0 hN hp d).1 ⟨hd, ha⟩)
        rw [hRe] at this; cases this
  · by_cases hxp : x = p
    · constructor
      · rintro ⟨_, hall⟩
        have hb := (below_parent h h0 hN hp hash).2 (Or.inl rfl)
        exact absurd (hxp ▸ hb.2) (hall hash hb.1)
      · rintro (⟨_, hne⟩ | ⟨_, e⟩)
        · exact absurd hxp hne
        · exact absurd e hxh
    · have hNx : addNode N hash x = N x := by simp [addNode, hxh]
      rw [hNx]
      constructor
      · rintro ⟨hx, hall⟩
        refine Or.inl ⟨⟨hx, fun d hd ha => ?_⟩, hxp⟩
        have hh := (below_other h h0 hN hp hxh hxp d).2 ⟨hd, ha⟩
        exact hall d hh.1 hh.2
      · rintro (⟨⟨hx, hall⟩, _⟩ | ⟨_, e⟩)
        · refine ⟨hx, fun d hd ha => ?_⟩
          have hh := (below_other h h0 hN hp hxh hxp d).1 ⟨hd, ha⟩
          exact hall d hh.1 hh.2
        · exact absurd e hxh

end

/-- `g'` is ANY graph that differs from `g` in the new entry, the entry of `p`, the cut entries of `R` and the heads
as stated: `append` (with `R = []`) and `introduceBranch` both produce one. -/
theorem addNode_struct (h : t.WF) {N : Nat → Bool} {c : Nat → Mask} {g : Graph} (h0 : N 0 = true)
    (gs : GStruct t N c g) {hash : Nat} (hN : N hash = false) (R : List Nat) (hnd : R.Nodup)
    (hR : ∀ d, d ∈ R ↔ (N d = true ∧ hash ∈ edge t N d))
    {p : Nat} (hp : ancNode t N hash = some p) {pe : Entry} (hpe : g.entries p = some pe) (g' : Graph)
    (hhash : ∃ ne, g'.entries hash = some ne ∧ ne.number = t.num hash ∧
      ne.ancestors = edge t N hash ∧ ne.descendants = R ∧ ne.cum = c hash)
    (hpar : g'.entries p =
      some { pe with descendants := pe.descendants.filter (fun d => !R.contains d) ++ [hash] })
    (hcut : ∀ d e, d ∈ R → g.entries d = some e → g'.entries d = some (truncAt (t.num hash) e))
    (hrest : ∀ b, b ≠ hash → b ≠ p → b ∉ R → g'.entries b = g.entries b)
    (hheads : ∀ x, x ∈ g'.heads ↔ (x ∈ g.heads ∧ x ≠ p) ∨ (R = [] ∧ x = hash)) :
    GStruct t (addNode N hash) c g' := by
  obtain ⟨ne, hne, hne1, hne2, hne3, hne4⟩ := hhash
  have hpN := ancNode_isNode h h0 hp
  have hok : ∀ b e, g'.entries b = some e → EntryOK t (addNode N hash) c b e := by
    intro b e hb
    by_cases h1 : b = hash
    · rw [h1, hne] at hb; cases hb
      exact h1 ▸ EntryOK.new h h0 hN hp hR hnd hne1 hne2 hne3 hne4
    · by_cases h2 : b = p
      · rw [h2, hpar] at hb; cases hb
        exact h2 ▸ (gs.entryOK hpe).parent h h0 hN hp hR
      · by_cases h3 : b ∈ R
        · obtain ⟨eb, heb⟩ := gs.entry_of_node ((hR b).1 h3).1
          rw [hcut b eb h3 heb] at hb; cases hb
          exact (gs.entryOK heb).cut h h0 hN hp ((hR b).1 h3).1 ((hR b).1 h3).2
        · rw [hrest b h1 h2 h3] at hb
          have hbN := gs.node_of_entry hb
          exact (gs.entryOK hb).rest h h0 hN hp hbN (fun hm => h3 ((hR b).2 ⟨hbN, hm⟩)) h2
  refine GStruct.of_entryOK (fun b => ?_) hok (fun x => ?_)
  · by_cases h1 : b = hash
    · subst h1; simp [addNode, hne]
    · by_cases h2 : b = p
      · subst h2; simp [hpar, addNode, hpN]
      · by_cases h3 : b ∈ R
        · obtain ⟨eb, heb⟩ := gs.entry_of_node ((hR b).1 h3).1
          rw [hcut b eb h3 heb]; simp [addNode, ((hR b).1 h3).1]
        · rw [hrest b h1 h2 h3, gs.nodes b]; simp [addNode, h1]
  · rw [hheads x, gs.heads x]
    exact (heads_add h h0 hN hp hR x).symm

end Gossamer.C20
