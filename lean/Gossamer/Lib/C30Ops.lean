/-
The operations of peerset.go keep the invariant.  Each operation is a composition of primitives and is
walked through once for `InvX`; `allocSlots` is walked through generically in the predicate
(`AllocClosed`), because "reputations unchanged" (`SameRep`) also has to survive it.  The slot maxima are
kept under `safeRun`.  `reportLoop_spec` also gives the result of a report.  At the end, what the model's
`incoming` does with a banned peer and what `sortedPeers` returns.
-/
import Gossamer.Lib.C30Prim
namespace Gossamer.C30
variable {n : Nat}

@[simp] theorem emit_s (c : Ctx n) (s : PS n) (m : Msg n) : (emit c s m).s = s := rfl
@[simp] theorem withS_s (c : Ctx n) (s : PS n) : (withS c s).s = s := rfl

/-- what a state predicate `P` must satisfy to survive `allocSlots` (the invariant does, and so does
    "reputations are the same as in a given state") -/
structure AllocClosed (P : PS n → Prop) : Prop where
  cInsert : ∀ s p, P s → P (insertPeer s p)
  cOut : ∀ s p, P s → conn s p = false → bannedThreshold ≤ repOf s p → P (tryOutgoing s p).1
  cUpdateTime : ∀ s, P s → P (updateTime s)

theorem pick_mem (l : List (Fin n)) (h : List (Msg n)) (p : Fin n) (hp : pick l h = some p) : p ∈ l := by
  unfold pick at hp
  split at hp
  · split at hp
    · cases hp; assumption
    · exact List.mem_of_mem_head? hp
  · exact List.mem_of_mem_head? hp

section allocClosed
variable {P : PS n → Prop}

/-- the walks below follow the nesting of `if`s of the model function one to one: first argument the
    `then` branch, second the `else` branch -/
theorem ite_ctx {c : Prop} [Decidable c] {x y : Ctx n} (hx : c → P x.s) (hy : ¬c → P y.s) :
    P (if c then x else y).s := by
  split
  · exact hx ‹_›
  · exact hy ‹_›

theorem ite_closed {c : Prop} [Decidable c] {x y : Ctx n × Bool} (hx : c → P x.1.s) (hy : ¬c → P y.1.s) :
    P (if c then x else y).1.s := by
  split
  · exact hx ‹_›
  · exact hy ‹_›

theorem whileLoop_closed (hC : AllocClosed P) (fuel : Nat) (c : Ctx n) (hI : P c.s) : P (whileLoop fuel c).s := by
  induction fuel generalizing c with
  | zero => exact hI
  | succ fuel ih =>
    rw [whileLoop]
    refine ite_ctx (fun _ => hI) (fun _ => ?_)
    split
    · exact hI
    · rename_i p hp
      have hc : p ∈ cands c.s := (List.mem_filter.mp (pick_mem _ _ _ hp)).1
      exact ite_ctx (fun _ => hI) (fun hrep => ite_ctx (fun _ => hI) (fun _ =>
        ih _ (hC.cOut c.s p hI (isNotConn_conn _ _ (List.mem_filter.mp hc).2) (Int.not_lt.mp hrep))))

theorem resGood_props (s : PS n) (p : Fin n) (h : p ∈ resGood s) :
    s.reserved p = true ∧ conn s p = false ∧ bannedThreshold ≤ repOf s p := by
  have h1 := List.mem_filter.mp h
  have h2 : (s.reserved p && (status s p != .connected)) = true := (List.mem_filter.mp h1.1).2
  simp only [Bool.and_eq_true, bne_iff_ne, ne_eq, status_conn, Bool.not_eq_true] at h2
  refine ⟨h2.1, h2.2, ?_⟩
  have hb := h1.2
  unfold isBannedNode at hb
  unfold repOf
  cases hnd : s.nodes p with
  | none => exact thr_neg
  | some nd => rw [hnd] at hb; simpa using hb

theorem reservedLoop_succ (fuel : Nat) (c : Ctx n) :
    reservedLoop (fuel + 1) c = (c, false) ∨
    ∃ p, c.s.reserved p = true ∧ conn (insertPeer c.s p) p = false ∧ bannedThreshold ≤ repOf (insertPeer c.s p) p ∧
      reservedLoop (fuel + 1) c =
        if (tryOutgoing (insertPeer c.s p) p).2 = true then (withS c (insertPeer c.s p), true)
        else reservedLoop fuel (emit c (tryOutgoing (insertPeer c.s p) p).1 (.connect p)) := by
  rw [reservedLoop]
  simp only []
  split
  · exact .inl rfl
  · rename_i p hp
    have hgood : p ∈ resGood c.s := by
      split at hp
      · cases hp
        rename_i q hq
        split at hq
        · split at hq
          · cases hq; assumption
          · cases hq
        · cases hq
      · split at hp
        · exact List.mem_of_mem_head? hp
        · cases hp
    obtain ⟨h1, h2, h3⟩ := resGood_props _ _ hgood
    refine .inr ⟨p, h1, (insertPeer_conn _ _).trans h2, (insertPeer_repOf _ _).symm ▸ h3, ?_⟩
    rw [ite_eq_left_iff.mpr fun hk => (insertPeer_known c.s p hk).symm]

theorem reservedLoop_closed (hC : AllocClosed P) (fuel : Nat) (c : Ctx n) (hI : P c.s) :
    P (reservedLoop fuel c).1.s := by
  induction fuel generalizing c with
  | zero => exact hI
  | succ fuel ih =>
    rcases reservedLoop_succ fuel c with e | ⟨p, _, hc, hrep, e⟩ <;> rw [e]
    · exact hI
    · have h1 := hC.cInsert c.s p hI
      exact ite_closed (fun _ => h1) (fun _ => ih _ (hC.cOut _ p h1 hc hrep))

theorem allocSlots_closed (hC : AllocClosed P) (c : Ctx n) (hI : P c.s) : P (allocSlots c).1.s := by
  have h1 := reservedLoop_closed hC (n + 1) (withS c (updateTime c.s)) (hC.cUpdateTime _ hI)
  exact ite_closed (fun _ => h1) (fun _ => ite_closed (fun _ => h1) (fun _ => whileLoop_closed hC _ _ h1))

end allocClosed

section ops
variable {K : Prop} {mi mo : Nat}

theorem alloc_invX (hn : Fits n) : AllocClosed (InvX (n := n) K mi mo none) where
  cInsert := fun _ p h => insertPeer_invX hn h p
  cOut := fun _ p h hc hr => tryOutgoing_invX hn h p hc hr
  cUpdateTime := fun _ h => updateTime_invX h

theorem allocSlots_invX (hn : Fits n) {c : Ctx n} (hI : InvX K mi mo none c.s) :
    InvX K mi mo none (allocSlots c).1.s :=
  allocSlots_closed (alloc_invX hn) c hI

/-- connecting a reserved peer cannot fail: it is a no-slot node and it exists -/
theorem reservedLoop_ok (hn : Fits n) (fuel : Nat) (c : Ctx n) (hI : InvX K mi mo none c.s) :
    (reservedLoop fuel c).2 = false := by
  induction fuel generalizing c with
  | zero => rfl
  | succ fuel ih =>
    rcases reservedLoop_succ fuel c with e | ⟨p, hres, hc1, hrep, e⟩ <;> rw [e]
    have hok : (tryOutgoing (insertPeer c.s p) p).2 = false := by
      rcases tryOutgoing_cases _ p hc1 with ⟨h0 | ⟨h0, _⟩, _⟩ | ⟨_, _, _, e2⟩
      · exact absurd h0 (insertPeer_node _ _)
      · rw [insertPeer_noSlot, hI.resNoSlot p hres] at h0; cases h0
      · rw [e2]
    rw [if_neg (by rw [hok]; decide)]
    exact ih _ (tryOutgoing_invX hn (insertPeer_invX hn hI p) p hc1 hrep)

theorem allocSlots_ok (hn : Fits n) (c : Ctx n) (hI : InvX K mi mo none c.s) : (allocSlots c).2 = false := by
  unfold allocSlots
  simp only []
  rw [reservedLoop_ok hn (n + 1) (withS c (updateTime c.s)) (updateTime_invX hI)]
  simp only [Bool.false_eq_true, if_false]
  split <;> rfl

theorem addReservedPeers_invX (hn : Fits n) (l : List (Fin n)) (c : Ctx n) (hI : InvX K mi mo none c.s) :
    InvX K mi mo none (addReservedPeers l c).1.s := by
  induction l generalizing c with
  | nil => exact hI
  | cons p rest ih =>
    have h1 := reserve_invX hn (insertPeer_invX hn hI p) p
    rw [addReservedPeers]
    exact ite_closed (fun _ => hI) (fun _ => ite_closed (fun _ => h1) (fun _ =>
      ite_closed (fun _ => allocSlots_invX hn h1) (fun _ => ih _ (allocSlots_invX hn h1))))

theorem addPeer_invX (hn : Fits n) (l : List (Fin n)) (c : Ctx n) (hI : InvX K mi mo none c.s) :
    InvX K mi mo none (addPeer l c).1.s := by
  induction l generalizing c with
  | nil => exact hI
  | cons p rest ih =>
    have h1 := insertPeer_invX hn hI p
    rw [addPeer]
    exact ite_closed (fun _ => hI) (fun _ => ite_closed (fun _ => allocSlots_invX hn h1)
      (fun _ => ih _ (allocSlots_invX hn h1)))

theorem removePeer_invX (hn : Fits n) (l : List (Fin n)) (c : Ctx n) (hI : InvX K mi mo none c.s) :
    InvX K mi mo none (removePeer l c).1.s := by
  induction l generalizing c with
  | nil => exact hI
  | cons p rest ih =>
    rw [removePeer]
    refine ite_closed (fun _ => hI) (fun _ => ?_)
    split
    · have h1 := psDisconnect_resume hn (hI.suspend p)
      have h2 := forgetPeer_invX hn h1 p (psDisconnect_conn c.s p)
      exact ite_closed (fun _ => h1) (fun _ => ite_closed (fun _ => h2) (fun _ => ih _ h2))
    · rename_i hst
      have h2 := forgetPeer_invX hn hI p (not_conn (by rw [hst]; decide))
      exact ite_closed (fun _ => h2) (fun _ => ih _ h2)
    · exact ih _ hI

theorem incomingLoop_invX (hn : Fits n) (l : List (Fin n)) (c : Ctx n) (hI : InvX K mi mo none c.s) :
    InvX K mi mo none (incomingLoop l c).s := by
  induction l generalizing c with
  | nil => exact hI
  | cons p rest ih =>
    rw [incomingLoop]
    refine ite_ctx (fun _ => ih _ hI) (fun _ => ?_)
    split
    · exact ih _ hI
    · rename_i st hst
      have hc : conn c.s p = false := not_conn hst
      have hs1 : InvX K mi mo none (if status c.s p = .notConn then touch c.s p else insertPeer c.s p) ∧
          conn (if status c.s p = .notConn then touch c.s p else insertPeer c.s p) p = false := by
        split
        · exact ⟨touch_invX hn hI p, (touch_conn _ _).trans hc⟩
        · exact ⟨insertPeer_invX hn hI p, (insertPeer_conn _ _).trans hc⟩
      simp only []
      generalize (if status c.s p = .notConn then touch c.s p else insertPeer c.s p) = s1 at hs1 ⊢
      refine ite_ctx (fun _ => ih _ hs1.1) (fun hrep => ?_)
      have h2 := tryAcceptIncoming_invX hn hs1.1 p hs1.2 (Int.not_lt.mp hrep)
      exact ite_ctx (fun _ => ih _ h2) (fun _ => ih _ h2)

theorem disconnectLoop_invX (hn : Fits n) (refused : Bool) (l : List (Fin n)) (c : Ctx n)
    (hI : InvX K mi mo none c.s) : InvX K mi mo none (disconnectLoop refused l c).1.s := by
  induction l generalizing c with
  | nil => exact allocSlots_invX hn hI
  | cons p rest ih =>
    rw [disconnectLoop]
    refine ite_closed (fun _ => hI) (fun _ => ?_)
    have h1 := psDisconnect_resume hn (nodeAddRep_susp hn hI p disconnectChange)
    exact ite_closed (fun _ => h1) (fun _ => ite_closed
      (fun _ => ite_closed (fun _ => removePeer_invX hn [p] _ h1) (fun _ => ih _ (removePeer_invX hn [p] _ h1)))
      (fun _ => ih _ h1))

end ops

/-- the same reputations; `pending` rides along because `updateTime` leaves them alone only while it is 0 -/
structure SameRep (s s' : PS n) : Prop where
  rep : ∀ p, repOf s' p = repOf s p
  pending : s'.pending = s.pending

theorem SameRep.refl (s : PS n) : SameRep s s := ⟨fun _ => rfl, rfl⟩
theorem SameRep.trans {s s' s'' : PS n} (h1 : SameRep s s') (h2 : SameRep s' s'') : SameRep s s'' :=
  ⟨fun p => (h2.rep p).trans (h1.rep p), h2.pending.trans h1.pending⟩

theorem sameRep_of (s s' : PS n) (p : Fin n) (hfr : SameExcept s s' p) (hp : repOf s' p = repOf s p)
    (hpend : s'.pending = s.pending) : SameRep s s' := by
  refine ⟨fun q => ?_, hpend⟩
  by_cases e : q = p
  · subst e; exact hp
  · unfold repOf; rw [(hfr q e).1]

theorem insertPeer_same (s : PS n) (p : Fin n) : SameRep s (insertPeer s p) := by
  refine sameRep_of s _ p (fun q hq => ?_) (insertPeer_repOf s p) ?_ <;> unfold insertPeer <;> split
  · exact ⟨rfl, rfl⟩
  · exact ⟨upd_other _ _ _ _ hq, rfl⟩
  · rfl
  · rfl

theorem place_same {s : PS n} {p : Fin n} {nd : Node} (hnd : s.nodes p = some nd) (nd' : Node) (b : Bool)
    (hr : nd'.rep = nd.rep) : SameRep s (place s p (some nd') b) :=
  sameRep_of s _ p (place_pt s p _ _).frame (by rw [repOf_node hnd, repOf_node (place_nodes_self ..), hr]) rfl

theorem tryOutgoing_same (s : PS n) (p : Fin n) (hc : conn s p = false) : SameRep s (tryOutgoing s p).1 := by
  rcases tryOutgoing_cases s p hc with ⟨_, e⟩ | ⟨nd, hnd, _, e⟩ <;> rw [e]
  · exact SameRep.refl s
  · exact place_same hnd _ _ rfl

theorem psDisconnect_same (s : PS n) (p : Fin n) : SameRep s (psDisconnect s p).1 := by
  rcases psDisconnect_cases s p with ⟨_, e⟩ | ⟨nd, hnd, e⟩ <;> rw [e]
  · exact SameRep.refl s
  · exact place_same hnd _ _ rfl

theorem updateTime_same (s : PS n) (h : s.pending = 0) : SameRep s (updateTime s) := by
  unfold updateTime
  rw [h]
  exact ⟨fun _ => rfl, h.symm⟩

/-- while no time is pending `allocSlots` only connects peers: reputations stay as they are -/
theorem allocSlots_same (c : Ctx n) (h : c.s.pending = 0) : SameRep c.s (allocSlots c).1.s :=
  allocSlots_closed
    { cInsert := fun s p hs => hs.trans (insertPeer_same s p)
      cOut := fun s p hs hc _ => hs.trans (tryOutgoing_same s p hc)
      cUpdateTime := fun s hs => hs.trans (updateTime_same s (hs.pending.trans h)) }
    c (SameRep.refl _)

section report
variable {K : Prop} {mi mo : Nat}

/-- `k` times `Reputation.add v`, saturating each time -/
def addN (v : Int) : Nat → Int → Int
  | 0, r => r
  | k + 1, r => addN v k (addI r v)

theorem addN_count_cons (v : Int) (p q : Fin n) (rest : List (Fin n)) (r : Int) :
    addN v ((p :: rest).count q) r = addN v (rest.count q) (if q = p then addI r v else r) := by
  rw [List.count_cons]
  by_cases e : q = p
  · subst e; simp [addN]
  · have : (p == q) = false := by simp; exact fun h => e h.symm
    simp [e, this]

/-- if the change bans a connected peer, the peer is disconnected and `allocSlots` runs, which cannot fail
    and moves no reputation -/
theorem reportLoop_round (hn : Fits n) (v : Int) (p : Fin n) (rest : List (Fin n)) (c : Ctx n)
    (hI : InvX K mi mo none c.s) (hp : c.s.pending = 0) :
    ∃ c', reportLoop v (p :: rest) c = reportLoop v rest c' ∧ InvX K mi mo none c'.s ∧ c'.s.pending = 0 ∧
      ∀ q, repOf c'.s q = repOf (addReputation c.s p v).1 q := by
  have hW := addReputation_susp hn hI p v
  have hrep := addReputation_rep c.s p v
  have hpa : (addReputation c.s p v).1.pending = 0 := hp
  rw [reportLoop]
  simp only []
  generalize addReputation c.s p v = a at hW hrep hpa ⊢
  by_cases h1 : a.2 ≥ bannedThreshold
  · rw [if_pos h1]
    exact ⟨_, rfl, hW.resume (fun nd h _ => by rw [hrep nd h]; exact h1), hpa, fun _ => rfl⟩
  · rw [if_neg h1]
    by_cases h2 : status a.1 p ≠ .connected
    · rw [if_pos h2]
      exact ⟨_, rfl, hW.resume (fun nd h hc => absurd ((status_conn _ _).mpr ((conn_node h).trans hc)) h2),
        hpa, fun _ => rfl⟩
    · have hc := (status_conn _ _).mp (Classical.not_not.mp h2)
      have hI' := psDisconnect_resume hn hW
      have hd := psDisconnect_same a.1 p
      have ha := allocSlots_same (emit c (psDisconnect a.1 p).1 (.drop p)) (hd.pending.trans hpa)
      rw [if_neg h2, psDisconnect_ok _ p hc, if_neg Bool.false_ne_true,
        if_neg (by rw [allocSlots_ok hn _ hI']; decide)]
      exact ⟨_, rfl, allocSlots_invX hn hI', ha.pending.trans (hd.pending.trans hpa),
        fun q => (ha.rep q).trans (hd.rep q)⟩

/-- `hp`: `reportPeer` runs `updateTime` first, so no time is pending at the only call of `reportLoop` -/
theorem reportLoop_spec (hn : Fits n) (v : Int) (l : List (Fin n)) (c : Ctx n) (hI : InvX K mi mo none c.s)
    (hp : c.s.pending = 0) :
    InvX K mi mo none (reportLoop v l c).1.s ∧ (reportLoop v l c).2 = false ∧
    ∀ q, repOf (reportLoop v l c).1.s q = addN v (l.count q) (repOf c.s q) := by
  induction l generalizing c with
  | nil => exact ⟨hI, rfl, fun _ => rfl⟩
  | cons p rest ih =>
    obtain ⟨c', e, hI', hp', hrep⟩ := reportLoop_round hn v p rest c hI hp
    obtain ⟨h1, h2, h3⟩ := ih c' hI' hp'
    rw [e]
    refine ⟨h1, h2, fun q => ?_⟩
    rw [h3 q, hrep q, addReputation_repOf, addN_count_cons]
end report

/-- where `removeReservedPeers` runs inside an operation: the state it starts from and its list -/
def opGuard (G : PS n → List (Fin n) → Prop) : Op n → Ctx n → Prop
  | .removeReserved l, c => G c.s l
  | .setReserved ps ord, c => G (addReservedPeers (toInsert c.s ps) c).1.s (toRemove c.s ps ord)
  | _, _ => True

/-- `removeReservedPeers` started in state `s` with list `l` is harmless for the slot maxima: in
    reserved-only mode; or when its first peer is not reserved or, if connected, finds a free slot of its
    direction.  (Outside reserved-only mode `removeReservedPeers` returns after its first peer.) -/
def slotGuard (s : PS n) (l : List (Fin n)) : Prop :=
  s.ro = true ∨
  match l with
  | [] => True
  | p :: _ =>
    s.reserved p = false ∨
    nodeProp (s.nodes p) (fun nd =>
      (nd.st = .ingoing → s.numIn < s.maxIn) ∧ (nd.st = .outgoing → s.numOut < s.maxOut))

-- `slotGuard`, `rrSafe`, `safeRun` are decidable so that Props/C30 can show `safeRun` satisfiable by `decide`
instance (s : PS n) : (l : List (Fin n)) → Decidable (slotGuard s l)
  | [] => isTrue (Or.inr trivial)
  | _ :: _ => inferInstanceAs (Decidable (_ ∨ (_ ∨ _)))

/-- "removeReserved-safe": the `removeReservedPeers` that `op` runs from state `s`, if any, starts under `slotGuard` -/
def rrSafe (s : PS n) (op : Op n) (h : List (Msg n)) : Prop :=
  opGuard slotGuard op { s := clearFresh s, out := [], hint := h }

instance (s : PS n) (h : List (Msg n)) : (op : Op n) → Decidable (rrSafe s op h)
  | .removeReserved l => inferInstanceAs (Decidable (slotGuard _ l))
  | .setReserved _ _ => inferInstanceAs (Decidable (slotGuard _ _))
  | .addReserved _ => isTrue trivial
  | .addPeer _ => isTrue trivial
  | .removePeer _ => isTrue trivial
  | .report _ _ => isTrue trivial
  | .incoming _ => isTrue trivial
  | .disconnect _ => isTrue trivial
  | .disconnectRefused _ => isTrue trivial
  | .sortedPeers => isTrue trivial
  | .setReservedOnly => isTrue trivial
  | .tick => isTrue trivial
  | .adv _ _ => isTrue trivial

/-- the hypothesis under which the slot maxima are kept -/
def safeRun : PS n → List (Op n × List (Msg n)) → Prop
  | _, [] => True
  | s, (op, h) :: rest => rrSafe s op h ∧ safeRun (step s op h).1 rest

instance : (s : PS n) → (ops : List (Op n × List (Msg n))) → Decidable (safeRun s ops)
  | _, [] => isTrue trivial
  | s, (op, h) :: rest =>
    have : Decidable (safeRun (step s op h).1 rest) := instDecidableSafeRun (step s op h).1 rest
    inferInstanceAs (Decidable (_ ∧ _))

section reach
variable {K : Prop} {mi mo : Nat}

theorem free_of_guard (s : PS n) (p : Fin n)
    (h : nodeProp (s.nodes p) (fun nd =>
      (nd.st = .ingoing → s.numIn < s.maxIn) ∧ (nd.st = .outgoing → s.numOut < s.maxOut))) :
    Free s p (s.nodes p) false := by
  cases hnd : s.nodes p with
  | none => exact free_of_idle ⟨rfl, rfl⟩
  | some nd =>
    rw [hnd] at h
    refine ⟨fun e => .inr (h.1 ?_), fun e => .inr (h.2 ?_)⟩ <;> simpa [occ] using e

theorem removeReservedPeers_invX (hn : Fits n) (l : List (Fin n)) (c : Ctx n) (h : InvX K mi mo none c.s)
    (hG : K → slotGuard c.s l) : InvX K mi mo none (removeReservedPeers l c).1.s := by
  induction l generalizing c with
  | nil => exact h
  | cons p rest ih =>
    rw [removeReservedPeers]
    refine ite_closed (fun _ => h) (fun hres => ?_)
    have hro : _ = c.s.ro := removeNoSlotNode_ro { c.s with reserved := upd c.s.reserved p false } p
    have hcn : _ = conn c.s p := removeNoSlotNode_conn { c.s with reserved := upd c.s.reserved p false } p
    have herr : _ → conn c.s p = false := removeNoSlotNode_err { c.s with reserved := upd c.s.reserved p false } p
    -- after `removeNoSlotNode` the invariant holds if the peer, when connected, found a free slot;
    -- after the disconnect that follows in reserved-only mode it holds anyway
    have h1 := unreserve_invX hn h p
    have hdrop := unreserve_drop_invX hn h p
    simp only []
    generalize removeNoSlotNode { c.s with reserved := upd c.s.reserved p false } p = r at hro hcn herr h1 hdrop ⊢
    have hidle : conn c.s p = false → InvX K mi mo none r.1 := fun hc => h1 (fun _ => free_of_idle (occ_idle hc _))
    refine ite_closed (fun e => hidle (herr e)) (fun _ => ite_closed (fun hnro => h1 (fun k => ?_)) (fun hro' => ?_))
    · have hnro : c.s.ro = false := by simpa [hro] using hnro
      exact (hG k).elim (fun g => Bool.noConfusion (hnro.symm.trans g)) (fun g => g.elim
        (fun g0 => absurd (by rw [g0]; rfl) hres) (free_of_guard _ _))
    · have hro' : r.1.ro = true := by simpa using hro'
      refine ite_closed (fun _ => ?_) (fun hs => ih _ (hidle (hcn ▸ not_conn hs)) (fun _ => .inl hro'))
      exact ite_closed (fun _ => hdrop) (fun _ => ih _ hdrop (fun _ => .inl ((psDisconnect_ro _ p).trans hro')))

theorem applyOp_invX (hn : Fits n) (op : Op n) (c : Ctx n) (hI : InvX K mi mo none c.s)
    (hG : K → opGuard slotGuard op c) : InvX K mi mo none (applyOp op c).1.s := by
  cases op with
  | addReserved ps => exact addReservedPeers_invX hn ps c hI
  | removeReserved ps => exact removeReservedPeers_invX hn ps c hI hG
  | addPeer ps => exact addPeer_invX hn ps c hI
  | removePeer ps => exact removePeer_invX hn ps c hI
  | report v ps => exact (reportLoop_spec hn v ps _ (updateTime_invX hI) rfl).1
  | incoming ps => exact incomingLoop_invX hn ps _ (updateTime_invX hI)
  | disconnect ps => exact disconnectLoop_invX hn false ps _ (updateTime_invX hI)
  | disconnectRefused ps => exact disconnectLoop_invX hn true ps _ (updateTime_invX hI)
  | setReserved ps ord =>
    have ha := addReservedPeers_invX hn (toInsert c.s ps) c hI
    exact ite_closed (fun _ => ha) (fun _ => removeReservedPeers_invX hn _ _ ha hG)
  | sortedPeers => exact hI
  | setReservedOnly => exact hI
  | tick => exact allocSlots_invX hn hI
  | adv k mask => exact { hI with }

theorem step_invX (hn : Fits n) (s : PS n) (op : Op n) (h : List (Msg n)) (hI : InvX K mi mo none s)
    (hsafe : K → rrSafe s op h) : InvX K mi mo none (step s op h).1 :=
  applyOp_invX hn op _ (clearFresh_invX hI) hsafe

theorem run_invX (hn : Fits n) (s : PS n) (ops : List (Op n × List (Msg n))) (hI : InvX K mi mo none s)
    (hsafe : K → safeRun s ops) : InvX K mi mo none (run s ops) := by
  induction ops generalizing s with
  | nil => exact hI
  | cons o rest ih =>
    obtain ⟨op, h⟩ := o
    exact ih _ (step_invX hn s op h hI (fun k => (hsafe k).1)) (fun k => (hsafe k).2)

end reach

theorem run_inv (hn : Fits n) (s : PS n) (ops : List (Op n × List (Msg n))) (hI : Inv s) :
    Inv (run s ops) :=
  (run_invX hn s ops hI.toX False.elim).inv

theorem run_inv2 (hn : Fits n) (s : PS n) (ops : List (Op n × List (Msg n))) (hI : Inv s) (hS : SlotsOk s)
    (hsafe : safeRun s ops) :
    SlotsOk (run s ops) ∧ (run s ops).maxIn = s.maxIn ∧ (run s ops).maxOut = s.maxOut :=
  have h := run_invX (K := True) hn s ops { hI.toX with slots := fun _ => hS } (fun _ => hsafe)
  ⟨h.slots trivial, h.maxIn, h.maxOut⟩

theorem newPS_inv (maxIn maxOut : Nat) (ro : Bool) : Inv (newPS maxIn maxOut ro : PS n) := by
  constructor
  · show 0 = cntIn _
    unfold cntIn isInSlot newPS
    simp
  · show 0 = cntOut _
    unfold cntOut isOutSlot newPS
    simp
  · intro p nd h; simp [newPS] at h
  · intro p nd h; simp [newPS] at h
  · intro p h; simp [newPS] at h

theorem incomingLoop_banned (c : Ctx n) (p : Fin n) (hc : conn c.s p = false)
    (hb : repOf c.s p < bannedThreshold) :
    (incomingLoop [p] c).out = c.out ++ [.reject p] ∧ conn (incomingLoop [p] c).s p = false := by
  rw [incomingLoop]
  by_cases hro : (c.s.ro && !c.s.reserved p) = true
  · rw [if_pos hro]
    exact ⟨rfl, hc⟩
  · rw [if_neg hro]
    split
    · rename_i hst
      rw [(status_conn _ _).mp hst] at hc
      cases hc
    · -- `touch` and `insertPeer` leave the peer as it is: not connected, same reputation
      have h1 : conn (if status c.s p = .notConn then touch c.s p else insertPeer c.s p) p = false ∧
          repOf (if status c.s p = .notConn then touch c.s p else insertPeer c.s p) p < bannedThreshold := by
        split
        · rw [touch_conn, touch_repOf]; exact ⟨hc, hb⟩
        · rw [insertPeer_conn, insertPeer_repOf]; exact ⟨hc, hb⟩
      simp only []
      generalize (if status c.s p = .notConn then touch c.s p else insertPeer c.s p) = s2 at h1 ⊢
      rw [if_pos h1.2]
      exact ⟨rfl, h1.1⟩

theorem insertDesc_perm (s : PS n) (p : Fin n) (l : List (Fin n)) : (insertDesc s p l).Perm (p :: l) := by
  induction l with
  | nil => exact List.Perm.refl _
  | cons q l ih =>
    unfold insertDesc
    split
    · exact List.Perm.refl _
    · exact (List.Perm.cons q ih).trans (List.Perm.swap p q l)

theorem insertDesc_sorted (s : PS n) (p : Fin n) (l : List (Fin n))
    (h : l.Pairwise (fun a b => repOf s a ≥ repOf s b)) :
    (insertDesc s p l).Pairwise (fun a b => repOf s a ≥ repOf s b) := by
  induction l with
  | nil => simp [insertDesc]
  | cons q l ih =>
    unfold insertDesc
    rw [List.pairwise_cons] at h
    split
    · rename_i hge
      rw [List.pairwise_cons]
      refine ⟨?_, List.pairwise_cons.mpr h⟩
      intro a ha
      cases ha with
      | head => exact hge
      | tail _ ha => have := h.1 a ha; omega
    · rename_i hlt
      rw [List.pairwise_cons]
      refine ⟨?_, ih h.2⟩
      intro a ha
      have hm := (insertDesc_perm s p l).mem_iff.mp ha
      cases hm with
      | head => omega
      | tail _ hm => exact h.1 a hm

theorem sortedPeers_perm (s : PS n) : (sortedPeers s).Perm ((allPeers n).filter (conn s)) := by
  unfold sortedPeers
  induction (allPeers n).filter (conn s) with
  | nil => exact List.Perm.refl _
  | cons p l ih => exact (insertDesc_perm s p _).trans (List.Perm.cons p ih)

/-- **`sortedPeers`** returns exactly the connected peers, each once, by non-increasing reputation -/
theorem C30_sortedPeers (s : PS n) :
    (∀ p, p ∈ sortedPeers s ↔ conn s p = true) ∧ (sortedPeers s).Nodup ∧
    (sortedPeers s).Pairwise (fun a b => repOf s a ≥ repOf s b) := by
  refine ⟨?_, ?_, ?_⟩
  · intro p
    rw [(sortedPeers_perm s).mem_iff, List.mem_filter]
    simp [allPeers, List.mem_finRange]
  · rw [(sortedPeers_perm s).nodup_iff]
    exact (List.nodup_finRange n).filter _
  · unfold sortedPeers
    induction (allPeers n).filter (conn s) with
    | nil => simp
    | cons p l ih => exact insertDesc_sorted s p _ ih

end Gossamer.C30
