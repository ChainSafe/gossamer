import Gossamer.Lib.C21Tally
namespace Gossamer.C21

theorem validateVote_none {c : Cfg} {v : Vote} (h : validateVote c v = none) :
    v.blk < c.t.size ∧ c.fin ∈ c.t.chain v.blk ∧ (c.strict = true → v.num = c.number v.blk) := by
  unfold validateVote at h
  by_cases hs : c.t.size ≤ v.blk
  · rw [if_pos hs] at h; cases h
  rw [if_neg hs] at h
  by_cases hn : (c.strict && v.num != c.number v.blk) = true
  · rw [if_pos hn] at h; cases h
  rw [if_neg hn] at h
  refine ⟨Nat.lt_of_not_le hs, ?_, fun hst => ?_⟩
  · cases hd : isDesc c.t c.fin v.blk <;> rw [hd] at h <;> first | exact isDesc_yes_mem hd | cases h
  · rw [hst, Bool.true_and, bne_iff_ne, Decidable.not_not] at hn
    exact hn

/-- the message reaches the equivocation check and the store -/
structure Passes (c : Cfg) (m : Msg) : Prop where
  sig : m.sigOK = true
  set : m.mset = c.set
  round : m.mround = c.round
  voter : m.key ∈ c.voters
  notMe : m.key ≠ c.me
  vote : validateVote c ⟨m.blk, m.num⟩ = none

/-- how a vote message can change the votes `v` and the equivocators `e` of one stage; the count `x` stored for an
equivocator is left arbitrary: only the length of that map is ever read -/
inductive StageMove (c : Cfg) (m : Msg) (v : List (Nat × Vote)) (e : List (Nat × Nat)) :
    List (Nat × Vote) → List (Nat × Nat) → Prop
  | same : StageMove c m v e v e
  | again (x : Nat) : m.key ∈ keys e → StageMove c m v e v (aset e m.key x)
  | equivocate (x : Nat) : Passes c m → m.key ∉ keys e → StageMove c m v e (adel v m.key) (aset e m.key x)
  | store : Passes c m → m.key ∉ keys e → StageMove c m v e (aset v m.key ⟨m.blk, m.num⟩) e

/-- `checkAndReportEquivocation` and the store, for one stage; `k` builds the answer from the error and the stage's two maps -/
theorem stage_move {c : Cfg} {m : Msg} (hp : Passes c m) (v : List (Nat × Vote)) (e : List (Nat × Nat)) {β : Type}
    (k : Option Err → List (Nat × Vote) → List (Nat × Nat) → β) :
    ∃ err v' e', StageMove c m v e v' e' ∧
      (if ahas e m.key then k (some .equiv) v (aset e m.key ((aget e m.key).getD 0 + 1))
       else match aget v m.key with
        | some ev =>
          if ev.blk ≠ m.blk then k (some .equiv) (adel v m.key) (aset e m.key 2)
          else k none (aset v m.key ⟨m.blk, m.num⟩) e
        | none => k none (aset v m.key ⟨m.blk, m.num⟩) e) = k err v' e' := by
  by_cases he : ahas e m.key = true
  · rw [if_pos he]
    exact ⟨_, _, _, .again _ ((ahas_iff _ _).1 he), rfl⟩
  rw [if_neg he]
  have hke : m.key ∉ keys e := fun h => he ((ahas_iff _ _).2 h)
  cases aget v m.key with
  | none => exact ⟨_, _, _, .store hp hke, rfl⟩
  | some ev =>
    dsimp only
    by_cases hb : ev.blk ≠ m.blk
    · rw [if_pos hb]; exact ⟨_, _, _, .equivocate _ hp hke, rfl⟩
    · rw [if_neg hb]; exact ⟨_, _, _, .store hp hke, rfl⟩

theorem vvm_cases {c : Cfg} (s : St) (m : Msg) :
    (¬ Passes c m ∧ (validateVoteMessage c s m).1 ≠ none ∧
      (validateVoteMessage c s m).2.pv = s.pv ∧ (validateVoteMessage c s m).2.pc = s.pc ∧
      (validateVoteMessage c s m).2.pve = s.pve ∧ (validateVoteMessage c s m).2.pce = s.pce) ∨
    (Passes c m ∧
      StageMove c m s.pv s.pve (validateVoteMessage c s m).2.pv (validateVoteMessage c s m).2.pve ∧
      StageMove c m s.pc s.pce (validateVoteMessage c s m).2.pc (validateVoteMessage c s m).2.pce) := by
  generalize hr : validateVoteMessage c s m = r
  -- an exit before the store: an error, and a state that differs from `s` at most in the tracker
  have rej : ∀ (e : Err) (s' : St), (some e, s') = r → s'.pv = s.pv → s'.pc = s.pc → s'.pve = s.pve →
      s'.pce = s.pce → r.1 ≠ none ∧ r.2.pv = s.pv ∧ r.2.pc = s.pc ∧ r.2.pve = s.pve ∧ r.2.pce = s.pce := by
    intro e s' h h1 h2 h3 h4
    subst h
    exact ⟨nofun, h1, h2, h3, h4⟩
  unfold validateVoteMessage at hr
  by_cases h1 : (!m.sigOK) = true
  · rw [if_pos h1] at hr
    exact Or.inl ⟨fun hp => (by rw [hp.sig] at h1; cases h1), rej _ _ hr rfl rfl rfl rfl⟩
  rw [if_neg h1] at hr
  by_cases h2 : m.mset ≠ c.set
  · rw [if_pos h2] at hr
    exact Or.inl ⟨fun hp => h2 hp.set, rej _ _ hr rfl rfl rfl rfl⟩
  rw [if_neg h2] at hr
  by_cases h3 : m.mround < c.round - 1 ∨ c.round + 1 < m.mround
  · rw [if_pos h3] at hr
    exact Or.inl ⟨fun hp => (by have := hp.round; omega), rej _ _ hr rfl rfl rfl rfl⟩
  rw [if_neg h3] at hr
  by_cases h4 : m.mround < c.round
  · rw [if_pos h4] at hr
    exact Or.inl ⟨fun hp => Nat.ne_of_lt h4 hp.round, rej _ _ hr rfl rfl rfl rfl⟩
  rw [if_neg h4] at hr
  by_cases h5 : c.round < m.mround
  · rw [if_pos h5] at hr
    exact Or.inl ⟨fun hp => Nat.ne_of_gt h5 hp.round, rej _ _ hr rfl rfl rfl rfl⟩
  rw [if_neg h5] at hr
  by_cases h6 : m.key ∉ c.voters
  · rw [if_pos h6] at hr
    exact Or.inl ⟨fun hp => h6 hp.voter, rej _ _ hr rfl rfl rfl rfl⟩
  rw [if_neg h6] at hr
  by_cases h7 : m.key = c.me
  · rw [if_pos h7] at hr
    exact Or.inl ⟨fun hp => hp.notMe h7, rej _ _ hr rfl rfl rfl rfl⟩
  rw [if_neg h7] at hr
  cases hv : validateVote c ⟨m.blk, m.num⟩ with
  | some e =>
    simp only [hv] at hr
    have hn : ¬ Passes c m := fun hp => by rw [hp.vote] at hv; cases hv
    cases e <;> exact Or.inl ⟨hn, rej _ _ hr rfl rfl rfl rfl⟩
  | none =>
    have hp : Passes c m := ⟨by simpa using h1, Decidable.of_not_not h2,
      Nat.le_antisymm (Nat.not_lt.1 h5) (Nat.not_lt.1 h4), Decidable.of_not_not h6, h7, hv⟩
    refine Or.inr ⟨hp, ?_⟩
    simp only [hv] at hr
    -- the store: one stage moves, the other stays
    by_cases hs : isPvStage m.stage = true
    · obtain ⟨_, _, _, hm, he⟩ := stage_move hp s.pv s.pve fun err v' e' => (err, { s with pv := v', pve := e' })
      rw [if_pos hs] at hr
      cases he.symm.trans hr
      exact ⟨hm, .same⟩
    rw [if_neg hs] at hr
    by_cases hc : isPcStage m.stage = true
    · obtain ⟨_, _, _, hm, he⟩ := stage_move hp s.pc s.pce fun err v' e' => (err, { s with pc := v', pce := e' })
      rw [if_pos hc] at hr
      cases he.symm.trans hr
      exact ⟨.same, hm⟩
    · rw [if_neg hc] at hr; subst hr
      exact ⟨.same, .same⟩

theorem vvm_moves {c : Cfg} (s : St) (m : Msg) :
    StageMove c m s.pv s.pve (validateVoteMessage c s m).2.pv (validateVoteMessage c s m).2.pve ∧
    StageMove c m s.pc s.pce (validateVoteMessage c s m).2.pc (validateVoteMessage c s m).2.pce := by
  rcases vvm_cases s m with ⟨_, _, h1, h2, h3, h4⟩ | ⟨_, h⟩
  · rw [h1, h2, h3, h4]; exact ⟨.same, .same⟩
  · exact h

/-- the accounting of one stage: the keys with a stored vote and the equivocators are distinct, disjoint authorities, so
together at most `vs.length`.  `be` carries `k ≠ me`: the Service's own vote is stored without the equivocation check
(`ownVote`), which keeps `dis` only because `me` is in no equivocation map. -/
structure AccInv (vs : List Nat) (me : Nat) (votes : List (Nat × Vote)) (eq : List (Nat × Nat)) : Prop where
  nv : (keys votes).Nodup
  ne : (keys eq).Nodup
  dis : ∀ k ∈ keys votes, k ∉ keys eq
  bv : ∀ k ∈ keys votes, k ∈ vs
  be : ∀ k ∈ keys eq, k ∈ vs ∧ k ≠ me

theorem AccInv.nil (vs : List Nat) (me : Nat) : AccInv vs me [] [] :=
  ⟨List.nodup_nil, List.nodup_nil, nofun, nofun, nofun⟩

theorem AccInv.length_le {vs : List Nat} {me : Nat} {votes : List (Nat × Vote)} {eq : List (Nat × Nat)}
    (h : AccInv vs me votes eq) : votes.length + eq.length ≤ vs.length := by
  have hnd : (keys votes ++ keys eq).Nodup :=
    List.nodup_append.2 ⟨h.nv, h.ne, fun a ha b hb hab => h.dis a ha (hab ▸ hb)⟩
  have := hnd.length_le_of_subset fun x hx =>
    (List.mem_append.1 hx).elim (h.bv x) fun hx => (h.be x hx).1
  simpa [keys] using this

theorem AccInv.store {vs : List Nat} {me : Nat} {votes : List (Nat × Vote)} {eq : List (Nat × Nat)}
    (h : AccInv vs me votes eq) {k : Nat} (v : Vote) (hk : k ∈ vs) (hke : k ∉ keys eq) :
    AccInv vs me (aset votes k v) eq :=
  ⟨nodup_keys_aset k v h.nv, h.ne, fun x hx => (mem_keys_aset.1 hx).elim (· ▸ hke) (h.dis x),
    fun x hx => (mem_keys_aset.1 hx).elim (· ▸ hk) (h.bv x), h.be⟩

theorem AccInv.del {vs : List Nat} {me : Nat} {votes : List (Nat × Vote)} {eq : List (Nat × Nat)}
    (h : AccInv vs me votes eq) (k : Nat) : AccInv vs me (adel votes k) eq := by
  have hsub : ∀ x ∈ keys (adel votes k), x ∈ keys votes := fun x hx => by
    rw [keys_adel] at hx; exact (List.mem_filter.1 hx).1
  exact ⟨keys_adel votes k ▸ h.nv.sublist List.filter_sublist, h.ne, fun x hx => h.dis x (hsub x hx),
    fun x hx => h.bv x (hsub x hx), h.be⟩

theorem AccInv.setEq {vs : List Nat} {me : Nat} {votes : List (Nat × Vote)} {eq : List (Nat × Nat)}
    (h : AccInv vs me votes eq) {k : Nat} (x : Nat) (hk : k ∈ vs) (hme : k ≠ me) (hkv : k ∉ keys votes) :
    AccInv vs me votes (aset eq k x) :=
  ⟨h.nv, nodup_keys_aset k x h.ne,
    fun a ha hq => (mem_keys_aset.1 hq).elim (fun e => hkv (e ▸ ha)) (h.dis a ha), h.bv,
    fun a ha => (mem_keys_aset.1 ha).elim (· ▸ ⟨hk, hme⟩) (h.be a)⟩

theorem AccInv.move {c : Cfg} {m : Msg} {v v' : List (Nat × Vote)} {e e' : List (Nat × Nat)}
    (h : AccInv c.voters c.me v e) (hm : StageMove c m v e v' e') : AccInv c.voters c.me v' e' := by
  cases hm with
  | same => exact h
  | again x hk => exact h.setEq x (h.be _ hk).1 (h.be _ hk).2 fun hv => h.dis _ hv hk
  | equivocate x hp hk =>
    refine (h.del m.key).setEq x hp.voter hp.notMe fun hv => ?_
    rw [keys_adel] at hv
    simpa using (List.mem_filter.1 hv).2
  | store hp hk => exact h.store _ hp.voter hk

theorem GoodVotes.move {c : Cfg} {m : Msg} {v v' : List (Nat × Vote)} {e e' : List (Nat × Nat)}
    (h : GoodVotes c v) (hm : StageMove c m v e v' e') (hnum : c.strict = true ∨ m.num = c.number m.blk) :
    GoodVotes c v' := by
  cases hm with
  | same => exact h
  | again => exact h
  | equivocate => exact fun kv hkv => h kv (List.mem_filter.1 hkv).1
  | store hp =>
    obtain ⟨hk, hf, hn⟩ := validateVote_none hp.vote
    exact h.aset _ ⟨hk, hf, hnum.elim hn id⟩

theorem step_acc {c : Cfg} {s : St} (hme : c.me ∈ c.voters)
    (h : AccInv c.voters c.me s.pv s.pve ∧ AccInv c.voters c.me s.pc s.pce) (op : Op) :
    AccInv c.voters c.me (step c s op).pv (step c s op).pve ∧
      AccInv c.voters c.me (step c s op).pc (step c s op).pce := by
  cases op with
  | msg m => exact ⟨h.1.move (vvm_moves s m).1, h.2.move (vvm_moves s m).2⟩
  | own stage b =>
    simp only [step, ownVote]
    by_cases hst : stage = 0
    · rw [if_pos hst]
      exact ⟨h.1.store _ hme fun hk => (h.1.be _ hk).2 rfl, h.2⟩
    · rw [if_neg hst]
      exact ⟨h.1, h.2.store _ hme fun hk => (h.2.be _ hk).2 rfl⟩

end Gossamer.C21
