/-
`getBestFinalCandidate` – every selected block with a precommit supermajority stands for its common
ancestor with the pre-voted block (`candOf`), and the candidate is the highest of these, or the pre-voted block
when nothing is selected.  With at most one third of the authorities equivocating in their precommits this is the
closed form `bfcOf`, whatever the iteration orders.
-/
import Gossamer.Lib.C21Ghost
namespace Gossamer.C21

/-- the block on the chain of `p` a selected block `h` stands for -/
def candOf (c : Cfg) (p h : Nat) : Nat := (lca c.t h p).getD h

theorem lca_candOf {c : Cfg} (hw : c.t.WF) {p h : Nat} (hp : p < c.t.size) (hh : h < c.t.size) :
    lca c.t h p = some (candOf c p h) := by
  obtain ⟨x, hx, _⟩ := lca_exists hw h p hh hp
  rw [candOf, hx]
  rfl

theorem candOf_isLca {c : Cfg} (hw : c.t.WF) {p h : Nat} (hp : p < c.t.size) (hh : h < c.t.size) :
    IsLca c.t h p (candOf c p h) := lca_isLca hw (lca_candOf hw hp hh)

theorem bfcStep_eq {c : Cfg} (hw : c.t.WF) {p v : Vote} (hp : p.blk < c.t.size) {q : Nat × Nat}
    (hq : q.1 < c.t.size) (hqn : q.2 = c.number q.1) :
    bfcStep c p (.ok v) q =
      if v.num < c.number (candOf c p.blk q.1) then .ok (c.voteOf (candOf c p.blk q.1)) else .ok v := by
  have hl := lca_candOf hw hp hq
  obtain ⟨q1, q2⟩ := q
  dsimp only at hq hqn hl ⊢
  subst hqn
  generalize candOf c p.blk q1 = x at hl ⊢
  unfold bfcStep
  rw [isDesc_of_known hq hp]
  by_cases hm : q1 ∈ c.t.chain p.blk
  · rw [lca_eq_left hw hq hp hm] at hl
    cases hl
    rw [if_pos hm]
    rfl
  · rw [if_neg hm, hl]
    rfl

theorem bfcFold_max {c : Cfg} (hw : c.t.WF) {p : Vote} (hp : p.blk < c.t.size) :
    ∀ (L : List (Nat × Nat)) (v : Vote), (∀ q ∈ L, q.1 < c.t.size ∧ q.2 = c.number q.1) →
    ∃ v', L.foldl (bfcStep c p) (.ok v) = .ok v' ∧ v.num ≤ v'.num ∧
      (∀ q ∈ L, c.number (candOf c p.blk q.1) ≤ v'.num) ∧
      (v' = v ∨ ∃ q ∈ L, v' = c.voteOf (candOf c p.blk q.1)) := by
  intro L
  induction L with
  | nil => intro v _; exact ⟨v, rfl, Nat.le_refl _, nofun, Or.inl rfl⟩
  | cons q rest ih =>
    intro v hq
    obtain ⟨hq1, hrest⟩ := List.forall_mem_cons.1 hq
    rw [List.foldl_cons, bfcStep_eq hw hp hq1.1 hq1.2]
    by_cases hlt : v.num < c.number (candOf c p.blk q.1)
    · rw [if_pos hlt]
      obtain ⟨v', hf, hle, hall, hsrc⟩ := ih (c.voteOf (candOf c p.blk q.1)) hrest
      refine ⟨v', hf, Nat.le_trans (Nat.le_of_lt hlt) hle, List.forall_mem_cons.2 ⟨hle, hall⟩, Or.inr ?_⟩
      rcases hsrc with h | ⟨q', hq', h⟩
      · exact ⟨q, List.mem_cons_self, h⟩
      · exact ⟨q', List.mem_cons_of_mem _ hq', h⟩
    · rw [if_neg hlt]
      obtain ⟨v', hf, hle, hall, hsrc⟩ := ih v hrest
      refine ⟨v', hf, hle, List.forall_mem_cons.2 ⟨Nat.le_trans (Nat.le_of_not_lt hlt) hle, hall⟩, ?_⟩
      exact hsrc.imp_right fun ⟨q', hq', h⟩ => ⟨q', List.mem_cons_of_mem _ hq', h⟩

theorem gbfc_ok {c : Cfg} (hw : c.t.WF) {s : St} (hgv : GoodVotes c s.pv) (hgc : GoodVotes c s.pc)
    {o : Ord} (ho : o.Valid) {b : Vote} (h : getBestFinalCandidate c o s = .ok b) :
    ∃ p sel, getPreVotedBlock c (o.sub 0) s = .ok p ∧ p.blk ∈ pvbSet c s ∧ p = c.voteOf p.blk ∧
      p.blk < c.t.size ∧ PsbChar c s.pc s.pce.length (thr c.n) sel ∧
      ((sel = [] ∧ b = p) ∨
       ∃ q ∈ sel, b = c.voteOf (candOf c p.blk q.1) ∧
         ∀ q' ∈ sel, c.number (candOf c p.blk q'.1) ≤ c.number (candOf c p.blk q.1)) := by
  unfold getBestFinalCandidate at h
  cases hp : getPreVotedBlock c (o.sub 0) s with
  | error e => rw [hp] at h; cases h
  | ok p =>
    rw [hp] at h
    obtain ⟨hpm, hpv⟩ := (gpv_closed_form hw hgv (ho.sub 0)).1 p hp
    have hpk : p.blk < c.t.size := pvbSet_known hgv.known hpm
    have hchar := psb_char hw hgc (ho.sub 1) s.pce.length (thr c.n)
    refine ⟨p, _, rfl, hpm, hpv, hpk, hchar, ?_⟩
    simp only [bind, Except.bind] at h
    by_cases hb : (psb c (o.sub 1) s.pc s.pce.length (thr c.n)).isEmpty = true
    · rw [if_pos hb] at h
      exact Or.inl ⟨List.isEmpty_iff.1 hb, (Except.ok.inj h).symm⟩
    rw [if_neg hb] at h
    have hperm := (ho [2]).2.2 (psb c (o.sub 1) s.pc s.pce.length (thr c.n))
    obtain ⟨v', hf, _, hall, hsrc⟩ := bfcFold_max hw hpk _ ⟨c.genesis, 0⟩ fun q hq =>
      ⟨hchar.ok.known (hperm.mem_iff.1 hq), hchar.ok.num (hperm.mem_iff.1 hq)⟩
    rw [hf] at h
    cases h
    obtain ⟨q, hq, hbq⟩ : ∃ q ∈ psb c (o.sub 1) s.pc s.pce.length (thr c.n),
        b = c.voteOf (candOf c p.blk q.1) := by
      rcases hsrc with hgen | ⟨q, hq, hbq⟩
      · -- still (genesis, 0): every candidate has number 0, so it is the root, which then is the genesis block
        obtain ⟨q0, hq0⟩ := List.exists_mem_of_ne_nil _ fun hn => hb (List.isEmpty_iff.2 hn)
        have h0 := hall q0 (hperm.mem_iff.2 hq0)
        rw [hgen] at h0
        have hb0 : c.base = 0 := Nat.eq_zero_of_add_eq_zero_right (Nat.le_zero.1 h0)
        have hc0 := (Tree.upChain hw).depth_eq_zero_iff.1 (Nat.eq_zero_of_add_eq_zero_left (Nat.le_zero.1 h0))
        refine ⟨q0, hq0, ?_⟩
        rw [hgen, hc0, Cfg.voteOf, Cfg.number, Cfg.genesis, if_pos hb0, hb0]
        rfl
      · exact ⟨q, hperm.mem_iff.1 hq, hbq⟩
    subst hbq
    exact Or.inr ⟨q, hq, rfl, fun q' hq' => hall q' (hperm.mem_iff.2 hq')⟩

theorem bfcOf_eq {c : Cfg} (hw : c.t.WF) {s : St} {p h0 : Nat} (hp : p < c.t.size) (hk : KnownVotes c.t s.pc)
    (h0m : h0 ∈ cands c s.pc s.pce.length (thr c.n))
    (hmax : ∀ h ∈ cands c s.pc s.pce.length (thr c.n), c.t.depth (candOf c p h) ≤ c.t.depth (candOf c p h0)) :
    bfcOf c s p = candOf c p h0 := by
  have hon : (cands c s.pc s.pce.length (thr c.n)).filterMap
      (fun h => if c.t.le h p then some h else lca c.t h p) =
      (cands c s.pc s.pce.length (thr c.n)).map (candOf c p) := by
    refine filterMap_eq_map_of fun h hh => ?_
    have hh := (mem_cands_super hk hh).1
    by_cases hl : c.t.le h p = true
    · rw [if_pos hl, candOf, lca_eq_left hw hh hp (Tree.le_iff.1 hl)]; rfl
    · rw [if_neg hl, lca_candOf hw hp hh]
  unfold bfcOf
  simp only [List.isEmpty_eq_false_iff.2 (List.ne_nil_of_mem h0m), Bool.false_eq_true, if_false, hon]
  have hx := List.mem_map_of_mem (f := candOf c p) h0m
  cases hmd : maxDepth c.t ((cands c s.pc s.pce.length (thr c.n)).map (candOf c p)) with
  | nil =>
    refine absurd (hmd ▸ mem_maxDepth.2 ⟨hx, fun y hy => ?_⟩) List.not_mem_nil
    obtain ⟨h, hh, rfl⟩ := List.mem_map.1 hy
    exact hmax h hh
  | cons y rest =>
    obtain ⟨hyon, hymax⟩ := mem_maxDepth.1 (hmd ▸ List.mem_cons_self (a := y) (l := rest))
    obtain ⟨h, hh, rfl⟩ := List.mem_map.1 hyon
    exact (Tree.upChain hw).depth_inj (candOf_isLca hw hp (mem_cands_super hk hh).1).right
      (candOf_isLca hw hp (mem_cands_super hk h0m).1).right
      (Nat.le_antisymm (hmax h hh) (hymax _ hx))

/-- `getBestFinalCandidate` in closed form, for every iteration order, when the precommitting authorities are distinct
(`hacc`) and at most one third of them equivocated (`he`) -/
theorem gbfc_closed {c : Cfg} (hw : c.t.WF) {s : St} (hgv : GoodVotes c s.pv) (hgc : GoodVotes c s.pc)
    {o : Ord} (ho : o.Valid) (hacc : s.pc.length + s.pce.length ≤ c.n) (he : 3 * s.pce.length ≤ c.n)
    {b : Vote} (h : getBestFinalCandidate c o s = .ok b) :
    ∃ p ∈ pvbSet c s, b = c.voteOf (bfcOf c s p) := by
  obtain ⟨p, sel, _, hpm, hpv, hpk, hchar, hcase⟩ := gbfc_ok hw hgv hgc ho h
  refine ⟨p.blk, hpm, ?_⟩
  have r := selRel_of_char hchar
  rcases hcase with ⟨hb, rfl⟩ | ⟨q, hqs, rfl, hall⟩
  · rw [bfcOf, r.nil_iff.1 hb]
    exact hpv
  refine congrArg c.voteOf (bfcOf_eq hw hpk hgc.known (r.sub q hqs) fun h' hh' => ?_).symm
  obtain ⟨hh's, hh't⟩ := mem_cands_super hgc.known hh'
  obtain ⟨q', hq', hd⟩ := r.dom h' hh'
  obtain ⟨hq's, hq't⟩ := mem_cands_super hgc.known (r.sub q' hq')
  -- `h'` is not deeper than the selected `q'`, and on one chain with it: it is an ancestor
  have hanc : h' ∈ c.t.chain q'.1 := by
    rcases super_comparable hw hgc.known hacc he hh's hq's hh't hq't with hc | hc
    · exact hc
    · by_cases hne : q'.1 = h'
      · exact hne ▸ c.t.mem_chain_self _
      · exact absurd ((Tree.upChain hw).depth_lt hc hne) (Nat.not_lt.2 hd)
  have h1 := (Tree.upChain hw).depth_le
    (lca_mono hw hanc (lca_candOf hw hpk hh's) (lca_candOf hw hpk hq's))
  exact Nat.le_trans h1 (Nat.le_of_add_le_add_left (hall q' hq'))

/-- the exits of `attemptToFinalize` that answer: the decision is taken on the candidate of
`retrieveBestFinalCandidate`, the block finalised is the candidate `finalise` computes again -/
theorem attemptToFinalize_ok {c : Cfg} {o : Ord} {s : St} {r : Fin} (h : attemptToFinalize c o s = .ok r) :
    ∃ b1, getBestFinalCandidate c (o.sub 0) s = .ok b1 ∧
      ((r = .no ∧ pcTotal c s b1.blk ≤ thr c.n) ∨
       (thr c.n < pcTotal c s b1.blk ∧ ∃ b2, getBestFinalCandidate c (o.sub 1) s = .ok b2 ∧
         r = .yes b2.blk ∧ b2.blk < c.t.size)) := by
  unfold attemptToFinalize at h
  cases h1 : getBestFinalCandidate c (o.sub 0) s with
  | error e => rw [h1] at h; cases h
  | ok b1 =>
    refine ⟨b1, rfl, ?_⟩
    rw [h1] at h
    simp only [bind, Except.bind] at h
    by_cases hbef : b1.num < c.headNum
    · rw [if_pos hbef] at h; cases h
    rw [if_neg hbef] at h
    by_cases hcount : pcTotal c s b1.blk ≤ thr c.n
    · rw [if_pos hcount] at h
      exact Or.inl ⟨(Except.ok.inj h).symm, hcount⟩
    rw [if_neg hcount] at h
    refine Or.inr ⟨Nat.lt_of_not_le hcount, ?_⟩
    cases h2 : getBestFinalCandidate c (o.sub 1) s with
    | error e => rw [h2] at h; cases h
    | ok b2 =>
      rw [h2] at h
      cases h3 : getPreVotedBlock c (o.sub 2) s with
      | error e => rw [h3] at h; cases h
      | ok pv3 =>
        rw [h3] at h
        simp only at h
        by_cases hj : (justErr c b2.blk s.pv || justErr c b2.blk s.pc) = true
        · rw [if_pos hj] at h; cases h
        rw [if_neg hj] at h
        by_cases hsz : c.t.size ≤ b2.blk
        · rw [if_pos hsz] at h; cases h
        rw [if_neg hsz] at h
        exact ⟨b2, rfl, (Except.ok.inj h).symm, Nat.lt_of_not_le hsz⟩

end Gossamer.C21
