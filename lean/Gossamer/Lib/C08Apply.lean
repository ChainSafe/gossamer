/-
C08: what `applyToTrie` over the ideal backend computes, phase by phase (1: main upserts, 2: child
change sets, 3: deletions), as pointwise lookups — for ANY iteration order of the three maps (only
distinct keys are assumed).
-/
import Gossamer.Lib.C08Ideal
import Gossamer.Lib.C08KeyLists
namespace Gossamer.C08
open Gossamer

theorem wf_upsertMain {l : Logical} (h : l.WF) {k : Bytes} (hk : Logical.isChildKey k = false)
    (v : Bytes) : ({ l with main := OMap.upsert k v l.main } : Logical).WF :=
  ⟨OMap.sorted_upsert _ _ h.main, fun k' hk' => by
    rw [OMap.get_upsert, if_neg (ne_of_true_of_false hk' hk), h.noChild k' hk'],
    h.kids, h.kid⟩

/-- `Delete`, `ClearPrefix` and the limited removals on main storage -/
theorem wf_filterMain {l : Logical} (h : l.WF) (q : Bytes × Bytes → Bool) :
    ({ l with main := l.main.filter q } : Logical).WF :=
  ⟨OMap.sorted_filter q h.main, fun k hk => OMap.get_filter_none q (h.noChild k hk),
    h.kids, h.kid⟩

theorem wf_putMain {l : Logical} (h : l.WF) (kv : Bytes × Bytes) : (putMain l kv).WF := by
  unfold putMain
  split
  · exact h
  · rename_i hc
    exact wf_upsertMain h (Bool.eq_false_iff.mpr hc) kv.2

theorem get_putMain (l : Logical) (kv : Bytes × Bytes) (k : Bytes) :
    OMap.get k (putMain l kv).main =
      if k = kv.1 then (if Logical.isChildKey kv.1 then OMap.get k l.main else some kv.2)
      else OMap.get k l.main := by
  unfold putMain
  split
  · exact (ite_self _).symm
  · exact OMap.get_upsert ..

theorem kids_putMain (l : Logical) (kv : Bytes × Bytes) : (putMain l kv).kids = l.kids := by
  unfold putMain; split <;> rfl

theorem upsert_ne_nil (k v : Bytes) (es : Entries) : OMap.upsert k v es ≠ [] := fun h => by
  have := OMap.get_upsert k v es k
  rw [h, if_pos rfl] at this
  cases this

theorem kidOf_setKid (l : Logical) (ck : Bytes) (es : Entries) (ck' : Bytes) :
    kidOf (Logical.setKid l ck es) ck' = if ck' = ck then es else kidOf l ck' := by
  unfold Logical.setKid kidOf
  by_cases he : es.isEmpty = true
  · simp only [he, if_true, KMap.find_del]
    by_cases h : ck' = ck
    · have : es = [] := by simpa using he
      simp [h, this]
    · simp [h]
  · simp only [he, Bool.false_eq_true, if_false, KMap.find_ins]
    by_cases h : ck' = ck <;> simp [h]

/-- `DeleteChild` -/
theorem wf_delKid {l : Logical} (h : l.WF) (ck : Bytes) :
    ({ l with kids := KMap.del ck l.kids } : Logical).WF :=
  ⟨h.main, h.noChild, KMap.sorted_del _ h.kids,
    fun ck' es' hf => h.kid ck' es' (KMap.find_del_some hf)⟩

theorem wf_setKid {l : Logical} (h : l.WF) (ck : Bytes) (es : Entries) (hs : OMap.Sorted es) :
    (Logical.setKid l ck es).WF := by
  unfold Logical.setKid
  split
  · exact wf_delKid h ck
  · rename_i he
    refine ⟨h.main, h.noChild, KMap.sorted_ins _ _ h.kids, fun ck' es' hf => ?_⟩
    rcases KMap.find_ins_some hf with ⟨_, rfl⟩ | hf
    · exact ⟨hs, by simpa using he⟩
    · exact h.kid ck' es' hf

theorem main_setKid (l : Logical) (ck : Bytes) (es : Entries) : (Logical.setKid l ck es).main = l.main := by
  unfold Logical.setKid; split <;> rfl

/-! Both child writes of `applyToTrie` replace the map of one child: `PutIntoChild` by the map with
one more entry, `ClearFromChild` (its error ignored) by the map with one entry less. -/

theorem putIntoChild_eq_setKid (l : Logical) (ck k : Bytes) (v : Option Bytes) :
    Logical.putIntoChild l ck k v = Logical.setKid l ck (OMap.upsert k (v.getD []) (kidOf l ck)) := by
  have : (OMap.upsert k (v.getD []) (kidOf l ck)).isEmpty = false := by
    cases h : OMap.upsert k (v.getD []) (kidOf l ck) with
    | nil => exact absurd h (upsert_ne_nil _ _ _)
    | cons _ _ => rfl
  unfold Logical.setKid
  rw [this]
  rfl

theorem setKid_nil_missing {l : Logical} {ck : Bytes} (h : KMap.find ck l.kids = none) :
    Logical.setKid l ck [] = l := by
  show ({ l with kids := KMap.del ck l.kids } : Logical) = l
  rw [KMap.del_of_find_none h]

/-- `ClearFromChild` with its error ignored (as `applyToTrie` does) -/
theorem clearFromChild_getD (l : Logical) (ck k : Bytes) :
    (Logical.clearFromChild l ck k).getD l = Logical.setKid l ck (OMap.erase k (kidOf l ck)) := by
  unfold Logical.clearFromChild
  cases hf : KMap.find ck l.kids with
  | none => rw [kidOf_none hf]; exact (setKid_nil_missing hf).symm
  | some es => rw [kidOf_some hf]; rfl

theorem phase1_kids (ups : List (Bytes × Bytes)) (b : Logical) :
    (ups.foldl putMain b).kids = b.kids :=
  foldl_pres (fun l => l.kids = b.kids) putMain (fun l e h => (kids_putMain l e).trans h) ups rfl

theorem phase1_kid (ups : List (Bytes × Bytes)) (b : Logical) (ck : Bytes) :
    kidOf (ups.foldl putMain b) ck = kidOf b ck := by
  unfold kidOf; rw [phase1_kids]

theorem phase1_wf (ups : List (Bytes × Bytes)) {b : Logical} (h : b.WF) :
    (ups.foldl putMain b).WF :=
  foldl_pres Logical.WF putMain (fun _ e h => wf_putMain h e) ups h

theorem phase1_get (ups : List (Bytes × Bytes)) (hn : AList.NodupKeys ups) (b : Logical) (k : Bytes) :
    OMap.get k (ups.foldl putMain b).main =
      if Logical.isChildKey k then OMap.get k b.main
      else ov (KMap.find k ups) (OMap.get k b.main) := by
  rw [look_foldl_ins (fun l x => OMap.get x l.main) putMain
    (fun a old => if Logical.isChildKey a.1 then old else some a.2) KMap.find_lookup
    get_putMain ups hn b k]
  cases KMap.find k ups <;> by_cases hc : Logical.isChildKey k = true <;> simp [hc]

section
variable {α : Type} (ck : Bytes) (f : α → Entries → Entries)

theorem kid_foldl_setKid (as : List α) (l : Logical) (ck' : Bytes) :
    kidOf (as.foldl (fun l a => Logical.setKid l ck (f a (kidOf l ck))) l) ck' =
      if ck' = ck then as.foldl (fun es a => f a es) (kidOf l ck) else kidOf l ck' := by
  induction as generalizing l with
  | nil =>
    split
    · rename_i h; rw [h]; rfl
    · rfl
  | cons a r ih =>
    rw [List.foldl_cons, List.foldl_cons, ih, kidOf_setKid, if_pos rfl]
    split
    · rfl
    · rename_i h; rw [kidOf_setKid, if_neg h]

theorem wf_foldl_setKid (hf : ∀ a es, OMap.Sorted es → OMap.Sorted (f a es)) (as : List α)
    {l : Logical} (h : l.WF) :
    (as.foldl (fun l a => Logical.setKid l ck (f a (kidOf l ck))) l).WF :=
  foldl_pres Logical.WF _ (fun _ a h => wf_setKid h ck _ (hf a _ (kidOf_sorted h ck))) as h

theorem main_foldl_setKid (as : List α) (l : Logical) :
    (as.foldl (fun l a => Logical.setKid l ck (f a (kidOf l ck))) l).main = l.main :=
  foldl_pres (fun s => s.main = l.main) _ (fun s _ h => (main_setKid s ck _).trans h) as rfl

end

theorem applyKidI_eq (l : Logical) (e : Bytes × List (Bytes × Bytes) × List Bytes) :
    applyKidI l e =
      e.2.2.foldl (fun l k => Logical.setKid l e.1 (OMap.erase k (kidOf l e.1)))
        (e.2.1.foldl (fun l kv => Logical.setKid l e.1 (OMap.upsert kv.1 kv.2 (kidOf l e.1))) l) := by
  have e1 : (fun l k => (Logical.clearFromChild l e.1 k).getD l) =
      fun l k => Logical.setKid l e.1 (OMap.erase k (kidOf l e.1)) :=
    funext fun l => funext fun k => clearFromChild_getD l e.1 k
  have e2 : (fun l (kv : Bytes × Bytes) => Logical.putIntoChild l e.1 kv.1 (some kv.2)) =
      fun l kv => Logical.setKid l e.1 (OMap.upsert kv.1 kv.2 (kidOf l e.1)) :=
    funext fun l => funext fun kv => putIntoChild_eq_setKid l e.1 kv.1 (some kv.2)
  unfold applyKidI
  rw [e1, e2]

theorem wf_applyKidI {l : Logical} (h : l.WF) (e : Bytes × List (Bytes × Bytes) × List Bytes) :
    (applyKidI l e).WF := by
  rw [applyKidI_eq]
  exact wf_foldl_setKid _ _ (fun _ _ => OMap.sorted_erase _) _
    (wf_foldl_setKid _ _ (fun _ _ => OMap.sorted_upsert _ _) _ h)

theorem main_applyKidI (l : Logical) (e : Bytes × List (Bytes × Bytes) × List Bytes) :
    (applyKidI l e).main = l.main := by
  rw [applyKidI_eq, main_foldl_setKid, main_foldl_setKid]

theorem kidOf_applyKidI (l : Logical) (e : Bytes × List (Bytes × Bytes) × List Bytes) (ck : Bytes) :
    kidOf (applyKidI l e) ck =
      if ck = e.1 then
        e.2.2.foldl (fun es d => OMap.erase d es)
          (e.2.1.foldl (fun es kv => OMap.upsert kv.1 kv.2 es) (kidOf l ck))
      else kidOf l ck := by
  rw [applyKidI_eq, kid_foldl_setKid]
  split
  · rename_i h; rw [kid_foldl_setKid, if_pos rfl, h]
  · rename_i h; rw [kid_foldl_setKid, if_neg h]

theorem phase2_wf (ks : List (Bytes × List (Bytes × Bytes) × List Bytes)) {l : Logical} (h : l.WF) :
    (ks.foldl applyKidI l).WF :=
  foldl_pres Logical.WF applyKidI (fun _ e h => wf_applyKidI h e) ks h

theorem phase2_main (ks : List (Bytes × List (Bytes × Bytes) × List Bytes)) (l : Logical) :
    (ks.foldl applyKidI l).main = l.main :=
  foldl_pres (fun s => s.main = l.main) applyKidI (fun s e h => (main_applyKidI s e).trans h) ks rfl

theorem phase2_kid (ks : List (Bytes × List (Bytes × Bytes) × List Bytes)) (hn : AList.NodupKeys ks)
    (l : Logical) (ck : Bytes) :
    kidOf (ks.foldl applyKidI l) ck =
      match KMap.find ck ks with
      | some c =>
        c.2.foldl (fun es d => OMap.erase d es)
          (c.1.foldl (fun es kv => OMap.upsert kv.1 kv.2 es) (kidOf l ck))
      | none => kidOf l ck := by
  rw [look_foldl_ins kidOf applyKidI
    (fun e es => e.2.2.foldl (fun es d => OMap.erase d es)
      (e.2.1.foldl (fun es kv => OMap.upsert kv.1 kv.2 es) es))
    KMap.find_lookup kidOf_applyKidI ks hn l ck]
  cases KMap.find ck ks <;> rfl

theorem phase2_get (ks : List (Bytes × List (Bytes × Bytes) × List Bytes)) (hn : AList.NodupKeys ks)
    (hu : ∀ e ∈ ks, AList.NodupKeys e.2.1) (l : Logical) (ck k : Bytes) :
    OMap.get k (kidOf (ks.foldl applyKidI l) ck) =
      match KMap.find ck ks with
      | some c => if k ∈ c.2 then none else ov (KMap.find k c.1) (OMap.get k (kidOf l ck))
      | none => OMap.get k (kidOf l ck) := by
  rw [phase2_kid ks hn]
  cases hf : KMap.find ck ks with
  | none => rfl
  | some c =>
    show OMap.get k (c.2.foldl _ (c.1.foldl _ _)) = _
    rw [get_foldl_erase, get_foldl_upsert_distinct _ (hu (ck, c) (KMap.find_some_mem hf))]

theorem wf_applyDelI {l : Logical} (h : l.WF) (d : Bytes) : (applyDelI l d).WF := by
  unfold applyDelI
  cases hf : KMap.find d l.kids with
  | some es => exact wf_delKid h d
  | none =>
    simp only []
    split
    · exact h
    · exact wf_filterMain h _

theorem kidOf_applyDelI (l : Logical) (d ck : Bytes) :
    kidOf (applyDelI l d) ck = if ck = d then [] else kidOf l ck := by
  unfold applyDelI
  cases hf : KMap.find d l.kids with
  | some es =>
    simp only [kidOf, KMap.find_del]
    by_cases hck : ck = d <;> simp [hck]
  | none =>
    simp only []
    by_cases hck : ck = d
    · subst hck
      split <;> simp [kidOf, hf]
    · split <;> simp only [kidOf]

theorem main_applyDelI {l : Logical} (h : l.WF) (d k : Bytes) :
    OMap.get k (applyDelI l d).main =
      if k = d ∧ kidOf l d = [] ∧ Logical.isChildKey d = false then none
      else OMap.get k l.main := by
  unfold applyDelI
  cases hf : KMap.find d l.kids with
  | some es =>
    have hne : kidOf l d ≠ [] := fun e => by
      rw [kidOf_nil_iff h d] at e; rw [hf] at e; cases e
    simp [hne]
  | none =>
    have hnil : kidOf l d = [] := (kidOf_nil_iff h d).mpr hf
    simp only [hnil, true_and]
    by_cases hc : Logical.isChildKey d = true
    · simp [hc]
    · have hc' : Logical.isChildKey d = false := Bool.eq_false_iff.mpr hc
      simp only [hc', Bool.false_eq_true, if_false, OMap.get_erase, and_true]

theorem phase3_wf (ds : List Bytes) {l : Logical} (h : l.WF) : (ds.foldl applyDelI l).WF :=
  foldl_pres Logical.WF applyDelI (fun _ d h => wf_applyDelI h d) ds h

theorem phase3_kid (ds : List Bytes) (l : Logical) (ck : Bytes) :
    kidOf (ds.foldl applyDelI l) ck = if ck ∈ ds then [] else kidOf l ck :=
  look_foldl_del kidOf applyDelI [] kidOf_applyDelI ds l ck

/-- a deleted string removes the main key only if it names no child trie at that moment (`applyDelI`) -/
theorem phase3_main (ds : List Bytes) (hn : ds.Nodup) {l : Logical} (h : l.WF) (k : Bytes) :
    OMap.get k (ds.foldl applyDelI l).main =
      if k ∈ ds ∧ kidOf l k = [] ∧ Logical.isChildKey k = false then none
      else OMap.get k l.main := by
  induction ds generalizing l with
  | nil => simp
  | cons d r ih =>
    simp only [List.nodup_cons] at hn
    simp only [List.foldl_cons, List.mem_cons]
    rw [ih hn.2 (wf_applyDelI h d), kidOf_applyDelI, main_applyDelI h]
    by_cases hkd : k = d
    · subst hkd
      have : k ∉ r := hn.1
      simp [this]
    · by_cases hkr : k ∈ r <;> simp [hkd, hkr]

end Gossamer.C08
