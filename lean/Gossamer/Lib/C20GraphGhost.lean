/-
C20 layer (b), proofs: **`FindGHOST` on the compressed graph returns what `findGhost` returns on the uncompressed
one** – the breadth-first descent, then the merge point – for monotone conditions with at most one good child per
block, from no current best, from a vote-node and from a block inside ancestor edges (the `forceConstrain` path).
-/
import Gossamer.Lib.C20GraphMerge
namespace Gossamer.C20

variable {t : Tree}

/-- the candidates of a step of the breadth-first descent (`bfs_step`) and the vote-nodes that take part in the merge
(`mergePoint_eq`), in one form; `c` is the constraining block, if any -/
def descEntries (g : Graph) (c : Option (Nat × Nat)) (ds : List Nat) : List (Nat × Entry) :=
  ds.filterMap fun d => (g.entries d).bind fun e =>
    match c with
    | none => some (d, e)
    | some (ch, cn) => if e.inDirectAncestry ch cn == some true then some (d, e) else none

theorem mem_descEntries {g : Graph} {c : Option (Nat × Nat)} {ds : List Nat} {d : Nat} {e : Entry} :
    (d, e) ∈ descEntries g c ds ↔ d ∈ ds ∧ g.entries d = some e ∧
      match c with
      | none => True
      | some (ch, cn) => e.inDirectAncestry ch cn = some true := by
  simp only [descEntries, List.mem_filterMap, Option.bind_eq_some_iff]
  constructor
  · rintro ⟨d', hd', e', hg, hm⟩
    rcases c with _ | ⟨ch, cn⟩
    · cases hm; exact ⟨hd', hg, trivial⟩
    · simp only at hm
      split at hm
      · rename_i hida
        cases hm; exact ⟨hd', hg, by simpa using hida⟩
      · cases hm
  · rintro ⟨hd, hg, hc⟩
    refine ⟨d, hd, e, hg, ?_⟩
    rcases c with _ | ⟨ch, cn⟩
    · rfl
    · simp only at hc ⊢
      rw [hc]; rfl

theorem bfs_step (g : Graph) (cur : Option (Nat × Nat)) (cond : Mask → Bool) (f key : Nat) (active : Entry)
    (force : Bool) :
    g.bfs cur cond (f + 1) key active force =
      match (descEntries g (if force then cur else none) active.descendants).find? (fun p => cond p.2.cum) with
      | none => (key, active, force)
      | some (d, e) => g.bfs cur cond f d e false := by
  have : descEntries g (if force then cur else none) active.descendants = active.descendants.filterMap (fun d =>
      match g.entries d with
      | none => none
      | some e =>
        match force, cur with
        | true, some (ch, cn) => if e.inDirectAncestry ch cn == some true then some (d, e) else none
        | _, _ => some (d, e)) := by
    unfold descEntries
    congr 1; funext d
    cases g.entries d with
    | none => rfl
    | some e => rcases force with _ | _ <;> rcases cur with _ | ⟨ch, cn⟩ <;> rfl
  rw [this]; rfl

theorem mergePoint_eq (g : Graph) (fuel key : Nat) (active : Entry) (force : Option (Nat × Nat))
    (cond : Mask → Bool) :
    g.mergePoint fuel key active force cond =
      mergeLoop cond fuel ((descEntries g force active.descendants).map (·.2)) key active.number := by
  unfold Graph.mergePoint descEntries
  dsimp only
  rw [List.map_filterMap]
  congr 2; funext d
  cases g.entries d with
  | none => rfl
  | some e =>
    rcases force with _ | ⟨fh, fn⟩
    · rfl
    · simp only [Option.bind_some]; split <;> rfl

theorem EntriesOn.of_pairs {ins : Ins} {g : Graph} {X : Nat} {P : List (Nat × Entry)}
    (hP : ∀ d e, (d, e) ∈ P ↔ (Containing t ins X d ∧ g.entries d = some e)) :
    EntriesOn t ins g X (P.map (·.2)) := by
  intro e
  rw [List.mem_map]
  exact ⟨fun ⟨⟨d, e'⟩, hm, he⟩ => ⟨d, he ▸ (hP d e').1 hm⟩, fun ⟨d, hc⟩ => ⟨(d, e), (hP d e).2 hc, rfl⟩⟩

theorem bfs_unconstrained (h : t.WF) {ins : Ins} {g : Graph} (inv : GInv t ins g) (cond : Mask → Bool)
    (cur : Option (Nat × Nat)) : ∀ (f v : Nat) (ev : Entry), g.entries v = some ev → t.size ≤ f + v →
    ∃ k ek, g.bfs cur cond f v ev false = (k, ek, false) ∧ g.entries k = some ek ∧ v ∈ t.chain k ∧
      (cond ev.cum = true → cond ek.cum = true) ∧
      ∀ p, p ∈ descEntries g none ek.descendants → cond p.2.cum = false := by
  intro f
  induction f with
  | zero =>
    intro v ev hv hf
    have := inv.node_lt h (inv.node_of_entry hv)
    omega
  | succ f ih =>
    intro v ev hv hf
    rw [bfs_step]
    simp only [Bool.false_eq_true, if_false]
    cases hfind : (descEntries g none ev.descendants).find? (fun p => cond p.2.cum) with
    | none =>
      exact ⟨v, ev, rfl, hv, t.mem_chain_self v, fun hc => hc,
        fun p hp => by simpa using List.find?_eq_none.1 hfind p hp⟩
    | some p =>
      obtain ⟨d, e⟩ := p
      obtain ⟨hd, hg, _⟩ := mem_descEntries.1 (List.mem_of_find?_eq_some hfind)
      have hve : v ∈ edge t (isNode ins) d := mem_edge_of_ancNode ((inv.desc v ev hv d).1 hd).2
      have hvd : v < d := edge_lt h hve
      obtain ⟨k, ek, i1, i2, i3, i4, i5⟩ := ih d e hg (by omega)
      exact ⟨k, ek, i1, i2, (Tree.upChain h).trans (edge_mem_chain h hve) i3,
        fun _ => i4 (by simpa using List.find?_some hfind), i5⟩

theorem ghost_from_node (h : t.WF) {ins : Ins} {g : Graph} (inv : GInv t ins g) (key : Nat → Nat)
    {cond : Mask → Bool} (hm : MonoCond cond) (cur : Option (Nat × Nat)) (fb v : Nat) (ev : Entry)
    (hv : g.entries v = some ev) (hok : cond (cumOf t ins v) = true) (hfb : t.size ≤ fb + v) :
    (g.bfs cur cond fb v ev false).2.2 = false ∧
    ∃ D, g.mergePoint (t.size + 1) (g.bfs cur cond fb v ev false).1
        (g.bfs cur cond fb v ev false).2.1 none cond = (D, t.num D) ∧
      Top t (cumOf t ins) cond v D := by
  have N0 := isNode_zero ins
  obtain ⟨k, ek, hbfs, b2, b3, b4, b5⟩ := bfs_unconstrained h inv cond cur fb v ev hv hfb
  rw [hbfs, mergePoint_eq]
  refine ⟨rfl, ?_⟩
  have hkN := inv.node_of_entry b2
  have hkok : cond (cumOf t ins k) = true := by
    rw [← inv.cum k ek b2]; exact b4 (by rw [inv.cum v ev hv]; exact hok)
  have hdesc : ∀ d e, (d, e) ∈ descEntries g none ek.descendants ↔ (Containing t ins k d ∧ g.entries d = some e) :=
    fun d e => by
      rw [mem_descEntries, inv.desc k ek b2 d]
      exact ⟨fun ⟨⟨hd, ha⟩, hg, _⟩ => ⟨⟨hd, mem_edge_of_ancNode ha⟩, hg⟩,
        fun ⟨hc, hg⟩ => ⟨⟨hc.1, node_in_edge_is_anc h N0 hc.2 hkN⟩, hg, trivial⟩⟩
  have ml : MLInv t ins g cond k ((descEntries g none ek.descendants).map (·.2)) :=
    ⟨EntriesOn.of_pairs hdesc, fun e he => by obtain ⟨p, hp, rfl⟩ := List.mem_map.1 he; exact b5 p hp⟩
  obtain ⟨D, hD, hT⟩ := mergeLoop_top h inv key hm (t.size + 1) k _ ml (inv.node_lt h hkN)
    ((inGraph_cumOf_iff h k).2 (Or.inl hkN)) hkok (by omega)
  rw [inv.number k ek b2]
  exact ⟨D, hD, { hT with above := (Tree.upChain h).trans b3 hT.above }⟩

/-- the text of `Graph.findGhost` after its `let start`, typed again with `start` as a parameter, so that the three
outcomes of the prologue (`ghostStartC`) can each be followed separately; `findGhost_unfold` ties both copies to the
model by `rfl` -/
def ghostTail (g : Graph) (fuel : Nat) (cur : Option (Nat × Nat)) (cond : Mask → Bool) (start : Nat × Bool) :
    Option (Nat × Nat) :=
  match g.entries start.1 with
  | none => none
  | some active0 =>
    if !cond active0.cum then none else
    some (g.mergePoint fuel (g.bfs cur cond fuel start.1 active0 start.2).1
      (g.bfs cur cond fuel start.1 active0 start.2).2.1
      (if (g.bfs cur cond fuel start.1 active0 start.2).2.2 then cur else none) cond)

/-- the `let start` of `Graph.findGhost`: the vote-node the search starts at, and whether it is constrained to the
vote-nodes that contain the current best block -/
def ghostStartC (key : Nat → Nat) (fuel : Nat) (g : Graph) (cur : Option (Nat × Nat)) : Nat × Bool :=
  match cur with
  | none => (0, false)
  | some (h, n) =>
    match g.findContaining key fuel h n with
    | none => (h, false)
    | some (c :: _) =>
      match (g.entries c).bind Entry.ancestorNode with
      | some a => (a, true)
      | none => (0, false)
    | some [] => (0, false)

theorem findGhost_unfold (key : Nat → Nat) (fuel : Nat) (g : Graph) (cur : Option (Nat × Nat))
    (cond : Mask → Bool) :
    g.findGhost key fuel cur cond = ghostTail g fuel cur cond (ghostStartC key fuel g cur) := by
  unfold Graph.findGhost ghostTail ghostStartC
  rfl

theorem ghostTail_node (h : t.WF) {ins : Ins} {g : Graph} (inv : GInv t ins g) (key : Nat → Nat)
    {cond : Mask → Bool} (hm : MonoCond cond) (cur : Option (Nat × Nat)) (v : Nat)
    (hv : isNode ins v = true) :
    (cond (cumOf t ins v) = false ∧ ghostTail g (t.size + 1) cur cond (v, false) = none) ∨
    (cond (cumOf t ins v) = true ∧ ∃ D, ghostTail g (t.size + 1) cur cond (v, false) = some (D, t.num D) ∧
      Top t (cumOf t ins) cond v D) := by
  obtain ⟨ev, hev⟩ := inv.entry_of_node hv
  unfold ghostTail
  simp only [hev, inv.cum v ev hev]
  cases hc : cond (cumOf t ins v) with
  | false => left; simp
  | true =>
    right
    obtain ⟨b1, D, hD, hT⟩ := ghost_from_node h inv key hm cur (t.size + 1) v ev hev hc (by omega)
    refine ⟨rfl, D, ?_, hT⟩
    simp only [Bool.not_true, Bool.false_eq_true, if_false, b1]
    rw [hD]

theorem ghostTail_constrained (h : t.WF) {ins : Ins} {g : Graph} (inv : GInv t ins g) (key : Nat → Nat)
    {cond : Mask → Bool} (hm : MonoCond cond) (b : Nat) (hN : isNode ins b = false) (hlt : b < t.size)
    (hok : cond (cumOf t ins b) = true) (a : Nat) (ha : ancNode t (isNode ins) b = some a)
    (hex : ∃ d, Containing t ins b d) :
    ∃ D, ghostTail g (t.size + 1) (some (b, t.num b)) cond (a, true) = some (D, t.num D) ∧
      Top t (cumOf t ins) cond b D := by
  have N0 := isNode_zero ins
  have hae : a ∈ edge t (isNode ins) b := mem_edge_of_ancNode ha
  have hab : a ∈ t.chain b := edge_mem_chain h hae
  have haN := ancNode_isNode h N0 ha
  obtain ⟨ea, hea⟩ := inv.entry_of_node haN
  have hanc_all : ∀ d, Containing t ins b d → ancNode t (isNode ins) d = some a :=
    fun d hd => (ancNode_eq_of_mem_edge h N0 hN hd.2).symm.trans ha
  have hin : inGraph (cumOf t ins) b = true := (inGraph_cumOf_iff h b).2 (Or.inr hex)
  have haok : cond ea.cum = true := by rw [inv.cum a ea hea]; exact cond_anc h ins hm hab hok
  have hcont : ∀ d e, (d, e) ∈ descEntries g (some (b, t.num b)) ea.descendants ↔
      (Containing t ins b d ∧ g.entries d = some e) := by
    intro d e
    rw [mem_descEntries]
    constructor
    · rintro ⟨_, hg, hida⟩
      exact ⟨⟨inv.node_of_entry hg, (inv.inDirectAncestry_iff h hg b).1 hida⟩, hg⟩
    · rintro ⟨hc, hg⟩
      exact ⟨(inv.desc a ea hea d).2 ⟨hc.1, hanc_all d hc⟩, hg, (inv.inDirectAncestry_iff h hg b).2 hc.2⟩
  unfold ghostTail
  simp only [hea, haok, Bool.not_true, Bool.false_eq_true, if_false]
  rw [bfs_step, if_pos rfl]
  cases hfind : (descEntries g (some (b, t.num b)) ea.descendants).find? (fun p => cond p.2.cum) with
  | some p =>
    obtain ⟨d, e⟩ := p
    simp only
    obtain ⟨hc, hg⟩ := (hcont d e).1 (List.mem_of_find?_eq_some hfind)
    have hdok : cond (cumOf t ins d) = true := by
      rw [← inv.cum d e hg]; simpa using List.find?_some hfind
    have hdpos := pos_of_mem_edge hc.2
    obtain ⟨b1, D, hD, hT⟩ := ghost_from_node h inv key hm (some (b, t.num b)) t.size d e hg hdok (by omega)
    refine ⟨D, ?_, { hT with above := (Tree.upChain h).trans (edge_mem_chain h hc.2) hT.above }⟩
    simp only [b1, Bool.false_eq_true, if_false]
    rw [hD]
  | none =>
    simp only [if_true]
    rw [mergePoint_eq]
    have ci : MLInv t ins g cond b ((descEntries g (some (b, t.num b)) ea.descendants).map (·.2)) :=
      ⟨EntriesOn.of_pairs hcont, fun e he => by
        obtain ⟨p, hp, rfl⟩ := List.mem_map.1 he
        simpa using List.find?_eq_none.1 hfind p hp⟩
    have h2 := ci.on.two_le h inv hN ci.fail hok hex
    obtain ⟨D, hD, hT⟩ := mergeLoop_constrained h inv key hm ci hN hlt hok hin h2 (t.size + 1) a hab
      (fun d hd => mem_edge_of_ancNode (hanc_all d hd)) (by omega)
    rw [inv.number a ea hea]
    exact ⟨D, by rw [hD], hT⟩

/-- `findGhost_refines` without `UniqChild`: what `FindGHOST` returns is a `Top` of the block the uncompressed
`findGhost` starts from (`ghostStart`), not necessarily the one `findGhost` reaches -/
theorem findGhostC_top (h : t.WF) {ins : Ins} {g : Graph} (inv : GInv t ins g) (key : Nat → Nat)
    {cond : Mask → Bool} (hm : MonoCond cond) (cur : Option Nat)
    (hcur : ∀ b, cur = some b → b < t.size ∧ (inGraph (cumOf t ins) b = true → cond (cumOf t ins b) = true)) :
    ghostStart (cumOf t ins) cur < t.size ∧ inGraph (cumOf t ins) (ghostStart (cumOf t ins) cur) = true ∧
    ((cond (cumOf t ins (ghostStart (cumOf t ins) cur)) = false ∧
        g.findGhost key (t.size + 1) (cur.map (fun b => (b, t.num b))) cond = none) ∨
     (cond (cumOf t ins (ghostStart (cumOf t ins) cur)) = true ∧
        ∃ D, g.findGhost key (t.size + 1) (cur.map (fun b => (b, t.num b))) cond = some (D, t.num D) ∧
          Top t (cumOf t ins) cond (ghostStart (cumOf t ins) cur) D)) := by
  have N0 := isNode_zero ins
  rw [findGhost_unfold]
  cases cur with
  | none =>
    simp only [Option.map_none, ghostStartC, ghostStart]
    exact ⟨h.1, by simp [inGraph], ghostTail_node h inv key hm none 0 N0⟩
  | some b =>
    obtain ⟨hblt, hbok⟩ := hcur b rfl
    simp only [Option.map_some]
    obtain ⟨c1, c2⟩ := findContaining_spec h inv key b
    cases hN : isNode ins b with
    | true =>
      have hstart : ghostStartC key (t.size + 1) g (some (b, t.num b)) = (b, false) := by
        simp only [ghostStartC, c1 hN]
      rw [hstart]
      have hbin : inGraph (cumOf t ins) b = true := (inGraph_cumOf_iff h b).2 (Or.inl hN)
      rw [ghostStart_some hbin]
      exact ⟨hblt, hbin, ghostTail_node h inv key hm _ b hN⟩
    | false =>
      obtain ⟨R, hR, _, hmem⟩ := c2 hN
      cases R with
      | nil =>
        have hstart : ghostStartC key (t.size + 1) g (some (b, t.num b)) = (0, false) := by
          simp only [ghostStartC, hR]
        rw [hstart]
        have hbout : inGraph (cumOf t ins) b = false :=
          not_inGraph_of_free h hN fun d hd => by have := (hmem d).2 hd; simp at this
        have hs : ghostStart (cumOf t ins) (some b) = 0 := by simp [ghostStart, hbout]
        rw [hs]
        exact ⟨h.1, by simp [inGraph], ghostTail_node h inv key hm _ 0 N0⟩
      | cons c0 rest =>
        have hc0 := (hmem c0).1 List.mem_cons_self
        obtain ⟨e0, he0⟩ := inv.entry_of_node hc0.1
        obtain ⟨a, ha, _, _⟩ := ancNode_some h N0 (pos_of_not_node N0 hN)
        have hanc0 : e0.ancestorNode = some a := by
          rw [inv.ancestorNode_eq he0, ← ancNode_eq_of_mem_edge h N0 hN hc0.2]; exact ha
        have hstart : ghostStartC key (t.size + 1) g (some (b, t.num b)) = (a, true) := by
          simp only [ghostStartC, hR, he0, Option.bind_some, hanc0]
        rw [hstart]
        have hbin : inGraph (cumOf t ins) b = true := (inGraph_cumOf_iff h b).2 (Or.inr ⟨c0, hc0⟩)
        have hok := hbok hbin
        rw [ghostStart_some hbin]
        obtain ⟨D, hD, hT⟩ := ghostTail_constrained h inv key hm b hN hblt hok a ha ⟨c0, hc0⟩
        exact ⟨hblt, hbin, Or.inr ⟨hok, D, hD, hT⟩⟩

/-- both searches stay at `E` or both move on; no uniqueness of good children needed -/
theorem findGhost_at_start (h : t.WF) {ins : Ins} {g : Graph} (inv : GInv t ins g) (key : Nat → Nat)
    {cond : Mask → Bool} (hm : MonoCond cond) {E : Nat} (hE : E < t.size)
    (hin : inGraph (cumOf t ins) E = true) (hok : cond (cumOf t ins E) = true) :
    (match g.findGhost key (t.size + 1) (some (E, t.num E)) cond with
      | none => true
      | some x => x == (E, t.num E)) =
    (match findGhost t (cumOf t ins) (some E) cond with
      | none => true
      | some x => x == E) := by
  obtain ⟨_, _, hcase⟩ := findGhostC_top h inv key hm (some E) (fun x hx => by cases hx; exact ⟨hE, fun _ => hok⟩)
  rw [ghostStart_some hin] at hcase
  rcases hcase with ⟨hf, _⟩ | ⟨_, D, hD, hT⟩
  · rw [hok] at hf; cases hf
  · have hD' : g.findGhost key (t.size + 1) (some (E, t.num E)) cond = some (D, t.num D) := hD
    rw [hD']
    -- both stay iff no child of `E` is good
    have hU := findGhost_stays_iff h hin hok
    refine Bool.eq_iff_iff.2 (Iff.trans ?_ (((top_eq_start_iff h ins hm hT).trans hU.symm).trans ?_))
    · show ((D, t.num D) == (E, t.num E)) = true ↔ D = E
      rw [beq_iff_eq, Prod.mk.injEq]
      exact ⟨fun e => e.1, fun e => ⟨e, e ▸ rfl⟩⟩
    · cases findGhost t (cumOf t ins) (some E) cond <;> exact Iff.rfl

/-- **`FindGHOST` refines `findGhost`**: for a monotone condition with at most one good child per block, and a
current best block that (when it is in the graph) meets the condition.
`hcur` cannot be dropped: from a current best inside an edge that fails the condition the compressed search starts at
the vote-node above it and can return that vote-node, where the uncompressed `findGhost` returns `none` (chain
0 ← 1 ← 2 ← 3, votes bit 0 for block 3 and bit 2 for block 1, condition "bits 0 and 2", current best 2: `some (1, 1)`
against `none`).  `Round` only hands over memoised blocks that meet the condition. -/
theorem findGhost_refines (h : t.WF) {ins : Ins} {g : Graph} (inv : GInv t ins g) (key : Nat → Nat)
    {cond : Mask → Bool} (hm : MonoCond cond) (hu : UniqChild t (cumOf t ins) cond) (cur : Option Nat)
    (hcur : ∀ b, cur = some b → b < t.size ∧ (inGraph (cumOf t ins) b = true → cond (cumOf t ins b) = true)) :
    g.findGhost key (t.size + 1) (cur.map (fun b => (b, t.num b))) cond =
      (findGhost t (cumOf t ins) cur cond).map (fun D => (D, t.num D)) := by
  obtain ⟨hslt, hsin, hcase⟩ := findGhostC_top h inv key hm cur hcur
  have htop := findGhost_top h (cumOf t ins) cur cond hslt hsin
  rcases hcase with ⟨hc, ht⟩ | ⟨hc, D, ht, hT⟩
  · rw [findGhost_eq, hc, ht]; rfl
  · cases hf : findGhost t (cumOf t ins) cur cond with
    | none =>
      rw [hf] at htop
      rw [hc] at htop; cases htop
    | some D' =>
      rw [hf] at htop
      have : D = D' := hT.unique h ins hm hu htop
      rw [ht, this]; rfl

end Gossamer.C20
