/-
Chains of block data and good fragments; `validateOne` in the normal form `judge` over the `ordered` blocks;
what `Process` may assume of a response that `validateResults` let through (`ValidResp`).
-/
import Gossamer.Model.C32
namespace Gossamer.C32

/-- what the importer needs of a block: the stated hash is the header's hash and there is a body -/
def GoodBlock (b : BD) : Prop := b.stated = b.id ∧ b.hasBody = true

/-- a fragment the import loop can work with.  A plain conjunction, the form `C32_accepted_honest_chain` states; read
    through `.ne`, `.chain`, `.good`. -/
def GoodFrag (f : List BD) : Prop := f ≠ [] ∧ isChain f = true ∧ ∀ b ∈ f, GoodBlock b

theorem GoodFrag.ne {f : List BD} (h : GoodFrag f) : f ≠ [] := h.1
theorem GoodFrag.chain {f : List BD} (h : GoodFrag f) : isChain f = true := h.2.1
theorem GoodFrag.good {f : List BD} (h : GoodFrag f) : ∀ b ∈ f, GoodBlock b := h.2.2

theorem isChain_cons_cons (a b : BD) (rest : List BD) :
    isChain (a :: b :: rest) = true ↔ isParent a b = true ∧ isChain (b :: rest) = true :=
  Iff.of_eq (Bool.and_eq_true _ _)

theorem isChain_tail : ∀ {a : BD} {l : List BD}, isChain (a :: l) = true → isChain l = true
  | _, [], _ => rfl
  | a, b :: rest, h => ((isChain_cons_cons a b rest).mp h).2

theorem isChain_append (a b : List BD) (ha : isChain a = true) (hb : isChain b = true)
    (hl : linked a b = true) : isChain (a ++ b) = true := by
  induction a with
  | nil => exact hb
  | cons x a ih =>
    cases a with
    | nil =>
      cases b with
      | nil => rfl
      | cons y rest => exact (isChain_cons_cons x y rest).mpr ⟨hl, hb⟩
    | cons y a =>
      have ha := (isChain_cons_cons x y a).mp ha
      exact (isChain_cons_cons x y (a ++ b)).mpr ⟨ha.1, ih ha.2 hl⟩

theorem isChain_of_suffix {b l : List BD} (hs : b <:+ l) (h : isChain l = true) :
    isChain b = true := by
  obtain ⟨a, rfl⟩ := hs
  induction a with
  | nil => exact h
  | cons x a ih => exact ih (isChain_tail h)

theorem isChain_dropWhile (p : BD → Bool) (l : List BD) (h : isChain l = true) :
    isChain (l.dropWhile p) = true :=
  isChain_of_suffix (List.dropWhile_suffix p) h

theorem keepAbove_suffix (fin : Nat) (f : List BD) : keepAbove fin f <:+ f := by
  have := List.reverse_suffix.mpr (List.takeWhile_prefix (fun b : BD => fin < b.num) (l := f.reverse))
  rwa [List.reverse_reverse] at this

theorem validUnder_suffix (fin : Nat) (f : List BD) : validUnder fin f <:+ f :=
  List.dropWhile_suffix _

theorem goodFrag_of_suffix {f g : List BD} (h : GoodFrag f) (hs : g <:+ f) (hne : g ≠ []) :
    GoodFrag g :=
  ⟨hne, isChain_of_suffix hs h.chain, fun b hb => h.good b (hs.subset hb)⟩

theorem goodFrag_append {a b : List BD} (ha : GoodFrag a) (hb : GoodFrag b)
    (hl : linked a b = true) : GoodFrag (a ++ b) :=
  ⟨fun h => ha.ne (List.append_eq_nil_iff.mp h).1, isChain_append a b ha.chain hb.chain hl,
    List.forall_mem_append.mpr ⟨ha.good, hb.good⟩⟩

theorem goodFrag_singleton {b : BD} (h : GoodBlock b) : GoodFrag [b] :=
  ⟨List.cons_ne_nil _ _, rfl, List.forall_mem_singleton.mpr h⟩

theorem checkFields_none {hdr : Bool} {l : List BD} (h : checkFields hdr l = none) :
    ∀ b ∈ l, b.hasBody = true ∧ (hdr = true → b.hasHeader = true ∧ b.stated = b.id) := by
  fun_induction checkFields hdr l with
  | case1 => exact List.forall_mem_nil _
  | case5 x rest h1 h2 h3 ih =>  -- all three tests pass, the loop goes on
    refine List.forall_mem_cons.mpr ⟨⟨by simpa using h3, fun hh => ?_⟩, ih h⟩
    subst hh
    exact ⟨by simpa using h1, by simpa using h2⟩
  | _ => cases h

theorem checkFields_nilBody {hdr : Bool} {l : List BD} (h : checkFields hdr l = some .nilBody) :
    ∃ b ∈ l, b.hasBody = false := by
  fun_induction checkFields hdr l with
  | case4 x rest _ _ h3 =>  -- the `nilBody` exit
    exact ⟨x, List.mem_cons_self, by simpa using h3⟩
  | case5 x rest _ _ _ ih =>  -- the loop goes on
    obtain ⟨b, hb, hh⟩ := ih h
    exact ⟨b, List.mem_cons_of_mem _ hb, hh⟩
  | _ => cases h

/-- the block list a result is examined in (descending responses are reversed first) -/
def ordered (r : Result) : List BD := if r.kind = .desc then r.blocks.reverse else r.blocks

theorem mem_ordered {r : Result} {b : BD} : b ∈ ordered r ↔ b ∈ r.blocks := by
  unfold ordered
  split
  · exact List.mem_reverse
  · rfl

theorem ordered_eq_nil {r : Result} : ordered r = [] ↔ r.blocks = [] := by
  unfold ordered
  split
  · exact List.reverse_eq_nil_iff
  · rfl

/-- the verdict on a completed, non-empty response, as a function of its kind and ordered blocks -/
def judge (bad : List Nat) (k : Kind) (bs : List BD) : Verdict :=
  match checkFields k.hdr bs with
  | some .nilBody => .reject none false
  | some _ => .reject (some .hdr) false
  | none =>
    if k.hdr && !isChain bs then .reject (some .hdr) false
    else if bs.any (fun b => bad.contains b.stated) then .reject (some .bad) true
    else .accept bs

theorem validateOne_eq (bad : List Nat) (r : Result) : validateOne bad r =
    if !r.completed then .skip else if r.blocks.isEmpty then .skip
    else judge bad r.kind (ordered r) := rfl

theorem validateOne_completed (bad : List Nat) {r : Result} (hc : r.completed = true)
    (hne : ordered r ≠ []) : validateOne bad r = judge bad r.kind (ordered r) := by
  rw [validateOne_eq, hc, List.isEmpty_eq_false_iff.mpr (mt ordered_eq_nil.mpr hne)]
  rfl

theorem judge_fieldErr (bad : List Nat) {k : Kind} {bs : List BD} {e : FieldErr}
    (h : checkFields k.hdr bs = some e) :
    judge bad k bs = .reject (if e = .nilBody then none else some .hdr) false := by
  unfold judge
  rw [h]
  cases e <;> rfl

theorem judge_non_chain (bad : List Nat) {k : Kind} {bs : List BD}
    (hf : checkFields k.hdr bs = none) (hk : k.hdr = true) (hn : isChain bs = false) :
    judge bad k bs = .reject (some .hdr) false := by
  unfold judge
  rw [hf, hk, hn]
  rfl

theorem judge_accept {bad : List Nat} {k : Kind} {bs bs' : List BD}
    (h : judge bad k bs = .accept bs') :
    bs' = bs ∧ checkFields k.hdr bs = none ∧ (k.hdr = true → isChain bs = true) ∧
    bs.any (fun b => bad.contains b.stated) = false := by
  unfold judge at h
  cases hf : checkFields k.hdr bs with
  | some e =>
    rw [hf] at h
    cases e <;> cases h
  | none =>
    rw [hf] at h
    by_cases hch : (k.hdr && !isChain bs) = true
    · rw [if_pos hch] at h
      cases h
    by_cases hbad : bs.any (fun b => bad.contains b.stated) = true
    · rw [if_neg hch, if_pos hbad] at h
      cases h
    rw [if_neg hch, if_neg hbad] at h
    cases h
    exact ⟨rfl, rfl, fun hk => by simpa [hk] using hch, Bool.eq_false_iff.mpr hbad⟩

theorem validateOne_accept {bad : List Nat} {r : Result} {bs : List BD}
    (h : validateOne bad r = .accept bs) :
    r.completed = true ∧ ordered r ≠ [] ∧ judge bad r.kind (ordered r) = .accept bs := by
  rw [validateOne_eq] at h
  split at h
  · cases h
  · split at h
    · cases h
    · rename_i hc hne
      exact ⟨by simpa using hc, fun h => hne (List.isEmpty_iff.mpr (ordered_eq_nil.mp h)), h⟩

/-- a forged hash makes `validateResponseFields` fail, at that block or an earlier one -/
theorem forged_fieldErr (bad : List Nat) {r : Result} (hc : r.completed = true)
    (hk : r.kind.hdr = true) (hf : ∃ b ∈ r.blocks, b.stated ≠ b.id) :
    ∃ e, checkFields r.kind.hdr (ordered r) = some e ∧
      validateOne bad r = .reject (if e = .nilBody then none else some .hdr) false := by
  obtain ⟨b, hb, hne⟩ := hf
  have hb' := mem_ordered.mpr hb
  cases hcf : checkFields r.kind.hdr (ordered r) with
  | none => exact absurd ((checkFields_none hcf b hb').2 hk).2 hne
  | some e =>
    rw [validateOne_completed bad hc (List.ne_nil_of_mem hb'), judge_fieldErr bad hcf]
    exact ⟨e, rfl, rfl⟩

/-- what one response contributes to `Validated.valid` -/
def accepted (bad : List Nat) (r : Result) : Option (Kind × List BD) :=
  match validateOne bad r with
  | .accept bs => some (r.kind, bs)
  | _ => none

theorem valid_eq_filterMap (bad : List Nat) (rs : List Result) :
    (validateResults bad rs).valid = rs.filterMap (accepted bad) := by
  induction rs with
  | nil => rfl
  | cons r rest ih =>
    rw [List.filterMap_cons, ← ih]
    conv => lhs; unfold validateResults
    unfold accepted
    cases validateOne bad r <;> rfl

theorem validateResults_valid {bad : List Nat} {rs : List Result} {k : Kind} {bs : List BD}
    (h : (k, bs) ∈ (validateResults bad rs).valid) :
    ∃ r ∈ rs, r.kind = k ∧ validateOne bad r = .accept bs := by
  rw [valid_eq_filterMap, List.mem_filterMap] at h
  obtain ⟨r, hr, ha⟩ := h
  refine ⟨r, hr, ?_⟩
  unfold accepted at ha
  split at ha
  · rename_i hacc
    cases ha
    exact ⟨rfl, hacc⟩
  · cases ha

/-- what `Process` may assume of a validated response -/
structure ValidResp (v : Kind × List BD) : Prop where
  ne : v.2 ≠ []
  body : ∀ b ∈ v.2, b.hasBody = true
  hdr : v.1.hdr = true → GoodFrag v.2

theorem validResp_of_mem {bad : List Nat} {rs : List Result} {v : Kind × List BD}
    (h : v ∈ (validateResults bad rs).valid) : ValidResp v := by
  obtain ⟨k, bs⟩ := v
  obtain ⟨r, _, rfl, hacc⟩ := validateResults_valid h
  obtain ⟨_, hne, hj⟩ := validateOne_accept hacc
  obtain ⟨rfl, hcf, hch, _⟩ := judge_accept hj
  have hf := checkFields_none hcf
  exact ⟨hne, fun b hb => (hf b hb).1, fun hk =>
    ⟨hne, hch hk, fun b hb => ⟨((hf b hb).2 hk).2, (hf b hb).1⟩⟩⟩

end Gossamer.C32
