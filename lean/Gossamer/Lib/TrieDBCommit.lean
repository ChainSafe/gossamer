/-
C06: `commit` on a consistent handle tree: the encoding of the root is the spec encoding
of the trie it stands for, and after the batch is applied the database holds that trie.
-/
import Gossamer.Lib.TrieDBLoad
namespace Gossamer.C06
open Gossamer Gossamer.Trie

theorem encLeaf_eq (ver : Ver) (H : Bytes → Bytes) (pk : Nibs) (v : Bytes) :
    encLeaf pk (mustBeHashed ver v) (if mustBeHashed ver v then H v else v) =
      encodeNode ver H (leaf pk v) := by
  cases h : mustBeHashed ver v <;> simp [encLeaf, encodeNode, encodeValue, valueBytes, h]

/-- the reference to child `c` inside the spec encoding of its parent (what the model's `kidRef`,
    Go's `commitChild`, must compute: `kidRef_spec`) -/
def childRef (ver : Ver) (H : Bytes → Bytes) (c : Trie) : Option Bytes :=
  if c.isNil then none else some (merkleValue H (encodeNode ver H c))

theorem encBranch_eq (ver : Ver) (H : Bytes → Bytes) (pk : Nibs) (v : Option Bytes) (cs : Nib → Trie) :
    encBranch pk (v.map (fun x => (mustBeHashed ver x, if mustBeHashed ver x then H x else x)))
        (fun i => childRef ver H (cs i)) =
      encodeNode ver H (branch pk v cs) := by
  have hbit : ∀ (c : Trie) (n : Nat),
      (if (childRef ver H c).isSome then n else 0) = if c.isNil then 0 else n := by
    intro c n; unfold childRef; cases c.isNil <;> rfl
  have hkid : ∀ c : Trie, kidBytes (childRef ver H c) =
      if c.isNil then [] else scaleBytes (merkleValue H (encodeNode ver H c)) := by
    intro c; unfold childRef; cases c.isNil <;> rfl
  simp only [encBranch, encodeNode, bitmap, hbit, hkid]
  cases v with
  | none => rfl
  | some x =>
    cases h : mustBeHashed ver x <;> simp [h, branchHeader, optValueBytes, encodeValue, valueBytes]

theorem commit_mem (H : Bytes → Bytes) (s : St) (hm : s.root.isMem = true) (hc : s.root.cached = none)
    {enc : Bytes} {w : List WOp} (henc : encNew H s.root [] = some (enc, w)) :
    commit H s = .ok { db := applyW s.db (s.death.map WOp.del ++ w ++ [.put (H enc) enc]),
                       root := .persisted (H enc), rootHash := H enc, death := [] } := by
  unfold commit
  cases hr : s.root with
  | none => rw [hr] at hm; cases hm
  | persisted _ => rw [hr] at hm; cases hm
  | empty _ => rw [hr] at hm; cases hm
  | leaf cc pk dv => rw [hr] at hc henc; simp only [hc, henc]
  | branch cc pk dvo cs => rw [hr] at hc henc; simp only [hc, henc]

theorem commit_persisted (H : Bytes → Bytes) (s : St) {h : Bytes} (hr : s.root = .persisted h) :
    commit H s = .ok { s with death := [] } := by
  simp only [commit, hr]

theorem commit_cached (H : Bytes → Bytes) (s : St) (hm : s.root.isMem = true) {h : Bytes}
    (hc : s.root.cached = some h) : commit H s = .ok { s with rootHash := h, death := [] } := by
  unfold commit
  cases hr : s.root with
  | none => rw [hr] at hm; cases hm
  | persisted _ => rw [hr] at hm; cases hm
  | empty _ => rw [hr] at hm; cases hm
  | leaf cc pk dv => rw [hr] at hc; simp only [hc]
  | branch cc pk dvo cs => rw [hr] at hc; simp only [hc]

theorem read_value {ver : Ver} {H : Bytes → Bytes} {T0 : Trie} {get : Bytes → Option Bytes}
    {fk : Nibs} {v : Bytes} (hl : lookup T0 fk = some v) (hm : mustBeHashed ver v = true)
    (hr : ValidPos ver H T0 (.val fk) → get (rowOf ver H T0 (.val fk)) = some (contentOf ver H T0 (.val fk))) :
    get (rowKey fk (H v)) = some v := by
  have := hr ⟨v, hl, hm⟩
  simpa [rowOf, contentOf, hl] using this

theorem stored_sub (ver : Ver) (H : Bytes → Bytes) (T0 : Trie) (get : Bytes → Option Bytes) (t : Trie) :
    ∀ q, subAt T0 q = t →
      (∀ pos, ValidPos ver H T0 pos → Below q pos → get (rowOf ver H T0 pos) = some (contentOf ver H T0 pos)) →
      Stored ver H get t q := by
  induction t with
  | nil => intro _ _ _; trivial
  | leaf pk v =>
    intro q hq hr hm
    exact read_value (lookup_at_leaf hq) hm fun hv => hr _ hv (List.prefix_append q pk)
  | branch pk v cs ih =>
    intro q hq hr
    refine ⟨?_, fun i => ⟨?_, ?_⟩⟩
    · intro x hx hm
      exact read_value ((lookup_at_branch hq).trans hx) hm fun hv => hr _ hv (List.prefix_append q pk)
    · intro hn hl
      have hs := subAt_step hq i
      have hne : cs i ≠ nil := fun x => by rw [x] at hn; simp [Trie.isNil] at hn
      have := hr (.node (q ++ pk ++ [i])) ⟨by rw [hs]; exact hne, fun _ => by rw [hs]; exact hl⟩
        (prefix_child q pk i)
      simp only [rowOf, contentOf, hs] at this
      exact this
    · refine ih i _ (subAt_step hq i) ?_
      intro pos hv hb
      exact hr pos hv (below_child hb)

/-- a content-addressed write of something the trie `t` refers to by hash -/
def PutOf (ver : Ver) (H : Bytes → Bytes) (t : Trie) (op : WOp) : Prop :=
  ∃ q x, op = .put (rowKey q (H x)) x ∧ 32 ≤ x.length ∧
    ((∃ k, lookup t k = some x ∧ mustBeHashed ver x = true) ∨ ∃ n, NodeOf n t ∧ x = encodeNode ver H n)

def ReadsOld (ver : Ver) (H : Bytes → Bytes) (T0 : Trie) (get : Bytes → Option Bytes) (hd : Hd)
    (pre : Nibs) : Prop :=
  ∀ pos, ValidPos ver H T0 pos → Needs hd pre pos → get (rowOf ver H T0 pos) = some (contentOf ver H T0 pos)

/-- what is known of the rows `w` that `commit` writes below the new node `hd` at `pre`.  `stored`
    speaks of an arbitrary reader `get`: the induction over the handle tree runs before the database
    after the batch exists. -/
structure Written (ver : Ver) (H : Bytes → Bytes) (T0 : Trie) (hd : Hd) (pre : Nibs) (w : List WOp) :
    Prop where
  puts : ∀ op ∈ w, PutOf ver H (abs T0 hd pre) op
  stored : ∀ get : Bytes → Option Bytes, (∀ k x, WOp.put k x ∈ w → get k = some x) →
    ReadsOld ver H T0 get hd pre → Stored ver H get (abs T0 hd pre) pre

variable {ver : Ver} {H : Bytes → Bytes} {T0 : Trie}

theorem PutOf.child {pk : Nibs} {v : Option Bytes} {cs : Nib → Trie} {i : Nib} {op : WOp}
    (h : PutOf ver H (cs i) op) : PutOf ver H (branch pk v cs) op := by
  obtain ⟨q, x, ho, hs, hx⟩ := h
  refine ⟨q, x, ho, hs, ?_⟩
  rcases hx with ⟨k, hk, hm⟩ | ⟨n, hn, hx⟩
  · exact Or.inl ⟨pk ++ i :: k, by rw [lookup_branch_child]; exact hk, hm⟩
  · exact Or.inr ⟨n, Or.inr ⟨i, hn⟩, hx⟩

theorem encOptValue_spec (fk : Nibs) (dvo : Option DVal) (hv : ∀ dv, dvo = some dv → OkV ver H T0 fk dv) :
    (encOptValue H fk dvo).1 =
      (dvo.map (absV T0 fk)).map (fun x => (mustBeHashed ver x, if mustBeHashed ver x then H x else x)) ∧
    (∀ op ∈ (encOptValue H fk dvo).2, ∃ x, dvo.map (absV T0 fk) = some x ∧ mustBeHashed ver x = true ∧
      op = .put (rowKey fk (H x)) x) ∧
    ∀ get : Bytes → Option Bytes, (∀ k x, WOp.put k x ∈ (encOptValue H fk dvo).2 → get k = some x) →
      (optIsRef dvo = true → ValidPos ver H T0 (.val fk) →
        get (rowOf ver H T0 (.val fk)) = some (contentOf ver H T0 (.val fk))) →
      ∀ x, dvo.map (absV T0 fk) = some x → mustBeHashed ver x = true → get (rowKey fk (H x)) = some x := by
  cases dvo with
  | none => exact ⟨rfl, (fun _ h => nomatch h), (fun _ _ _ _ h => nomatch h)⟩
  | some dv =>
    have hv := hv dv rfl
    cases dv with
    | inl x =>
      have hv' : mustBeHashed ver x = false := hv
      refine ⟨by simp [encOptValue, encValue, absV, hv'], (fun _ h => nomatch h), fun _ _ _ y hy hm => ?_⟩
      cases hy
      exact absurd (show mustBeHashed ver x = true from hm) (by rw [hv']; decide)
    | fresh x =>
      have hv' : mustBeHashed ver x = true := hv
      refine ⟨by simp [encOptValue, encValue, absV, hv'],
        fun op h => ⟨x, rfl, hv', List.mem_singleton.mp h⟩, fun _ hw _ y hy _ => ?_⟩
      cases hy
      exact hw _ _ (List.mem_singleton.mpr rfl)
    | ref h =>
      obtain ⟨v, hl, hm, rfl⟩ := hv
      refine ⟨by simp [encOptValue, encValue, absV, hl, hm], (fun _ h => nomatch h), fun get _ hn y hy _ => ?_⟩
      simp only [Option.map_some, absV, hl, Option.getD_some, Option.some.injEq] at hy
      exact hy ▸ read_value hl hm (hn rfl)

theorem kidRef_spec (c : Hd) (q : Nibs) (hq : q ≠ []) (hok : Ok ver H T0 c q)
    (hrec : c.isMem = true → c.cached = none →
      ∃ w, encNew H c q = some (encodeNode ver H (abs T0 c q), w) ∧ Written ver H T0 c q w) :
    (kidRef H q c (encNew H c q)).1 = childRef ver H (abs T0 c q) ∧
    (∀ op ∈ (kidRef H q c (encNew H c q)).2, PutOf ver H (abs T0 c q) op) ∧
    ∀ get : Bytes → Option Bytes, (∀ k x, WOp.put k x ∈ (kidRef H q c (encNew H c q)).2 → get k = some x) →
      ReadsOld ver H T0 get c q →
      ((abs T0 c q).isNil = false → 32 ≤ (encodeNode ver H (abs T0 c q)).length →
        get (rowKey q (H (encodeNode ver H (abs T0 c q)))) = some (encodeNode ver H (abs T0 c q))) ∧
      Stored ver H get (abs T0 c q) q := by
  by_cases hnew : c.isMem = true ∧ c.cached = none
  · -- a new node: its hash, after writing its row, or its encoding when that is shorter than a hash
    obtain ⟨hm, hc⟩ := hnew
    have hne := abs_ne_nil_of_mem T0 hm q
    have hk : ∀ enc, kidRef H q c enc = match enc with
        | some (en, w) => if en.length ≥ hashLen then (some (H en), w ++ [.put (rowKey q (H en)) en]) else (some en, w)
        | none => (none, []) := by
      intro enc
      cases c <;> first | (cases hc; rfl) | cases hm
    obtain ⟨w, henc, hW⟩ := hrec hm hc
    rw [hk, henc]
    simp only [childRef, isNil_false_of_ne hne, Bool.false_eq_true, if_false, merkleValue, hashLen]
    generalize hE : encodeNode ver H (abs T0 c q) = E at *
    by_cases hl : 32 ≤ E.length
    · simp only [ge_iff_le, hl, if_true, Nat.not_lt.mpr hl, if_false]
      refine ⟨trivial, fun op hop => ?_, fun get hw hr => ⟨fun _ _ => hw _ _ (List.mem_append_right _ (List.mem_singleton.mpr rfl)),
        hW.stored get (fun k x hk => hw k x (List.mem_append_left _ hk)) hr⟩⟩
      rcases List.mem_append.mp hop with h | h
      · exact hW.puts op h
      · rw [List.mem_singleton.mp h]
        exact ⟨q, E, rfl, hl, Or.inr ⟨_, nodeOf_self hne, hE.symm⟩⟩
    · simp only [ge_iff_le, hl, if_false, Nat.not_le.mp hl, if_true]
      exact ⟨trivial, hW.puts, fun get hw hr => ⟨fun _ h => h.elim, hW.stored get hw hr⟩⟩
  · by_cases hn : c.isNone = true
    · obtain rfl := Hd.isNone_iff.mp hn
      exact ⟨rfl, (fun _ h => nomatch h), fun _ _ _ => ⟨(fun h => nomatch h), trivial⟩⟩
    · -- an untouched node of `T0`: referred to by its hash, nothing written, everything below it still there
      obtain ⟨h, hh, habs, hc, hb⟩ := ok_old hok (Bool.eq_false_iff.mpr hn) hnew
      have hk : kidRef H q c (encNew H c q) = (some h, []) := by
        rcases hc with rfl | ⟨hm, hc⟩
        · rfl
        · cases c <;> first | (cases hc; rfl) | cases hm
      have hr : childRef ver H (abs T0 c q) = some h := by
        rw [habs, hh.2.1, childRef, isNil_false_of_ne hh.1, merkleValue_long (hh.2.2 hq)]
        rfl
      rw [hk, hr, habs]
      refine ⟨rfl, (fun _ h => nomatch h), fun get _ hro => ⟨fun _ _ => ?_, ?_⟩⟩
      · exact hro (.node q) (validPos_of_hashAt hh) (hb _ (List.prefix_refl _))
      · exact stored_sub ver H T0 get _ q rfl (fun pos hv hbel => hro pos hv (hb pos hbel))

theorem encNew_spec (hd : Hd) : ∀ pre, Ok ver H T0 hd pre → hd.isMem = true → hd.cached = none →
    ∃ w, encNew H hd pre = some (encodeNode ver H (abs T0 hd pre), w) ∧ Written ver H T0 hd pre w := by
  induction hd with
  | none => intro _ _ hm; cases hm
  | persisted h => intro _ _ hm; cases hm
  | empty c => intro _ _ hm; cases hm
  | leaf c pk dv =>
    intro pre hok _ hc
    cases hc
    obtain ⟨h1, h2, h3⟩ := encOptValue_spec (ver := ver) (T0 := T0) (pre ++ pk) (some dv)
      (fun dv' e => by cases e; exact hok.1)
    simp only [encOptValue, Option.map_some, Option.some.injEq] at h1
    refine ⟨(encValue H (pre ++ pk) dv).2, by simp only [encNew, h1, abs, encLeaf_eq], fun op hop => ?_,
      fun get hw hr hm => ?_⟩
    · obtain ⟨x, hx, hm, rfl⟩ := h2 op hop
      cases hx
      exact ⟨_, _, rfl, Nat.le_of_lt (mustBeHashed_size hm), Or.inl ⟨pk, by simp only [abs, lookup_leaf, if_true], hm⟩⟩
    · exact h3 get hw (fun hr' hv => hr _ hv (Or.inr ⟨hr', rfl⟩)) _ rfl hm
  | branch c pk dvo cs ih =>
    intro pre hok _ hc
    cases hc
    obtain ⟨hvals, hkids, _⟩ := hok
    obtain ⟨h1, h2, h3⟩ := encOptValue_spec (ver := ver) (T0 := T0) (pre ++ pk) dvo hvals
    have hkid := fun i => kidRef_spec (cs i) (pre ++ pk ++ [i]) (by simp) (hkids i)
      (fun hm hc => ih i _ (hkids i) hm hc)
    refine ⟨(encOptValue H (pre ++ pk) dvo).2 ++ (List.finRange 16).flatMap (fun i =>
        (kidRef H (pre ++ pk ++ [i]) (cs i) (encNew H (cs i) (pre ++ pk ++ [i]))).2),
      by simp only [encNew, h1, fun i => (hkid i).1, abs, encBranch_eq], fun op hop => ?_,
      fun get hw hr => ⟨fun x hx hm => ?_, fun i => ?_⟩⟩
    · rcases List.mem_append.mp hop with h | h
      · obtain ⟨x, hx, hm, rfl⟩ := h2 op h
        exact ⟨_, _, rfl, Nat.le_of_lt (mustBeHashed_size hm), Or.inl ⟨pk, by simp only [abs, lookup_branch_self, hx], hm⟩⟩
      · obtain ⟨i, _, h⟩ := List.mem_flatMap.mp h
        exact ((hkid i).2.1 op h).child
    · exact h3 get (fun k y hk => hw k y (List.mem_append_left _ hk))
        (fun hr' hv => hr _ hv (Or.inr (Or.inl ⟨hr', rfl⟩))) x hx hm
    · exact (hkid i).2.2 get
        (fun k y hk => hw k y (List.mem_append_right _ (List.mem_flatMap.mpr ⟨i, List.mem_finRange i, hk⟩)))
        (fun pos hv hnp => hr pos hv (Or.inr (Or.inr ⟨i, hnp⟩)))

theorem commit_new (c : Cfg) {Dom : Bytes → Prop} (hinj : InjOn c.H Dom) (h0 : Dom [0]) (s : St)
    (T0 : Trie) (hcov0 : Covers c.ver c.H Dom T0) (hcovt : Covers c.ver c.H Dom (abs T0 s.root []))
    (hdb : DbOk (c.env s) T0)
    (hok : Ok c.ver c.H T0 s.root []) (hm : s.root.isMem = true) (hc : s.root.cached = none)
    (hkeep : ∀ pos, ValidPos c.ver c.H T0 pos → Needs s.root [] pos → rowOf c.ver c.H T0 pos ∉ s.death)
    (hdec : ∀ n, NodeOf n (abs T0 s.root []) →
      c.dec (encodeNode c.ver c.H n) = some (viewOf c.ver c.H n)) :
    ∃ db', commit c.H s = .ok
        { db := db', root := .persisted (c.H (encodeNode c.ver c.H (abs T0 s.root []))),
          rootHash := c.H (encodeNode c.ver c.H (abs T0 s.root [])), death := [] } ∧
      DbOk { H := c.H, dec := c.dec, ver := c.ver, db := db' } (abs T0 s.root []) := by
  have hlen : ∀ x, (c.H x).length = 32 := hdb.hlen
  have hne : abs T0 s.root [] ≠ nil := abs_ne_nil_of_mem T0 hm []
  have hlen2 := encodeNode_length c.ver c.H hlen _ hne
  obtain ⟨w, henc, hW⟩ := encNew_spec (ver := c.ver) (H := c.H) (T0 := T0) s.root [] hok hm hc
  generalize hE : encodeNode c.ver c.H (abs T0 s.root []) = E at *
  have hcontent : ∀ op ∈ w ++ [WOp.put (c.H E) E], ContentPut c.H Dom op := by
    intro op hop
    rcases List.mem_append.mp hop with h | h
    · obtain ⟨q, x, rfl, _, hx⟩ := hW.puts op h
      refine ⟨⟨q, rfl⟩, ?_⟩
      rcases hx with ⟨k, hk, hm⟩ | ⟨n, hn, rfl⟩
      · exact hcovt.2 k x hk hm
      · exact hcovt.1 n hn
    · rw [List.mem_singleton.mp h]; exact ⟨⟨[], rfl⟩, hE ▸ hcovt.1 _ (nodeOf_self hne)⟩
  -- the deletions are applied BEFORE the writes: a row that is both scheduled and written again survives
  refine ⟨applyW (applyW s.db (s.death.map WOp.del)) (w ++ [WOp.put (c.H E) E]), ?_, ?_⟩
  · rw [commit_mem c.H s hm hc henc, List.append_assoc, applyW_append]
  have hwritten : ∀ k x, WOp.put k x ∈ w ++ [WOp.put (c.H E) E] → 2 ≤ x.length →
      dbGet c.H (applyW (applyW s.db (s.death.map WOp.del)) (w ++ [WOp.put (c.H E) E])) k = some x := by
    intro k x hk hx
    obtain ⟨⟨q, hq⟩, hdx⟩ := hcontent _ hk
    rw [hq]
    apply dbGet_row hlen hinj h0 _ _ _ hdx hx
    rw [← hq]
    exact find_applyW_mem hlen hinj _ hcontent _ k x hk
  refine ⟨fun _ => ?_, ?_, hdec, hdb.dec0, hlen⟩
  · show dbGet c.H _ (c.H (encodeNode c.ver c.H (abs T0 s.root []))) = some (encodeNode c.ver c.H (abs T0 s.root []))
    rw [hE]
    exact hwritten _ _ (List.mem_append_right _ (List.mem_singleton.mpr rfl)) hlen2
  apply hW.stored
  · intro k x hk
    obtain ⟨q, y, ho, hs, _⟩ := hW.puts _ hk
    cases ho
    exact hwritten _ x (List.mem_append_left _ hk) (Nat.le_trans (by decide) hs)
  · intro pos hv hn
    have hsz := content_size c.ver c.H hlen T0 pos hv
    have hdc := content_dom hcov0 pos hv
    obtain ⟨q, hq⟩ := rowOf_eq c.ver c.H T0 pos
    -- the row was there, is not deleted, and no write changes it
    have h1 : (applyW s.db (s.death.map WOp.del)).find (rowOf c.ver c.H T0 pos) =
        some (contentOf c.ver c.H T0 pos) := by
      rw [find_applyW_dels _ _ _ (hkeep pos hv hn)]
      exact dbGet_find (read_pos (c.env s) T0 hdb pos hv) hsz
    rw [hq] at h1 ⊢
    apply dbGet_row hlen hinj h0 _ _ _ hdc hsz
    exact find_applyW_keep hlen hinj _ hcontent _ q _ hdc h1

/-- `ht`: a fresh instance opened at the root hash of the empty trie reads the empty trie whatever
    the database holds -/
theorem fresh_get (c : Cfg) (s : St) {T0 t : Trie} (hdb : DbOk (c.env s) T0) (ht : t ≠ nil → T0 = t)
    (hroot : s.rootHash = hashTrie c.ver c.H t) (k : Bytes) :
    doGet c (reopenAt s) k = lookup t (toNibs k) := by
  by_cases htn : t = nil
  · subst htn
    exact doGet_empty c hdb.dec0 (reopenAt s) (congrArg Hd.persisted hroot) k
  · have hdb : DbOk (c.env s) t := ht htn ▸ hdb
    have hrow : dbGet c.H s.db (rowKey [] (c.H (encodeNode c.ver c.H t))) =
        some (encodeNode c.ver c.H t) := hdb.root htn
    simp only [reopenAt, doGet, lookupMem, lookupDB, hroot, hashTrie, Cfg.env, hrow]
    exact lookupData_eq { H := c.H, dec := c.dec, ver := c.ver, db := s.db } k t hdb.dec htn
      ((toNibs k).length + 1) [] (toNibs k) (Nat.lt_succ_self _) rfl hdb.stored

end Gossamer.C06
