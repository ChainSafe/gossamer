/-
C06: the trie a handle tree stands for, relative to the
trie `T0` that was committed when the session started.

* `subAt T0 p`: the node of `T0` whose path from the root is `p`;
* `abs T0 hd pre`: the trie denoted by the handle `hd` at path `pre` — a `persisted` handle stands
  for the node of `T0` at the same path, a `valueRef` for the value `T0` holds under the same key;
* `Ok`: the handle tree is consistent with `T0` (hashes are the hashes of the nodes of `T0` at the
  same path, cached nodes are unchanged, inline/new values are held as `NewValue` would hold them).
-/
import Gossamer.Lib.TrieDBStore
namespace Gossamer.C06
open Gossamer Gossamer.Trie

def subAt : Trie → Nibs → Trie
  | nil, _ => nil
  | leaf pk v, p => if p = [] then leaf pk v else nil
  | branch pk v cs, p =>
    if p = [] then branch pk v cs
    else if pk.isPrefixOf p then
      match p.drop pk.length with
      | i :: rest => subAt (cs i) rest
      | [] => nil
    else nil

@[simp] theorem subAt_nil_path (t : Trie) : subAt t [] = t := by
  cases t <;> simp [subAt]

@[simp] theorem subAt_nil (p : Nibs) : subAt nil p = nil := rfl

theorem subAt_child (pk : Nibs) (v : Option Bytes) (cs : Nib → Trie) (i : Nib) (rest : Nibs) :
    subAt (branch pk v cs) (pk ++ i :: rest) = subAt (cs i) rest := by
  have : ¬ (pk ++ i :: rest = []) := by simp
  simp [subAt, this, isPrefixOf_append_self]

theorem subAt_ne_nil {t : Trie} {p : Nibs} (h : subAt t p ≠ nil) :
    p = [] ∨ ∃ pk v cs i rest, t = branch pk v cs ∧ p = pk ++ i :: rest ∧ subAt (cs i) rest ≠ nil := by
  cases t with
  | nil => simp at h
  | leaf pk v =>
    by_cases hp : p = []
    · exact Or.inl hp
    · simp [subAt, hp] at h
  | branch pk v cs =>
    by_cases hp : p = []
    · exact Or.inl hp
    · right
      rcases key_cases pk p with rfl | ⟨i, rest, rfl⟩ | hoff
      · simp [subAt, hp, isPrefixOf_self] at h
      · rw [subAt_child] at h
        exact ⟨pk, v, cs, i, rest, rfl, rfl, h⟩
      · simp [subAt, hp, hoff] at h

@[elab_as_elim]
theorem subAt_induction {motive : Trie → Nibs → Prop} (h0 : ∀ t, t ≠ nil → motive t [])
    (hstep : ∀ pk v cs i rest, subAt (cs i) rest ≠ nil → motive (cs i) rest →
      motive (branch pk v cs) (pk ++ i :: rest)) :
    ∀ t p, subAt t p ≠ nil → motive t p := by
  intro t
  induction t with
  | nil => intro p h; exact absurd rfl h
  | leaf pk v =>
    intro p h
    rcases subAt_ne_nil h with rfl | ⟨_, _, _, _, _, ht, _⟩
    · exact h0 _ (by simp)
    · cases ht
  | branch pk v cs ih =>
    intro p h
    rcases subAt_ne_nil h with rfl | ⟨pk', v', cs', i, rest, ht, rfl, hne⟩
    · exact h0 _ (by simp)
    · cases ht
      exact hstep _ _ _ _ _ hne (ih i rest hne)

theorem subAt_append (t : Trie) (p q : Nibs) (h : subAt t p ≠ nil) :
    subAt t (p ++ q) = subAt (subAt t p) q := by
  refine subAt_induction (fun t _ => ?_)
    (fun pk v cs i rest _ ih => ?_) t p h
  · rw [subAt_nil_path]; rfl
  · rw [List.append_assoc, List.cons_append, subAt_child, subAt_child]; exact ih

theorem subAt_step {T0 : Trie} {pre pk : Nibs} {v : Option Bytes} {cs : Nib → Trie}
    (h : subAt T0 pre = branch pk v cs) (i : Nib) : subAt T0 (pre ++ pk ++ [i]) = cs i := by
  rw [List.append_assoc, subAt_append T0 pre _ (by rw [h]; simp), h, subAt_child]
  simp

theorem lookup_subAt (t : Trie) (p k : Nibs) (h : subAt t p ≠ nil) :
    lookup t (p ++ k) = lookup (subAt t p) k := by
  refine subAt_induction (fun t _ => ?_)
    (fun pk v cs i rest _ ih => ?_) t p h
  · rw [subAt_nil_path]; rfl
  · rw [List.append_assoc, List.cons_append, lookup_branch_child, subAt_child]; exact ih

theorem lookup_at_leaf {T0 : Trie} {pre pk : Nibs} {v : Bytes} (h : subAt T0 pre = leaf pk v) :
    lookup T0 (pre ++ pk) = some v := by
  rw [lookup_subAt T0 pre pk (by rw [h]; nofun), h, lookup_leaf, if_pos rfl]

theorem lookup_at_branch {T0 : Trie} {pre pk : Nibs} {v : Option Bytes} {cs : Nib → Trie}
    (h : subAt T0 pre = branch pk v cs) : lookup T0 (pre ++ pk) = v := by
  rw [lookup_subAt T0 pre pk (by rw [h]; nofun), h, lookup_branch_self]

theorem nodeOf_subAt (t : Trie) (p : Nibs) (h : subAt t p ≠ nil) : NodeOf (subAt t p) t := by
  refine subAt_induction (fun t ht => ?_)
    (fun pk v cs i rest _ ih => ?_) t p h
  · rw [subAt_nil_path]; exact nodeOf_self ht
  · rw [subAt_child]; exact Or.inr ⟨i, ih⟩

theorem stored_subAt {ver : Ver} {H : Bytes → Bytes} {get : Bytes → Option Bytes} (t : Trie) :
    ∀ (base p : Nibs), Stored ver H get t base → subAt t p ≠ nil → p ≠ [] →
      32 ≤ (encodeNode ver H (subAt t p)).length →
      get (rowKey (base ++ p) (H (encodeNode ver H (subAt t p)))) = some (encodeNode ver H (subAt t p)) := by
  intro base p hst h
  revert base
  refine subAt_induction (fun t _ base _ hp => absurd rfl hp) (fun pk v cs i rest hne ih base hst _ hl => ?_) t p h
  rw [subAt_child] at hl ⊢
  by_cases hr : rest = []
  · subst hr
    rw [subAt_nil_path] at hl hne ⊢
    have := (hst.2 i).1 (isNil_false_of_ne hne) hl
    rwa [List.append_assoc] at this
  · have := ih (base ++ pk ++ [i]) (hst.2 i).2 hr hl
    rwa [List.append_assoc, List.append_assoc] at this

theorem stored_at {ver : Ver} {H : Bytes → Bytes} {get : Bytes → Option Bytes} (t : Trie) :
    ∀ (base p : Nibs), Stored ver H get t base → subAt t p ≠ nil →
      Stored ver H get (subAt t p) (base ++ p) := by
  intro base p hst h
  revert base
  refine subAt_induction (fun t _ base hst => ?_)
    (fun pk v cs i rest _ ih base hst => ?_) t p h
  · rw [subAt_nil_path, List.append_nil]; exact hst
  · rw [subAt_child]
    have := ih (base ++ pk ++ [i]) (hst.2 i).2
    rwa [List.append_assoc, List.append_assoc] at this

theorem stored_value {ver : Ver} {H : Bytes → Bytes} {get : Bytes → Option Bytes} (t : Trie) :
    ∀ (base k : Nibs) (v : Bytes), Stored ver H get t base → lookup t k = some v →
      mustBeHashed ver v = true → get (rowKey (base ++ k) (H v)) = some v := by
  induction t with
  | nil => intro base k v _ h; simp at h
  | leaf pk x =>
    intro base k v hst h hm
    obtain ⟨rfl, rfl⟩ := lookup_leaf_eq_some.mp h
    exact hst hm
  | branch pk x cs ih =>
    intro base k v hst h hm
    rcases lookup_branch_some h with ⟨rfl, hx⟩ | ⟨i, rest, rfl, hc⟩
    · exact hst.1 v hx hm
    · have := ih i (base ++ pk ++ [i]) rest v (hst.2 i).2 hc hm
      simpa using this

def absV (T0 : Trie) (fk : Nibs) : DVal → Bytes
  | .inl x => x
  | .fresh x => x
  | .ref _ => (lookup T0 fk).getD []

def abs (T0 : Trie) : Hd → Nibs → Trie
  | .none, _ => nil
  | .persisted _, pre => subAt T0 pre
  | .empty _, _ => nil
  | .leaf _ pk dv, pre => leaf pk (absV T0 (pre ++ pk) dv)
  | .branch _ pk dvo cs, pre =>
    branch pk (dvo.map (absV T0 (pre ++ pk))) (fun i => abs T0 (cs i) (pre ++ pk ++ [i]))

def Hd.isMem : Hd → Bool
  | .leaf _ _ _ => true
  | .branch _ _ _ _ => true
  | _ => false

theorem Hd.isNone_iff {h : Hd} : h.isNone = true ↔ h = Hd.none := by
  cases h <;> simp [Hd.isNone]

theorem abs_ne_nil_of_mem (T0 : Trie) {hd : Hd} (hm : hd.isMem = true) (pre : Nibs) :
    abs T0 hd pre ≠ nil := by
  cases hd <;> simp_all [Hd.isMem, abs]

def DVal.isFresh : DVal → Bool
  | .fresh _ => true
  | _ => false

/-- no `newValueRef` anywhere in the in-memory part of the tree.  `nodeValue.equal` answers `true` for
    any two `newValueRef`s whatever their data (`DVal.equal`), so an inspector that reports "unchanged"
    has kept the content only on a tree without them; a cached node is one (`Ok`), which is what makes
    `restoreNode` under its old hash sound (`same` of `InspPost`/`OpPost`). -/
def noFresh : Hd → Prop
  | .leaf _ _ dv => dv.isFresh = false
  | .branch _ _ dvo cs => (∀ dv, dvo = some dv → dv.isFresh = false) ∧ ∀ i, noFresh (cs i)
  | _ => True

/-- a node value is held the way `NewValue` / the decoder would hold it -/
def OkV (ver : Ver) (H : Bytes → Bytes) (T0 : Trie) (fk : Nibs) : DVal → Prop
  | .inl x => mustBeHashed ver x = false
  | .fresh x => mustBeHashed ver x = true
  | .ref h => ∃ v, lookup T0 fk = some v ∧ mustBeHashed ver v = true ∧ h = H v

/-- a hash `h` stands at path `pre` for the node of `T0` at that path (children of a branch are
    referenced by hash only when their encoding has at least 32 bytes) -/
def HashAt (ver : Ver) (H : Bytes → Bytes) (T0 : Trie) (pre : Nibs) (h : Bytes) : Prop :=
  subAt T0 pre ≠ nil ∧ h = H (encodeNode ver H (subAt T0 pre)) ∧
    (pre ≠ [] → 32 ≤ (encodeNode ver H (subAt T0 pre)).length)

theorem hashAt_root {ver : Ver} {H : Bytes → Bytes} {T0 : Trie} (h : T0 ≠ nil) :
    HashAt ver H T0 [] (hashTrie ver H T0) :=
  ⟨by rwa [subAt_nil_path], by rw [subAt_nil_path, hashTrie], fun hx => absurd rfl hx⟩

/-- consistency of a handle tree with the committed trie `T0`.  A loaded empty node is never
    consistent: the only handle that loads to `.empty` is the root of the empty trie,
    `persisted (H [0])`, and the empty trie does not go through `Ok` at all (first disjunct of `Shape`,
    TrieDBMulti; `doPut_empty`, `doDel_empty`, `doGet_empty`). -/
def Ok (ver : Ver) (H : Bytes → Bytes) (T0 : Trie) : Hd → Nibs → Prop
  | .none, _ => True
  | .persisted h, pre => HashAt ver H T0 pre h
  | .empty _, _ => False
  | .leaf c pk dv, pre =>
    OkV ver H T0 (pre ++ pk) dv ∧
    ∀ h, c = some h →
      HashAt ver H T0 pre h ∧ leaf pk (absV T0 (pre ++ pk) dv) = subAt T0 pre ∧ dv.isFresh = false
  | .branch c pk dvo cs, pre =>
    (∀ dv, dvo = some dv → OkV ver H T0 (pre ++ pk) dv) ∧
    (∀ i, Ok ver H T0 (cs i) (pre ++ pk ++ [i])) ∧
    ∀ h, c = some h →
      HashAt ver H T0 pre h ∧ abs T0 (.branch c pk dvo cs) pre = subAt T0 pre ∧
        noFresh (.branch c pk dvo cs)

theorem ok_cached {ver : Ver} {H : Bytes → Bytes} {T0 : Trie} {n : Hd} {pre : Nibs} {h : Bytes}
    (hok : Ok ver H T0 n pre) (hc : n.cached = some h) (hm : n.isMem = true) :
    HashAt ver H T0 pre h ∧ abs T0 n pre = subAt T0 pre ∧ noFresh n := by
  cases n with
  | leaf c pk dv => exact hok.2 h hc
  | branch c pk dvo cs => exact hok.2.2 h hc
  | none => cases hm
  | persisted _ => cases hm
  | empty _ => cases hm

/-- the in-memory image of a trie, every node a `NewStoredNode`: what an inlined child decodes to
    (`kidImg`, TrieDBLoad) -/
def ofTrie (ver : Ver) : Trie → Hd
  | nil => .none
  | leaf pk v => .leaf none pk (newValue ver v)
  | branch pk v cs => .branch none pk (v.map (newValue ver)) (fun i => ofTrie ver (cs i))

theorem ofTrie_isNone (ver : Ver) (t : Trie) : (ofTrie ver t).isNone = t.isNil := by
  cases t <;> rfl

theorem absV_new (ver : Ver) (T0 : Trie) (fk : Nibs) (v : Bytes) :
    absV T0 fk (newValue ver v) = v := by
  rw [newValue_eq]; split <;> rfl

theorem okV_new (ver : Ver) (H : Bytes → Bytes) (T0 : Trie) (fk : Nibs) (v : Bytes) :
    OkV ver H T0 fk (newValue ver v) := by
  rw [newValue_eq]
  cases h : mustBeHashed ver v <;> exact h

theorem abs_ofTrie (ver : Ver) (T0 : Trie) (t : Trie) : ∀ pre, abs T0 (ofTrie ver t) pre = t := by
  induction t with
  | nil => intro pre; rfl
  | leaf pk v => intro pre; simp [ofTrie, abs, absV_new]
  | branch pk v cs ih =>
    intro pre
    simp only [ofTrie, abs, ih]
    cases v with
    | none => rfl
    | some x => simp [absV_new]

theorem ok_ofTrie (ver : Ver) (H : Bytes → Bytes) (T0 : Trie) (t : Trie) :
    ∀ pre, Ok ver H T0 (ofTrie ver t) pre := by
  induction t with
  | nil => intro pre; trivial
  | leaf pk v => intro pre; exact ⟨okV_new ver H T0 _ v, fun h hh => by cases hh⟩
  | branch pk v cs ih =>
    intro pre
    refine ⟨?_, fun i => ih i _, fun h hh => by cases hh⟩
    intro dv hdv
    obtain ⟨x, rfl, rfl⟩ := Option.map_eq_some_iff.mp hdv
    exact okV_new ver H T0 _ x

theorem ok_nil_new {ver : Ver} {H : Bytes → Bytes} {hd : Hd} {pre : Nibs} (hok : Ok ver H nil hd pre)
    (hn : hd.isNone = false) : hd.isMem = true ∧ hd.cached = none := by
  cases hd with
  | none => cases hn
  | persisted h => exact absurd (subAt_nil pre) hok.1
  | empty c => exact hok.elim
  | leaf c pk dv =>
    cases c with
    | some h => exact absurd (subAt_nil pre) (hok.2 h rfl).1.1
    | none => exact ⟨rfl, rfl⟩
  | branch c pk dvo cs =>
    cases c with
    | some h => exact absurd (subAt_nil pre) (hok.2.2 h rfl).1.1
    | none => exact ⟨rfl, rfl⟩

end Gossamer.C06
