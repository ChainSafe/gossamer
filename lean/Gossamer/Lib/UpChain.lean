/-
Trees given by a parent function on block indices: block 0 is the root and `p b < b` for every other block.  The models
C20, C21 and C23 each compute the chain `[b, p b, …, 0]` from a block up to the root by a walk over their own parent table
that carries `b` units of fuel.  `Chain p ch` holds what the proofs need of such a walk.  `Chain.ofFuel` derives its three
fields from the two defining equations of the walk (both `rfl` in a model) and is the only place where fuel is argued:
`dec` bounds the steps from `b` by `b`, so more fuel changes nothing.  Everything else is proved from the three fields,
with `a ∈ ch b` read as "`a` is `b` or an ancestor of `b`".  A model states `Tree.upChain : t.WF →
Chain parent chain` (Lib/C20Tree, Lib/C21Tree, Lib/C23Tree) and uses the lemmas as `(Tree.upChain h).trans`.
The models' own depth functions (`C21.Tree.depth`, `C23.num`, `C20.Tree.num`: chain length minus one) are `depth` of
their chain by unfolding only, so `rw` and `omega` do not see the two as one: each model restates under its own name
the `depth_*` lemmas it rewrites with.  (`C20.depth` is the chain length itself: `length_lt` serves it.)
-/
namespace Gossamer.Up

structure Chain (p : Nat → Nat) (ch : Nat → List Nat) : Prop where
  dec : ∀ b, 0 < b → p b < b
  zero : ch 0 = [0]
  pos : ∀ b, 0 < b → ch b = b :: ch (p b)

def depth (ch : Nat → List Nat) (b : Nat) : Nat := (ch b).length - 1

variable {p : Nat → Nat} {ch : Nat → List Nat}

theorem Chain.ofFuel (dec : ∀ b, 0 < b → p b < b) {F : Nat → Nat → List Nat} (h0 : ∀ b, F 0 b = [b])
    (hs : ∀ f b, F (f + 1) b = if b = 0 then [0] else b :: F f (p b)) : Chain p (fun b => F b b) := by
  have fuel : ∀ b f, b ≤ f → F f b = F b b := by
    intro b
    induction b using Nat.strongRecOn with
    | _ b ih =>
      intro f hf
      rcases Nat.eq_zero_or_pos b with rfl | hb
      · cases f with
        | zero => rfl
        | succ f => rw [hs, if_pos rfl, h0]
      · obtain ⟨f, rfl⟩ := Nat.exists_eq_add_one_of_ne_zero (Nat.ne_of_gt (Nat.lt_of_lt_of_le hb hf))
        obtain ⟨b, rfl⟩ := Nat.exists_eq_add_one_of_ne_zero (Nat.ne_of_gt hb)
        have hp := dec _ hb
        have hp' := Nat.le_of_lt_succ hp
        rw [hs f, hs b, ih _ hp f (Nat.le_trans hp' (Nat.le_of_succ_le_succ hf)), ih _ hp b hp']
  refine ⟨dec, h0 0, fun b hb => ?_⟩
  obtain ⟨b, rfl⟩ := Nat.exists_eq_add_one_of_ne_zero (Nat.ne_of_gt hb)
  show F (b + 1) (b + 1) = _
  rw [hs, if_neg (Nat.succ_ne_zero b), fuel _ b (Nat.le_of_lt_succ (dec _ hb))]

namespace Chain
variable (H : Chain p ch)
include H

theorem induction {motive : Nat → Prop} (zero : motive 0) (step : ∀ b, 0 < b → motive (p b) → motive b)
    (b : Nat) : motive b := by
  induction b using Nat.strongRecOn with
  | _ b ih =>
    rcases Nat.eq_zero_or_pos b with rfl | hb
    · exact zero
    · exact step b hb (ih _ (H.dec b hb))

theorem mem_zero {a : Nat} : a ∈ ch 0 ↔ a = 0 := by rw [H.zero, List.mem_singleton]

theorem mem_pos {a b : Nat} (hb : 0 < b) : a ∈ ch b ↔ a = b ∨ a ∈ ch (p b) := by
  rw [H.pos b hb, List.mem_cons]

theorem mem_self (b : Nat) : b ∈ ch b := by
  rcases Nat.eq_zero_or_pos b with rfl | hb
  · exact H.mem_zero.2 rfl
  · exact (H.mem_pos hb).2 (Or.inl rfl)

theorem parent_mem {b : Nat} (hb : 0 < b) : p b ∈ ch b := (H.mem_pos hb).2 (Or.inr (H.mem_self _))

theorem zero_mem (b : Nat) : 0 ∈ ch b := by
  induction b using H.induction with
  | zero => exact H.mem_self 0
  | step b hb ih => exact (H.mem_pos hb).2 (Or.inr ih)

theorem mem_le {a b : Nat} : a ∈ ch b → a ≤ b := by
  induction b using H.induction with
  | zero => exact fun ha => Nat.le_of_eq (H.mem_zero.1 ha)
  | step b hb ih =>
    intro ha
    rcases (H.mem_pos hb).1 ha with rfl | ha
    · exact Nat.le_refl _
    · exact Nat.le_trans (ih ha) (Nat.le_of_lt (H.dec b hb))

theorem suffix {a b : Nat} : a ∈ ch b → ch a <:+ ch b := by
  induction b using H.induction with
  | zero => intro ha; rw [H.mem_zero.1 ha]; exact List.suffix_refl _
  | step b hb ih =>
    intro ha
    rcases (H.mem_pos hb).1 ha with rfl | ha
    · exact List.suffix_refl _
    · rw [H.pos b hb]; exact (ih ha).trans (List.suffix_cons _ _)

theorem trans {a b c : Nat} (hab : a ∈ ch b) (hbc : b ∈ ch c) : a ∈ ch c := (H.suffix hbc).subset hab

theorem antisymm {a b : Nat} (hab : a ∈ ch b) (hba : b ∈ ch a) : a = b :=
  Nat.le_antisymm (H.mem_le hab) (H.mem_le hba)

theorem comparable {a b c : Nat} (ha : a ∈ ch c) (hb : b ∈ ch c) : a ∈ ch b ∨ b ∈ ch a := by
  rcases Nat.le_total (ch a).length (ch b).length with hl | hl
  · exact Or.inl ((List.suffix_of_suffix_length_le (H.suffix ha) (H.suffix hb) hl).subset (H.mem_self a))
  · exact Or.inr ((List.suffix_of_suffix_length_le (H.suffix hb) (H.suffix ha) hl).subset (H.mem_self b))

theorem child_towards {b B : Nat} : B ∈ ch b → B ≠ b → ∃ c, c ∈ ch b ∧ c ≠ 0 ∧ p c = B := by
  induction b using H.induction with
  | zero => intro hB hne; exact absurd (H.mem_zero.1 hB) hne
  | step b hb ih =>
    intro hB hne
    have hB' := ((H.mem_pos hb).1 hB).resolve_left hne
    by_cases hp : B = p b
    · exact ⟨b, H.mem_self b, Nat.ne_of_gt hb, hp.symm⟩
    · obtain ⟨c, hc, hc0, hcp⟩ := ih hB' hp
      exact ⟨c, H.trans hc (H.parent_mem hb), hc0, hcp⟩

/-- the first block with `q` on the way up from `g`: every other block of the chain with `q` is an ancestor of it -/
theorem find (q : Nat → Bool) {g v : Nat} :
    (ch g).find? q = some v → v ∈ ch g ∧ q v = true ∧ ∀ x ∈ ch g, q x = true → x ∈ ch v := by
  induction g using H.induction with
  | zero =>
    intro hf
    obtain rfl := H.mem_zero.1 (List.mem_of_find?_eq_some hf)
    exact ⟨H.mem_self 0, List.find?_some hf, fun x hx _ => hx⟩
  | step g hg ih =>
    intro hf
    rw [H.pos g hg] at hf
    by_cases hq : q g = true
    · rw [List.find?_cons_of_pos hq] at hf
      cases hf
      exact ⟨H.mem_self v, hq, fun x hx _ => hx⟩
    · rw [List.find?_cons_of_neg hq] at hf
      obtain ⟨h1, h2, h3⟩ := ih hf
      refine ⟨(H.mem_pos hg).2 (Or.inr h1), h2, fun x hx hqx => ?_⟩
      rcases (H.mem_pos hg).1 hx with rfl | hx
      · exact absurd hqx hq
      · exact h3 x hx hqx

theorem length_pos (b : Nat) : 0 < (ch b).length := List.length_pos_of_mem (H.mem_self b)

theorem head (b : Nat) : (ch b)[0]? = some b := by
  rcases Nat.eq_zero_or_pos b with rfl | hb
  · rw [H.zero]; rfl
  · rw [H.pos b hb]; rfl

theorem nodup (b : Nat) : (ch b).Nodup := by
  induction b using H.induction with
  | zero => rw [H.zero]; exact List.nodup_cons.2 ⟨List.not_mem_nil, List.nodup_nil⟩
  | step b hb ih =>
    rw [H.pos b hb]
    exact List.nodup_cons.2 ⟨fun hm => Nat.lt_irrefl _ (Nat.lt_of_le_of_lt (H.mem_le hm) (H.dec b hb)), ih⟩

theorem getElem {b i x : Nat} : (ch b)[i]? = some x → ch x = (ch b).drop i := by
  induction b using H.induction generalizing i with
  | zero =>
    intro hx
    rw [H.zero] at hx ⊢
    cases i with
    | zero => cases hx; exact H.zero
    | succ i => cases hx
  | step b hb ih =>
    intro hx
    cases i with
    | zero => rw [H.head] at hx; cases hx; rfl
    | succ i => rw [H.pos b hb] at hx ⊢; exact ih hx

theorem depth_zero : depth ch 0 = 0 := by rw [depth, H.zero]; rfl

theorem depth_pos {b : Nat} (hb : 0 < b) : depth ch b = depth ch (p b) + 1 := by
  rw [depth, depth, H.pos b hb, List.length_cons, Nat.add_sub_cancel, Nat.sub_add_cancel (H.length_pos _)]

theorem depth_eq_zero_iff {b : Nat} : depth ch b = 0 ↔ b = 0 := by
  refine ⟨fun hd => Nat.eq_zero_of_not_pos fun hb => ?_, fun hb => hb ▸ H.depth_zero⟩
  rw [H.depth_pos hb] at hd
  exact Nat.succ_ne_zero _ hd

theorem depth_le_self (b : Nat) : depth ch b ≤ b := by
  induction b using H.induction with
  | zero => exact Nat.le_of_eq H.depth_zero
  | step b hb ih => rw [H.depth_pos hb]; exact Nat.succ_le_of_lt (Nat.lt_of_le_of_lt ih (H.dec b hb))

theorem depth_getElem {b i x : Nat} (hx : (ch b)[i]? = some x) : depth ch x + i = depth ch b := by
  have hi := (List.getElem?_eq_some_iff.1 hx).1
  rw [depth, depth, H.getElem hx, List.length_drop]
  omega

theorem depth_le {a b : Nat} (hab : a ∈ ch b) : depth ch a ≤ depth ch b :=
  Nat.sub_le_sub_right (H.suffix hab).length_le 1

theorem length_lt {a b : Nat} (hab : a ∈ ch b) (hne : a ≠ b) : (ch a).length < (ch b).length :=
  Nat.lt_of_le_of_ne (H.suffix hab).length_le fun hl =>
    hne (H.antisymm hab ((H.suffix hab).eq_of_length hl ▸ H.mem_self b))

theorem depth_lt {a b : Nat} (hab : a ∈ ch b) (hne : a ≠ b) : depth ch a < depth ch b :=
  Nat.sub_lt_sub_right (H.length_pos a) (H.length_lt hab hne)

theorem depth_inj {a b c : Nat} (ha : a ∈ ch c) (hb : b ∈ ch c) (hd : depth ch a = depth ch b) : a = b := by
  apply Classical.byContradiction
  intro hne
  rcases H.comparable ha hb with hab | hba
  · exact Nat.lt_irrefl _ (hd ▸ H.depth_lt hab hne)
  · exact Nat.lt_irrefl _ (hd ▸ H.depth_lt hba (Ne.symm hne))

end Chain

/-- a parent table read with default 0 (C20, C21) -/
theorem getD_lt {par : List Nat} (h : ∀ b, 0 < b → b < par.length → par.getD b 0 < b) {b : Nat} (hb : 0 < b) :
    par.getD b 0 < b := by
  by_cases hs : b < par.length
  · exact h b hb hs
  · rw [List.getD_eq_getElem?_getD, List.getElem?_eq_none (Nat.le_of_not_lt hs)]; exact hb

end Gossamer.Up
