/-
`Hist` collects what is true of the set of all votes ever cast (`sent`) in every reachable state of the
protocol.  From `Hist` alone (no reference to time) the paper's lemma follows: a block with a supermajority
of the precommits of round r is an ancestor of every estimate that an honest voter can record for a round
≥ r, hence of every honest vote of a later round (`locked_later`).
-/
import Gossamer.Lib.C22Votes
namespace Gossamer.C22

section
variable {B : Type} [DecidableEq B]

theorem single_round_comparable (vs : Voters) (O : BlockOrder B) (castV S1 S2 : Votes B) (b1 b2 : B)
    (hmin : vs.minority) (hhon : ∀ v, vs.honest v → single castV v)
    (h1 : ∀ p, p ∈ S1 → p ∈ castV) (h2 : ∀ p, p ∈ S2 → p ∈ castV)
    (hs1 : hasSuper vs O S1 b1) (hs2 : hasSuper vs O S2 b2) : O.comparable b1 b2 := by
  have ⟨v, hm, ha, hb, hz⟩ :=
    vs.two_super_meet (supports O S1 b1) (supports O S2 b2) vs.byz hmin hs1 hs2
  have hsingle := hhon v ⟨hm, hz⟩
  have ⟨c1, hc1, hl1⟩ := supports_single O S1 b1 v (single_sub h1 v hsingle) ha
  have ⟨c2, hc2, hl2⟩ := supports_single O S2 b2 v (single_sub h2 v hsingle) hb
  have : c1 = c2 := hsingle c1 c2 (h1 _ hc1) (h2 _ hc2)
  subst this
  exact O.chain b1 b2 c1 hl1 hl2

theorem possible_of_honest_above (vs : Voters) (O : BlockOrder B) (hmin : vs.minority) {C : Votes B}
    (hsingle : ∀ v, vs.honest v → single C v) (x : B)
    (habove : ∀ v c, vs.honest v → (v, c) ∈ C → O.le x c = true)
    (S : Votes B) (hS : ∀ p, p ∈ S → p ∈ C) : possible vs O S x := by
  let extra : Votes B := (vs.ids.filter (fun v => !voted S v)).map (fun v => (v, x))
  have hextra : ∀ v b, (v, b) ∈ extra → b = x ∧ voted S v = false ∧ v ∈ vs.ids := by
    intro v b h
    have ⟨u, hu, he⟩ := List.mem_map.mp h
    have ⟨hu1, hu2⟩ := List.mem_filter.mp hu
    simp at he
    rw [← he.1, ← he.2]
    exact ⟨rfl, by simpa using hu2, hu1⟩
  refine ⟨S ++ extra, fun p hp => List.mem_append.mpr (Or.inl hp),
    equivocators_light vs hmin fun v hv b b' h1 h2 => ?_, ?_⟩
  · -- an honest voter has one vote in S ++ extra: its vote in S, or else the one for x
    have hno : ∀ b b', (v, b) ∈ S → (v, b') ∉ extra := fun b b' h1 h2 =>
      Bool.false_ne_true ((hextra v b' h2).2.1.symm.trans ((voted_iff S v).mpr ⟨b, h1⟩))
    rcases List.mem_append.mp h1 with h1 | h1 <;> rcases List.mem_append.mp h2 with h2 | h2
    · exact hsingle v hv b b' (hS _ h1) (hS _ h2)
    · exact absurd h2 (hno b b' h1)
    · exact absurd h1 (hno b' b h2)
    · exact (hextra v b h1).1.trans (hextra v b' h2).1.symm
  · -- every honest voter supports x in S ++ extra
    have hsup : vs.weight (fun v => !vs.byz v) ≤ tally vs O (S ++ extra) x := by
      apply vs.weight_mono
      intro v hm hb
      have hb' : vs.byz v = false := by simpa using hb
      rw [supports_iff]
      left
      cases hvoted : voted S v with
      | true =>
        have ⟨b, hb1⟩ := (voted_iff S v).mp hvoted
        exact ⟨b, List.mem_append.mpr (Or.inl hb1), habove v b ⟨hm, hb'⟩ (hS _ hb1)⟩
      | false =>
        refine ⟨x, List.mem_append.mpr (Or.inr ?_), O.refl x⟩
        exact List.mem_map.mpr ⟨v, List.mem_filter.mpr ⟨hm, by simp [hvoted]⟩, rfl⟩
    have := vs.honest_super hmin
    unfold hasSuper supermajority at *
    omega

structure Hist (vs : Voters) (O : BlockOrder B) (sent : List (Msg B)) : Prop where
  hon_single : ∀ m m', m ∈ sent → m' ∈ sent → vs.honest m.voter → m.voter = m'.voter →
    m.round = m'.round → m.stage = m'.stage → m.block = m'.block
  /-- an honest vote of round q+1 extends an estimate its voter could record for round q -/
  hon_ext : ∀ m, m ∈ sent → vs.honest m.voter → ∀ q, q + 1 = m.round →
    ∃ (view : List (Msg B)) (g e : B), (∀ x, x ∈ view → x ∈ sent) ∧ closable vs O view q g e ∧
      O.le e m.block = true
  /-- an honest precommit has a supermajority of the prevotes its voter had received -/
  hon_pc : ∀ m, m ∈ sent → vs.honest m.voter → m.stage = .precommit →
    ∃ view : List (Msg B), (∀ x, x ∈ view → x ∈ sent) ∧
      hasSuper vs O (votesOf view m.round .prevote) m.block

variable {vs : Voters} {O : BlockOrder B} {sent : List (Msg B)}

theorem Hist.single (H : Hist vs O sent) (r : Nat) (st : Stage) :
    ∀ v, vs.honest v → single (votesOf sent r st) v := by
  intro v hv b b' h1 h2
  rw [mem_votesOf] at h1 h2
  exact H.hon_single _ _ h1 h2 hv rfl rfl rfl

theorem Hist.honest_vote (H : Hist vs O sent) (hmin : vs.minority) {r : Nat} {st : Stage} {x : B}
    (hs : hasSuper vs O (votesOf sent r st) x) :
    ∃ v b, vs.honest v ∧ (⟨r, st, v, b⟩ : Msg B) ∈ sent ∧ O.le x b = true :=
  have ⟨v, b, hv, hvb, hle⟩ := hasSuper_honest_vote vs O _ x hmin (H.single r st) hs
  ⟨v, b, hv, (mem_votesOf sent r st v b).1 hvb, hle⟩

theorem Hist.est_ge_locked (H : Hist vs O sent) (hmin : vs.minority) (r : Nat) (x : B)
    (hx : hasSuper vs O (votesOf sent r .precommit) x)
    (view : List (Msg B)) (g e : B) (hview : ∀ m, m ∈ view → m ∈ sent)
    (hc : closable vs O view r g e) : O.le x e = true := by
  have ⟨hg, _, hall⟩ := hc
  -- it is possible for the received precommits to have a supermajority for x: they do, eventually
  have hposs : possible vs O (votesOf view r .precommit) x :=
    ⟨votesOf sent r .precommit, votesOf_sub hview r .precommit,
      equivocators_light vs hmin (H.single r .precommit), hx⟩
  -- x is comparable with g: both are tied to blocks with a supermajority of the prevotes of round r
  have ⟨v, c, hv, hvc, hxc⟩ := H.honest_vote hmin hx
  have ⟨view', hview', hsc⟩ := H.hon_pc _ hvc hv rfl
  have hsc' : hasSuper vs O (votesOf sent r .prevote) c :=
    hasSuper_mono vs O (votesOf_sub hview' r .prevote) c hsc
  have hg' : hasSuper vs O (votesOf sent r .prevote) g :=
    hasSuper_mono vs O (votesOf_sub hview r .prevote) g hg
  have hcg : O.comparable c g :=
    single_round_comparable vs O _ _ _ c g hmin (H.single r .prevote) (fun _ h => h) (fun _ h => h)
      hsc' hg'
  have hxg : O.comparable x g := by
    cases hcg with
    | inl h => left; exact O.trans _ _ _ hxc h
    | inr h => exact O.chain x g c hxc h
  exact hall x hxg hposs

theorem Hist.locked_later (H : Hist vs O sent) (hmin : vs.minority) (r : Nat) (x : B)
    (hx : hasSuper vs O (votesOf sent r .precommit) x) :
    ∀ m, m ∈ sent → vs.honest m.voter → r < m.round → O.le x m.block = true := by
  -- induction on the round of the vote: the vote extends an estimate of the round before
  have main : ∀ q, r ≤ q → ∀ m, m ∈ sent → vs.honest m.voter → m.round = q + 1 → O.le x m.block = true := by
    intro q
    induction q using Nat.strongRecOn with
    | _ q ih =>
      intro hq m hm hv hr
      have ⟨view, g, e, hview, hc, hle⟩ := H.hon_ext m hm hv q hr.symm
      refine O.trans _ _ _ ?_ hle
      rcases Nat.eq_or_lt_of_le hq with rfl | hlt
      · exact H.est_ge_locked hmin r x hx view g e hview hc
      -- every honest vote of round q is above x already
      obtain ⟨p, rfl⟩ : ∃ p, q = p + 1 := ⟨q - 1, by omega⟩
      have below : ∀ m', m' ∈ sent → vs.honest m'.voter → m'.round = p + 1 → O.le x m'.block = true :=
        ih p (Nat.lt_succ_self p) (Nat.le_of_lt_succ hlt)
      have ⟨hg, _, hall⟩ := hc
      -- g is comparable with x: an honest prevote of round q is above both
      have hg' : hasSuper vs O (votesOf sent (p + 1) .prevote) g :=
        hasSuper_mono vs O (votesOf_sub hview _ .prevote) g hg
      have ⟨v, c, hvh, hvc, hgc⟩ := H.honest_vote hmin hg'
      refine hall x (O.chain x g c (below _ hvc hvh rfl) hgc) ?_
      exact possible_of_honest_above vs O hmin (H.single (p + 1) .precommit) x
        (fun u c' hu hc' => below _ ((mem_votesOf sent _ _ u c').1 hc') hu rfl) _ (votesOf_sub hview _ .precommit)
  intro m hm hv hr
  exact main (m.round - 1) (by omega) m hm hv (by omega)

/-- safety from the rule `hrule` alone, for any honest behaviour that keeps it: no `Hist`, no `closable` -/
theorem safe_of_rule (vs : Voters) (O : BlockOrder B) (hmin : vs.minority) (sent : List (Msg B))
    (hsingle : ∀ r v, vs.honest v → single (votesOf sent r .precommit) v)
    (hrule : ∀ r x, hasSuper vs O (votesOf sent r .precommit) x →
      ∀ m, m ∈ sent → vs.honest m.voter → r < m.round → m.stage = .precommit → O.le x m.block = true)
    (r1 r2 : Nat) (b1 b2 : B)
    (h1 : hasSuper vs O (votesOf sent r1 .precommit) b1)
    (h2 : hasSuper vs O (votesOf sent r2 .precommit) b2) : O.comparable b1 b2 := by
  have later : ∀ (ra rb : Nat) (ba bb : B), ra < rb →
      hasSuper vs O (votesOf sent ra .precommit) ba → hasSuper vs O (votesOf sent rb .precommit) bb →
      O.comparable ba bb := by
    intro ra rb ba bb hlt ha hb
    have ⟨v, c, hv, hvc, hbc⟩ := hasSuper_honest_vote vs O _ bb hmin (hsingle rb) hb
    rw [mem_votesOf] at hvc
    exact O.chain ba bb c (hrule ra ba ha _ hvc hv hlt rfl) hbc
  rcases Nat.lt_trichotomy r1 r2 with h | h | h
  · exact later r1 r2 b1 b2 h h1 h2
  · subst h
    exact single_round_comparable vs O _ _ _ b1 b2 hmin (hsingle r1) (fun _ h => h) (fun _ h => h) h1 h2
  · exact (later r2 r1 b2 b1 h h2 h1).symm

theorem Hist.safe (H : Hist vs O sent) (hmin : vs.minority) (r1 r2 : Nat) (b1 b2 : B)
    (h1 : hasSuper vs O (votesOf sent r1 .precommit) b1)
    (h2 : hasSuper vs O (votesOf sent r2 .precommit) b2) : O.comparable b1 b2 :=
  safe_of_rule vs O hmin sent (fun r => H.single r .precommit)
    (fun r x hx m hm hv hr _ => H.locked_later hmin r x hx m hm hv hr) r1 r2 b1 b2 h1 h2

end

end Gossamer.C22
