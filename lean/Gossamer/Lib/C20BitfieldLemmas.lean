/-
C20: bitfield.go (model `C20Bitfield`) refines the Nat bit masks the round model uses:
`SetBit` sets exactly that position, `Merge` is the union, `testBit` reads machine bit 63 − position.
-/
import Gossamer.Lib.C20Bitfield
import Gossamer.Model.C20
import Gossamer.Base.Bytes
namespace Gossamer.C20.BF

theorem getD_padTo (b : Words) (n i : Nat) : (padTo b n).getD i 0 = b.getD i 0 := by
  unfold padTo
  simp only [List.getD_eq_getElem?_getD]
  by_cases h : i < b.length
  · rw [List.getElem?_append_left h]
  · rw [List.getElem?_append_right (by omega)]
    rw [List.getElem?_eq_none (l := b) (by omega)]
    by_cases h2 : i - b.length < n - b.length
    · simp only [List.length_replicate, h2, getElem?_pos, List.getElem_replicate, Option.getD_some,
          Option.getD_none]
    · simp only [List.length_replicate, h2, not_false_eq_true, getElem?_neg, Option.getD_none]

theorem length_padTo (b : Words) (n : Nat) : (padTo b n).length = max b.length n := by
  unfold padTo; simp only [List.length_append, List.length_replicate]; omega

theorem getD_set (l : Words) (w x i : Nat) (hw : w < l.length) :
    (l.set w x).getD i 0 = if i = w then x else l.getD i 0 := by
  simp only [List.getD_eq_getElem?_getD, List.getElem?_set]
  by_cases h : w = i
  · subst h; simp only [↓reduceIte, hw, Option.getD_some]
  · have : ¬ i = w := fun e => h e.symm
    simp only [h, ↓reduceIte, this]

theorem testBitGo_eq (word pos : Nat) : testBitGo word pos = word.testBit (63 - pos) := by
  unfold testBitGo
  simp only [Nat.one_shiftLeft]
  rw [and_two_pow]
  have := Nat.two_pow_pos (63 - pos)
  cases word.testBit (63 - pos)
  · exact beq_false_of_ne (by simp only [Bool.false_eq_true, if_false]; omega)
  · simp

theorem getD_setBit (b : Words) (p i : Nat) :
    (setBit b p).getD i 0 = if i = p / 64 then b.getD i 0 ||| 1 <<< (63 - p % 64) else b.getD i 0 := by
  unfold setBit
  simp only
  split
  · rw [getD_set _ _ _ _ (by rw [length_padTo]; omega), getD_padTo, getD_padTo]
    split
    · rename_i h; rw [h]
    · rfl
  · rw [getD_set _ _ _ _ (by omega)]
    split
    · rename_i h; rw [h]
    · rfl

theorem get_setBit (b : Words) (p q : Nat) : get (setBit b p) q = (get b q || decide (p = q)) := by
  unfold get
  rw [getD_setBit]
  by_cases hw : q / 64 = p / 64
  · rw [if_pos hw, Nat.testBit_or, Nat.one_shiftLeft, Nat.testBit_two_pow]
    have : (63 - p % 64 = 63 - q % 64) ↔ p = q := by omega
    simp only [this]
  · have : ¬ p = q := fun e => hw (e ▸ rfl)
    simp only [hw, if_false, this, decide_false, Bool.or_false]

theorem getD_orInto : ∀ (a b : Words) (i : Nat), b.length ≤ a.length →
    (orInto a b).getD i 0 = (a.getD i 0 ||| b.getD i 0) := by
  intro a
  induction a with
  | nil => intro b i h; have : b = [] := List.eq_nil_of_length_eq_zero (by simpa only [List.length_eq_zero_iff, List.length_nil, Nat.le_zero_eq] using h)
           subst this; simp [orInto]
  | cons x xs ih =>
    intro b i h
    cases b with
    | nil => simp [orInto]
    | cons y ys =>
      cases i with
      | zero => simp [orInto]
      | succ i =>
        have := ih ys i (by simpa only [List.length_cons, Nat.add_le_add_iff_right] using h)
        simpa only [orInto, List.getD_eq_getElem?_getD, List.getElem?_cons_succ] using this

theorem get_merge (a b : Words) (q : Nat) : get (merge a b) q = (get a q || get b q) := by
  unfold get merge
  have hlen : b.length ≤ (if a.length < b.length then padTo a b.length else a).length := by
    split
    · rw [length_padTo]; omega
    · omega
  rw [getD_orInto _ _ _ hlen, Nat.testBit_or]
  congr 2
  split
  · exact getD_padTo a _ _
  · rfl

theorem get_nil (q : Nat) : get [] q = false := by simp [get]

theorem isBlank_get {b : Words} (h : isBlank b = true) (q : Nat) : get b q = false := by
  have : b = [] := by simpa only [isBlank, List.isEmpty_iff] using h
  subst this; exact get_nil q

/-- a bitfield represents a Nat mask of the round model -/
def Rep (b : Words) (m : Nat) : Prop := ∀ p, get b p = m.testBit p

theorem rep_empty : Rep [] 0 := fun p => by rw [get_nil, Nat.zero_testBit]

theorem rep_setBit {b : Words} {m : Nat} (h : Rep b m) (p : Nat) : Rep (setBit b p) (Gossamer.C20.setBit m p) := by
  intro q
  rw [get_setBit, h q]
  simp only [C20.setBit, Nat.one_shiftLeft, Nat.testBit_or, Nat.testBit_two_pow]

theorem rep_merge {a b : Words} {m n : Nat} (ha : Rep a m) (hb : Rep b n) : Rep (merge a b) (m ||| n) := by
  intro q
  rw [get_merge, ha q, hb q, Nat.testBit_or]

end Gossamer.C20.BF
