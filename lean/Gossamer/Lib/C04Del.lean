/-
C04, incremental writes: `Delete` and `ClearPrefix` on the heap refine `Trie.deleteAtNode` and
`Trie.clearPrefixAtNode` and keep the tree view.  Unlike `Put` (one equation per position of the key), `deleteF_tree`
and `clearPrefixF_tree` unfold the heap function and the pure one side by side: the two have the same `if` skeleton
test for test, and must be changed in lock-step.
-/
import Gossamer.Lib.C04Put
namespace Gossamer
namespace TrieHeap
open Trie TrieCodec

theorem kidIdx_eq {H : Bytes → Bytes} {G : Bytes → Bytes → Prop} {hp : Heap} {g : Nat} {ks : Nib → Option Nat}
    {cs : Nib → Trie} {kn : Nib → Node} {fps : Nib → List Nat}
    (hk : ∀ i, KidTI H G hp g (cs i) (kn i) (fps i) (ks i)) : kidIdx ks = childIdx cs := by
  unfold kidIdx childIdx
  apply List.filter_congr
  intro i _
  have := hk i
  cases hki : ks i with
  | none => rw [hki] at this; rw [this.1]; rfl
  | some c => rw [hki] at this; rw [isNil_false_of_ne this.1]; rfl

/-- post-condition of `deleteF` / `clearPrefixF`: that of a mutator, with the flag of the pure function
    and with the new root at the old address or at a new one (`loc`: so that it is not the root cell of the trie,
    `setKid_notroot`) -/
structure PostD (H : Bytes → Bytes) (G : Bytes → Bytes → Prop) (hp : Heap) (g : Nat) (r : Bool) (fp : List Nat)
    (a : Nat) (t : Trie) (sp : Trie × Bool) (hp' : Heap) (y : Option Nat) (m : Bool) : Prop where
  post : Post H G hp g r fp a t sp.1 hp' y m
  loc : ∀ z, y = some z → z = a ∨ hp.size ≤ z
  flag : m = sp.2

theorem PostD.refl {G : Bytes → Bytes → Prop} {c : Ctx} {hp : Heap} {r : Bool} {fp : List Nat} {a : Nat} {t : Trie}
    {N : Node} (s : Sub G c hp r t N a fp) : PostD c.H G hp c.g r fp a t (t, false) hp (some a) false :=
  ⟨Post.refl s _, fun _ hz => Or.inl (Option.some.inj hz).symm, rfl⟩

/-- the whole sub-trie goes: only its Merkle value is computed (`registerDeletedNodeHash`) -/
theorem PostD.gone {G : Bytes → Bytes → Prop} {c : Ctx} {hp : Heap} {t : Trie} {N : Node} {a : Nat}
    {fp : List Nat} {r : Bool} (s : Sub G c hp r t N a fp) :
    PostD c.H G hp c.g r fp a t (.nil, true) (ensureMV c hp (some a)) none true :=
  ⟨⟨⟨rfl, FR.of_dframe (ensureMV_dframe s.h32 s.ti.rep s.ti.coh s.flav s.fuel)⟩, fun hf => nomatch hf⟩,
    (fun _ hz => nomatch hz), rfl⟩

theorem PostD.handle {G : Bytes → Bytes → Prop} {c : Ctx} (hH : ∀ m, (c.H m).length = 32) {g : Nat} {hp : Heap}
    {fp : List Nat} {r : Bool} {a : Nat} {t : Trie} {pk : Nibs}
    {v : Option Bytes} {cs' : Nib → Trie} {ks' : Nib → Option Nat} {hp2 : Heap} {b : Nat}
    (rb : Rebuilt c.H G hp g fp a pk v cs' ks' hp2 b)
    (hfl : ∀ i ch, ks' i = some ch → (c.troot == some ch) = false)
    (hdep : ∀ i, depth (cs' i) ≤ bigFuel + 1) (key : Nibs) :
    PostD c.H G hp g r fp a t (Trie.handleDeletion pk v cs' key, true) (handleDeletion c hp2 b key).1
      (some (handleDeletion c hp2 b key).2) true := by
  suffices hs : Out c.H G hp g r fp (handleDeletion c hp2 b key).1 (Trie.handleDeletion pk v cs' key)
        (handleDeletion c hp2 b key).2 ∧
      ((handleDeletion c hp2 b key).2 = a ∨ hp.size ≤ (handleDeletion c hp2 b key).2) from
    ⟨hs.1.changed, fun z hz => Option.some.inj hz ▸ hs.2, rfl⟩
  obtain ⟨kn, fps, hk, hfam⟩ := rb.kids
  have hdef := rb.out r
  unfold handleDeletion Trie.handleDeletion
  dsimp only
  rw [rb.own.kids, kidIdx_eq hk, rb.own.val, rb.own.pk]
  rcases hci : childIdx cs' with _ | ⟨i, _ | ⟨j, rest⟩⟩
  · cases v with
    | none => exact ⟨hdef, rb.loc⟩
    | some x =>
      -- no child left: the branch becomes a leaf
      exact ⟨out_leaf (rb.fr.trans (FR.alloc _ _ _)) (Own.alloc _ _ rfl rb.own.gen) (wr_alloc rb.fr.size _),
        Or.inr rb.fr.size⟩
  · cases v with
    | some x => exact ⟨hdef, rb.loc⟩
    | none =>
      -- a single child and no value: the child is merged into the branch
      dsimp only
      have hne := (Trie.mem_childIdx cs' i).mp (by rw [hci]; exact List.mem_cons_self)
      have hki := hk i
      cases hkid : ks' i with
      | none => rw [hkid] at hki; exact absurd hki.1 hne
      | some ch =>
        dsimp only
        rw [hkid] at hki
        have hdf : DFrame hp2 (registerDeleted c hp2 ch) :=
          ensureMV_dframe hH hki.2.rep hki.2.coh (hfl i ch hkid) (hdep i)
        have hs := (hdf.strip ch).1
        have hfr1 : FR (Wr hp fp) hp (registerDeleted c hp2 ch) := rb.fr.trans (FR.of_dframe hdf)
        rw [strip_isBranch hs, strip_pk hs, strip_val hs, strip_kids hs]
        cases hcsi : cs' i with
        | nil => exact absurd hcsi hne
        | leaf cpk cv =>
          rw [hcsi] at hki
          obtain ⟨hb', hpk', hv', _, _⟩ := hki.2.rep
          simp only [hb', hpk', hv', Bool.not_false, if_true]
          exact ⟨out_leaf (hfr1.trans (FR.alloc _ _ _)) (Own.alloc _ _ rfl rb.own.gen) (wr_alloc hfr1.size _),
            Or.inr hfr1.size⟩
        | branch cpk cv ccs =>
          rw [hcsi] at hki
          obtain ⟨kn2, fps2, br2⟩ := ti_br hki.2 (hfam.nd i)
          simp only [br2.isBranch, br2.pk, br2.val, Bool.not_true, Bool.false_eq_true, if_false]
          refine ⟨out_branch (kn := kn2) (fps := fps2) (hfr1.trans (FR.alloc _ _ _)) (Own.alloc _ _ rfl rb.own.gen)
            (fun m => kid_frame (S := fun _ => False) ((FR.of_dframe hdf).trans (FR.alloc _ _ _))
              (fun x hx => hx.elim) (br2.kids m))
            ⟨br2.nd, br2.dis, fun m hm => ?_, fun m x hx => hfam.bd i x (br2.sub m x hx)⟩
            (wr_alloc hfr1.size _), Or.inr hfr1.size⟩
          have := br2.flt m _ hm
          rw [Heap.alloc_snd, hdf.size] at this
          omega
  · cases v <;> exact ⟨hdef, rb.loc⟩

theorem setKid_notroot {c : Ctx} {hp : Heap} {ks : Nib → Option Nat} {i : Nib} {y : Option Nat} {ch : Nat}
    (hks : ∀ m ch', ks m = some ch' → (c.troot == some ch') = false) (hch : ks i = some ch)
    (htr : ∀ x, c.troot = some x → x < hp.size) (hy : ∀ z, y = some z → z = ch ∨ hp.size ≤ z) (m : Nib)
    (ch' : Nat) (hk : setKid ks i y m = some ch') : (c.troot == some ch') = false := by
  unfold setKid at hk
  split at hk
  · rcases hy ch' hk with e | e
    · rw [e]; exact hks i ch hch
    · cases htr' : c.troot == some ch' with
      | false => rfl
      | true => have := htr ch' (eq_of_beq htr'); omega
  · exact hks m ch' hk

/-- the end of the recursive case of `deleteF` and `clearPrefixF` on a branch, after the step on the child in
    slot `i` has returned `res`.  `res` and the result `R` are variables, so that no projection of a call is
    ever compared with a projection of a tuple. -/
theorem PostD.kid {G : Bytes → Bytes → Prop} {c : Ctx} {hp : Heap} {pk : Nibs} {v : Option Bytes} {cs : Nib → Trie}
    {N : Node} {a : Nat} {fp : List Nat} {r : Bool} (s : Sub G c hp r (.branch pk v cs) N a fp)
    {kn : Nib → Node} {fps : Nib → List Nat} (br : Br c.H G hp c.g a fp pk v cs kn fps) (i : Nib) {ch : Nat}
    (hkid : (hp.get a).kids i = some ch) (key : Nibs) {sp : Trie × Bool} {res : Heap × Option Nat × Bool}
    (ih : PostD c.H G hp c.g false (fps i) ch (cs i) sp res.1 res.2.1 res.2.2) (hdep : depth sp.1 ≤ depth (cs i))
    (R : Heap × Option Nat × Bool)
    (hR : R = if !res.2.2 then (res.1, some a, false) else
      let p := prepForMutation c true res.1 a
      let d := handleDeletion c (p.1.modify p.2 (fun x => { x with kids := setKid x.kids i res.2.1 })) p.2 key
      (d.1, some d.2, true)) :
    PostD c.H G hp c.g r fp a (.branch pk v cs)
      (if !sp.2 then (.branch pk v cs, false) else (Trie.handleDeletion pk v (setChild cs i sp.1) key, true))
      R.1 R.2.1 R.2.2 := by
  obtain ⟨h1, y', m⟩ := res
  obtain ⟨ti, sflag⟩ := sp
  have hfl := ih.flag
  dsimp only at hfl ih hdep hR
  subst hfl hR
  cases m with
  | false =>
    simp only [Bool.not_false, if_true]
    rw [(ih.post.same rfl).1]; exact PostD.refl s
  | true =>
    simp only [Bool.not_true, Bool.false_eq_true, if_false]
    exact PostD.handle s.h32 (rebuild_kid s br i ih.post.out)
      (setKid_notroot (fun _ _ hk => (s.kid br hk).flav) hkid s.root_lt ih.loc)
      (fun m => Nat.le_trans (depth_setChild_le hdep m) (s.fuel_kid m)) key

theorem deleteF_tree {G : Bytes → Bytes → Prop} {c : Ctx} :
    ∀ (f : Nat) (hp : Heap) (t : Trie) (N : Node) (a : Nat) (fp : List Nat) (r : Bool) (key : Nibs),
      Sub G c hp r t N a fp → key.length < f →
      PostD c.H G hp c.g r fp a t (deleteAtNode t key) (deleteF c f hp (some a) key).1
        (deleteF c f hp (some a) key).2.1 (deleteF c f hp (some a) key).2.2
  | 0, _, _, _, _, _, _, _, _, hf => absurd hf (Nat.not_lt_zero _)
  | f + 1, hp, .nil, N, a, fp, r, key, s, _ => s.ti.rep.elim
  | f + 1, hp, .leaf pk lv, N, a, fp, r, key, s, hf => by
    unfold deleteF deleteAtNode
    simp only [s.ti.rep.1, Bool.not_false, if_true]
    rw [s.ti.rep.2.1]
    by_cases e : (decide (key.length > 0) && !(key == pk)) = true
    · simp only [if_pos e]; exact PostD.refl s
    · simp only [if_neg e]; exact PostD.gone s
  | f + 1, hp, .branch pk v cs, N, a, fp, r, key, s, hf => by
    obtain ⟨kn, fps, br⟩ := ti_br s.ti s.nd
    unfold deleteF deleteAtNode
    simp only [br.isBranch, Bool.not_true, Bool.false_eq_true, if_false]
    rw [br.pk]
    by_cases e1 : (decide (key.length = 0) || pk == key) = true
    · simp only [if_pos e1]
      exact PostD.handle s.h32 (rebuild_self s br false _ none) (fun _ _ hk => (s.kid br hk).flav)
        s.fuel_kid key
    · simp only [if_neg e1]
      by_cases e2 : (decide (lcpLen pk key = key.length) || decide (lcpLen pk key < pk.length)) = true
      · simp only [if_pos e2]; exact PostD.refl s
      · simp only [if_neg e2]
        rcases hdk' : key.drop (lcpLen pk key) with _ | ⟨i, rest⟩
        · exact PostD.refl s
        dsimp only
        cases hkid : (hp.get a).kids i with
        | none =>
          have hki := br.kids i
          rw [hkid] at hki
          rw [deleteF, hki.1]
          simp only [deleteAtNode, Bool.not_false, if_true]
          exact PostD.refl s
        | some ch =>
          exact PostD.kid s br i hkid key
            (deleteF_tree f hp (cs i) (kn i) ch (fps i) false rest (s.kid br hkid) (drop_length_lt hdk' hf))
            (depth_deleteAtNode_le (cs i) rest) _ rfl

theorem rebuild_drop {G : Bytes → Bytes → Prop} {c : Ctx} {hp : Heap} {pk : Nibs} {v : Option Bytes}
    {cs : Nib → Trie} {N : Node} {a : Nat} {fp : List Nat} {r : Bool} (s : Sub G c hp r (.branch pk v cs) N a fp)
    {kn : Nib → Node} {fps : Nib → List Nat} (br : Br c.H G hp c.g a fp pk v cs kn fps) (i : Nib) {ch : Nat}
    (hkid : (hp.get a).kids i = some ch) :
    Rebuilt c.H G hp c.g fp a pk v (setChild cs i .nil) (setKid (hp.get a).kids i none)
      ((registerDeleted c (prepForMutation c true hp a).1 ch).modify (prepForMutation c true hp a).2
        (fun x => { x with kids := setKid x.kids i none }))
      (prepForMutation c true hp a).2 := by
  have hpp := s.prep true
  have hkc := br.kids_fr hpp.fr i
  rw [hkid] at hkc
  have hdf := ensureMV_dframe s.h32 hkc.2.rep hkc.2.coh (s.kid br hkid).flav (s.fuel_kid i)
  have hfr : FR (SA hp c.g a) hp
      ((registerDeleted c (prepForMutation c true hp a).1 ch).modify (prepForMutation c true hp a).2
        (fun x => { x with kids := setKid x.kids i none })) :=
    (hpp.fr.trans (FR.of_dframe hdf)).trans (FR.modify _ _ _ hpp.sa)
  exact ⟨hfr.mono (sa_wr br.self), ((hpp.own_val br.isBranch br.pk br.val rfl).of_dframe hdf).set_kid i none,
    ⟨upd kn i .empty, upd fps i [], kidTI_upd (fun m _ => br.kids_fr hfr m) kidTI_none,
      (br.fam hpp.sa).set i [] List.nodup_nil (fun x hx => nomatch hx)⟩,
    sa_wr br.self _ hpp.sa, sa_loc hpp.sa⟩

theorem clearPrefixF_tree {G : Bytes → Bytes → Prop} {c : Ctx} :
    ∀ (f : Nat) (hp : Heap) (t : Trie) (N : Node) (a : Nat) (fp : List Nat) (r : Bool) (pre : Nibs),
      Sub G c hp r t N a fp → pre.length < f →
      PostD c.H G hp c.g r fp a t (clearPrefixAtNode t pre) (clearPrefixF c f hp (some a) pre).1
        (clearPrefixF c f hp (some a) pre).2.1 (clearPrefixF c f hp (some a) pre).2.2
  | 0, _, _, _, _, _, _, _, _, hf => absurd hf (Nat.not_lt_zero _)
  | f + 1, hp, .nil, N, a, fp, r, pre, s, _ => s.ti.rep.elim
  | f + 1, hp, .leaf pk lv, N, a, fp, r, pre, s, hf => by
    unfold clearPrefixF clearPrefixAtNode
    dsimp only
    rw [s.ti.rep.2.1]
    by_cases e : pre.isPrefixOf pk = true
    · simp only [if_pos e]; exact PostD.gone s
    · simp only [if_neg e, s.ti.rep.1, Bool.not_false, if_true]; exact PostD.refl s
  | f + 1, hp, .branch pk v cs, N, a, fp, r, pre, s, hf => by
    obtain ⟨kn, fps, br⟩ := ti_br s.ti s.nd
    unfold clearPrefixF clearPrefixAtNode
    dsimp only
    rw [br.pk]
    by_cases e0 : pre.isPrefixOf pk = true
    · simp only [if_pos e0]; exact PostD.gone s
    simp only [if_neg e0, br.isBranch, Bool.not_true, Bool.false_eq_true, if_false]
    by_cases e1 : (decide (pre.length = pk.length + 1) && pre.dropLast == pk) = true
    · simp only [if_pos e1]
      rcases hdp : pre.drop pk.length with _ | ⟨i, rest⟩
      · exact PostD.refl s
      dsimp only
      have hki := br.kids i
      cases hkid : (hp.get a).kids i with
      | none =>
        rw [hkid] at hki
        dsimp only
        rw [hki.1]
        simp only [Trie.isNil, if_true]
        exact PostD.refl s
      | some ch =>
        -- the prefix is one of the children of the branch
        rw [hkid] at hki
        dsimp only
        simp only [isNil_false_of_ne hki.1, Bool.false_eq_true, if_false]
        exact PostD.handle s.h32 (rebuild_drop s br i hkid)
          (setKid_notroot (fun _ _ hk => (s.kid br hk).flav) hkid s.root_lt (fun _ hz => nomatch hz))
          (fun m => Nat.le_trans (depth_setChild_le (Nat.zero_le _) m) (s.fuel_kid m)) pre
    · simp only [if_neg e1]
      by_cases e2 : (decide (pre.length ≤ pk.length) || decide (lcpLen pk pre < pk.length)) = true
      · simp only [if_pos e2]; exact PostD.refl s
      · simp only [if_neg e2]
        rcases hdp : pre.drop pk.length with _ | ⟨i, rest⟩
        · exact PostD.refl s
        dsimp only
        cases hkid : (hp.get a).kids i with
        | none =>
          have hki := br.kids i
          rw [hkid] at hki
          rw [clearPrefixF, hki.1]
          simp only [clearPrefixAtNode, Bool.not_false, if_true]
          exact PostD.refl s
        | some ch =>
          exact PostD.kid s br i hkid pre
            (clearPrefixF_tree f hp (cs i) (kn i) ch (fps i) false rest (s.kid br hkid) (drop_length_lt hdp hf))
            (depth_clearPrefixAtNode_le (cs i) rest) _ rfl

end TrieHeap
end Gossamer
