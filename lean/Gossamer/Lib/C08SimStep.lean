/-
C08: the simulation relation between the model over the ideal backend and the specification, one
step and whole runs.  A lemma about one operation is named by the operation (`cclr_nil`, `cclr_tx`,
also in Lib/C08Level, C08LevelWrites, C08BaseSteps; `stepTS_nil` / `stepTS_tx` of Lib/C08Rollback for
every operation): `…_nil` is "no transaction open" (`txs = []`), `…_tx` "inside one" (elsewhere
`nil` is the empty list).  Steps, runs and `SafeRun` are taken with the iteration
order of the executable model, `Diff.sortedOrder`: only the outermost commit looks at the order,
and there every order of the diff gives the same trie (`applyIdeal_order`, Lib/C08Order).
-/
import Gossamer.Lib.C08BaseSteps
set_option linter.unusedSectionVars false
namespace Gossamer.C08
open Gossamer

/-- Operations of the proved fragment; `CK` = the strings used as child-trie keys.
    Excluded regions (= known findings): a string used both as main key and as child-trie key
    (`deletes-shared-by-main-and-child`); main keys at or below `:child_storage:default:` and
    prefixes that lie on one line with it, below OR above (`overlapsRegion`: the empty prefix too)
    (`child-root-key-unprotected`); `croot` (`child-root-ignores-overlay`).  `snap`, `const`, `bad`
    fall under the last arm as well. -/
def OpOK (CK : Bytes → Bool) : Op → Prop
  | .put k _ => Logical.isChildKey k = false ∧ CK k = false
  | .del k => Logical.isChildKey k = false ∧ CK k = false
  | .get k => Logical.isChildKey k = false ∧ CK k = false
  | .next _ => True
  | .ents => True
  | .clr p => overlapsRegion p = false
  | .clrl p _ => overlapsRegion p = false
  | .cput c _ _ => CK c = true
  | .cdel c _ => CK c = true
  | .cget c _ => CK c = true
  | .cclr c _ => CK c = true
  | .cclrl c _ _ => CK c = true
  | .cnext c _ => CK c = true
  | .ckeys c _ => CK c = true
  | .kill c => CK c = true ∧ Logical.isChildKey c = false
  | .killl c _ => CK c = true ∧ Logical.isChildKey c = false
  | .start => True
  | .commit => True
  | .rollback => True
  | _ => False

/-- `OpOK` and, for a child write, the child trie was not deleted earlier in the same transaction
    (finding `child-recreated-after-kill`; the driver's test: the key is in `deletes` of the top diff);
    for `clrl` inside a transaction every key in `upserts` of the innermost diff (written in this or
    an enclosing open transaction and not deleted since) has the prefix (finding
    `alldeleted-counts-nonmatching`), outside a transaction not (limit 0 and no key with the prefix)
    (finding `limit0-reports-remaining`); `cclrl` likewise, and outside a transaction the child must
    exist (finding `nochild-reports-remaining`); `killl` inside a transaction not on a child that
    exists only as an emptied change set (same finding).  `cclrl` / `killl` on a child deleted
    earlier in the same transaction are left out of the proof (not a finding). -/
def StepOK (CK : Bytes → Bool) (t : TS Logical) (op : Op) : Prop :=
  OpOK CK op ∧
    (match op, t.txs with
      | .cput c _ _, d :: _ => c ∉ d.c.deletes
      | .clrl p _, d :: _ => ∀ k ∈ KMap.keys d.c.upserts, p.isPrefixOf k = true
      | .clrl p n, [] => n ≠ 0 ∨ OMap.keysWithPrefix p t.base.main ≠ []
      | .cclrl c p _, d :: _ =>
        c ∉ d.c.deletes ∧ ∀ k ∈ KMap.keys (d.kid c).upserts, p.isPrefixOf k = true
      | .cclrl c p n, [] =>
        (KMap.find c t.base.kids).isSome = true ∧
          (n ≠ 0 ∨ OMap.keysWithPrefix p (kidOf t.base c) ≠ [])
      | .killl c _, d :: _ =>
        c ∉ d.c.deletes ∧
          ((KMap.find c t.base.kids).isNone = true → (KMap.find c d.kids).isSome = true →
            (d.kid c).upserts ≠ [])
      | _, _ => True)

/-- the specification's stack holds, level by level, the level of the model's diff -/
inductive Lvls (CK : Bytes → Bool) (b : Logical) : List Diff → List Logical → Prop
  | nil : Lvls CK b [] []
  | cons {d r l ss} : Lvl CK b d l → Lvls CK b r ss → Lvls CK b (d :: r) (l :: ss)

theorem Lvls.length_eq {CK : Bytes → Bool} {b : Logical} {ds : List Diff} {ls : List Logical}
    (h : Lvls CK b ds ls) : ds.length = ls.length := by
  induction h with
  | nil => rfl
  | cons _ _ ih => exact congrArg (· + 1) ih

theorem Lvls.eq_map {CK : Bytes → Bool} {b : Logical} (hb : BaseInv CK b) {ds : List Diff}
    {ls : List Logical} (h : Lvls CK b ds ls) : ds.map (effL b) = ls := by
  induction h with
  | nil => rfl
  | cons h _ ih => exact congr (congrArg List.cons (h.eq_eff hb)) ih

/-- `base` speaks of the committed state only: every level carries its own invariant (`Lvl.linv`),
    which becomes `base` when the outermost commit makes that level the committed state -/
structure Sim (CK : Bytes → Bool) (t : TS Logical) (s : SS) : Prop where
  back : s.back = t.base
  stack : Lvls CK t.base t.txs s.stack
  base : BaseInv CK t.base

theorem sim_init (CK : Bytes → Bool) :
    Sim CK { base := Logical.empty, txs := [] } { back := Logical.empty, stack := [] } :=
  ⟨rfl, .nil, ⟨Logical.wf_empty, fun _ _ => rfl, fun _ _ => rfl⟩⟩

section
variable (Hc Hm : Entries → Bytes) (D : Dumper Logical) {CK : Bytes → Bool} {b : Logical}

theorem sim_nil (hb : BaseInv CK b) : Sim CK ⟨b, []⟩ ⟨b, []⟩ := ⟨rfl, .nil, hb⟩

theorem sim_tx {d : Diff} {r : List Diff} {ss : List Logical} (hb : BaseInv CK b)
    (hr : Lvls CK b r ss) {l : Logical} (h : Lvl CK b d l) : Sim CK ⟨b, d :: r⟩ ⟨b, l :: ss⟩ :=
  ⟨rfl, .cons h hr, hb⟩

theorem read_nil (hb : BaseInv CK b) (op : Op) (hop : OpOK CK op) :
    readOp (idealBackend Hc Hm) ⟨b, []⟩ op = specRead Hc ⟨b, []⟩ op := by
  cases op <;> try rfl
  case cget c k => exact getFromChildB_ideal Hc Hm b c k
  case cnext c k => exact cnext_nil Hc Hm b c k
  case ckeys c p => exact ckeys_nil Hc Hm b hb.wf c p
  case croot c => exact hop.elim

theorem read_tx {d : Diff} {l : Logical} (hb : BaseInv CK b) (h : Lvl CK b d l) (r : List Diff)
    (ss : List Logical) (op : Op) (hop : OpOK CK op) :
    readOp (idealBackend Hc Hm) ⟨b, d :: r⟩ op = specRead Hc ⟨b, l :: ss⟩ op := by
  cases op <;> try rfl
  case get k =>
    exact congrArg Out.val ((get_sim Hc Hm h r k hop.1).trans
      (mainView_get Hc ⟨b, l :: ss⟩ k hop.1).symm)
  case next k => exact congrArg Out.val (next_sim Hc Hm hb h r k)
  case ents => exact congrArg Out.ents (ents_sim Hc Hm hb h r)
  case cget c k => exact cget_sim Hc Hm h r c k hop
  case cnext c k => exact cnext_sim Hc Hm h r c k hop
  case ckeys c p => exact ckeys_sim Hc Hm hb h r c p hop
  case croot c => exact hop.elim

theorem spec_put (s : SS) {k : Bytes} (v : Option Bytes) (hk : Logical.isChildKey k = false) :
    specStep Hc Hm s (.put k v) =
      (s.setTop { s.top with main := OMap.upsert k (v.getD []) s.top.main }, .ok) := by
  simp only [specStep, hk, Bool.false_eq_true, if_false]

theorem spec_del (s : SS) {k : Bytes} (hk : Logical.isChildKey k = false) :
    specStep Hc Hm s (.del k) = (s.setTop { s.top with main := OMap.erase k s.top.main }, .ok) := by
  simp only [specStep, hk, Bool.false_eq_true, if_false]

theorem put_nil (b : Logical) {k : Bytes} (v : Option Bytes) (hk : Logical.isChildKey k = false) :
    stepTS (idealBackend Hc Hm) D Diff.sortedOrder ⟨b, []⟩ (.put k v) =
      (⟨{ b with main := OMap.upsert k (v.getD []) b.main }, []⟩, .ok) := by
  simp only [stepTS, putTS, idealBackend, hk, Bool.false_eq_true, if_false]

theorem del_nil (b : Logical) {k : Bytes} (hk : Logical.isChildKey k = false) :
    stepTS (idealBackend Hc Hm) D Diff.sortedOrder ⟨b, []⟩ (.del k) =
      (⟨{ b with main := OMap.erase k b.main }, []⟩, .ok) := by
  simp only [stepTS, deleteTS, idealBackend, hk, Bool.false_eq_true, if_false]

theorem cnt_congr {x y : Nat × Bool} (h : x = y) : Out.cnt x.1 x.2 = Out.cnt y.1 y.2 := h ▸ rfl

theorem sim_step_nil (hb : BaseInv CK b) (op : Op) (hstep : StepOK CK ⟨b, []⟩ op) :
    Sim CK (stepTS (idealBackend Hc Hm) D Diff.sortedOrder ⟨b, []⟩ op).1
        (specStep Hc Hm ⟨b, []⟩ op).1 ∧
      (stepTS (idealBackend Hc Hm) D Diff.sortedOrder ⟨b, []⟩ op).2 =
        (specStep Hc Hm ⟨b, []⟩ op).2 := by
  obtain ⟨hop, hside⟩ := hstep
  have hs := sim_nil hb
  have hkid := fun c => kidOf_sorted hb.wf c
  cases op
  case put k v =>
    rw [spec_put Hc Hm _ v hop.1, put_nil Hc Hm D b v hop.1]
    exact ⟨sim_nil (baseInv_put hb k _ hop), rfl⟩
  case del k =>
    rw [spec_del Hc Hm _ hop.1, del_nil Hc Hm D b hop.1]
    exact ⟨sim_nil (baseInv_filter hb _), rfl⟩
  case clr p => exact ⟨sim_nil (baseInv_filter hb _), rfl⟩
  case clrl p n =>
    simp only [stepTS, clearPrefixLimitTS, idealBackend, clearPrefixLimit_spec p n hb.wf.main hside]
    exact ⟨sim_nil (baseInv_specLimit hb _ _ _), rfl⟩
  case cput c k v =>
    exact ⟨sim_nil (putIntoChild_eq_setKid b c k v ▸
      baseInv_setKid hb c _ (OMap.sorted_upsert _ _ (hkid c)) hop), rfl⟩
  case cdel c k =>
    show Sim CK ⟨(Logical.clearFromChild b c k).getD b, []⟩ _ ∧ _
    rw [clearFromChild_getD b c k]
    exact ⟨sim_nil (baseInv_setKid hb c _ (OMap.sorted_erase _ (hkid c)) hop), rfl⟩
  case cclr c p =>
    rw [cclr_nil Hc Hm D _ b c p]
    exact ⟨sim_nil (baseInv_setKid hb c _ (OMap.sorted_clearPrefix _ (hkid c)) hop), rfl⟩
  case cclrl c p n =>
    rw [cclrl_nil Hc Hm D _ hb.wf c p n hside.1 hside.2]
    exact ⟨sim_nil (baseInv_setKid hb c _ (sorted_specLimit (hkid c) _ _ _) hop), rfl⟩
  case kill c => exact ⟨sim_nil (baseInv_setKid hb c [] trivial hop.1), rfl⟩
  case killl c lim =>
    rw [killl_nil Hc Hm D _ hb.wf c lim]
    simp only [specStep, SS.top, List.head?_nil, Option.getD_none, Bool.and_self]
    split
    · exact ⟨hs, rfl⟩
    · exact ⟨sim_nil (baseInv_setKid hb c _ (sorted_specLimit (hkid c) _ _ _) hop.1), rfl⟩
  case start => exact ⟨sim_tx hb .nil (lvl_eff hb (DiffInv.empty CK)), rfl⟩
  case commit | rollback => exact ⟨hs, rfl⟩
  case snap | const | bad | croot => exact hop.elim
  -- left: the reads get / next / ents / cget / cnext / ckeys
  all_goals exact ⟨hs, read_nil Hc Hm hb _ hop⟩

theorem sim_step_tx {d : Diff} {r : List Diff} {l : Logical} {ss : List Logical}
    (hb : BaseInv CK b) (h : Lvl CK b d l) (hr : Lvls CK b r ss) (op : Op)
    (hstep : StepOK CK ⟨b, d :: r⟩ op) :
    Sim CK (stepTS (idealBackend Hc Hm) D Diff.sortedOrder ⟨b, d :: r⟩ op).1
        (specStep Hc Hm ⟨b, l :: ss⟩ op).1 ∧
      (stepTS (idealBackend Hc Hm) D Diff.sortedOrder ⟨b, d :: r⟩ op).2 =
        (specStep Hc Hm ⟨b, l :: ss⟩ op).2 := by
  obtain ⟨hop, hside⟩ := hstep
  have hs := sim_tx hb hr h
  cases op
  case put k v =>
    rw [spec_put Hc Hm _ v hop.1]
    exact ⟨sim_tx hb hr (h.upsert k _ hop), rfl⟩
  case del k =>
    rw [spec_del Hc Hm _ hop.1]
    exact ⟨sim_tx hb hr (h.delete k hop), rfl⟩
  case clr p => exact ⟨sim_tx hb hr (h.clearPrefix Hc Hm hb p hop), rfl⟩
  case clrl p n =>
    obtain ⟨e1, e2⟩ := h.clearPrefixLimit Hc Hm hb p n hop hside
    exact ⟨sim_tx hb hr e1, cnt_congr e2⟩
  case cput c k v => exact ⟨sim_tx hb hr (h.upsertChild c k (v.getD []) hop hside), rfl⟩
  case cdel c k => exact ⟨sim_tx hb hr (h.deleteFromChild c k hop), rfl⟩
  case cclr c p =>
    rw [cclr_tx Hc Hm D _ d r c p]
    exact ⟨sim_tx hb hr (h.clearChild hb c p hop), rfl⟩
  case cclrl c p n =>
    obtain ⟨e1, e2⟩ := h.clearChildLimit hb c p n hop hside.1 hside.2
    rw [cclrl_tx Hc Hm D _ d r c p n]
    exact ⟨sim_tx hb hr e1, cnt_congr e2⟩
  case kill c => exact ⟨sim_tx hb hr (h.kill c hop.1 hop.2), rfl⟩
  case killl c lim =>
    obtain ⟨e1, e2⟩ := h.killLimit hb c lim hop.1 hop.2 hside.1
    rw [killl_tx Hc Hm D _ d r c lim]
    simp only [specStep, SS.top, List.head?_cons, Option.getD_some,
      killl_test h c hop.1 hside.1 hside.2]
    split
    · exact ⟨hs, rfl⟩
    · exact ⟨sim_tx hb hr e1, cnt_congr e2⟩
  case start => exact ⟨sim_tx hb (.cons h hr) h, rfl⟩
  case commit =>
    cases hr with
    | nil =>
      have e := h.eq_eff hb
      simp only [stepTS, commitTS, applyToTrie_ideal]
      exact ⟨⟨e.symm, .nil, show BaseInv CK (effL b d) from e ▸ h.linv⟩, rfl⟩
    | cons _ hr' => exact ⟨sim_tx hb hr' h, rfl⟩
  case rollback =>
    cases hr with
    | nil => exact ⟨sim_nil hb, rfl⟩
    | cons hu hr' => exact ⟨sim_tx hb hr' hu, rfl⟩
  case snap | const | bad | croot => exact hop.elim
  -- left: the reads get / next / ents / cget / cnext / ckeys
  all_goals exact ⟨hs, read_tx Hc Hm hb h r ss _ hop⟩

theorem sim_step {t : TS Logical} {s : SS} (h : Sim CK t s) (op : Op) (hstep : StepOK CK t op) :
    Sim CK (stepTS (idealBackend Hc Hm) D Diff.sortedOrder t op).1 (specStep Hc Hm s op).1 ∧
      (stepTS (idealBackend Hc Hm) D Diff.sortedOrder t op).2 = (specStep Hc Hm s op).2 := by
  obtain ⟨b, txs⟩ := t
  obtain ⟨sb, ss⟩ := s
  obtain ⟨hback, hstack, hb⟩ := h
  simp only at hback hstack
  subst hback
  cases hstack with
  | nil => exact sim_step_nil Hc Hm D hb op hstep
  | cons h hr => exact sim_step_tx Hc Hm D hb h hr op hstep

def SafeRun (CK : Bytes → Bool) : TS Logical → List Op → Prop
  | _, [] => True
  | t, op :: r =>
    StepOK CK t op ∧ SafeRun CK (stepTS (idealBackend Hc Hm) D Diff.sortedOrder t op).1 r

theorem sim_run {t : TS Logical} {s : SS} (h : Sim CK t s) (ops : List Op)
    (hops : SafeRun Hc Hm D CK t ops) :
    Sim CK (runTS (idealBackend Hc Hm) D Diff.sortedOrder t ops).1 (specRun Hc Hm s ops).1 ∧
      (runTS (idealBackend Hc Hm) D Diff.sortedOrder t ops).2 = (specRun Hc Hm s ops).2 := by
  induction ops generalizing t s with
  | nil => exact ⟨h, rfl⟩
  | cons op r ih =>
    obtain ⟨h1, h2⟩ := sim_step Hc Hm D h op hops.1
    obtain ⟨h3, h4⟩ := ih h1 hops.2
    simp only [runTS, specRun]
    exact ⟨h3, by rw [h2, h4]⟩

end

end Gossamer.C08
