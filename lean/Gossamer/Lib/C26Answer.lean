/-
C26 — what one look-up answers (`answer`) and what the answer means (`AnsSpec`).  `GetEpochDataRaw` is one answer,
`GetConfigData` the answer of the latest epoch that is not skipped (`getConfigData_level`), `RetrieveAndUpdate` answers
as `Retrieve` and moves one entry (`retrieveAndUpdate_cases`); what that does to the entries of the map (`EntryIn`, with
the membership facts of the model's association lists) closes the file and is what Lib/C26Src builds on.
-/
import Gossamer.Lib.C26Core
namespace Gossamer.C26
open Gossamer.C17 (Blk findB)

/-- what `GetEpochDataRaw` does for an epoch other than 0, and `GetConfigData` in each round: the persisted
    definition, else `Retrieve` from the in-memory map (with `db := []` this is `Retrieve` alone) -/
def answer (st : St) (db : List (Nat × Nat)) (m : EpochMap) (e : Nat) (hdr : Blk) : Res :=
  match lookup db e with
  | some d => .db d
  | none => retrieve st m e hdr

/-- what an answer tells about the two stores.  For `.mem c` the own-fork claim is under `Consistent st hdr`: the test
    `hit` looks the queried header up by `hdr.hash`, and only then is what it finds `hdr` itself (`hit_sound`).
    `.errParent` (a parent `GetHeader` does not know: a pruned lineage) claims nothing. -/
def AnsSpec (st : St) (db : List (Nat × Nat)) (m : EpochMap) (e : Nat) (hdr : Blk) : Res → Prop
  | .db d => lookup db e = some d
  | .mem c => lookup db e = none ∧
      (Consistent st hdr → c ≠ [] ∧ ∃ es, lookup m e = some es ∧ ∀ x ∈ c, x ∈ es ∧ Anc st x.1 hdr)
  | .errHash => lookup db e = none ∧ ∃ es, lookup m e = some es ∧ ∀ x ∈ es, ¬ Anc st x.1 hdr
  | .errEpoch => lookup db e = none ∧ lookup m e = none
  | .timeout => ¬ HdrOK st hdr
  | .errParent => True
  | .gen => False

theorem answer_spec {u : Univ} {st : St} (w : WF u st) (db : List (Nat × Nat)) (m : EpochMap) (e : Nat)
    (hdr : Blk) : AnsSpec st db m e hdr (answer st db m e hdr) := by
  unfold answer
  cases hd : lookup db e with
  | some d => exact hd
  | none =>
    simp only [retrieve]
    cases hl : lookup m e with
    | none => exact ⟨hd, hl⟩
    | some es =>
      simp only
      cases hf : findAnc st es (hdr.number + 1) hdr with
      | found c => exact ⟨hd, fun hc => ⟨(findAnc_found hf).1, es, hl, fun x hx =>
          ⟨(findAnc_found hf).2 x hx, findAnc_sound w.inv hc hf x hx⟩⟩⟩
      | errHash => exact ⟨hd, es, hl, findAnc_complete w.zero hf⟩
      | errParent => trivial
      | outOfFuel => exact fun hok => findAnc_fuel w hok (Nat.lt_succ_self _) hf

theorem getEpochDataRaw_spec {u : Univ} {st : St} (w : WF u st) {e : Nat} {hdr : Blk} {r : Res}
    (h : getEpochDataRaw st e hdr = r) (hr : r ≠ .gen) : AnsSpec st st.dbEpoch st.nextEpoch e hdr r := by
  unfold getEpochDataRaw at h
  split at h
  · exact absurd h.symm hr
  · exact h ▸ answer_spec w _ _ e hdr

/-- the answers on which `GetConfigData` goes on to the epoch before -/
def Skip (r : Res) : Prop := r = .errEpoch ∨ r = .errHash

theorem getConfigData_succ (st : St) (hdr : Blk) (e : Nat) :
    getConfigData st hdr (e + 1) = match answer st st.dbConfig st.nextConfig (e + 1) hdr with
      | .errEpoch => getConfigData st hdr e
      | .errHash => getConfigData st hdr e
      | r => r := by
  simp only [getConfigData, answer]
  cases lookup st.dbConfig (e + 1) <;> rfl

theorem getConfigData_level (st : St) (hdr : Blk) : ∀ e,
    (getConfigData st hdr e = .gen ∧
      ∀ e', 1 ≤ e' → e' ≤ e → Skip (answer st st.dbConfig st.nextConfig e' hdr)) ∨
    ∃ e', 1 ≤ e' ∧ e' ≤ e ∧ getConfigData st hdr e = answer st st.dbConfig st.nextConfig e' hdr ∧
      ¬ Skip (getConfigData st hdr e) ∧
      ∀ e'', e' < e'' → e'' ≤ e → Skip (answer st st.dbConfig st.nextConfig e'' hdr)
  | 0 => .inl ⟨rfl, fun e' h1 h2 => by omega⟩
  | e + 1 => by
    have eq := getConfigData_succ st hdr e
    by_cases hs : Skip (answer st st.dbConfig st.nextConfig (e + 1) hdr)
    · have eq' : getConfigData st hdr (e + 1) = getConfigData st hdr e := by
        rcases hs with h | h <;> rw [eq, h]
      have top : ∀ k, k ≤ e + 1 → ¬ k ≤ e → Skip (answer st st.dbConfig st.nextConfig k hdr) :=
        fun k h1 h2 => (show k = e + 1 by omega) ▸ hs
      rw [eq']
      rcases getConfigData_level st hdr e with ⟨hg, ha⟩ | ⟨e', h1, h2, hr, hn, ha⟩
      · exact .inl ⟨hg, fun k a b => if h : k ≤ e then ha k a h else top k b h⟩
      · exact .inr ⟨e', h1, by omega, hr, hn, fun k a b => if h : k ≤ e then ha k a h else top k b h⟩
    · have eq' : getConfigData st hdr (e + 1) = answer st st.dbConfig st.nextConfig (e + 1) hdr := by
        rw [eq]
        split
        · rename_i h; exact absurd (.inl h) hs
        · rename_i h; exact absurd (.inr h) hs
        · rfl
      exact .inr ⟨e + 1, by omega, Nat.le_refl _, eq', eq' ▸ hs, fun k a b => by omega⟩

theorem getConfigData_spec {u : Univ} {st : St} (w : WF u st) {e : Nat} {hdr : Blk} {r : Res}
    (h : getConfigData st hdr e = r) (hr : r ≠ .gen) : ∃ e', AnsSpec st st.dbConfig st.nextConfig e' hdr r := by
  rcases getConfigData_level st hdr e with ⟨hg, _⟩ | ⟨e', _, _, he, _⟩
  · exact absurd (h.symm.trans hg) hr
  · exact ⟨e', h ▸ he ▸ answer_spec w _ _ e' hdr⟩

theorem retrieveAndUpdate_cases (st : St) (m : EpochMap) (old new : Nat) (hdr : Blk) :
    retrieveAndUpdate st m old new hdr = (m, retrieve st m old hdr) ∨
    ∃ es y r, lookup m old = some es ∧ y ∈ es ∧ retrieve st m old hdr = .mem (y :: r) ∧
      retrieveAndUpdate st m old new hdr = (insert (insert m old (erase es y.1)) new
        (insert ((lookup (insert m old (erase es y.1)) new).getD []) y.1 y.2), .mem (y :: r)) := by
  unfold retrieveAndUpdate retrieve
  cases lookup m old with
  | none => exact .inl rfl
  | some es =>
    simp only
    cases hf : findAnc st es (hdr.number + 1) hdr with
    | found c => cases c with
      | nil => exact absurd rfl (findAnc_found hf).1
      | cons y r => exact .inr ⟨es, y, r, rfl, (findAnc_found hf).2 y (List.mem_cons_self ..), rfl, rfl⟩
    | _ => exact .inl rfl

theorem retrieveAndUpdate_res (st : St) (m : EpochMap) (old new : Nat) (hdr : Blk) :
    (retrieveAndUpdate st m old new hdr).2 = retrieve st m old hdr := by
  rcases retrieveAndUpdate_cases st m old new hdr with h | ⟨_, _, _, _, _, hr, h⟩ <;> rw [h]
  exact hr.symm

theorem retrieveAndUpdate_spec {u : Univ} {st : St} (w : WF u st) {m : EpochMap} {old new : Nat} {hdr : Blk} {r : Res}
    (h : (retrieveAndUpdate st m old new hdr).2 = r) : AnsSpec st [] m old hdr r :=
  h ▸ retrieveAndUpdate_res st m old new hdr ▸ answer_spec w [] m old hdr

theorem lookup_mem {β : Type} {m : List (Nat × β)} {k : Nat} {v : β} (h : lookup m k = some v) : (k, v) ∈ m :=
  AList.mem_of_lookup (by rw [← h, lookup, ← AList.find?_key]; cases m.find? _ <;> rfl)

theorem mem_insert {β : Type} {m : List (Nat × β)} {k : Nat} {v : β} {x : Nat × β}
    (h : x ∈ insert m k v) : x = (k, v) ∨ x ∈ m := by
  unfold insert at h
  by_cases ha : m.any (fun p => p.1 = k) = true
  · simp only [ha, if_true, List.mem_map] at h
    obtain ⟨y, hy, hxy⟩ := h
    by_cases hk : y.1 = k
    · simp only [hk, if_true] at hxy; exact .inl hxy.symm
    · simp only [hk, if_false] at hxy; exact .inr (hxy ▸ hy)
  · simp only [ha, Bool.false_eq_true, if_false, List.mem_append, List.mem_singleton] at h
    rcases h with h | h
    · exact .inr h
    · exact .inl h

theorem mem_erase {β : Type} {m : List (Nat × β)} {k : Nat} {x : Nat × β} (h : x ∈ erase m k) : x ∈ m :=
  (List.mem_filter.mp h).1

def EntryIn (m : EpochMap) (x : Nat × Nat) : Prop := ∃ p ∈ m, x ∈ p.2

theorem entryIn_of_lookup {m : EpochMap} {e : Nat} {es : Entries} {x : Nat × Nat}
    (hl : lookup m e = some es) (hx : x ∈ es) : EntryIn m x := ⟨(e, es), lookup_mem hl, hx⟩

theorem entryIn_insert {m : EpochMap} {k : Nat} {es : Entries} {x : Nat × Nat} (h : EntryIn (insert m k es) x) :
    x ∈ es ∨ EntryIn m x := by
  obtain ⟨p, hp, hx⟩ := h
  rcases mem_insert hp with rfl | h1
  · exact .inl hx
  · exact .inr ⟨p, h1, hx⟩

theorem entryIn_store {m : EpochMap} {ep hash d : Nat} {x : Nat × Nat} (h : EntryIn (store m ep hash d) x) :
    x = (hash, d) ∨ EntryIn m x := by
  unfold store at h
  cases hm : lookup m ep with
  | none =>
    rw [hm] at h
    exact (entryIn_insert h).imp_left List.mem_singleton.mp
  | some es =>
    rw [hm] at h
    rcases entryIn_insert h with h2 | h2
    · exact (mem_insert h2).imp_right (entryIn_of_lookup hm)
    · exact .inr h2

theorem retrieveAndUpdate_entries {st : St} {m : EpochMap} {old new : Nat} {hdr : Blk} (x : Nat × Nat)
    (h : EntryIn (retrieveAndUpdate st m old new hdr).1 x) : EntryIn m x := by
  rcases retrieveAndUpdate_cases st m old new hdr with hm | ⟨es, y, _, hl, hy, _, hm⟩ <;> rw [hm] at h
  · exact h
  · -- the map after `y` has left the inner map of `old`
    have hold : ∀ z, EntryIn (insert m old (erase es y.1)) z → EntryIn m z := fun z hz =>
      (entryIn_insert hz).elim (fun h => entryIn_of_lookup hl (mem_erase h)) id
    rcases entryIn_insert h with h2 | h2
    · rcases mem_insert h2 with h3 | h3
      · rw [h3]; exact entryIn_of_lookup hl hy
      · -- an entry of `hashes`, the inner map of `new` after the deletion
        cases hn : lookup (insert m old (erase es y.1)) new with
        | none => simp [hn] at h3
        | some hs => rw [hn] at h3; exact hold x (entryIn_of_lookup hn h3)
    · exact hold x h2

/-- a definition for epoch `e` that `hdr` may use: persisted, or announced in memory on `hdr`'s own fork -/
def Visible (st : St) (m : EpochMap) (db : List (Nat × Nat)) (hdr : Blk) (e : Nat) : Prop :=
  (lookup db e).isSome ∨ ∃ es x, lookup m e = some es ∧ x ∈ es ∧ Anc st x.1 hdr

theorem not_visible_of_skip {u : Univ} {st : St} (w : WF u st) {db : List (Nat × Nat)} {m : EpochMap} {e : Nat}
    {hdr : Blk} (h : Skip (answer st db m e hdr)) : ¬ Visible st m db hdr e := by
  have sp := answer_spec w db m e hdr
  rcases h with h | h <;> rw [h] at sp <;> rintro (hv | ⟨es', x, hl', hx, ha⟩)
  · rw [sp.1] at hv; cases hv
  · rw [sp.2] at hl'; cases hl'
  · rw [sp.1] at hv; cases hv
  · obtain ⟨_, es, hl, hno⟩ := sp
    rw [hl] at hl'
    cases hl'
    exact hno x hx ha

end Gossamer.C26
