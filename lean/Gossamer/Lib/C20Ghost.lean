/-
C20: `descend` / `findGhost` / `findAncestor` of the uncompressed vote graph, and what they return for the
state reached by importing a tolerant vote list (in the terms of `Lib/C20Top`); the two hypotheses on a condition handed
to FindGHOST (`MonoCond`, `UniqChild`).
-/
import Gossamer.Lib.C20Weights
import Gossamer.Lib.C20Top
namespace Gossamer.C20

variable {t : Tree} {ws : List Nat}

/-- a child the GHOST descent may step to -/
def good (cum : Nat → Mask) (cond : Mask → Bool) (c : Nat) : Bool := inGraph cum c && cond (cum c)

/-- Fuel `t.size ≤ B + f` is enough: a child has a larger index than its parent (`Tree.WF`), so every step increases `B`
and uses one unit of fuel, and a block `≥ t.size` has no children. -/
theorem descend_spec (h : t.WF) (cum : Nat → Mask) (cond : Mask → Bool) : ∀ (f B : Nat),
    B ∈ t.chain (descend t cum cond f B) ∧
    (good cum cond B = true → good cum cond (descend t cum cond f B) = true) ∧
    (t.size ≤ B + f → ∀ c, c ∈ t.children (descend t cum cond f B) → good cum cond c = false) ∧
    (B < t.size → descend t cum cond f B < t.size) := by
  intro f
  induction f with
  | zero =>
    intro B
    refine ⟨t.mem_chain_self B, id, ?_, id⟩
    intro hs c hc
    simp only [descend] at hc
    obtain ⟨hlt, hc0, hp⟩ := Tree.mem_children.1 hc
    have := Tree.parent_lt h (b := c) (by omega)
    omega
  | succ f ih =>
    intro B
    cases hf : (t.children B).find? (fun c => inGraph cum c && cond (cum c)) with
    | none =>
      have hd : descend t cum cond (f + 1) B = B := by simp only [descend, hf]
      rw [hd]
      refine ⟨t.mem_chain_self B, id, ?_, id⟩
      intro _ c hc
      have := List.find?_eq_none.1 hf c hc
      simpa [good] using this
    | some c =>
      have hd : descend t cum cond (f + 1) B = descend t cum cond f c := by simp only [descend, hf]
      rw [hd]
      have hcm := List.mem_of_find?_eq_some hf
      have hcg := List.find?_some hf
      obtain ⟨hlt, hc0, hp⟩ := Tree.mem_children.1 hcm
      obtain ⟨i1, i2, i3, i4⟩ := ih c
      have hpl := Tree.parent_lt h (b := c) (by omega)
      have hBc : B ∈ t.chain c := hp ▸ (Tree.upChain h).parent_mem (by omega)
      exact ⟨(Tree.upChain h).trans hBc i1, fun _ => i2 hcg, fun hs => i3 (by omega), fun _ => i4 hlt⟩

theorem descend_stay (t : Tree) (cum : Nat → Mask) (cond : Mask → Bool) (f g : Nat)
    (hno : ∀ c, c ∈ t.children g → good cum cond c = false) : descend t cum cond f g = g := by
  cases f with
  | zero => rfl
  | succ f =>
    have : (t.children g).find? (fun c => inGraph cum c && cond (cum c)) = none :=
      List.find?_eq_none.2 fun c hc => Bool.eq_false_iff.1 (hno c hc)
    simp only [descend, this]

/-- the `let start` of the model's `findGhost`, named so that lemmas can speak of it (`findGhost_eq`) -/
def ghostStart (cum : Nat → Mask) (cur : Option Nat) : Nat :=
  match cur with
  | none => 0
  | some b => if inGraph cum b then b else 0

theorem ghostStart_some {cum : Nat → Mask} {b : Nat} (hin : inGraph cum b = true) : ghostStart cum (some b) = b :=
  if_pos hin

theorem inGraph_ghostStart (cum : Nat → Mask) (cur : Option Nat) : inGraph cum (ghostStart cum cur) = true := by
  cases cur with
  | none => rfl
  | some b =>
    show inGraph cum (if inGraph cum b = true then b else 0) = true
    split
    · assumption
    · rfl

theorem findGhost_eq (t : Tree) (cum : Nat → Mask) (cur : Option Nat) (cond : Mask → Bool) :
    findGhost t cum cur cond =
      if cond (cum (ghostStart cum cur)) then some (descend t cum cond t.size (ghostStart cum cur)) else none := by
  cases cur <;> rfl

theorem findGhost_none {cum : Nat → Mask} {cur : Option Nat} {cond : Mask → Bool}
    (hf : findGhost t cum cur cond = none) : cond (cum (ghostStart cum cur)) = false := by
  rw [findGhost_eq] at hf
  cases hc : cond (cum (ghostStart cum cur))
  · rfl
  · rw [hc] at hf; simp at hf

theorem findGhost_some (h : t.WF) {cum : Nat → Mask} {cur : Option Nat} {cond : Mask → Bool} {D : Nat}
    (hf : findGhost t cum cur cond = some D) :
    cond (cum (ghostStart cum cur)) = true ∧ ghostStart cum cur ∈ t.chain D ∧ good cum cond D = true ∧
    (∀ c, c ∈ t.children D → good cum cond c = false) ∧ (ghostStart cum cur < t.size → D < t.size) := by
  rw [findGhost_eq] at hf
  cases hc : cond (cum (ghostStart cum cur))
  · rw [hc] at hf; simp at hf
  · rw [hc] at hf
    simp only [if_true] at hf
    have hD : descend t cum cond t.size (ghostStart cum cur) = D := Option.some.inj hf
    obtain ⟨d1, d2, d3, d4⟩ := descend_spec h cum cond t.size (ghostStart cum cur)
    rw [hD] at d1 d2 d3 d4
    exact ⟨rfl, d1, d2 (Bool.and_eq_true_iff.2 ⟨inGraph_ghostStart cum cur, hc⟩), d3 (by omega), d4⟩

theorem findGhost_stays_iff (h : t.WF) {cum : Nat → Mask} {cond : Mask → Bool} {E : Nat}
    (hin : inGraph cum E = true) (hok : cond (cum E) = true) :
    (match findGhost t cum (some E) cond with | none => true | some x => x == E) = true ↔
      ∀ c, c ∈ t.children E → good cum cond c = false := by
  rw [findGhost_eq, ghostStart_some hin, hok]
  simp only [if_true, beq_iff_eq]
  constructor
  · intro hD
    obtain ⟨_, _, d3, _⟩ := descend_spec h cum cond t.size E
    rw [hD] at d3
    exact d3 (by omega)
  · exact descend_stay t cum cond t.size E

theorem findAncestor_isTop (h : t.WF) {cum : Nat → Mask} {g : Nat} (hin : inGraph cum g = true) (cond : Mask → Bool) :
    IsTop t (fun B => t.le B g && cond (cum B)) (findAncestor t cum g cond) := by
  unfold findAncestor
  rw [if_pos hin]
  exact chain_find_isTop h _ g

theorem ghost_maximal (h : t.WF) (h0 : 0 < total ws) {ops : List Op} {ph : Bool}
    (htol : tolerant ws ops ph = true) {D : Nat} (hD : superm t ws ops ph D = true)
    (hch : ∀ c, c ∈ t.children D →
      good (run t ws ops).cum (supermCond ws (run t ws ops).eqv ph) c = false) :
    ∀ X, superm t ws ops ph X = true → X ∈ t.chain D := by
  intro X hX
  rcases superm_comparable h h0 htol hX hD with hc | hc
  · exact hc
  · by_cases hne : D = X
    · subst hne; exact t.mem_chain_self D
    · exfalso
      obtain ⟨c, hcX, hc0, hcp⟩ := (Tree.upChain h).child_towards hc hne
      have hXlt := superm_lt_size h h0 htol hX
      have hclt : c < t.size := by have := (Tree.upChain h).mem_le hcX; omega
      have hcs : superm t ws ops ph c = true := superm_anc h hcX hX
      have hcg := superm_inGraph h0 htol hcs
      have := hch c (Tree.mem_children.2 ⟨hclt, hc0, hcp⟩)
      simp [good, hcg, supermCond_run, hcs] at this

theorem findGhost_isGhost (h : t.WF) (h0 : 0 < total ws) {ops : List Op} {ph : Bool}
    (htol : tolerant ws ops ph = true) (memo : Option Nat)
    (hmemo : ∀ m, memo = some m → superm t ws ops ph m = true) :
    IsGhost t ws ops ph
      (findGhost t (run t ws ops).cum memo (supermCond ws (run t ws ops).eqv ph)) := by
  have hstart : ∀ m, memo = some m → ghostStart (run t ws ops).cum memo = m := fun m hm =>
    hm ▸ ghostStart_some (superm_inGraph h0 htol (hmemo m hm))
  cases hf : findGhost t (run t ws ops).cum memo (supermCond ws (run t ws ops).eqv ph) with
  | none =>
    have hc := findGhost_none hf
    rw [supermCond_run] at hc
    cases hm : memo with
    | none =>
      intro B
      cases hB : superm t ws ops ph B
      · rfl
      · have : superm t ws ops ph 0 = true := superm_anc h ((Tree.upChain h).zero_mem B) hB
        rw [hm] at hc
        simp only [ghostStart] at hc
        rw [this] at hc; exact Bool.noConfusion hc
    | some m =>
      rw [hstart m hm, hmemo m hm] at hc
      exact Bool.noConfusion hc
  | some D =>
    obtain ⟨_, _, f3, f4, _⟩ := findGhost_some h hf
    have hD : superm t ws ops ph D = true := by rw [← supermCond_run]; exact (Bool.and_eq_true_iff.1 f3).2
    exact ⟨hD, ghost_maximal h h0 htol hD f4⟩

/-! `MonoCond`, `UniqChild`: the two hypotheses on a condition handed to FindGHOST under which the search on the
compressed graph (`Lib/C20Graph*`) returns what `findGhost` returns; the supermajority condition of a tolerant phase
has both -/

def MonoCond (cond : Mask → Bool) : Prop := ∀ m m', cond m = true → cond (m ||| m') = true

def UniqChild (t : Tree) (c : Nat → Mask) (cond : Mask → Bool) : Prop :=
  ∀ B x y, x ∈ t.children B → y ∈ t.children B → good c cond x = true → good c cond y = true → x = y

theorem supermCond_mono (ws : List Nat) (eqv : Mask) (ph : Bool) : MonoCond (supermCond ws eqv ph) := by
  intro m m' hm
  unfold supermCond at *
  simp only [decide_eq_true_eq, ge_iff_le] at *
  exact Nat.le_trans hm (nodeWeight_or_le ws eqv m m' ph)

theorem superm_uniqChild (h : t.WF) (h0 : 0 < total ws) (ops : List Op) (ph : Bool)
    (htol : tolerant ws ops ph = true) :
    UniqChild t (run t ws ops).cum (supermCond ws (run t ws ops).eqv ph) := by
  intro B x y hx hy gx gy
  simp only [good, Bool.and_eq_true] at gx gy
  have sx : superm t ws ops ph x = true := by rw [← supermCond_run]; exact gx.2
  have sy : superm t ws ops ph y = true := by rw [← supermCond_run]; exact gy.2
  obtain ⟨_, hx0, hxp⟩ := Tree.mem_children.1 hx
  obtain ⟨_, hy0, hyp⟩ := Tree.mem_children.1 hy
  have hxpos : 0 < x := by omega
  have hypos : 0 < y := by omega
  -- two children of a block have the same number, and blocks of one chain with the same number are equal
  have hn : Up.depth t.chain x = Up.depth t.chain y := by
    rw [(Tree.upChain h).depth_pos hxpos, (Tree.upChain h).depth_pos hypos, hxp, hyp]
  rcases superm_comparable h h0 htol sx sy with hc | hc
  · exact (Tree.upChain h).depth_inj hc (t.mem_chain_self y) hn
  · exact ((Tree.upChain h).depth_inj hc (t.mem_chain_self x) hn.symm).symm

end Gossamer.C20
