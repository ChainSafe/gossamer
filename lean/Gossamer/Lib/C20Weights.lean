/-
C20: what the round weighs after importing any list of votes = the paper's vote weights of that list.
The specification depends on a history only through WHICH votes of a voter are in it: every quantity is monotone in that
(`SubVotes`), so a permutation (⊆ both ways) or a vote of the other phase changes none of them.
The blocks with a supermajority for a tolerant vote set form a chain (no two incomparable blocks); each is the target of
some voter's first vote or an ancestor of it (so it is in the vote graph), and a block of the tree.
-/
import Gossamer.Lib.C20Book
namespace Gossamer.C20

variable {t : Tree} {ws : List Nat}

theorem nodeWeight_run (t : Tree) (ws : List Nat) (ops : List Op) (ph : Bool) (B : Nat) :
    nodeWeight ws (run t ws ops).eqv ((run t ws ops).cum B) ph = weightFor t ws ops ph B := by
  have inv := bookInv_run t ws ops
  unfold nodeWeight maskWeight weightFor
  apply wsum_congr
  intro v hv
  rw [Nat.testBit_or, inv.cum, inv.eqv, equiv_or_votesGE]
  simp [hv, Bool.or_comm]

theorem eqvWeight_run (t : Tree) (ws : List Nat) (ops : List Op) (ph : Bool) :
    maskWeight ws (run t ws ops).eqv (phN ph) = equivWeight ws ops ph := by
  have inv := bookInv_run t ws ops
  unfold maskWeight equivWeight
  apply wsum_congr
  intro v hv
  rw [inv.eqv]; simp [hv]

theorem eqvWeight_run_le (t : Tree) {ws : List Nat} {ops : List Op} (ph : Bool) (htol : tolerant ws ops ph = true) :
    maskWeight ws (run t ws ops).eqv (phN ph) ≤ total ws - threshold (total ws) :=
  eqvWeight_run t ws ops ph ▸ of_decide_eq_true htol

theorem cur_run (t : Tree) (ws : List Nat) (ops : List Op) (ph : Bool) :
    (run t ws ops).cur ph = voteWeight ws ops ph := (bookInv_run t ws ops).cur ph

theorem nodeWeight_or_le (ws : List Nat) (eqv m m' : Mask) (ph : Bool) :
    nodeWeight ws eqv m ph ≤ nodeWeight ws eqv (m ||| m') ph := by
  unfold nodeWeight maskWeight
  apply wsum_mono
  intro v _ hv
  simp only [Nat.testBit_or, Bool.or_eq_true] at hv ⊢
  exact hv.imp_left Or.inl

theorem supermCond_run (t : Tree) (ws : List Nat) (ops : List Op) (ph : Bool) (B : Nat) :
    supermCond ws (run t ws ops).eqv ph ((run t ws ops).cum B) = superm t ws ops ph B := by
  unfold supermCond superm
  rw [nodeWeight_run]

def SubVotes (ph : Bool) (ops ops' : List Op) : Prop := ∀ v x, x ∈ votesOf ops ph v → x ∈ votesOf ops' ph v

theorem SubVotes.of_append (ph : Bool) (ops : List Op) (o : Op) : SubVotes ph ops (ops ++ [o]) :=
  fun v x hx => by rw [votesOf_append]; split <;> simp [hx]

theorem SubVotes.of_perm {ops ops' : List Op} (hp : ops.Perm ops') (ph : Bool) : SubVotes ph ops ops' :=
  fun _ _ hx => (((hp.filter _).map _).mem_iff).1 hx

theorem SubVotes.of_other_phase {ops : List Op} {o : Op} {ph : Bool} (hne : o.ph ≠ ph) :
    SubVotes ph (ops ++ [o]) ops :=
  fun v x hx => by rwa [votesOf_append, if_neg (fun h => hne h.1.symm)] at hx

section
variable {ph : Bool} {ops ops' : List Op}

theorem SubVotes.isEquiv (hs : SubVotes ph ops ops') {v : Nat} (h : isEquiv ops ph v = true) :
    isEquiv ops' ph v = true := by
  rw [isEquiv_iff] at *
  obtain ⟨a, ha, b, hb, hab⟩ := h
  exact ⟨a, hs v a ha, b, hs v b hb, hab⟩

theorem SubVotes.votesGE (hs : SubVotes ph ops ops') {v B : Nat} (h : votesGE t ops ph v B = true) :
    votesGE t ops' ph v B = true := by
  rw [votesGE_iff] at *
  obtain ⟨x, hx, hp⟩ := h
  exact ⟨x, hs v x hx, hp⟩

theorem SubVotes.hasVote (hs : SubVotes ph ops ops') {v : Nat} (h : hasVote ops ph v = true) :
    hasVote ops' ph v = true := by
  rw [hasVote_iff] at *
  cases hl : votesOf ops ph v with
  | nil => exact absurd hl h
  | cons a l => exact List.ne_nil_of_mem (hs v a (hl ▸ List.mem_cons_self))

theorem SubVotes.weightFor (hs : SubVotes ph ops ops') (B : Nat) :
    weightFor t ws ops ph B ≤ weightFor t ws ops' ph B := by
  unfold C20.weightFor
  apply wsum_mono
  intro v _ hv
  rcases Bool.or_eq_true_iff.1 hv with hv | hv
  · simp [hs.isEquiv hv]
  · simp [hs.votesGE hv]

theorem SubVotes.equivWeight (hs : SubVotes ph ops ops') : equivWeight ws ops ph ≤ equivWeight ws ops' ph :=
  wsum_mono fun _ _ hv => hs.isEquiv hv

theorem SubVotes.voteWeight (hs : SubVotes ph ops ops') : voteWeight ws ops ph ≤ voteWeight ws ops' ph :=
  wsum_mono fun _ _ hv => hs.hasVote hv

theorem SubVotes.superm (hs : SubVotes ph ops ops') {B : Nat} (h : superm t ws ops ph B = true) :
    superm t ws ops' ph B = true :=
  decide_eq_true (Nat.le_trans (of_decide_eq_true h) (hs.weightFor B))

theorem SubVotes.tolerant (hs : SubVotes ph ops ops') (h : tolerant ws ops' ph = true) : tolerant ws ops ph = true :=
  decide_eq_true (Nat.le_trans hs.equivWeight (of_decide_eq_true h))

end

theorem weightFor_perm (t : Tree) (ws : List Nat) {ops ops' : List Op} (h : ops.Perm ops') (ph : Bool) (B : Nat) :
    weightFor t ws ops ph B = weightFor t ws ops' ph B :=
  Nat.le_antisymm ((SubVotes.of_perm h ph).weightFor B) ((SubVotes.of_perm h.symm ph).weightFor B)

theorem equivWeight_perm (ws : List Nat) {ops ops' : List Op} (hp : ops.Perm ops') (ph : Bool) :
    equivWeight ws ops ph = equivWeight ws ops' ph :=
  Nat.le_antisymm (SubVotes.of_perm hp ph).equivWeight (SubVotes.of_perm hp.symm ph).equivWeight

theorem voteWeight_perm (ws : List Nat) {ops ops' : List Op} (hp : ops.Perm ops') (ph : Bool) :
    voteWeight ws ops ph = voteWeight ws ops' ph :=
  Nat.le_antisymm (SubVotes.of_perm hp ph).voteWeight (SubVotes.of_perm hp.symm ph).voteWeight

theorem tolerant_perm (ws : List Nat) {ops ops' : List Op} (hp : ops.Perm ops') (ph : Bool) :
    tolerant ws ops ph = tolerant ws ops' ph :=
  Bool.eq_iff_iff.2 ⟨(SubVotes.of_perm hp.symm ph).tolerant, (SubVotes.of_perm hp ph).tolerant⟩

theorem superm_perm (t : Tree) (ws : List Nat) {ops ops' : List Op} (hp : ops.Perm ops') (ph : Bool) :
    superm t ws ops ph = superm t ws ops' ph :=
  funext fun _ => Bool.eq_iff_iff.2 ⟨(SubVotes.of_perm hp ph).superm, (SubVotes.of_perm hp.symm ph).superm⟩

theorem votesGE_anc (h : t.WF) {ops : List Op} {ph : Bool} {v A B : Nat} (hAB : A ∈ t.chain B)
    (hv : votesGE t ops ph v B = true) : votesGE t ops ph v A = true := by
  rw [votesGE_iff] at *
  obtain ⟨x, hx, hlt, hc⟩ := hv
  exact ⟨x, hx, hlt, (Tree.upChain h).trans hAB hc⟩

theorem weightFor_anc (h : t.WF) (ops : List Op) (ph : Bool) {A B : Nat} (hAB : A ∈ t.chain B) :
    weightFor t ws ops ph B ≤ weightFor t ws ops ph A := by
  unfold weightFor
  apply wsum_mono
  intro v _ hv
  rcases Bool.or_eq_true_iff.1 hv with hv | hv
  · simp [hv]
  · simp [votesGE_anc h hAB hv]

theorem superm_anc (h : t.WF) {ops : List Op} {ph : Bool} {A B : Nat} (hAB : A ∈ t.chain B)
    (hB : superm t ws ops ph B = true) : superm t ws ops ph A = true :=
  decide_eq_true (Nat.le_trans (of_decide_eq_true hB) (weightFor_anc h ops ph hAB))

theorem hasVote_of_counts {ops : List Op} {ph : Bool} {v B : Nat}
    (hv : (isEquiv ops ph v || votesGE t ops ph v B) = true) : hasVote ops ph v = true := by
  rw [hasVote_iff]
  rcases Bool.or_eq_true_iff.1 hv with hv | hv
  · obtain ⟨a, ha, _⟩ := (isEquiv_iff _ _ _).1 hv
    exact List.ne_nil_of_mem ha
  · obtain ⟨x, hx, _⟩ := (votesGE_iff ..).1 hv
    exact List.ne_nil_of_mem hx

theorem weightFor_le_voteWeight (t : Tree) (ws : List Nat) (ops : List Op) (ph : Bool) (B : Nat) :
    weightFor t ws ops ph B ≤ voteWeight ws ops ph :=
  wsum_mono fun _ _ => hasVote_of_counts

theorem equivWeight_le_weightFor (t : Tree) (ws : List Nat) (ops : List Op) (ph : Bool) (B : Nat) :
    equivWeight ws ops ph ≤ weightFor t ws ops ph B := by
  unfold equivWeight weightFor
  exact wsum_mono (fun v _ hv => by simp [hv])

theorem voteWeight_split (t : Tree) (ws : List Nat) (ops : List Op) (ph : Bool) (B : Nat) :
    voteWeight ws ops ph = weightFor t ws ops ph B + againstWeight t ws ops ph B := by
  unfold voteWeight weightFor againstWeight
  rw [wsum_split fun _ _ => hasVote_of_counts]
  congr 1
  apply wsum_congr
  intro v _
  cases isEquiv ops ph v <;> cases votesGE t ops ph v B <;> simp

/-- `againstWeight` alone is not monotone in the votes (a second vote turns an opponent into an equivocator; the sum
`againstWeight + equivWeight`, on which `possible` rests, is, but no lemma says so): here it is taken as the weight seen
minus the weight for the block -/
theorem possible_perm (t : Tree) (ws : List Nat) {ops ops' : List Op} (hp : ops.Perm ops') (ph : Bool) :
    possible t ws ops ph = possible t ws ops' ph := by
  funext B
  have h1 := voteWeight_split t ws ops ph B
  have h2 := voteWeight_split t ws ops' ph B
  rw [voteWeight_perm ws hp, weightFor_perm t ws hp] at h1
  unfold possible
  rw [equivWeight_perm ws hp, show againstWeight t ws ops ph B = againstWeight t ws ops' ph B by omega]

theorem two_faulty_lt_thr (h0 : 0 < total ws) : 2 * faulty ws < threshold (total ws) := by
  have := three_faulty_lt h0
  have := threshold_le (total ws)
  unfold faulty
  omega

theorem counts_incomparable (h : t.WF) {ops : List Op} {ph : Bool} {v A B : Nat}
    (hnc : ¬ (A ∈ t.chain B ∨ B ∈ t.chain A)) (he : isEquiv ops ph v = false)
    (hA : (isEquiv ops ph v || votesGE t ops ph v A) = true)
    (hB : (isEquiv ops ph v || votesGE t ops ph v B) = true) : False := by
  rw [he, Bool.false_or, votesGE_iff] at hA hB
  obtain ⟨x, hx, _, hcx⟩ := hA
  obtain ⟨y, hy, _, hcy⟩ := hB
  by_cases hxy : x = y
  · subst hxy
    exact hnc (Tree.comparable h hcx hcy)
  · exact Bool.false_ne_true (he ▸ (isEquiv_iff _ _ _).2 ⟨x, hx, y, hy, hxy⟩)

theorem superm_comparable (h : t.WF) (h0 : 0 < total ws) {ops : List Op} {ph : Bool}
    (htol : tolerant ws ops ph = true) {A B : Nat}
    (hA : superm t ws ops ph A = true) (hB : superm t ws ops ph B = true) :
    A ∈ t.chain B ∨ B ∈ t.chain A := by
  apply Classical.byContradiction
  intro hnc
  have ⟨_, _, hA', hB', he⟩ := WSum.meet_of_super (wsum_tol h0 (of_decide_eq_true htol))
    (wsum_super h0 (of_decide_eq_true hA)) (wsum_super h0 (of_decide_eq_true hB))
  exact counts_incomparable h hnc he hA' hB'

theorem superm_firstGE (h0 : 0 < total ws) {ops : List Op} {ph : Bool}
    (htol : tolerant ws ops ph = true) {B : Nat} (hB : superm t ws ops ph B = true) :
    ∃ v, v < ws.length ∧ firstGE t ops ph v B = true := by
  have ⟨x, hx, hc, he⟩ := WSum.exists_of_super (wsum_tol h0 (of_decide_eq_true htol))
    (wsum_super h0 (of_decide_eq_true hB))
  refine ⟨x.2, List.snd_lt_of_mem_zipIdx hx, ?_⟩
  rwa [equiv_or_votesGE, he, Bool.false_or] at hc

theorem inGraph_of_firstGE {ops : List Op} {ph : Bool} {v B : Nat} (hv : v < ws.length)
    (hf : firstGE t ops ph v B = true) : inGraph (run t ws ops).cum B = true := by
  have hbit : ((run t ws ops).cum B).testBit (bitPos v (phN ph)) = true := by
    rw [(bookInv_run t ws ops).cum]; simp [hv, hf]
  have : (run t ws ops).cum B ≠ 0 := mask_ne_zero.2 ⟨_, hbit⟩
  simp [inGraph, this]

theorem superm_inGraph (h0 : 0 < total ws) {ops : List Op} {ph : Bool}
    (htol : tolerant ws ops ph = true) {B : Nat} (hB : superm t ws ops ph B = true) :
    inGraph (run t ws ops).cum B = true := by
  obtain ⟨v, hv, hf⟩ := superm_firstGE h0 htol hB
  exact inGraph_of_firstGE hv hf

theorem weightFor_of_not_inGraph (t : Tree) (ws : List Nat) (ops : List Op) (ph : Bool) {B : Nat}
    (hB : inGraph (run t ws ops).cum B = false) : weightFor t ws ops ph B = equivWeight ws ops ph := by
  refine wsum_congr fun v hv => ?_
  rw [equiv_or_votesGE, Bool.eq_false_iff.2 fun hf => Bool.false_ne_true (hB ▸ inGraph_of_firstGE hv hf),
    Bool.or_false]

theorem firstGE_lt (h : t.WF) {ops : List Op} {ph : Bool} {v B : Nat} (hf : firstGE t ops ph v B = true) :
    B < t.size := by
  obtain ⟨sv, _, hp⟩ := (Option.any_eq_true _ _).1 hf
  simp only [Bool.and_eq_true, decide_eq_true_eq, Tree.le_iff] at hp
  have := (Tree.upChain h).mem_le hp.2
  omega

theorem superm_lt_size (h : t.WF) (h0 : 0 < total ws) {ops : List Op} {ph : Bool}
    (htol : tolerant ws ops ph = true) {B : Nat} (hB : superm t ws ops ph B = true) : B < t.size := by
  obtain ⟨v, _, hf⟩ := superm_firstGE h0 htol hB
  exact firstGE_lt h hf

end Gossamer.C20
