import Gossamer.Lib.C22Weights
import Gossamer.Lib.C22Tree
namespace Gossamer.C22

section
variable {B : Type} [DecidableEq B]

theorem equivocates_iff (S : Votes B) (v : Nat) :
    equivocates S v = true ↔ ∃ b b', (v, b) ∈ S ∧ (v, b') ∈ S ∧ b ≠ b' := by
  simp only [equivocates, List.any_eq_true, Bool.and_eq_true, beq_iff_eq, decide_eq_true_eq, Prod.exists]
  constructor
  · rintro ⟨_, b, hb, _, b', hb', ⟨rfl, rfl⟩, hne⟩; exact ⟨b, b', hb, hb', hne⟩
  · rintro ⟨b, b', hb, hb', hne⟩; exact ⟨v, b, hb, v, b', hb', ⟨rfl, rfl⟩, hne⟩

theorem supports_iff (O : BlockOrder B) (S : Votes B) (x : B) (v : Nat) :
    supports O S x v = true ↔
      (∃ b, (v, b) ∈ S ∧ O.le x b = true) ∨ equivocates S v = true := by
  simp only [supports, Bool.or_eq_true, List.any_eq_true, Bool.and_eq_true, beq_iff_eq, Prod.exists]
  refine or_congr_left ⟨?_, ?_⟩
  · rintro ⟨_, b, hb, rfl, hle⟩; exact ⟨b, hb, hle⟩
  · rintro ⟨b, hb, hle⟩; exact ⟨v, b, hb, rfl, hle⟩

omit [DecidableEq B] in
theorem voted_iff (S : Votes B) (v : Nat) : voted S v = true ↔ ∃ b, (v, b) ∈ S := by
  simp only [voted, List.any_eq_true, beq_iff_eq, Prod.exists]
  exact ⟨fun ⟨_, b, hb, h⟩ => ⟨b, h ▸ hb⟩, fun ⟨b, hb⟩ => ⟨v, b, hb, rfl⟩⟩

theorem equivocates_mono {S T : Votes B} (h : ∀ p, p ∈ S → p ∈ T) (v : Nat)
    (he : equivocates S v = true) : equivocates T v = true :=
  have ⟨b, b', h1, h2, hne⟩ := (equivocates_iff S v).mp he
  (equivocates_iff T v).mpr ⟨b, b', h _ h1, h _ h2, hne⟩

theorem supports_mono {S T : Votes B} (O : BlockOrder B) (h : ∀ p, p ∈ S → p ∈ T) (x : B) (v : Nat)
    (hs : supports O S x v = true) : supports O T x v = true :=
  (supports_iff O T x v).mpr (((supports_iff O S x v).mp hs).imp
    (fun ⟨b, hb, hle⟩ => ⟨b, h _ hb, hle⟩) (equivocates_mono h v))

theorem supports_down (O : BlockOrder B) (S : Votes B) {x x' : B} (hle : O.le x' x = true) (v : Nat)
    (hs : supports O S x v = true) : supports O S x' v = true :=
  (supports_iff O S x' v).mpr (((supports_iff O S x v).mp hs).imp_left
    fun ⟨b, hb, hxb⟩ => ⟨b, hb, O.trans _ _ _ hle hxb⟩)

omit [DecidableEq B] in
theorem single_sub {S T : Votes B} (h : ∀ p, p ∈ S → p ∈ T) (v : Nat) (hs : single T v) : single S v :=
  fun b b' h1 h2 => hs b b' (h _ h1) (h _ h2)

theorem not_equivocates_iff_single (S : Votes B) (v : Nat) : equivocates S v = false ↔ single S v := by
  rw [← Bool.not_eq_true, equivocates_iff]
  exact ⟨fun h b b' h1 h2 => Decidable.byContradiction fun hne => h ⟨b, b', h1, h2, hne⟩,
    fun hs ⟨b, b', h1, h2, hne⟩ => hne (hs b b' h1 h2)⟩

theorem supports_single (O : BlockOrder B) (S : Votes B) (x : B) (v : Nat) (hs : single S v)
    (h : supports O S x v = true) : ∃ b, (v, b) ∈ S ∧ O.le x b = true :=
  ((supports_iff O S x v).mp h).resolve_right
    (Bool.eq_false_iff.1 ((not_equivocates_iff_single S v).2 hs))

theorem supermajority_mono {t a b : Nat} (h : a ≤ b) (hs : supermajority t a) : supermajority t b :=
  Nat.lt_of_lt_of_le hs (Nat.mul_le_mul_left 3 h)

theorem hasSuper_mono (vs : Voters) (O : BlockOrder B) {S T : Votes B} (h : ∀ p, p ∈ S → p ∈ T) (x : B)
    (hs : hasSuper vs O S x) : hasSuper vs O T x :=
  supermajority_mono (vs.weight_mono _ _ fun v _ hv => supports_mono O h x v hv) hs

theorem hasSuper_down (vs : Voters) (O : BlockOrder B) (S : Votes B) {x x' : B}
    (hle : O.le x' x = true) (hs : hasSuper vs O S x) : hasSuper vs O S x' :=
  supermajority_mono (vs.weight_mono _ _ fun v _ hv => supports_down O S hle v hv) hs

theorem hasSuper_honest_vote (vs : Voters) (O : BlockOrder B) (S : Votes B) (x : B)
    (hmin : vs.minority) (hhon : ∀ v, vs.honest v → single S v) (hs : hasSuper vs O S x) :
    ∃ v b, vs.honest v ∧ (v, b) ∈ S ∧ O.le x b = true := by
  have ⟨v, hm, hsup, _, hb⟩ := vs.two_super_meet _ _ vs.byz hmin hs hs
  have ⟨b, hb1, hb2⟩ := supports_single O S x v (hhon v ⟨hm, hb⟩) hsup
  exact ⟨v, b, ⟨hm, hb⟩, hb1, hb2⟩

/-- only Byzantine voters equivocate -/
theorem equivocators_light (vs : Voters) (hmin : vs.minority) {S : Votes B} (hhon : ∀ v, vs.honest v → single S v) :
    3 * vs.weight (equivocates S) < vs.total := by
  have : vs.weight (equivocates S) ≤ vs.weight vs.byz :=
    vs.weight_mono _ _ fun v hm he => by
      cases hb : vs.byz v with
      | true => rfl
      | false => rw [(not_equivocates_iff_single S v).2 (hhon v ⟨hm, hb⟩)] at he; cases he
  unfold Voters.minority at hmin
  omega

omit [DecidableEq B] in
theorem mem_votesOf (ms : List (Msg B)) (r : Nat) (st : Stage) (v : Nat) (b : B) :
    (v, b) ∈ votesOf ms r st ↔ (⟨r, st, v, b⟩ : Msg B) ∈ ms := by
  simp only [votesOf, List.mem_filterMap, Option.ite_none_right_eq_some, Option.some.injEq, Prod.mk.injEq]
  constructor
  · rintro ⟨⟨_, _, _, _⟩, hm, ⟨rfl, rfl⟩, rfl, rfl⟩; exact hm
  · exact fun h => ⟨_, h, ⟨rfl, rfl⟩, rfl, rfl⟩

omit [DecidableEq B] in
theorem votesOf_sub {ms ms' : List (Msg B)} (h : ∀ m, m ∈ ms → m ∈ ms') (r : Nat) (st : Stage) :
    ∀ p, p ∈ votesOf ms r st → p ∈ votesOf ms' r st :=
  fun (v, b) hp => (mem_votesOf ms' r st v b).2 (h _ ((mem_votesOf ms r st v b).1 hp))

end

end Gossamer.C22
