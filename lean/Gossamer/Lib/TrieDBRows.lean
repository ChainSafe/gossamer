/-
C06: distinct positions of a committed trie have distinct database rows.
Needs: 32-byte digests, no collisions, and no cycles of hash references (`HashOK`); keys of even
nibble length (byte keys).
-/
import Gossamer.Lib.TrieDBPos
namespace Gossamer.C06
open Gossamer Gossamer.Trie

theorem value_infix_leaf (ver : Ver) (H : Bytes → Bytes) (pk : Nibs) (v : Bytes)
    (hm : mustBeHashed ver v = true) : H v <:+: encodeNode ver H (leaf pk v) := by
  simp only [encodeNode, encodeValue, hm, if_true]
  exact ⟨header 0x20 0x1f pk.length ++ packNibs pk, [], by simp⟩

theorem value_infix_branch (ver : Ver) (H : Bytes → Bytes) (pk : Nibs) (v : Bytes) (cs : Nib → Trie)
    (hm : mustBeHashed ver v = true) : H v <:+: encodeNode ver H (branch pk (some v) cs) := by
  simp only [encodeNode, encodeValue, hm, if_true]
  exact List.infix_append _ _ _

theorem kid_infix (ver : Ver) (H : Bytes → Bytes) (pk : Nibs) (v : Option Bytes) (cs : Nib → Trie)
    (i : Nib) (hn : (cs i).isNil = false) (hl : 32 ≤ (encodeNode ver H (cs i)).length) :
    H (encodeNode ver H (cs i)) <:+: encodeNode ver H (branch pk v cs) := by
  obtain ⟨a, b, _, e⟩ := childRef_infix ver H pk v cs i hn
  rw [e, merkleValue_long hl, scaleBytes]
  exact ⟨a ++ compactNat (H (encodeNode ver H (cs i))).length, b, by simp only [List.append_assoc]⟩

/-- a hashed value stored anywhere below `t` has a smaller rank than the encoding of `t`.  The first
    conjunct (the encoding of `t` contains a digest, so it is at least 32 bytes long and `t` is itself
    referred to by hash from its parent) is what lets the induction pass from a child to its branch. -/
theorem rank_value {ver : Ver} {H : Bytes → Bytes} {Dom : Bytes → Prop} (hlen : ∀ x, (H x).length = 32)
    {rk : Bytes → Nat} (hrk : ∀ x y, Dom x → Dom y → H y <:+: x → rk y < rk x) (t : Trie) :
    (∀ m, NodeOf m t → Dom (encodeNode ver H m)) → ∀ k v, lookup t k = some v →
      mustBeHashed ver v = true → Dom v →
      32 ≤ (encodeNode ver H t).length ∧ rk v < rk (encodeNode ver H t) := by
  have hdirect : ∀ m : Trie, Dom (encodeNode ver H m) → ∀ v, Dom v → H v <:+: encodeNode ver H m →
      32 ≤ (encodeNode ver H m).length ∧ rk v < rk (encodeNode ver H m) := fun m hm v hv hi =>
    ⟨hlen v ▸ hi.length_le, hrk _ _ hm hv hi⟩
  induction t with
  | nil => intro _ k v h; simp at h
  | leaf pk x =>
    intro hd k v h hm hv
    obtain ⟨-, rfl⟩ := lookup_leaf_eq_some.mp h
    exact hdirect _ (hd _ rfl) _ hv (value_infix_leaf ver H pk _ hm)
  | branch pk x cs ih =>
    intro hd k v h hm hv
    have hself := hd _ (Or.inl rfl)
    rcases lookup_branch_some h with ⟨rfl, rfl⟩ | ⟨i, rest, rfl, hc⟩
    · exact hdirect _ hself v hv (value_infix_branch ver H _ v cs hm)
    · have hne := ne_nil_of_lookup hc
      obtain ⟨hl, hr⟩ := ih i (fun m hmm => hd m (Or.inr ⟨i, hmm⟩)) rest v hc hm hv
      have hdc := hd _ (Or.inr ⟨i, nodeOf_self hne⟩)
      obtain ⟨h1, h2⟩ := hdirect _ hself _ hdc (kid_infix ver H pk x cs i (isNil_false_of_ne hne) hl)
      exact ⟨h1, Nat.lt_trans hr h2⟩

theorem rank_node {ver : Ver} {H : Bytes → Bytes} {Dom : Bytes → Prop} (hlen : ∀ x, (H x).length = 32)
    {rk : Bytes → Nat} (hrk : ∀ x y, Dom x → Dom y → H y <:+: x → rk y < rk x) (t : Trie) (r : Nibs)
    (hne : subAt t r ≠ nil) :
    (∀ m, NodeOf m t → Dom (encodeNode ver H m)) → r ≠ [] → 32 ≤ (encodeNode ver H (subAt t r)).length →
      32 ≤ (encodeNode ver H t).length ∧ rk (encodeNode ver H (subAt t r)) < rk (encodeNode ver H t) := by
  refine subAt_induction (fun t _ _ hr => absurd rfl hr) (fun pk v cs i rest hne ih hd _ hl => ?_) t r hne
  rw [subAt_child] at hl ⊢
  have hself := hd _ (Or.inl rfl)
  have hci : cs i ≠ nil := fun e => by rw [e] at hne; exact hne (subAt_nil rest)
  have hdc := hd _ (Or.inr ⟨i, nodeOf_self hci⟩)
  -- the child itself is referred to by hash
  have hlc : 32 ≤ (encodeNode ver H (cs i)).length := by
    by_cases hr : rest = []
    · subst hr; rwa [subAt_nil_path] at hl
    · exact (ih (fun m hmm => hd m (Or.inr ⟨i, hmm⟩)) hr hl).1
  have hi := kid_infix ver H pk v cs i (isNil_false_of_ne hci) hlc
  refine ⟨hlen (encodeNode ver H (cs i)) ▸ hi.length_le, ?_⟩
  by_cases hr : rest = []
  · subst hr; rw [subAt_nil_path]; exact hrk _ _ hself hdc hi
  · exact Nat.lt_trans (ih (fun m hmm => hd m (Or.inr ⟨i, hmm⟩)) hr hl).2 (hrk _ _ hself hdc hi)

theorem rows_inj {ver : Ver} {H : Bytes → Bytes} {Dom : Bytes → Prop} (hH : HashOK H Dom) (T0 : Trie)
    (hcov : Covers ver H Dom T0)
    (heven : ∀ k v, lookup T0 k = some v → k.length % 2 = 0) (pos1 pos2 : Pos)
    (h1 : ValidPos ver H T0 pos1) (h2 : ValidPos ver H T0 pos2)
    (heq : rowOf ver H T0 pos1 = rowOf ver H T0 pos2) : pos1 = pos2 := by
  obtain ⟨rk, hrk⟩ := hH.rank
  have hdom : ∀ p, subAt T0 p ≠ nil → ∀ m, NodeOf m (subAt T0 p) → Dom (encodeNode ver H m) :=
    fun p hp m hm => hcov.1 m (nodeOf_trans hm (nodeOf_subAt T0 p hp))
  -- a node and the node one zero nibble below it never have the same encoding
  have hnn : ∀ q : Nibs, subAt T0 q ≠ nil → subAt T0 (q ++ [0]) ≠ nil →
      32 ≤ (encodeNode ver H (subAt T0 (q ++ [0]))).length →
      encodeNode ver H (subAt T0 q) ≠ encodeNode ver H (subAt T0 (q ++ [0])) := by
    intro q hq hq0 hl he
    rw [subAt_append T0 q [0] hq] at hq0 hl he
    have := (rank_node hH.len hrk _ [0] hq0 (hdom q hq) (by simp) hl).2
    rw [← he] at this
    exact Nat.lt_irrefl _ this
  -- a hashed value is never the encoding of a node whose path packs to the same bytes as its key
  have hnv : ∀ (p k : Nibs) (v : Bytes), subAt T0 p ≠ nil → lookup T0 k = some v →
      mustBeHashed ver v = true → prefixBytes p = prefixBytes k →
      encodeNode ver H (subAt T0 p) ≠ v := by
    intro p k v hp hk hm hpre he
    have hke := heven k v hk
    have hbelow : ∀ r, k = p ++ r → False := fun r hr => by
      have := lookup_subAt T0 p r hp
      rw [← hr, hk] at this
      have := (rank_value hH.len hrk _ (hdom p hp) r v this.symm hm (hcov.2 _ _ hk hm)).2
      rw [he] at this
      exact Nat.lt_irrefl _ this
    rcases prefixBytes_eq p k hpre with rfl | ⟨hodd, _⟩ | ⟨_, rfl⟩
    · exact hbelow [] (List.append_nil _).symm
    · omega
    · exact hbelow [0] rfl
  cases pos1 with
  | node p =>
    cases pos2 with
    | node q =>
      obtain ⟨hpre, hh⟩ := rowKey_split hH.len heq
      have henc := hH.inj _ _ (hcov.1 _ (nodeOf_subAt T0 p h1.1)) (hcov.1 _ (nodeOf_subAt T0 q h2.1)) hh
      rcases prefixBytes_eq p q hpre with rfl | ⟨_, rfl⟩ | ⟨_, rfl⟩
      · rfl
      · exact absurd henc.symm (hnn q h2.1 h1.1 (h1.2 (by simp)))
      · exact absurd henc (hnn p h1.1 h2.1 (h2.2 (by simp)))
    | val k =>
      obtain ⟨v, hk, hm⟩ := h2
      simp only [rowOf, hk, Option.getD_some] at heq
      obtain ⟨hpre, hh⟩ := rowKey_split hH.len heq
      exact absurd (hH.inj _ _ (hcov.1 _ (nodeOf_subAt T0 p h1.1)) (hcov.2 _ _ hk hm) hh)
        (hnv p k v h1.1 hk hm hpre)
  | val k =>
    obtain ⟨v, hk, hm⟩ := h1
    cases pos2 with
    | node q =>
      simp only [rowOf, hk, Option.getD_some] at heq
      obtain ⟨hpre, hh⟩ := rowKey_split hH.len heq
      exact absurd (hH.inj _ _ (hcov.2 _ _ hk hm) (hcov.1 _ (nodeOf_subAt T0 q h2.1)) hh).symm
        (hnv q k v h2.1 hk hm hpre.symm)
    | val k' =>
      obtain ⟨v', hk', hm'⟩ := h2
      simp only [rowOf, hk, hk', Option.getD_some] at heq
      obtain ⟨hpre, _⟩ := rowKey_split hH.len heq
      have e1 := heven k v hk
      have e2 := heven k' v' hk'
      rcases prefixBytes_eq k k' hpre with rfl | ⟨hodd, _⟩ | ⟨hodd, _⟩
      · rfl
      · omega
      · omega

end Gossamer.C06
