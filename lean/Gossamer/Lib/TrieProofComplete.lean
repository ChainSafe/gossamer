/-
C05 completeness: the proof `Generate` builds for present keys verifies — unless two DIFFERENT honest
strings of the state (node encodings, stored values) collide under `H`.

`PDesc` … `fits_map` are about the MODEL, not about Go: `loadF` runs on the fuel `pairs.length + 1`
where `loadProof` simply recurses, so completeness has to show that the fuel lasts (`fits`).  It does
because each reference followed leads to the encoding of a proper descendant, and no descendant has
the encoding of its ancestor (`enc_ne_of_pdesc`, from `view_inj`).  Soundness never needs this:
running out of fuel is a rejection.
-/
import Gossamer.Lib.TrieProofGenerate
namespace Gossamer.C05
open Gossamer Gossamer.TrieCodec Gossamer.Bridge

/-- `d` is a proper descendant of the second argument -/
def PDesc (d : Trie) : Trie → Prop
  | .branch _ _ cs => ∃ i, d = cs i ∨ PDesc d (cs i)
  | _ => False

def Within (t T : Trie) : Prop := t = T ∨ PDesc t T

theorem pdesc_ind {d : Trie} {P : Trie → Prop}
    (step : ∀ pk v cs (i : Nib), d = cs i ∨ P (cs i) → P (.branch pk v cs)) : ∀ c, PDesc d c → P c := by
  intro c
  induction c with
  | nil => nofun
  | leaf _ _ => nofun
  | branch pk v cs ih =>
    rintro ⟨i, h⟩
    exact step pk v cs i (h.imp_right (ih i))

theorem pdesc_depth (d : Trie) : ∀ c : Trie, PDesc d c → TrieHeap.depth d < TrieHeap.depth c :=
  pdesc_ind fun pk v cs i h => by
    have := TrieHeap.depth_kid pk v cs i
    rcases h with rfl | h <;> omega

theorem honest_pdesc {ver : Ver} {H : Bytes → Bytes} {d : Trie} {x : Bytes} (hx : Honest ver H d x) :
    ∀ c : Trie, PDesc d c → Honest ver H c x :=
  pdesc_ind fun _ _ _ _ h => h.elim (fun e => honest_child (e ▸ hx)) honest_child

theorem honest_within {ver : Ver} {H : Bytes → Bytes} {t T : Trie} {x : Bytes} (h : Within t T)
    (hx : Honest ver H t x) : Honest ver H T x := by
  rcases h with rfl | h
  · exact hx
  · exact honest_pdesc hx T h

theorem wft_pdesc (d : Trie) : ∀ c : Trie, PDesc d c → WFT c → WFT d :=
  pdesc_ind fun _ _ _ i h hw => h.elim (fun e => e ▸ hw.2.2 i) fun ih => ih (hw.2.2 i)

theorem storedValue_inj {ver : Ver} {H : Bytes → Bytes} {S : Bytes → Prop} (hS : InjS H S) {x y : Bytes}
    (hx : S x) (hy : S y) (hf : mustBeHashed ver x = mustBeHashed ver y)
    (h : storedValue ver H x = storedValue ver H y) : x = y := by
  unfold storedValue at h
  rw [← hf] at h
  split at h
  · exact hS x y hx hy h
  · exact h

/-- Equal decoded roots have equal inlined children and equal child hashes, hence (no collision in
    `S`) equal child encodings, which decode to equal children.  `strict` only picks the decoder
    mode; any would do. -/
theorem view_inj (ver : Ver) (H : Bytes → Bytes) (hH : ∀ m, (H m).length = 32) (strict : Bool)
    (S : Bytes → Prop) (hS : InjS H S) :
    ∀ a b : Trie, WFT a → WFT b → (∀ x, Honest ver H a x → S x) → (∀ x, Honest ver H b x → S x) →
      viewT ver H a = viewT ver H b → a = b := by
  intro a
  induction a with
  | nil =>
    intro b _ _ _ _ h
    cases b with
    | nil => rfl
    | leaf pk v => cases h
    | branch pk v cs => rw [viewT_branch] at h; cases h
  | leaf pk v =>
    intro b _ hwb ha hb h
    cases b with
    | nil => cases h
    | branch pk' v' cs' => rw [viewT_leaf, viewT_branch] at h; cases h
    | leaf pk' v' =>
      rw [viewT_leaf, viewT_leaf] at h
      simp only [Node.leaf.injEq, Option.some.injEq, nibB_eq_iff] at h
      obtain ⟨rfl, hv, hf⟩ := h
      rw [storedValue_inj hS (ha v (.inr rfl)) (hb v' (.inr rfl)) hf hv]
  | branch pk v cs ih =>
    intro b hwa hwb ha hb h
    cases b with
    | nil => rw [viewT_branch] at h; cases h
    | leaf pk' v' => rw [viewT_leaf, viewT_branch] at h; cases h
    | branch pk' v' cs' =>
      rw [viewT_branch, viewT_branch] at h
      simp only [Node.branch.injEq, nibB_eq_iff] at h
      obtain ⟨rfl, hv, hf, hk⟩ := h
      have hvv : v = v' := by
        cases v <;> cases v'
        · rfl
        · cases hv
        · cases hv
        · rename_i x y
          rw [storedValue_inj hS (ha x (.inr (.inl rfl))) (hb y (.inr (.inl rfl))) hf (Option.some.inj hv)]
      have hcs : cs = cs' := by
        funext i
        have hi : vkid ver H (cs i) = vkid ver H (cs' i) := List.map_inj_left.mp hk i (List.mem_finRange i)
        have hSa : ∀ x, Honest ver H (cs i) x → S x := fun x hx => ha x (honest_child hx)
        have hSb : ∀ x, Honest ver H (cs' i) x → S x := fun x hx => hb x (honest_child hx)
        unfold vkid at hi
        split at hi <;> split at hi
        · exact ih i _ (hwa.2.2 i) (hwb.2.2 i) hSa hSb hi
        · exact absurd hi (viewT_not_stub ver H _ _)
        · exact absurd hi.symm (viewT_not_stub ver H _ _)
        · -- both referenced by hash: the encodings agree, hence what they decode to
          have henc := hS _ _ (hSa _ (honest_self ver H _)) (hSb _ (honest_self ver H _)) (Node.stub.inj hi)
          have hd := decode_encodeNode ver H hH strict _ (hwa.2.2 i)
          rw [henc, decode_encodeNode ver H hH strict _ (hwb.2.2 i)] at hd
          exact ih i _ (hwa.2.2 i) (hwb.2.2 i) hSa hSb (Out.ok.inj hd).symm
      rw [hvv, hcs]

theorem enc_ne_of_pdesc (ver : Ver) (H : Bytes → Bytes) (hH : ∀ m, (H m).length = 32)
    (T : Trie) (hw : WFT T) (hS : InjS H (Honest ver H T)) (d : Trie) (hd : PDesc d T) :
    encodeNode ver H d ≠ encodeNode ver H T := by
  intro he
  have hwd := wft_pdesc d T hd hw
  have h1 := decode_encodeNode ver H hH false d hwd
  rw [he, decode_encodeNode ver H hH false T hw] at h1
  have := view_inj ver H hH false _ hS d T hwd hw (fun x hx => honest_pdesc hx T hd)
    (fun x hx => hx) (Out.ok.inj h1).symm
  have hs := pdesc_depth d T hd
  rw [this] at hs
  omega

theorem fits_succ_iff {fol : Trie → Bool} {f : Nat} {pk : Nibs} {v : Option Bytes} {cs : Nib → Trie} :
    fits fol (f + 1) (.branch pk v cs) = true ↔ ∀ i, fol (cs i) = true → fits fol f (cs i) = true := by
  rw [fits, List.all_eq_true]
  refine ⟨fun h i hi => ?_, fun h i _ => ?_⟩
  · simpa [hi] using h i (List.mem_finRange i)
  · cases hi : fol (cs i)
    · rfl
    · exact h i hi

theorem fits_mono {fol : Trie → Bool} :
    ∀ {f g : Nat} {t : Trie}, f ≤ g → fits fol f t = true → fits fol g t = true := by
  intro f
  induction f with
  | zero => intro g t _ h; cases h
  | succ f ih =>
    intro g t hfg h
    obtain ⟨g, rfl⟩ := Nat.exists_eq_add_one_of_ne_zero (Nat.ne_of_gt (Nat.lt_of_lt_of_le f.succ_pos hfg))
    cases t with
    | nil | leaf _ _ => rfl
    | branch pk v cs =>
      exact fits_succ_iff.mpr fun i hi => ih (Nat.le_of_succ_le_succ hfg) (fits_succ_iff.mp h i hi)

/-- each descent uses up an item of `L` (it is filtered out for the induction hypothesis), the
    encoding of a child being that of none of its descendants -/
theorem fits_len (ver : Ver) (H : Bytes → Bytes) (hH : ∀ m, (H m).length = 32) {fol : Trie → Bool} :
    ∀ (t : Trie) (L : List Bytes), WFT t → InjS H (Honest ver H t) →
      (∀ d, PDesc d t → fol d = true → encodeNode ver H d ∈ L) → fits fol (L.length + 1) t = true := by
  intro t
  induction t with
  | nil | leaf _ _ => intro _ _ _ _; rfl
  | branch pk v cs ih =>
    intro L hw hS hfol
    refine fits_succ_iff.mpr fun i hi => ?_
    have hlt : (L.filter (fun x => !(x == encodeNode ver H (cs i)))).length < L.length :=
      List.length_filter_lt_length_iff_exists.mpr ⟨_, hfol _ ⟨i, .inl rfl⟩ hi, by simp⟩
    have hSi : InjS H (Honest ver H (cs i)) :=
      fun x y hx hy => hS x y (honest_child hx) (honest_child hy)
    exact fits_mono hlt (ih i _ (hw.2.2 i) hSi
      fun d hd hfd => List.mem_filter.mpr ⟨hfol d ⟨i, .inr hd⟩ hfd, (Bool.not_eq_true' _).mpr
        (beq_eq_false_iff_ne.mpr (enc_ne_of_pdesc ver H hH (cs i) (hw.2.2 i) hSi d hd))⟩)

theorem fits_map (ver : Ver) (H : Bytes → Bytes) (hH : ∀ m, (H m).length = 32) {T : Trie} {m : Pairs}
    (hm : Clean ver H T m) (hw : WFT T) (hS : InjS H (Honest ver H T)) :
    fits (followed ver H m) (m.length + 1) T = true := by
  rw [← List.length_map (f := Prod.snd)]
  refine fits_len ver H hH T _ hw hS fun d hd hfol => ?_
  obtain ⟨e', hg⟩ := Option.isSome_iff_exists.mp (Bool.and_eq_true_iff.mp hfol).2
  rw [mapGet_honest hm (honest_pdesc (honest_self ver H d) T hd) hg] at hg
  exact List.mem_map.mpr ⟨_, mapGet_mem hg, rfl⟩

theorem leafValue_complete {ver : Ver} {H : Bytes → Bytes} {db : Pairs} {x : Bytes}
    (h : mustBeHashed ver x = true → mapGet db (H x) = some x) :
    leafValue db ((some x).map (storedValue ver H)) (hashedFlag ver (some x)) = some x := by
  rw [leafValue_stored]
  dsimp only
  split
  · rename_i hm; exact h hm
  · rfl

/-- `db` = the proof database `Get` resolves hashed values in, `m` = the map `loadProof` used -/
theorem pget_walk (ver : Ver) (H : Bytes → Bytes) {m : Pairs} (db : Pairs) :
    ∀ {t : Trie} {kn : Nibs} {isRoot : Bool} {ns : List Bytes} {x : Bytes},
      walk ver H isRoot t kn = some ns → Trie.lookup t kn = some x →
      (∀ e ∈ ns, mapGet db (H e) = some e) →
      (∀ d, PDesc d t → encodeNode ver H d ∈ ns → (mapGet m (H (encodeNode ver H d))).isSome = true) →
      pget db (resolved ver H m t) (nibB kn) = some x := by
  intro t
  induction t with
  | nil => intro kn isRoot ns x _ hl; cases hl
  | leaf pk v =>
    intro kn isRoot ns x hwalk hl hdb _
    obtain ⟨hk, rfl⟩ := Trie.lookup_leaf_eq_some.mp hl
    rw [hk, walk_leaf_self] at hwalk
    cases hwalk
    rw [resolved, hk, pget_leaf, if_pos rfl]
    exact leafValue_complete fun hm =>
      hdb v (List.mem_append_right _ (mem_valueNode.mpr ⟨rfl, hm⟩))
  | branch pk v cs ih =>
    intro kn isRoot ns x hwalk hl hdb hm
    rcases Trie.lookup_branch_some hl with ⟨rfl, rfl⟩ | ⟨i, rest, rfl, hchild⟩
    · -- the key ends at this branch
      rw [walk_branch_self] at hwalk
      cases hwalk
      rw [pget_resolved_self]
      exact leafValue_complete fun hm => hdb x (List.mem_append_right _ (mem_valueNode.mpr ⟨rfl, hm⟩))
    · -- the key continues in child `i`
      rw [walk_branch_child] at hwalk
      obtain ⟨deeper, hd, rfl⟩ := Option.map_eq_some_iff.mp hwalk
      have hnil := Trie.isNil_false_of_lookup hchild
      -- its slot was not cleared: its encoding, if not inlined, is an item of the walk
      have hcl : cleared ver H m (cs i) = false := cleared_eq_false fun hl =>
        hm _ ⟨i, .inl rfl⟩ (List.mem_append_right _ (self_mem_walk hnil (.inr hl) hd))
      rw [pget_resolved_child db hcl hnil]
      exact ih i hd hchild
        (fun e he => hdb e (List.mem_append_right _ he))
        (fun d hdd he => hm d ⟨i, .inr hdd⟩ (List.mem_append_right _ he))

/-- `Verify` accepts a present key from ANY list of honest strings of the state that holds the
    items of the key's walk (in any order, with any other honest items beside them) -/
theorem verify_complete_items (ver : Ver) (H : Bytes → Bytes) (hH : ∀ m, (H m).length = 32)
    (strict : Bool) (T : Trie) (hw : WFT T) (hS : InjS H (Honest ver H T)) (N : List Bytes)
    (hhon : ∀ e ∈ N, Honest ver H T e) (k v : Bytes) (ns : List Bytes)
    (hwalk : walk ver H true T (toNibs k) = some ns) (hns : ∀ e ∈ ns, e ∈ N)
    (hlook : Trie.lookup T (toNibs k) = some v) :
    verify H strict N (hashTrie ver H T) k v = .ok := by
  have hnil := Trie.isNil_false_of_lookup hlook
  have hpairs : Clean ver H T (pairsOf H N) := clean_pairsOf (injS_honest_iff.mp hS) hhon
  have hmemp : ∀ e ∈ N, (H e, e) ∈ pairsOf H N := fun e he => List.mem_map.mpr ⟨e, he, rfl⟩
  have hm : Clean ver H T ((pairsOf H N).eraseP fun p => p.1 == hashTrie ver H T) :=
    hpairs.mono List.eraseP_subset
  have hinm : ∀ e ∈ N, e ≠ encodeNode ver H T →
      (H e, e) ∈ (pairsOf H N).eraseP fun p => p.1 == hashTrie ver H T := fun e he hne =>
    (List.mem_eraseP_of_neg (p := fun x : Bytes × Bytes => x.1 == hashTrie ver H T) fun hq =>
      hne (hS _ _ (hhon e he) (honest_self ver H T) (beq_iff_eq.mp hq : H e = hashTrie ver H T))).mpr
      (hmemp e he)
  refine (verifyP_root_ok_iff ver H hH strict hpairs hw k v).mpr
    ⟨⟨_, hmemp _ (hns _ (self_mem_walk hnil (.inl rfl) hwalk)), rfl⟩, ?_, v, ?_, .inr rfl⟩
  · exact fits_mono (Nat.succ_le_succ List.eraseP_sublist.length_le) (fits_map ver H hH hm hw hS)
  · -- the key is read from the rebuilt trie
    exact pget_walk ver H (pairsOf H N) hwalk hlook
      (fun e he => mapGet_avail hpairs (hhon e (hns e he)) (hmemp e (hns e he)))
      (fun d hd he => mapGet_isSome_of_mem (hinm _ (hns _ he) (enc_ne_of_pdesc ver H hH T hw hS d hd)))

theorem verify_complete_inj (ver : Ver) (H : Bytes → Bytes) (hH : ∀ m, (H m).length = 32)
    (strict : Bool) (T : Trie) (hw : WFT T) (hS : InjS H (Honest ver H T))
    (ks : List Bytes) (N : List Bytes) (hgen : generate ver H T ks = some N)
    (k v : Bytes) (hk : k ∈ ks) (hlook : Trie.lookup T (toNibs k) = some v) :
    verify H strict N (hashTrie ver H T) k v = .ok := by
  obtain ⟨hwalks, hN⟩ := generate_spec ver H hH T hS ks N hgen
  obtain ⟨ns, hwalk⟩ := hwalks k hk
  have hhon : ∀ e ∈ N, Honest ver H T e := fun e he => by
    obtain ⟨_, _, ns', hw', he'⟩ := (hN e).mp he
    exact walk_honest ver H hw' e he'
  have hns : ∀ e ∈ ns, e ∈ N := fun e he => (hN e).mpr ⟨k, hk, ns, hwalk, he⟩
  rw [keyLEToNibbles_eq] at hwalk
  exact verify_complete_items ver H hH strict T hw hS N hhon k v ns hwalk hns hlook

end Gossamer.C05
