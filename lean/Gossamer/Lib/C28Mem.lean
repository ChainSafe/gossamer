import Gossamer.Model.C28
namespace Gossamer.C28

/-- the one hypothesis on the byte store in the C28 theorems; `funStore` and `hashStore` satisfy it -/
structure Store.Lawful (S : Store) : Prop where
  get_set : ∀ (b : S.σ) (a v x : Nat), S.get (S.set b a v) x = if x = a then v else S.get b x

theorem funStore_lawful : funStore.Lawful := ⟨fun _ _ _ _ => rfl⟩

variable {S : Store}

theorem byteAt_set (hS : S.Lawful) (b : S.σ) (k v x : Nat) :
    byteAt (S.set b k v) x = if x = k then v else byteAt b x := hS.get_set b k v x

theorem byteAt_put64_other (hS : S.Lawful) (b : S.σ) (a v x : Nat) (h : x < a ∨ a + 8 ≤ x) :
    byteAt (put64 b a v) x = byteAt b x := by
  have ne (j : Nat) (hj : j < 8) : ¬ x = a + j := by omega
  have ne0 : ¬ x = a := ne 0 (by decide)
  simp only [put64, byteAt_set hS, ne, ne0, if_false, Nat.reduceLT]

theorem le64_put64_same (hS : S.Lawful) (b : S.σ) (a v : Nat) :
    le64 (put64 b a v) a = v % 18446744073709551616 := by
  simp only [le64, put64, byteAt_set hS, Nat.add_right_cancel_iff, Nat.left_eq_add, Nat.reduceEqDiff,
    if_true, if_false]
  -- the eight base-256 digits of `v` sum to `v % 256 ^ 8`, one digit at a time
  have h (B : Nat) : v % (B * 256) = v % B + B * (v / B % 256) := Nat.mod_mul
  rw [← h 256, ← h 65536, ← h 16777216, ← h 4294967296, ← h 1099511627776, ← h 281474976710656,
    ← h 72057594037927936]

theorem le64_put64_other (hS : S.Lawful) (b : S.σ) (a v c : Nat) (h : c + 8 ≤ a ∨ a + 8 ≤ c) :
    le64 (put64 b a v) c = le64 b c := by
  have o (j : Nat) (hj : j < 8) : byteAt (put64 b a v) (c + j) = byteAt b (c + j) :=
    byteAt_put64_other hS b a v _ (by omega)
  have o0 : byteAt (put64 b a v) c = byteAt b c := o 0 (by decide)
  simp only [le64, o, o0, Nat.reduceLT]

theorem osize_eq (o : Nat) : osize o = 8 * 2 ^ o := Nat.shiftLeft_eq _ _

theorem osize_eq_pow (o : Nat) : osize o = 2 ^ (o + 3) := by
  rw [osize_eq, Nat.pow_add, Nat.mul_comm]

theorem osize_ge8 (o : Nat) : 8 ≤ osize o := by
  rw [osize_eq]; have := Nat.two_pow_pos o; omega

theorem osize_mod8 (o : Nat) : osize o % 8 = 0 := by
  rw [osize_eq]; exact Nat.mul_mod_right 8 _

theorem osize_le (o : Nat) (h : o < 23) : osize o ≤ 33554432 := by
  rw [osize_eq]
  have : 2 ^ o ≤ 2 ^ 22 := Nat.pow_le_pow_right (by omega) (by omega)
  omega

theorem osize_succ (o : Nat) : osize (o + 1) = 2 * osize o := by
  rw [osize_eq, osize_eq, Nat.pow_succ]; omega

/-- invariant of the or-shift steps: bit `i` of `y` is the OR of the `w` bits of `x` from `i` up -/
def Win (x y w : Nat) : Prop := ∀ i, y.testBit i = true ↔ ∃ j, j < w ∧ x.testBit (i + j) = true

theorem win_one (x : Nat) : Win x x 1 := by
  intro i; constructor
  · intro h; exact ⟨0, by omega, by simpa using h⟩
  · rintro ⟨j, hj, h⟩; have : j = 0 := by omega
    subst this; simpa using h

theorem win_step (x y w : Nat) (h : Win x y w) : Win x (y ||| (y >>> w)) (w + w) := by
  intro i
  rw [Nat.testBit_or, Nat.testBit_shiftRight, Bool.or_eq_true, h i, h (w + i)]
  constructor
  · rintro (⟨j, hj, hb⟩ | ⟨j, hj, hb⟩)
    · exact ⟨j, by omega, hb⟩
    · refine ⟨w + j, by omega, ?_⟩
      rw [show i + (w + j) = w + i + j by omega]; exact hb
  · rintro ⟨j, hj, hb⟩
    by_cases hw : j < w
    · exact Or.inl ⟨j, hw, hb⟩
    · refine Or.inr ⟨j - w, by omega, ?_⟩
      rw [show w + i + (j - w) = i + j by omega]; exact hb

/-- the five or-shift steps of `nextPow2GT8` -/
def smear (v : Nat) : Nat :=
  let v := v ||| (v >>> 1)
  let v := v ||| (v >>> 2)
  let v := v ||| (v >>> 4)
  let v := v ||| (v >>> 8)
  v ||| (v >>> 16)

theorem smear_win (x : Nat) : Win x (smear x) 32 :=
  win_step x _ 16 (win_step x _ 8 (win_step x _ 4 (win_step x _ 2 (win_step x _ 1 (win_one x)))))

/-- the window of a bit `i ≤ k` reaches the top bit `k`, the window of a higher bit sees nothing -/
theorem smear_eq (x k : Nat) (hk : k < 32) (lo : 2 ^ k ≤ x) (hi : x < 2 ^ (k + 1)) :
    smear x = 2 ^ (k + 1) - 1 := by
  apply Nat.eq_of_testBit_eq
  intro i
  have hk' : x.testBit k = true := by
    obtain ⟨t, ht, hb⟩ := Nat.exists_ge_and_testBit_of_ge_two_pow lo
    have : ¬ k + 1 ≤ t := fun hn => by
      have := Nat.lt_of_lt_of_le hi (Nat.pow_le_pow_right (by decide) hn)
      rw [Nat.testBit_lt_two_pow this] at hb; cases hb
    rwa [show k = t by omega]
  rw [Nat.testBit_two_pow_sub_one, Bool.eq_iff_iff, smear_win x i, decide_eq_true_iff]
  constructor
  · rintro ⟨j, _, hb⟩
    apply Decidable.byContradiction; intro hn
    have := Nat.lt_of_lt_of_le hi (Nat.pow_le_pow_right (by decide) (by omega : k + 1 ≤ i + j))
    rw [Nat.testBit_lt_two_pow this] at hb; cases hb
  · intro hik
    exact ⟨k - i, by omega, by rwa [show i + (k - i) = k by omega]⟩

theorem tzAux_pow (f j : Nat) (h : j < f) : tzAux f (2 ^ j) = j := by
  induction j generalizing f with
  | zero => cases f with
    | zero => omega
    | succ f => rfl
  | succ j ih => cases f with
    | zero => omega
    | succ f =>
      rw [tzAux, Nat.pow_succ, Nat.mul_mod_left, if_neg (by decide), Nat.mul_div_cancel _ (by decide),
        ih f (by omega), Nat.add_comm]

theorem tz32_pow (j : Nat) (h : j < 32) : tz32 (2 ^ j) = j := by
  rw [tz32, if_neg (Nat.ne_of_gt (Nat.two_pow_pos j))]
  exact tzAux_pow 32 j h

theorem nextPow2_eq (v k : Nat) (hv : 8 ≤ v) (hk : k < 31) (lo : 2 ^ k < v) (hi : v ≤ 2 ^ (k + 1)) :
    nextPow2GT8 v = 2 ^ (k + 1) := by
  have hs : smear (v - 1) = 2 ^ (k + 1) - 1 := smear_eq (v - 1) k (by omega) (by omega) (by omega)
  have h1 : 0 < 2 ^ (k + 1) := Nat.two_pow_pos _
  have h2 : 2 ^ (k + 1) < U32 :=
    Nat.lt_of_le_of_lt (Nat.pow_le_pow_right (by decide) (by omega : k + 1 ≤ 31)) (by decide)
  unfold smear at hs
  simp only [nextPow2GT8, if_neg (Nat.not_lt.mpr hv), hs]
  rw [Nat.sub_add_cancel h1, Nat.mod_eq_of_lt h2]

/-- the interval is `(osize o / 2, osize o]` -/
theorem exists_order (v : Nat) (hv : 8 ≤ v) : ∃ o, 2 ^ (o + 2) < v ∧ v ≤ 2 ^ (o + 3) := by
  have lo := Nat.log2_self_le (show v - 1 ≠ 0 by omega)
  have hi := Nat.lt_log2_self (n := v - 1)
  generalize (v - 1).log2 = k at lo hi
  have k2 : 2 < k + 1 := (Nat.pow_lt_pow_iff_right (a := 2) (by decide)).mp (by omega)
  obtain ⟨o, rfl⟩ : ∃ o, k = o + 2 := ⟨k - 2, by omega⟩
  exact ⟨o, by omega, Nat.le_of_pred_lt hi⟩

theorem orderFromSize_spec (n o : Nat) (h : orderFromSize n = some o) :
    n ≤ MAX_ALLOC ∧ o < 23 ∧ n ≤ osize o ∧ (o = 0 ∨ osize o < 2 * n) := by
  unfold orderFromSize at h
  split at h
  · cases h
  rename_i hle
  have hle : n ≤ 2 ^ 25 := Nat.le_of_not_lt hle
  generalize hv : (if n < 8 then 8 else n) = v at h
  obtain ⟨v8, nv, vle, vn⟩ : 8 ≤ v ∧ n ≤ v ∧ v ≤ 2 ^ 25 ∧ (8 < v → v = n) := by
    subst hv; split <;> omega
  obtain ⟨o', lo, hi⟩ := exists_order v v8
  have o23 : o' + 2 < 25 := (Nat.pow_lt_pow_iff_right (a := 2) (by decide)).mp (Nat.lt_of_lt_of_le lo vle)
  simp only [Option.some.injEq] at h
  rw [nextPow2_eq v (o' + 2) v8 (Nat.lt_trans o23 (by decide)) lo hi,
    tz32_pow _ (Nat.succ_lt_succ (Nat.lt_trans o23 (by decide))), show tz32 MIN_ALLOC = 3 by decide] at h
  obtain rfl : o' = o := h
  rw [osize_eq_pow]
  refine ⟨hle, Nat.lt_of_add_lt_add_right o23, Nat.le_trans nv hi, ?_⟩
  -- order 0 aside, `v = n`: the block below would be too small
  by_cases o0 : o' = 0
  · exact Or.inl o0
  · have : 2 ^ 3 ≤ 2 ^ (o' + 2) :=
      Nat.pow_le_pow_right (by decide) (Nat.succ_le_succ (Nat.succ_le_succ (Nat.pos_of_ne_zero o0)))
    rw [← vn (Nat.lt_of_le_of_lt this lo), Nat.pow_succ]
    exact Or.inr (by omega)

theorem orderFromSize_lt {n o : Nat} (h : orderFromSize n = some o) : o < 23 :=
  (orderFromSize_spec n o h).2.1

theorem orderFromSize_none (n : Nat) : orderFromSize n = none ↔ MAX_ALLOC < n := by
  unfold orderFromSize
  split <;> simp_all

end Gossamer.C28
