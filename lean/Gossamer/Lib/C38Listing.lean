/-
The two listings of `Gossamer.Model.C38` against the ordered map.  Paging: the Go loop is "filter the
keys above `afterKey`, take `Qty`", and the client loop over an ascending listing returns its
consecutive chunks; hex text keeps the byte order.  Both calls answer from the Go trie as from the map
it represents.
-/
import Gossamer.Lib.TrieLimit
import Gossamer.Model.C38
namespace Gossamer.C38
open Gossamer Gossamer.Trie

theorem hexDigit_toNat : ∀ m : Nib, (hexDigit m.val).toNat = if m.val < 10 then 48 + m.val else 87 + m.val := by
  decide

theorem hexChars_eq (a : Bytes) : hexChars a = (toNibs a).map fun n => hexDigit n.val := by
  induction a with
  | nil => rfl
  | cons x xs ih =>
    rw [hexChars, List.flatMap_cons, ← hexChars, ih, toNibs, List.map_cons, List.map_cons, hexOfByte,
      hiNib_val, loNib_val]; rfl

/-- the hex text is the nibble string relabelled by the digits, which ascend with their values (`'9' < 'a'`) -/
theorem klt_hexChars (a b : Bytes) : klt (hexChars a) (hexChars b) = klt a b := by
  rw [hexChars_eq, hexChars_eq, ← klt_toNibs]
  refine Nibble.klt_map _ (fun m n => ?_) _ _
  show (hexDigit m.val).toNat < (hexDigit n.val).toNat ↔ m.val < n.val
  rw [hexDigit_toNat m, hexDigit_toNat n]; split <;> split <;> omega

theorem fKey_order (a b : Bytes) : klt (fKey a) (fKey b) = klt a b := by
  have := klt_append_left ['0', 'x'] (hexChars a) (hexChars b)
  simpa [fKey, klt_hexChars] using this

/-- a page of a store whose key listing is `ks` -/
def pageOf (ks : List Str) (q : Nat) (after : Str) : List Str :=
  (ks.filter (fun s => sgt s after)).take q

theorem pageLoop_eq (after : Str) (qty : Nat) (ks : List Bytes) (cnt : Nat) :
    pageLoop after qty ks cnt = pageOf (ks.map fKey) (qty - cnt) after := by
  unfold pageOf
  induction ks generalizing cnt with
  | nil => simp [pageLoop]
  | cons k r ih =>
    simp only [pageLoop, List.map_cons, List.filter_cons]
    by_cases hk : sgt (fKey k) after = true
    · simp only [hk, if_true]
      by_cases hc : cnt ≥ qty
      · simp [hc, show qty - cnt = 0 by omega]
      · simp only [hc, if_false, ih]
        rw [show qty - cnt = (qty - (cnt + 1)) + 1 by omega, List.take_succ_cons]
    · simp only [hk, Bool.false_eq_true, if_false, ih]

theorem chunkF_induction {α : Type} {q : Nat} (hq : 1 ≤ q) {P : List α → List (List α) → Prop}
    (hnil : P [] [])
    (hcons : ∀ x r cs, P ((x :: r).drop q) cs → P (x :: r) ((x :: r).take q :: cs)) :
    ∀ (f : Nat) (l : List α), l.length ≤ f → P l (chunkF q f l)
  | 0, [], _ => hnil
  | _ + 1, [], _ => hnil
  | f + 1, x :: r, h => by
    refine hcons x r _ (chunkF_induction hq hnil hcons f _ ?_)
    simp only [List.length_drop, List.length_cons] at h ⊢; omega

theorem chunkF_fuel {α : Type} (q : Nat) (hq : 1 ≤ q) (f g : Nat) (l : List α) (hf : l.length ≤ f)
    (hg : l.length ≤ g) : chunkF q f l = chunkF q g l := by
  refine (chunkF_induction (P := fun l cs => ∀ g, l.length ≤ g → chunkF q g l = cs) hq ?_ ?_ f l hf g hg).symm
  · intro g _; cases g <;> rfl
  · intro x r cs ih g hg
    cases g with
    | zero => simp at hg
    | succ g =>
      simp only [chunkF, List.length_cons] at hg ⊢
      rw [ih g (by simp only [List.length_drop, List.length_cons]; omega)]

theorem chunk_flatten {α : Type} (q : Nat) (hq : 1 ≤ q) (l : List α) : (chunk q l).flatten = l :=
  chunkF_induction (P := fun l cs => cs.flatten = l) hq rfl
    (fun x r cs ih => by rw [List.flatten_cons, ih, List.take_append_drop]) _ l (Nat.le_refl _)

theorem chunk_sizes {α : Type} (q : Nat) (hq : 1 ≤ q) (l : List α) :
    ∀ c ∈ chunk q l, c ≠ [] ∧ c.length ≤ q := by
  refine chunkF_induction (P := fun _ cs => ∀ c ∈ cs, c ≠ [] ∧ c.length ≤ q) hq nofun ?_ _ l (Nat.le_refl _)
  intro x r cs ih c hc
  rcases List.mem_cons.mp hc with rfl | hc
  · obtain ⟨q', rfl⟩ : ∃ q', q = q' + 1 := ⟨q - 1, by omega⟩
    exact ⟨nofun, by rw [List.length_take]; omega⟩
  · exact ih c hc

theorem asc_le_getLast {l : List Str} (h : AList.Asc klt l) {last : Str} (hl : l.getLast? = some last) :
    ∀ y ∈ l, klt last y = false := by
  intro y hy
  obtain ⟨l', rfl⟩ := List.getLast?_eq_some_iff.mp hl
  rcases List.mem_append.mp hy with hy | hy
  · have := (List.pairwise_append.mp h).2.2 y hy last (by simp)
    exact klt_asymm this
  · simp only [List.mem_singleton] at hy; subst hy; exact klt_irrefl _

theorem filter_gt_last_take {L : List Str} (hL : AList.Asc klt L) (q : Nat) {last : Str}
    (hl : (L.take q).getLast? = some last) : L.filter (fun s => sgt s last) = L.drop q := by
  have hasc := List.pairwise_append.mp (by rwa [List.take_append_drop] : AList.Asc klt (L.take q ++ L.drop q))
  have hmem : last ∈ L.take q := List.mem_of_getLast? hl
  conv => lhs; rw [← List.take_append_drop q L]
  rw [List.filter_append, List.filter_eq_nil_iff.mpr fun y hy => by
      rw [show sgt y last = klt last y from rfl, asc_le_getLast hasc.1 hl y hy]; nofun,
    List.filter_eq_self.mpr fun y hy => show sgt y last = true from hasc.2.2 last hmem y hy,
    List.nil_append]

theorem paginate_asc (q : Nat) (hq : 1 ≤ q) (K : List Str) (hK : AList.Asc klt K) :
    ∀ (fuel : Nat) (after : Str), (K.filter (fun s => sgt s after)).length < fuel →
      paginate (fun a => some (pageOf K q a)) fuel after =
        (chunkF q fuel (K.filter (fun s => sgt s after)), LoopEnd.done) := by
  intro fuel
  induction fuel with
  | zero => intro after hf; omega
  | succ fuel ih =>
    intro after hf
    simp only [paginate]
    rw [pageOf]
    cases hL : K.filter (fun s => sgt s after) with
    | nil => simp [chunkF]
    | cons x r =>
      obtain ⟨q', rfl⟩ : ∃ q', q = q' + 1 := ⟨q - 1, by omega⟩
      have hne : (x :: r).take (q' + 1) ≠ [] := by simp
      have hlast := List.getLast?_eq_some_getLast hne
      generalize ((x :: r).take (q' + 1)).getLast hne = last at hlast
      have hafter : klt after last = true :=
        (List.mem_filter.mp (hL ▸ List.mem_of_mem_take (List.mem_of_getLast? hlast))).2
      -- the keys above `last` are above `after`, so they are the rest of the listing
      have hrest : K.filter (fun s => sgt s last) = (x :: r).drop (q' + 1) := by
        rw [← filter_gt_last_take (hL ▸ hK.filter _) (q' + 1) hlast, ← hL, List.filter_filter]
        exact List.filter_congr fun y _ => by
          cases h : sgt y last with
          | false => rfl
          | true => exact (Bool.true_and _).trans (klt_trans hafter h) |>.symm
      rw [hlast]
      simp only [chunkF]
      rw [hL, List.length_cons] at hf
      rw [ih last (by rw [hrest, List.length_drop, List.length_cons]; omega), hrest]

theorem paginate_all (q : Nat) (hq : 1 ≤ q) (K : List Str) (hK : AList.Asc klt K)
    (hpos : ∀ x ∈ K, sgt x [] = true) (fuel : Nat) (hf : K.length < fuel) :
    paginate (fun a => some (pageOf K q a)) fuel [] = (chunk q K, LoopEnd.done) := by
  have hall := List.filter_eq_self.mpr hpos
  rw [paginate_asc q hq K hK fuel [] (by rwa [hall]), hall, chunk,
    chunkF_fuel q hq fuel K.length K (by omega) (Nat.le_refl _)]

theorem getKeysPaged_eq (S : Store) (pfx : Str) (p : Bytes) (hp : prefixOf pfx = some p) (q : Nat) :
    getKeysPaged S true pfx q = fun a => some (pageOf ((S.keysWithPrefix p).map fKey) q a) := by
  funext a
  simp only [prefixOf] at hp
  simp only [getKeysPaged, hp, if_true, pageLoop_eq, Nat.sub_zero]

theorem getKeysPaged_bad (S : Store) (b : Bool) (pfx : Str) (hp : prefixOf pfx = none) (q : Nat) :
    getKeysPaged S b pfx q = fun _ => none := by
  funext a
  simp only [prefixOf] at hp
  simp only [getKeysPaged, hp]

theorem getKeysPaged_unknown_root (S : Store) (pfx : Str) (q : Nat) :
    getKeysPaged S false pfx q = fun _ => none := by
  funext a
  simp only [getKeysPaged]
  split <;> simp

theorem asc_keys {es : Entries} (hs : OMap.Sorted es) (p : Bytes) :
    AList.Asc klt ((OMap.keysWithPrefix p es).map fKey) := by
  rw [AList.Asc, List.pairwise_map]
  exact (OMap.keysWithPrefix_asc hs p).imp (fun hab => by rw [fKey_order]; exact hab)

theorem paged_agree {t : Trie} {es : Entries} (h : Rep t es) (b : Bool) (pfx : Str)
    (hsafe : ∀ hp, prefixOf pfx = some hp → trimRegion hp es = false) (q : Nat) :
    getKeysPaged (trieStore t) b pfx q = getKeysPaged (mapStore es) b pfx q := by
  cases hp : prefixOf pfx with
  | none => rw [getKeysPaged_bad _ _ _ hp, getKeysPaged_bad _ _ _ hp]
  | some p =>
    cases b with
    | false => rw [getKeysPaged_unknown_root, getKeysPaged_unknown_root]
    | true =>
      rw [getKeysPaged_eq _ pfx p hp, getKeysPaged_eq _ pfx p hp]
      simp only [trieStore, mapStore, h.keysWithPrefix p (hsafe p hp)]

theorem specPairs_nil (es : Entries) : specPairs [] es = es.map (fun e => (fKey e.1, fKey e.2)) := by
  have : es.filter (fun e => ([] : Bytes).isPrefixOf e.1) = es := by
    rw [List.filter_eq_self]; intro a _; rfl
  simp only [specPairs, this]

/-- `Entries()` lists the map, and outside the trimmed-prefix region (`hsafe`, finding
    `prefix-zero-nibble`) `GetKeysWithPrefix` lists its keys, each found by `GetStorage` -/
theorem pairs_agree {t : Trie} {es : Entries} (h : Rep t es) (b : Bool) (pfx : Option Str)
    (hsafe : ∀ p hp, pfx = some p → hexToBytes? p = some hp → trimRegion hp es = false) :
    getPairs (trieStore t) b pfx = getPairs (mapStore es) b pfx := by
  simp only [getPairs, trieStore, mapStore, h.entries_eq]
  split
  · rfl
  · split
    · rfl
    · cases pfx with
      | none => rfl
      | some p =>
        cases hp : hexToBytes? p with
        | none => simp only [Option.getD_some, hp]
        | some hpb =>
          simp only [Option.getD_some, hp, h.keysWithPrefix hpb (hsafe p hpb rfl hp)]
          congr 1
          apply List.map_congr_left
          intro k hk
          obtain ⟨_, v, hv⟩ := (OMap.mem_keysWithPrefix hpb k es).mp hk
          have hg := OMap.get_of_mem_sorted h.sorted hv
          rw [h.get k (h.safe_of_present hg), hg]

theorem getPairs_map_all {es : Entries} (hs : OMap.Sorted es) (pfx : Option Str)
    (hp : pfx = none ∨ pfx = some [] ∨ pfx = some ['0', 'x']) :
    getPairs (mapStore es) true pfx = some (es.map (fun e => (fKey e.1, fKey e.2))) := by
  simp only [getPairs, Bool.not_true, Bool.false_eq_true, if_false, hp, if_true, mapStore,
    List.map_map]
  exact congrArg some (mergeSort_of_sorted (List.pairwise_map.mpr
    (((OMap.sorted_iff_pairwise es).mp hs).imp fun hab => (fKey_order _ _).trans hab)))

theorem getPairs_map_prefix {es : Entries} (hs : OMap.Sorted es) (pfx : Str) (p : Bytes)
    (hp : hexToBytes? pfx = some p) (hne : ¬ (pfx = [] ∨ pfx = ['0', 'x'])) :
    getPairs (mapStore es) true (some pfx) = some (specPairs p es) := by
  have hc : ¬ (some pfx = none ∨ some pfx = some [] ∨ some pfx = some ['0', 'x']) := by
    simpa using hne
  simp only [getPairs, Bool.not_true, Bool.false_eq_true, if_false, hc, Option.getD_some, hp,
    mapStore, OMap.keysWithPrefix, List.map_map, specPairs]
  congr 1
  apply List.map_congr_left
  intro e he
  simp only [Function.comp, OMap.get_of_mem_sorted hs (List.mem_filter.mp he).1, optHex]

end Gossamer.C38
