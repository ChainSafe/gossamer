/-
C04, incremental writes: `Put` on the heap refines `Trie.insert` and keeps the tree view (`TI`) of the
handle: representation, footprint without sharing, coherent caches.  The notions that `Put`, `Delete` and
`ClearPrefix` share are here: the result of a mutator (`Out`, `Post`), a branch cell taken apart (`Br`) and
put together again around a changed child or value (`Rebuilt`).  `insertInLeaf` and `insertF` are taken through the
positions of the key relative to the partial key of the node (`Trie.two_keys_cases`), with one equation of the heap
function per position beside the one of the pure function (`TrieLemmas`).
-/
import Gossamer.Lib.C04Tree
import Gossamer.Lib.TrieLemmas
namespace Gossamer
namespace TrieHeap
open Trie TrieCodec

/-- cells an operation on the sub-trie with footprint `fp` may write: its own cells and new cells -/
def Wr (hp : Heap) (fp : List Nat) (x : Nat) : Prop := x ∈ fp ∨ hp.size ≤ x

/-- result of a mutator on a sub-trie: the new sub-trie `t'` at `y`, again a tree of own cells taken
    from the old footprint or new, and only such cells were written -/
structure Out (H : Bytes → Bytes) (G : Bytes → Bytes → Prop) (hp : Heap) (g : Nat) (r : Bool) (fp : List Nat)
    (hp' : Heap) (t' : Trie) (y : Nat) : Prop where
  ti : ∃ N' fp', TI H G hp' g r t' N' y fp' ∧ fp'.Nodup ∧ (∀ z, z ∈ fp' → Wr hp fp z)
  fr : FR (Wr hp fp) hp hp'

/-- `setKid` and `Trie.setChild` (the same function, by `rfl`) for any family: the codec nodes and footprints of the
    slots are updated with it beside the pointers and the sub-tries -/
def upd {α : Type} (f : Nib → α) (i : Nib) (v : α) : Nib → α := fun m => if m = i then v else f m

/-- what makes `b :: flatMap fps` the footprint, without sharing and inside `P`, of a branch at `b` with child
    footprints `fps` (`Fam.nodup`, `Fam.bd_cons`) -/
structure Fam (b : Nat) (P : Nat → Prop) (fps : Nib → List Nat) : Prop where
  nd : ∀ i, (fps i).Nodup
  dis : ∀ i j, i ≠ j → ∀ x, x ∈ fps i → x ∉ fps j
  nb : ∀ i, b ∉ fps i
  bd : ∀ i x, x ∈ fps i → P x

theorem Fam.nil (b : Nat) (P : Nat → Prop) : Fam b P (fun _ => []) :=
  ⟨fun _ => List.nodup_nil, fun _ _ _ _ h => (nomatch h), fun _ h => (nomatch h), fun _ _ h => (nomatch h)⟩

theorem mem_upd {fps : Nib → List Nat} {i m : Nib} {l : List Nat} {x : Nat} (h : x ∈ upd fps i l m) :
    (m = i ∧ x ∈ l) ∨ (m ≠ i ∧ x ∈ fps m) := by
  unfold upd at h
  split at h
  · rename_i e; exact Or.inl ⟨e, h⟩
  · rename_i e; exact Or.inr ⟨e, h⟩

theorem Fam.set {b : Nat} {P : Nat → Prop} {fps : Nib → List Nat} (h : Fam b P fps) (i : Nib) (l : List Nat)
    (hl : l.Nodup) (hx : ∀ x, x ∈ l → P x ∧ x ≠ b ∧ ∀ m, m ≠ i → x ∉ fps m) : Fam b P (upd fps i l) := by
  refine ⟨fun m => ?_, fun m1 m2 hne x h1 h2 => ?_, fun m hm => ?_, fun m x hm => ?_⟩
  · unfold upd; split
    · exact hl
    · exact h.nd m
  · rcases mem_upd h1 with ⟨e1, h1⟩ | ⟨e1, h1⟩ <;> rcases mem_upd h2 with ⟨e2, h2⟩ | ⟨e2, h2⟩
    · exact hne (e1.trans e2.symm)
    · exact (hx x h1).2.2 m2 e2 h2
    · exact (hx x h2).2.2 m1 e1 h1
    · exact h.dis m1 m2 hne x h1 h2
  · rcases mem_upd hm with ⟨_, hm⟩ | ⟨_, hm⟩
    · exact (hx b hm).2.1 rfl
    · exact h.nb m hm
  · rcases mem_upd hm with ⟨_, hm⟩ | ⟨_, hm⟩
    · exact (hx x hm).1
    · exact h.bd m x hm

theorem Fam.nodup {b : Nat} {P : Nat → Prop} {fps : Nib → List Nat} (h : Fam b P fps) :
    (b :: (List.finRange 16).flatMap fps).Nodup := by
  rw [List.nodup_cons]
  refine ⟨fun hm => ?_, (nodup_flatMap_finRange_iff fps).mpr ⟨h.nd, h.dis⟩⟩
  obtain ⟨i, _, hi⟩ := List.mem_flatMap.mp hm
  exact h.nb i hi

theorem Fam.bd_cons {b : Nat} {P : Nat → Prop} {fps : Nib → List Nat} (h : Fam b P fps) (hb : P b) (x : Nat)
    (hx : x ∈ b :: (List.finRange 16).flatMap fps) : P x := by
  rcases List.mem_cons.mp hx with e | hx
  · rw [e]; exact hb
  · obtain ⟨i, _, hi⟩ := List.mem_flatMap.mp hx
    exact h.bd i x hi

theorem Fam.set_one {b : Nat} {P : Nat → Prop} {fps : Nib → List Nat} (h : Fam b P fps) (i : Nib) {x : Nat}
    (hP : P x) (hb : x ≠ b) (hd : ∀ m, m ≠ i → x ∉ fps m) : Fam b P (upd fps i [x]) :=
  h.set i [x] (by simp) (fun y hy => by rw [List.mem_singleton.mp hy]; exact ⟨hP, hb, hd⟩)

theorem kidTI_none {H : Bytes → Bytes} {G : Bytes → Bytes → Prop} {hp : Heap} {g : Nat} :
    KidTI H G hp g .nil .empty [] none :=
  ⟨rfl, rfl, rfl⟩

theorem kidTI_upd {H : Bytes → Bytes} {G : Bytes → Bytes → Prop} {hp : Heap} {g : Nat} {ks : Nib → Option Nat}
    {cs : Nib → Trie} {kn : Nib → Node} {fps : Nib → List Nat} {i : Nib} {t : Trie} {k : Node} {l : List Nat}
    {x : Option Nat} (hall : ∀ m, m ≠ i → KidTI H G hp g (cs m) (kn m) (fps m) (ks m))
    (hx : KidTI H G hp g t k l x) (m : Nib) :
    KidTI H G hp g (setChild cs i t m) (upd kn i k m) (upd fps i l m) (setKid ks i x m) := by
  unfold setChild upd setKid
  by_cases e : m = i
  · simp only [if_pos e]; exact hx
  · simp only [if_neg e]; exact hall m e

theorem out_branch {H : Bytes → Bytes} {G : Bytes → Bytes → Prop} {hp hp' : Heap} {g : Nat} {r : Bool}
    {fp : List Nat} {b : Nat} {pk : Nibs} {v : Option Bytes} {ks : Nib → Option Nat} {cs : Nib → Trie}
    {kn : Nib → Node} {fps : Nib → List Nat} (hfr : FR (Wr hp fp) hp hp') (o : Own hp' g b true pk v ks)
    (hk : ∀ i, KidTI H G hp' g (cs i) (kn i) (fps i) (ks i))
    (hfam : Fam b (Wr hp fp) fps) (hwb : Wr hp fp b) :
    Out H G hp g r fp hp' (.branch pk v cs) b :=
  ⟨⟨_, _, ti_branch_cell o hk, hfam.nodup, hfam.bd_cons hwb⟩, hfr⟩

theorem out_leaf {H : Bytes → Bytes} {G : Bytes → Bytes → Prop} {hp hp' : Heap} {g : Nat} {r : Bool}
    {fp : List Nat} {b : Nat} {pk : Nibs} {v : Bytes} (hfr : FR (Wr hp fp) hp hp')
    (o : Own hp' g b false pk (some v) noKids) (hwb : Wr hp fp b) :
    Out H G hp g r fp hp' (.leaf pk v) b :=
  ⟨⟨_, _, ti_leaf_cell o, by simp, fun z hz => by rw [List.mem_singleton.mp hz]; exact hwb⟩, hfr⟩

theorem TI.slot {H : Bytes → Bytes} {G : Bytes → Bytes → Prop} {hp : Heap} {g : Nat} {t : Trie} {k : Node} {b : Nat}
    {fp : List Nat} (h : TI H G hp g false t k b fp) : KidTI H G hp g t k fp (some b) :=
  ⟨h.rep.ne_nil, h⟩

theorem wr_alloc {hp hp2 : Heap} {fp : List Nat} (h : hp.size ≤ hp2.size) (n : HNode) : Wr hp fp (hp2.alloc n).2 :=
  Or.inr h

theorem sa_wr {hp : Heap} {g a : Nat} {fp : List Nat} (hfa : (hp.get a).gen = g → a ∈ fp) (x : Nat)
    (h : SA hp g a x) : Wr hp fp x := by
  rcases h with ⟨e, hg⟩ | h
  · rw [e]; exact Or.inl (hfa hg)
  · exact Or.inr h

/-- result of a mutator that may remove the whole sub-trie -/
def OutO (H : Bytes → Bytes) (G : Bytes → Bytes → Prop) (hp : Heap) (g : Nat) (r : Bool) (fp : List Nat)
    (hp' : Heap) (t' : Trie) : Option Nat → Prop
  | none => t' = .nil ∧ FR (Wr hp fp) hp hp'
  | some y => Out H G hp g r fp hp' t' y

/-- post-condition of a mutator on the sub-trie `t` at `a`; `m` is the flag it returns (`mutated`, `deleted`,
    `nodesRemoved > 0`) -/
structure Post (H : Bytes → Bytes) (G : Bytes → Bytes → Prop) (hp : Heap) (g : Nat) (r : Bool) (fp : List Nat)
    (a : Nat) (t t' : Trie) (hp' : Heap) (y : Option Nat) (m : Bool) : Prop where
  out : OutO H G hp g r fp hp' t' y
  same : m = false → hp' = hp ∧ y = some a ∧ t' = t

theorem Post.refl {G : Bytes → Bytes → Prop} {c : Ctx} {hp : Heap} {r : Bool} {fp : List Nat} {a : Nat} {t : Trie}
    {N : Node} (s : Sub G c hp r t N a fp) (m : Bool) : Post c.H G hp c.g r fp a t t hp (some a) m :=
  ⟨⟨⟨N, fp, s.ti, s.nd, fun _ hz => Or.inl hz⟩, FR.refl _ _⟩, fun _ => ⟨rfl, rfl, rfl⟩⟩

theorem Out.changed {H : Bytes → Bytes} {G : Bytes → Bytes → Prop} {hp : Heap} {g : Nat} {r : Bool} {fp : List Nat}
    {a : Nat} {t t' : Trie} {hp' : Heap} {y : Nat} (h : Out H G hp g r fp hp' t' y) :
    Post H G hp g r fp a t t' hp' (some y) true :=
  ⟨h, fun hf => nomatch hf⟩

theorem kid_frame {H : Bytes → Bytes} {G : Bytes → Bytes → Prop} {S : Nat → Prop} {hp hp' : Heap} {g : Nat}
    (hf : FR S hp hp') {t : Trie} {k : Node} {l : List Nat} {o : Option Nat}
    (hS : ∀ x, S x → hp.size ≤ x ∨ ((hp.get x).gen = g ∧ x ∉ l)) (h : KidTI H G hp g t k l o) :
    KidTI H G hp' g t k l o := by
  cases o with
  | none => exact h
  | some c => exact ⟨h.1, ti_frame hf t false k c l h.2 hS⟩

/-- a new branch cell `n` above the prepared node `p` (its partial key already shortened), which becomes its
    child in slot `oi`: where `insert` arrives when the key ends inside the partial key of a node -/
theorem out_above {G : Bytes → Bytes → Prop} {c : Ctx} {hp hp2 : Heap} {fp : List Nat} {r : Bool} {told : Trie}
    {kold : Node} {fpold : List Nat} {p : Nat} {oi : Nib} {n : HNode} {pk : Nibs} {v : Option Bytes}
    (hfr : FR (Wr hp fp) hp hp2) (hk : KidTI c.H G hp2 c.g told kold fpold (some p)) (hnd : fpold.Nodup)
    (hsub : ∀ x, x ∈ fpold → Wr hp fp x)
    (o : Own (hp2.alloc n).1 c.g (hp2.alloc n).2 true pk v (setKid noKids oi (some p))) :
    Out c.H G hp c.g r fp (hp2.alloc n).1 (.branch pk v (setChild noChildren oi told)) (hp2.alloc n).2 :=
  out_branch (kn := upd (fun _ => Node.empty) oi kold) (fps := upd (fun _ => []) oi fpold)
    (hfr.trans (FR.alloc _ _ _)) o
    (kidTI_upd (fun _ _ => kidTI_none)
      (kid_frame (S := fun _ => False) (FR.alloc _ _ _) (fun _ h => h.elim) hk))
    ((Fam.nil _ _).set oi _ hnd (fun x hx =>
      ⟨hsub x hx, Nat.ne_of_lt (fp_mem _ _ _ hk.2.fp x hx).1, fun _ _ hm => nomatch hm⟩))
    (wr_alloc hfr.size _)

/-- the same with a new leaf beside the old node, in slot `j`: the keys diverge -/
theorem out_fork {G : Bytes → Bytes → Prop} {c : Ctx} {hp hp2 : Heap} {fp : List Nat} {r : Bool} {told : Trie}
    {kold : Node} {fpold : List Nat} {p : Nat} {oi j : Nib} {n : HNode} {pk krest : Nibs} {value : Bytes}
    {l : Heap × Nat} (hl : l = hp2.alloc (newLeaf c krest value))
    (hfr : FR (Wr hp fp) hp hp2) (hk : KidTI c.H G hp2 c.g told kold fpold (some p)) (hnd : fpold.Nodup)
    (hsub : ∀ x, x ∈ fpold → Wr hp fp x)
    (o : Own (l.1.alloc n).1 c.g (l.1.alloc n).2 true pk none (setKid (setKid noKids oi (some p)) j (some l.2))) :
    Out c.H G hp c.g r fp (l.1.alloc n).1
      (.branch pk none (setChild (setChild noChildren oi told) j (.leaf krest value))) (l.1.alloc n).2 := by
  subst hl
  have hlt := fun x hx => (fp_mem _ _ _ hk.2.fp x hx).1
  have hfr3 := (FR.alloc (fun _ => False) hp2 (newLeaf c krest value)).trans (FR.alloc _ _ n)
  -- the two new cells lie above every cell of the old footprint
  have hbelow : ∀ x, x ∈ fpold → x < ((hp2.alloc (newLeaf c krest value)).1.alloc n).2 := fun x hx => by
    simp only [Heap.alloc_snd, Heap.size_alloc]; have := hlt x hx; omega
  have hleaf : ∀ m, m ≠ j → (hp2.alloc (newLeaf c krest value)).2 ∉ upd (fun _ => []) oi fpold m := fun m _ hm => by
    rcases mem_upd hm with ⟨_, hm⟩ | ⟨_, hm⟩
    · have := hlt _ hm
      simp only [Heap.alloc_snd] at this
      omega
    · cases hm
  exact out_branch (kn := upd (upd (fun _ => Node.empty) oi kold) j _) (fps := upd (upd (fun _ => []) oi fpold) j [_])
    (hfr.trans (hfr3.mono (fun _ h => h.elim))) o
    (kidTI_upd (fun m _ => kidTI_upd (fun _ _ => kidTI_none)
        (kid_frame hfr3 (fun _ h => h.elim) hk) m)
      (ti_leaf_cell ((Own.alloc _ (newLeaf c krest value) rfl rfl).after_alloc _)).slot)
    (((Fam.nil _ _).set oi _ hnd (fun x hx => ⟨hsub x hx, Nat.ne_of_lt (hbelow x hx), fun _ _ hm => nomatch hm⟩)).set_one j
      (wr_alloc hfr.size _) (Nat.ne_of_lt (by simp)) hleaf)
    (wr_alloc (Nat.le_trans hfr.size (Nat.le_of_lt (by simp))) _)

theorem insertInLeaf_self {c : Ctx} {hp : Heap} {a : Nat} {key : Nibs} (h : (hp.get a).pk = key) (value : Bytes) :
    insertInLeaf c hp a key value =
      if (hp.get a).mbh = mustBeHashed c.ver value ∧ (hp.get a).val = some value then (hp, a, false)
      else
        let p := prepForMutation c false hp a
        (p.1.modify p.2 (fun x => { x with mbh := mustBeHashed c.ver value, val := some value }), p.2, true) := by
  simp [insertInLeaf, h]

theorem insertInLeaf_above {c : Ctx} {hp : Heap} {a : Nat} {key : Nibs} {i : Nib} {rest : Nibs}
    (h : (hp.get a).pk = key ++ i :: rest) (value : Bytes) :
    insertInLeaf c hp a key value =
      let p := prepForMutation c true hp a
      let r := (p.1.modify p.2 (fun x => { x with pk := rest })).alloc
        { newBranch c key with mbh := mustBeHashed c.ver value, val := some value, kids := setKid noKids i (some p.2) }
      (r.1, r.2, true) := by
  simp [insertInLeaf, h, lcpLen_prefix, append_cons_ne_self key i rest]

theorem insertInLeaf_below {c : Ctx} {hp : Heap} {a : Nat} {pk : Nibs} (h : (hp.get a).pk = pk) (j : Nib)
    (krest : Nibs) (value : Bytes) :
    insertInLeaf c hp a (pk ++ j :: krest) value =
      let l := hp.alloc (newLeaf c krest value)
      let r := l.1.alloc
        { newBranch c pk with
          val := (hp.get a).val, mbh := (hp.get a).mbh, ihv := (hp.get a).ihv, kids := setKid noKids j (some l.2) }
      (r.1, r.2, true) := by
  have := lcpLen_append pk (j :: krest) []
  simp only [List.append_nil] at this
  simp [insertInLeaf, h, this, lcpLen, (append_cons_ne_self pk j krest).symm]

theorem insertInLeaf_fork {c : Ctx} {hp : Heap} {a : Nat} {k : Nibs} {i j : Nib} (hij : j ≠ i) {rest : Nibs}
    (h : (hp.get a).pk = k ++ i :: rest) (krest : Nibs) (value : Bytes) :
    insertInLeaf c hp a (k ++ j :: krest) value =
      let p := prepForMutation c true hp a
      let l := (p.1.modify p.2 (fun x => { x with pk := rest })).alloc (newLeaf c krest value)
      let r := l.1.alloc { newBranch c k with kids := setKid (setKid noKids i (some p.2)) j (some l.2) }
      (r.1, r.2, true) := by
  simp [insertInLeaf, h, lcpLen_append, lcpLen, hij, Ne.symm hij]

theorem insertInLeaf_tree {G : Bytes → Bytes → Prop} {c : Ctx} {hp : Heap} {pk : Nibs} {lv : Bytes} {N : Node}
    {a : Nat} {fp : List Nat} {r : Bool} (s : Sub G c hp r (.leaf pk lv) N a fp) (key : Nibs) (value : Bytes) :
    Post c.H G hp c.g r fp a (.leaf pk lv) (Trie.insertInLeaf pk lv key value)
      (TrieHeap.insertInLeaf c hp a key value).1 (some (TrieHeap.insertInLeaf c hp a key value).2.1)
      (TrieHeap.insertInLeaf c hp a key value).2.2 := by
  obtain ⟨hb, hpk, hv, hk, _⟩ := s.ti.rep
  have hkn : (hp.get a).kids = noKids := funext hk
  have hfa := s.ti.fp.self
  have hpp := s.prep
  have hwb : ∀ cv, Wr hp fp (prepForMutation c cv hp a).2 := fun cv => sa_wr hfa _ (hpp cv).sa
  have hfrm : ∀ cv f, FR (Wr hp fp) hp ((prepForMutation c cv hp a).1.modify (prepForMutation c cv hp a).2 f) :=
    fun cv f => ((hpp cv).fr_modify f).mono (sa_wr hfa)
  -- the old leaf with its key shortened to `rest`
  have hold : ∀ rest, Own ((prepForMutation c true hp a).1.modify (prepForMutation c true hp a).2
      (fun x => { x with pk := rest })) c.g (prepForMutation c true hp a).2 false rest (some lv) noKids :=
    fun rest => ((hpp true).own_val hb hpk hv hkn).set_pk rest
  have hsub : ∀ x, x ∈ [(prepForMutation c true hp a).2] → Wr hp fp x :=
    fun x hx => by rw [List.mem_singleton.mp hx]; exact hwb true
  rcases two_keys_cases key pk with rfl | ⟨i, rest, rfl⟩ | ⟨j, krest, rfl⟩ | ⟨k, i, rest, j, krest, hij, rfl, rfl⟩
  · rw [insertInLeaf_self hpk, Trie.insertInLeaf_self]
    by_cases e2 : (hp.get a).mbh = mustBeHashed c.ver value ∧ (hp.get a).val = some value
    · rw [if_pos e2]
      have : lv = value := by have := e2.2; rw [hv] at this; injection this
      subst this
      exact Post.refl s _
    · rw [if_neg e2]
      dsimp only
      exact (out_leaf (hfrm false _) (((hpp false).own' hb hpk hkn).set_val _ _) (hwb false)).changed
  · rw [insertInLeaf_above hpk, Trie.insertInLeaf_above]
    dsimp only
    exact (out_above (hfrm true _) (ti_leaf_cell (hold rest)).slot (by simp) hsub (Own.alloc _ _ rfl rfl)).changed
  · rw [insertInLeaf_below hpk, Trie.insertInLeaf_below]
    dsimp only
    exact (out_branch (kn := upd (fun _ => Node.empty) j _) (fps := upd (fun _ => []) j [_])
      ((FR.alloc _ _ _).trans (FR.alloc _ _ _)) (hv ▸ Own.alloc _ _ rfl rfl)
      (kidTI_upd (fun _ _ => kidTI_none)
        (ti_leaf_cell ((Own.alloc hp (newLeaf c krest value) rfl rfl).after_alloc _)).slot)
      ((Fam.nil _ _).set_one j (wr_alloc (Nat.le_refl _) _) (Nat.ne_of_lt (by simp)) (fun _ _ hm => nomatch hm))
      (wr_alloc (Nat.le_of_lt (by simp)) _)).changed
  · rw [insertInLeaf_fork hij hpk, Trie.insertInLeaf_fork k hij]
    dsimp only
    exact (out_fork rfl (hfrm true _) (ti_leaf_cell (hold rest)).slot (by simp) hsub (Own.alloc _ _ rfl rfl)).changed

/-- the represented branch cell `a` taken apart: its fields, its child slots with their footprints
    `fps`, and what `fp.Nodup` says about these -/
structure Br (H : Bytes → Bytes) (G : Bytes → Bytes → Prop) (hp : Heap) (g a : Nat) (fp : List Nat) (pk : Nibs)
    (v : Option Bytes) (cs : Nib → Trie) (kn : Nib → Node) (fps : Nib → List Nat) : Prop where
  lt : a < hp.size
  isBranch : (hp.get a).isBranch = true
  pk : (hp.get a).pk = pk
  val : (hp.get a).val = v
  kids : ∀ i, KidTI H G hp g (cs i) (kn i) (fps i) ((hp.get a).kids i)
  no : (hp.get a).gen ≠ g → ∀ i, fps i = []
  nd : ∀ i, (fps i).Nodup
  dis : ∀ i j, i ≠ j → ∀ x, x ∈ fps i → x ∉ fps j
  na : ∀ i, a ∉ fps i
  sub : ∀ i x, x ∈ fps i → x ∈ fp
  flt : ∀ i x, x ∈ fps i → x < hp.size
  own : ∀ i x, x ∈ fps i → (hp.get x).gen = g
  self : (hp.get a).gen = g → a ∈ fp

theorem ti_br {H : Bytes → Bytes} {G : Bytes → Bytes → Prop} {hp : Heap} {g : Nat} {r : Bool} {a : Nat}
    {pk : Nibs} {v : Option Bytes} {cs : Nib → Trie} {N : Node} {fp : List Nat}
    (h : TI H G hp g r (.branch pk v cs) N a fp) (hnd : fp.Nodup) :
    ∃ kn fps, Br H G hp g a fp pk v cs kn fps := by
  obtain ⟨hb, hpk, hv, kn, hN, hkh⟩ := h.rep
  obtain ⟨hlt, fps, hfp, hkf, hno⟩ := h.fp
  have hk : ∀ i, KidTI H G hp g (cs i) (kn i) (fps i) ((hp.get a).kids i) := by
    intro i
    have a1 := hkh i
    have a2 := hkf i
    cases hki : (hp.get a).kids i with
    | none => rw [hki] at a1 a2; exact ⟨a1.1, a1.2, a2⟩
    | some c =>
      rw [hki] at a1 a2
      have a3 := h.coh.2 i c hki
      rw [hN, kidAt_map] at a3
      exact ⟨a1.1, a1.2, a2, a3⟩
  rw [hfp] at hnd
  obtain ⟨_, h2, h3⟩ := List.nodup_append.mp hnd
  obtain ⟨nd, dis⟩ := (nodup_flatMap_finRange_iff fps).mp h2
  have hmem : ∀ i x, x ∈ fps i → x ∈ (List.finRange 16).flatMap fps :=
    fun i x hx => List.mem_flatMap.mpr ⟨i, List.mem_finRange i, hx⟩
  have hfpm : ∀ i x, x ∈ fps i → x < hp.size ∧ (hp.get x).gen = g := by
    intro i x hx
    have := hk i
    cases hkk : (hp.get a).kids i with
    | none => rw [hkk] at this; rw [this.2.2] at hx; cases hx
    | some c => rw [hkk] at this; exact fp_mem (cs i) c (fps i) this.2.fp x hx
  refine ⟨kn, fps, hlt, hb, hpk, hv, hk, hno, nd, dis, fun i hm => ?_, fun i x hx => ?_,
    fun i x hx => (hfpm i x hx).1, fun i x hx => (hfpm i x hx).2, h.fp.self⟩
  · by_cases hg : (hp.get a).gen = g
    · exact h3 a (by rw [ownL_own hg]; simp) a (hmem i a hm) rfl
    · rw [hno hg i] at hm; cases hm
  · rw [hfp]; exact List.mem_append_right _ (hmem i x hx)

theorem Br.fam {H : Bytes → Bytes} {G : Bytes → Bytes → Prop} {hp : Heap} {g a : Nat} {fp : List Nat} {pk : Nibs}
    {v : Option Bytes} {cs : Nib → Trie} {kn : Nib → Node} {fps : Nib → List Nat}
    (h : Br H G hp g a fp pk v cs kn fps) {b : Nat} (hb : SA hp g a b) : Fam b (Wr hp fp) fps := by
  refine ⟨h.nd, h.dis, fun i hm => ?_, fun i x hx => Or.inl (h.sub i x hx)⟩
  rcases hb with ⟨e, _⟩ | hb
  · rw [e] at hm; exact h.na i hm
  · have := h.flt i b hm; omega

theorem Br.kids_fr {H : Bytes → Bytes} {G : Bytes → Bytes → Prop} {hp hp' : Heap} {g a : Nat} {fp : List Nat}
    {pk : Nibs} {v : Option Bytes} {cs : Nib → Trie} {kn : Nib → Node} {fps : Nib → List Nat}
    (h : Br H G hp g a fp pk v cs kn fps) (hf : FR (SA hp g a) hp hp') (i : Nib) :
    KidTI H G hp' g (cs i) (kn i) (fps i) ((hp.get a).kids i) := by
  refine kid_frame hf (fun x hx => ?_) (h.kids i)
  rcases hx with ⟨e, hg⟩ | hx
  · rw [e]; exact Or.inr ⟨hg, h.na i⟩
  · exact Or.inl hx

theorem Sub.fuel_kid {G : Bytes → Bytes → Prop} {c : Ctx} {hp : Heap} {r : Bool} {pk : Nibs} {v : Option Bytes}
    {cs : Nib → Trie} {N : Node} {a : Nat} {fp : List Nat} (s : Sub G c hp r (.branch pk v cs) N a fp) (i : Nib) :
    depth (cs i) ≤ bigFuel + 1 :=
  Nat.le_trans (Nat.le_of_lt (depth_kid pk v cs i)) s.fuel

theorem Sub.kid {G : Bytes → Bytes → Prop} {c : Ctx} {hp : Heap} {r : Bool} {pk : Nibs} {v : Option Bytes}
    {cs : Nib → Trie} {N : Node} {a : Nat} {fp : List Nat} (s : Sub G c hp r (.branch pk v cs) N a fp)
    {kn : Nib → Node} {fps : Nib → List Nat} (br : Br c.H G hp c.g a fp pk v cs kn fps) {i : Nib} {ch : Nat}
    (hk : (hp.get a).kids i = some ch) : Sub G c hp false (cs i) (kn i) ch (fps i) := by
  have hki := br.kids i
  rw [hk] at hki
  obtain ⟨hnr, hra⟩ := s.above.kid hki.2.rep (depth_kid pk v cs i)
  exact ⟨hki.2, br.nd i, hnr, hra, s.root_lt, s.fuel_kid i, s.h32⟩

/-- the prepared branch `b` (the cell `a` or its copy) with the fields `pk v ks'` and child slots for
    `cs'`: where every branch case of a mutator arrives -/
structure Rebuilt (H : Bytes → Bytes) (G : Bytes → Bytes → Prop) (hp : Heap) (g : Nat) (fp : List Nat) (a : Nat)
    (pk : Nibs) (v : Option Bytes) (cs' : Nib → Trie) (ks' : Nib → Option Nat) (hp2 : Heap) (b : Nat) : Prop where
  fr : FR (Wr hp fp) hp hp2
  own : Own hp2 g b true pk v ks'
  kids : ∃ (kn' : Nib → Node) (fps' : Nib → List Nat),
    (∀ m, KidTI H G hp2 g (cs' m) (kn' m) (fps' m) (ks' m)) ∧ Fam b (Wr hp fp) fps'
  wb : Wr hp fp b
  loc : b = a ∨ hp.size ≤ b

theorem Rebuilt.out {H : Bytes → Bytes} {G : Bytes → Bytes → Prop} {hp : Heap} {g : Nat} {fp : List Nat} {a : Nat}
    {pk : Nibs} {v : Option Bytes} {cs' : Nib → Trie} {ks' : Nib → Option Nat} {hp2 : Heap} {b : Nat}
    (rb : Rebuilt H G hp g fp a pk v cs' ks' hp2 b) (r : Bool) : Out H G hp g r fp hp2 (.branch pk v cs') b := by
  obtain ⟨_, _, hk, hfam⟩ := rb.kids
  exact out_branch rb.fr rb.own hk hfam rb.wb

theorem rebuild_self {G : Bytes → Bytes → Prop} {c : Ctx} {hp : Heap} {pk : Nibs} {v : Option Bytes}
    {cs : Nib → Trie} {N : Node} {a : Nat} {fp : List Nat} {r : Bool} (s : Sub G c hp r (.branch pk v cs) N a fp)
    {kn : Nib → Node} {fps : Nib → List Nat} (br : Br c.H G hp c.g a fp pk v cs kn fps) (cv : Bool)
    (m : HNode → Bool) (v' : Option Bytes) :
    Rebuilt c.H G hp c.g fp a pk v' cs (hp.get a).kids
      ((prepForMutation c cv hp a).1.modify (prepForMutation c cv hp a).2 (fun x => { x with mbh := m x, val := v' }))
      (prepForMutation c cv hp a).2 :=
  have hpp := s.prep cv
  ⟨(hpp.fr_modify _).mono (sa_wr br.self), (hpp.own' br.isBranch br.pk rfl).set_val m v',
    ⟨kn, fps, br.kids_fr (hpp.fr_modify _), br.fam hpp.sa⟩, sa_wr br.self _ hpp.sa,
    sa_loc hpp.sa⟩

theorem outO_fr {H : Bytes → Bytes} {G : Bytes → Bytes → Prop} {hp : Heap} {g : Nat} {r : Bool} {fp : List Nat}
    {hp' : Heap} {t' : Trie} {y : Option Nat} (h : OutO H G hp g r fp hp' t' y) : FR (Wr hp fp) hp hp' := by
  cases y with
  | none => exact h.2
  | some y => exact Out.fr h

theorem outO_kid {H : Bytes → Bytes} {G : Bytes → Bytes → Prop} {hp : Heap} {g : Nat} {l : List Nat}
    {hp' : Heap} {t' : Trie} {y : Option Nat} (h : OutO H G hp g false l hp' t' y) :
    ∃ Ni fpi, KidTI H G hp' g t' Ni fpi y ∧ fpi.Nodup ∧ (∀ z, z ∈ fpi → Wr hp l z) := by
  cases y with
  | none => exact ⟨.empty, [], ⟨h.1, rfl, rfl⟩, List.nodup_nil, fun _ hz => (nomatch hz)⟩
  | some y =>
    obtain ⟨N', fp', hti, hnd, hbd⟩ := h.ti
    exact ⟨N', fp', hti.slot, hnd, hbd⟩

theorem rebuild_kid {G : Bytes → Bytes → Prop} {c : Ctx} {hp : Heap} {pk : Nibs} {v : Option Bytes}
    {cs : Nib → Trie} {N : Node} {a : Nat} {fp : List Nat} {r : Bool} (s : Sub G c hp r (.branch pk v cs) N a fp)
    {kn : Nib → Node} {fps : Nib → List Nat} (br : Br c.H G hp c.g a fp pk v cs kn fps) (i : Nib) {h1 : Heap}
    {y' : Option Nat} {ti : Trie} (ho : OutO c.H G hp c.g false (fps i) h1 ti y') :
    Rebuilt c.H G hp c.g fp a pk v (setChild cs i ti) (setKid (hp.get a).kids i y')
      ((prepForMutation c true h1 a).1.modify (prepForMutation c true h1 a).2
        (fun x => { x with kids := setKid x.kids i y' }))
      (prepForMutation c true h1 a).2 := by
  obtain ⟨Ni, fpi, hkid1, hndi, hbdi⟩ := outO_kid ho
  have hfri := outO_fr ho
  have hnwa : ¬ Wr hp (fps i) a := by
    intro hw
    rcases hw with hw | hw
    · exact br.na i hw
    · have := br.lt; omega
  obtain ⟨hs1, _, _⟩ := hfri.strip br.lt hnwa
  -- If `a` is of another generation, no own cell lies below it (`br.no`, the last clause of `FP`): the step on
  -- the child wrote only new cells, the old sub-trie at `a` is intact in `h1`, and `prepForMutation`
  -- (`registerDeletedNodeHash`) hashes a coherent tree.
  have hpp := prep_tree s.h32 true (Nat.lt_of_lt_of_le br.lt hfri.size) (r := r) (fun hg => by
    have hnil := br.no (by rw [← strip_gen hs1]; exact hg) i
    have h1' := ti_frame hfri _ _ _ _ _ s.ti (fun x hx => by
      rcases hx with hx | hx
      · rw [hnil] at hx; cases hx
      · exact Or.inl hx)
    exact ⟨_, _, h1'.rep, h1'.coh, s.fuel⟩) s.flav
  have sa1 : ∀ x, SA h1 c.g a x → SA hp c.g a x := by
    intro x hx
    rcases hx with ⟨e, hg⟩ | hx
    · rw [strip_gen hs1] at hg; exact Or.inl ⟨e, hg⟩
    · exact Or.inr (Nat.le_trans hfri.size hx)
  have sab := sa1 _ hpp.sa
  have hfr1 := hpp.fr_modify (fun x => { x with kids := setKid x.kids i y' })
  have hfr : FR (fun x => x ∈ fps i ∨ SA hp c.g a x) hp
      ((prepForMutation c true h1 a).1.modify (prepForMutation c true h1 a).2
        (fun x => { x with kids := setKid x.kids i y' })) :=
    (hfri.mono (fun x hx => hx.elim Or.inl (fun hx => Or.inr (Or.inr hx)))).trans
      (hfr1.mono (fun x hx => Or.inr (sa1 x hx)))
  have hwr : ∀ x, (x ∈ fps i ∨ SA hp c.g a x) → Wr hp fp x :=
    fun x hx => hx.elim (fun hx => Or.inl (br.sub i x hx)) (sa_wr br.self x)
  have hkidi := kid_frame hfr1 (fun x hx => by
    rcases hx with ⟨e, hg⟩ | hx
    · refine Or.inr ⟨by rw [e]; exact hg, fun hm => hnwa ?_⟩
      rw [e] at hm; exact hbdi a hm
    · exact Or.inl hx) hkid1
  have hfpilt : ∀ x, x ∈ fpi → x < h1.size := by
    intro x hx
    cases y' with
    | none => rw [hkid1.2.2] at hx; cases hx
    | some y => exact (fp_mem _ _ _ hkid1.2.fp x hx).1
  -- the other slots survive the step on slot `i` and the write at the prepared cell
  have hothers : ∀ m, m ≠ i → KidTI c.H G _ c.g (cs m) (kn m) (fps m) ((hp.get a).kids m) :=
    fun m hm => kid_frame hfr (fun x hx => by
      rcases hx with hx | ⟨e, hg⟩ | hx
      · exact Or.inr ⟨br.own i x hx, br.dis i m (fun e => hm e.symm) x hx⟩
      · rw [e]; exact Or.inr ⟨hg, br.na m⟩
      · exact Or.inl hx) (br.kids m)
  -- the new footprint of slot `i`: writable, without the prepared cell, disjoint from the other slots
  have hnew : ∀ x, x ∈ fpi → Wr hp fp x ∧ x ≠ (prepForMutation c true h1 a).2 ∧ ∀ m, m ≠ i → x ∉ fps m := by
    intro x hx
    refine ⟨(hbdi x hx).elim (fun h' => Or.inl (br.sub i x h')) Or.inr, fun e => ?_, fun m hm hxm => ?_⟩
    · have hxlt := hfpilt x hx
      rcases hpp.sa with ⟨eb, _⟩ | eb
      · rw [e, eb] at hx; exact hnwa (hbdi a hx)
      · omega
    · rcases hbdi x hx with h' | h'
      · exact br.dis i m (fun e => hm e.symm) x h' hxm
      · have := br.flt m x hxm; omega
  exact ⟨hfr.mono hwr, ((hpp.own_val ((strip_isBranch hs1).trans br.isBranch) ((strip_pk hs1).trans br.pk)
      ((strip_val hs1).trans br.val) (strip_kids hs1)).set_kid i y'),
    ⟨upd kn i Ni, upd fps i fpi, fun m => kidTI_upd hothers hkidi m, (br.fam sab).set i fpi hndi hnew⟩,
    sa_wr br.self _ sab, sa_loc sab⟩

theorem insertF_leaf {c : Ctx} {hp : Heap} {a : Nat} (hb : (hp.get a).isBranch = false) (f : Nat) (key : Nibs)
    (value : Bytes) :
    insertF c (f + 1) hp (some a) key value =
      ((insertInLeaf c hp a key value).1, some (insertInLeaf c hp a key value).2.1, (insertInLeaf c hp a key value).2.2) := by
  simp [insertF, hb]

theorem insertF_branch_self {c : Ctx} {hp : Heap} {a : Nat} {key : Nibs} (hb : (hp.get a).isBranch = true)
    (h : (hp.get a).pk = key) (f : Nat) (value : Bytes) :
    insertF c (f + 1) hp (some a) key value =
      if (hp.get a).mbh = mustBeHashed c.ver value ∧ svEqual (hp.get a).val value = true then (hp, some a, false)
      else
        let p := prepForMutation c true hp a
        (p.1.modify p.2 (fun x => { x with mbh := mustBeHashed c.ver value, val := some value }), some p.2, true) := by
  simp [insertF, hb, h]

/-- one equation for both cases of the slot: `insertF` on an empty slot allocates the new leaf -/
theorem insertF_branch_child {c : Ctx} {hp : Heap} {a : Nat} {pk : Nibs} (hb : (hp.get a).isBranch = true)
    (h : (hp.get a).pk = pk) (f : Nat) (i : Nib) (rest : Nibs) (value : Bytes) :
    insertF c (f + 1) hp (some a) (pk ++ i :: rest) value =
      let r := insertF c f hp ((hp.get a).kids i) rest value
      if !r.2.2 then (r.1, some a, false)
      else
        let p := prepForMutation c true r.1 a
        (p.1.modify p.2 (fun x => { x with kids := setKid x.kids i r.2.1 }), some p.2, true) := by
  cases hk : (hp.get a).kids i <;> simp [insertF, hb, h, hk, isPrefixOf_append_self]

theorem insertF_branch_above {c : Ctx} {hp : Heap} {a : Nat} {key : Nibs} {oi : Nib} {orest : Nibs}
    (hb : (hp.get a).isBranch = true) (h : (hp.get a).pk = key ++ oi :: orest) (f : Nat) (value : Bytes) :
    insertF c (f + 1) hp (some a) key value =
      let p := prepForMutation c true hp a
      let r := (p.1.modify p.2 (fun x => { x with pk := orest })).alloc
        { newBranch c key with kids := setKid noKids oi (some p.2), val := some value, mbh := mustBeHashed c.ver value }
      (r.1, some r.2, true) := by
  simp [insertF, hb, h, append_cons_isPrefixOf_self, (append_cons_ne_self key oi orest).symm, lcpLen_prefix]

theorem insertF_branch_fork {c : Ctx} {hp : Heap} {a : Nat} {k : Nibs} {oi j : Nib} {orest : Nibs}
    (hb : (hp.get a).isBranch = true) (hij : j ≠ oi) (h : (hp.get a).pk = k ++ oi :: orest) (f : Nat) (krest : Nibs)
    (value : Bytes) :
    insertF c (f + 1) hp (some a) (k ++ j :: krest) value =
      let p := prepForMutation c true hp a
      let l := (p.1.modify p.2 (fun x => { x with pk := orest })).alloc (newLeaf c krest value)
      let r := l.1.alloc { newBranch c k with kids := setKid (setKid noKids oi (some p.2)) j (some l.2) }
      (r.1, some r.2, true) := by
  simp [insertF, hb, h, isPrefixOf_fork k (Ne.symm hij), lcpLen_append, lcpLen, hij]

theorem insertF_tree {G : Bytes → Bytes → Prop} {c : Ctx} :
    ∀ (f : Nat) (hp : Heap) (t : Trie) (N : Node) (a : Nat) (fp : List Nat) (r : Bool) (key : Nibs)
      (value : Bytes), Sub G c hp r t N a fp → key.length < f →
      Post c.H G hp c.g r fp a t (Trie.insert t key value) (insertF c f hp (some a) key value).1
        (insertF c f hp (some a) key value).2.1 (insertF c f hp (some a) key value).2.2
  | 0, _, _, _, _, _, _, _, _, _, hf => absurd hf (Nat.not_lt_zero _)
  | f + 1, hp, .nil, N, a, fp, r, key, value, s, _ => s.ti.rep.elim
  | f + 1, hp, .leaf pk lv, N, a, fp, r, key, value, s, hf => by
    rw [insertF_leaf s.ti.rep.1, Trie.insert]
    exact insertInLeaf_tree s key value
  | f + 1, hp, .branch pk v cs, N, a, fp, r, key, value, s, hf => by
    obtain ⟨kn, fps, br⟩ := ti_br s.ti s.nd
    -- the old branch, with its partial key shortened to `orest`, as the child of a new branch
    have hpp := s.prep true
    have hfr2 := fun orest => hpp.fr_modify (fun x => { x with pk := orest })
    have hold : ∀ orest, KidTI c.H G _ c.g (.branch orest v cs) _ _ (some (prepForMutation c true hp a).2) :=
      fun orest => (ti_branch_cell ((hpp.own_val br.isBranch br.pk br.val rfl).set_pk orest) (br.kids_fr (hfr2 orest))).slot
    have hfam := br.fam hpp.sa
    have hsub := hfam.bd_cons (sa_wr br.self _ hpp.sa)
    rcases two_keys_cases key pk with rfl | ⟨oi, orest, rfl⟩ | ⟨i, rest, rfl⟩ | ⟨k, oi, orest, j, krest, hij, rfl, rfl⟩
    · rw [insertF_branch_self br.isBranch br.pk, insert_branch_self]
      by_cases e2 : (hp.get a).mbh = mustBeHashed c.ver value ∧ svEqual (hp.get a).val value = true
      · rw [if_pos e2]
        have hvv : v = some value := by
          have := e2.2; unfold svEqual at this; rw [br.val] at this; exact eq_of_beq this
        rw [← hvv]; exact Post.refl s _
      · rw [if_neg e2]
        dsimp only
        exact ((rebuild_self s br true _ (some value)).out r).changed
    · rw [insertF_branch_above br.isBranch br.pk, insert_branch_above]
      dsimp only
      exact (out_above ((hfr2 orest).mono (sa_wr br.self)) (hold orest) hfam.nodup hsub
        (Own.alloc _ _ rfl rfl)).changed
    · rw [insert_branch_child, insertF_branch_child br.isBranch br.pk]
      have hki := br.kids i
      cases hkid : (hp.get a).kids i with
      | none =>
        -- no child there yet: a new leaf
        rw [hkid] at hki
        rw [insertF, hki.1, Trie.insert]
        simp only [Bool.not_true, Bool.false_eq_true, if_false]
        exact ((rebuild_kid s br i (y' := some _)
          (out_leaf (FR.alloc _ _ _) (Own.alloc hp (newLeaf c rest value) rfl rfl) (wr_alloc (Nat.le_refl _) _))).out r).changed
      | some ch =>
        have ih := insertF_tree f hp (cs i) (kn i) ch (fps i) false rest value (s.kid br hkid)
          (by rw [List.length_append, List.length_cons] at hf; omega)
        generalize insertF c f hp (some ch) rest value = res at ih ⊢
        obtain ⟨h1, y', mflag⟩ := res
        dsimp only at ih ⊢
        cases mflag with
        | false =>
          obtain ⟨e1', _, e3'⟩ := ih.same rfl
          simp only [Bool.not_false, if_true]
          rw [e1', e3', setChild_self]; exact Post.refl s _
        | true =>
          simp only [Bool.not_true, Bool.false_eq_true, if_false]
          exact ((rebuild_kid s br i ih.out).out r).changed
    · rw [insertF_branch_fork br.isBranch hij br.pk, insert_branch_fork k hij]
      dsimp only
      exact (out_fork rfl ((hfr2 orest).mono (sa_wr br.self)) (hold orest) hfam.nodup hsub
        (Own.alloc _ _ rfl rfl)).changed

end TrieHeap
end Gossamer
