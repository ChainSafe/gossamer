/-
C06: histories.  The hypotheses of the theorems of Props/C06 about a whole history (`HashedIn`,
`DecodesTrie`, `DecodesHist`) and the inductions over it: `live_exec` for the ops inside one session
(`Live`, no assumption on the hash), `exec_inv` for every history (`SessG`).
-/
import Gossamer.Lib.TrieDBMulti
namespace Gossamer.C06
open Gossamer Gossamer.Trie

/-- `Inv` may speak of the ops still to come -/
theorem execAll_inv (c : Cfg) (Inv : St → Entries → List Op → Prop)
    (step : ∀ s es op r, Inv s es (op :: r) → ∃ s', execOp c s op = .ok s' ∧ Inv s' (specStep es op) r) :
    ∀ ops s es, Inv s es ops → ∃ s', execAll c s ops = .ok s' ∧ Inv s' (specAll es ops) [] := by
  intro ops
  induction ops with
  | nil => exact fun s es h => ⟨s, rfl, h⟩
  | cons op r ih =>
    intro s es h
    obtain ⟨s1, h1, hi⟩ := step s es op r h
    obtain ⟨s', h2, hi'⟩ := ih s1 _ hi
    exact ⟨s', by simp only [execAll, h1, h2], hi'⟩

theorem live_init (c : Cfg) (hdec0 : c.dec [0] = some .empty) : Live c (St.init c.H) nil nil :=
  ⟨hdec0, loads_nil _, Or.inl ⟨rfl, rfl, rfl, deadOk_nil _ _ _ _⟩⟩

theorem live_exec (c : Cfg) (ops : List Op) (hin : ∀ op ∈ ops, op.inSession = true) (s : St) (T0 t : Trie)
    (es : Entries) (hs : Live c s T0 t) (hr : Rep t es) :
    ∃ s' t', execAll c s ops = .ok s' ∧ Live c s' T0 t' ∧ Rep t' (specAll es ops) := by
  suffices step : _ by
    obtain ⟨s', h, _, t', hs', hr'⟩ := execAll_inv c
      (fun s es ops => (∀ op ∈ ops, op.inSession = true) ∧ ∃ t, Live c s T0 t ∧ Rep t es) step ops s es
      ⟨hin, t, hs, hr⟩
    exact ⟨s', t', h, hs', hr'⟩
  · intro s es op r ⟨hin, t, hs, hr⟩
    obtain ⟨s1, t1, h1, _, hs1, hr1⟩ := live_step c hs hr op (hin op (List.mem_cons_self ..))
    exact ⟨s1, h1, fun o ho => hin o (List.mem_cons_of_mem _ ho), t1, hs1, hr1⟩

/-- what the theorems need of the decoder `dec` (`codec.Decode`): it inverts the node encoding
    on the nodes of the committed trie (`viewOf`: values inline or by hash, children inlined when
    shorter than 32 bytes, else by hash) and decodes the empty node.  A hypothesis: no theorem
    instantiates it for the model's `decodeNode` beyond the examples of Props/C06, and C07's round trip
    is about another Lean model of the same Go function (`tdecodeG`, Lib/TrieCodec). -/
def DecodesTrie (c : Cfg) (t : Trie) : Prop :=
  c.dec [0] = some .empty ∧
  ∀ n, NodeOf n t → c.dec (encodeNode c.ver c.H n) = some (viewOf c.ver c.H n)

/-- the strings that get hashed along a history that starts from the map `es`: the empty node `[0]`,
    and the encoding of every node and every stored-by-hash value of every trie the history can
    commit (`build` of the map after each prefix of the history).  A finite set. -/
def HashedIn (c : Cfg) (es : Entries) (ops : List Op) (x : Bytes) : Prop :=
  x = [0] ∨ ∃ j,
    (∃ n, NodeOf n (build (specAll es (ops.take j))) ∧ x = encodeNode c.ver c.H n) ∨
    (∃ k, lookup (build (specAll es (ops.take j))) k = some x ∧ mustBeHashed c.ver x = true)

theorem covers_hashedIn (c : Cfg) (es : Entries) (ops : List Op) (j : Nat) :
    Covers c.ver c.H (HashedIn c es ops) (build (specAll es (ops.take j))) :=
  ⟨fun n hn => Or.inr ⟨j, Or.inl ⟨n, hn, rfl⟩⟩, fun k _ hk hm => Or.inr ⟨j, Or.inr ⟨k, hk, hm⟩⟩⟩

/-- `DecodesTrie` for every trie that the history can commit (`build` of the map after every prefix) -/
def DecodesHist (c : Cfg) (es : Entries) (ops : List Op) : Prop :=
  c.dec [0] = some .empty ∧
  ∀ j n, NodeOf n (build (specAll es (ops.take j))) →
    c.dec (encodeNode c.ver c.H n) = some (viewOf c.ver c.H n)

/-- `Dom` contains everything hashed along the history -/
def CoversHist (c : Cfg) (Dom : Bytes → Prop) (es : Entries) (ops : List Op) : Prop :=
  ∀ j, Covers c.ver c.H Dom (build (specAll es (ops.take j)))

theorem hist_at {c : Cfg} {Dom : Bytes → Prop} {es : Entries} {ops : List Op} (hd : DecodesHist c es ops)
    (hcv : CoversHist c Dom es ops) (j : Nat) {t : Trie} (hr : Rep t (specAll es (ops.take j))) :
    Covers c.ver c.H Dom t ∧
      ∀ n, NodeOf n t → c.dec (encodeNode c.ver c.H n) = some (viewOf c.ver c.H n) := by
  rw [hr.eq_build]; exact ⟨hcv j, hd.2 j⟩

theorem sessG_init (c : Cfg) (Dom : Bytes → Prop) (hlen : ∀ x, (c.H x).length = 32)
    (hdec0 : c.dec [0] = some .empty) : SessG c Dom (St.init c.H) nil nil :=
  ⟨dbOk_nil _ hdec0 hlen, covers_nil _ _ _, fun k v h => by simp at h,
    Or.inl ⟨rfl, rfl, rfl, deadOk_nil _ _ _ _⟩⟩

theorem exec_inv (c : Cfg) {Dom : Bytes → Prop} (hH : HashOK c.H Dom) (ops : List Op)
    (s : St) (T0 t : Trie) (es : Entries) (hs : SessG c Dom s T0 t) (hr : Rep t es)
    (hd : DecodesHist c es ops) (hcv : CoversHist c Dom es ops) :
    ∃ s' T0' t', execAll c s ops = .ok s' ∧ SessG c Dom s' T0' t' ∧ Rep t' (specAll es ops) := by
  suffices step : _ by
    obtain ⟨s', h, T0', t', hs', hr', _⟩ := execAll_inv c (fun s es ops => ∃ T0 t, SessG c Dom s T0 t ∧
      Rep t es ∧ DecodesHist c es ops ∧ CoversHist c Dom es ops) step ops s es ⟨T0, t, hs, hr, hd, hcv⟩
    exact ⟨s', T0', t', h, hs', hr'⟩
  · intro s es op r ⟨T0, t, hs, hr, hd, hcv⟩
    obtain ⟨hcovt, hdec⟩ := hist_at hd hcv 0 hr
    obtain ⟨s1, T1, t1, h1, hs1, hr1⟩ := sessG_execOp c hH hs hr hcovt hdec op
    exact ⟨s1, h1, T1, t1, hs1, hr1, ⟨hd.1, fun j => hd.2 (j + 1)⟩, fun j => hcv (j + 1)⟩

end Gossamer.C06
