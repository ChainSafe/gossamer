/-
C08: ascending key lists and ordered maps — least element above a key (`firstGt`, which `nextSorted`
and `OMap.nextKey` compute), `sort.Strings` (`sortKeys`), the specification's `unionKeys`, and what a
prefix does to the lexicographic order (`keysWithPrefixOn`); folds of upserts and erasures over an
ordered map, among them `foldl_erase_eq_filter`, through which every removal loop is read.
-/
import Gossamer.Lib.C08Spec
import Gossamer.Lib.C08MapLemmas
namespace Gossamer.C08
open Gossamer

def firstGt (k : Bytes) (l : List Bytes) : Option Bytes := l.find? (fun x => klt k x)

theorem firstGt_eq_none_iff {k : Bytes} {l : List Bytes} :
    firstGt k l = none ↔ ∀ y ∈ l, klt k y = false :=
  List.find?_eq_none.trans (forall₂_congr fun _ _ => Bool.not_eq_true _ ▸ Iff.rfl)

theorem firstGt_some {k x : Bytes} {l : List Bytes} (hs : KSet.Sorted l) (h : firstGt k l = some x) :
    x ∈ l ∧ klt k x = true ∧ ∀ y ∈ l, klt k y = true → x = y ∨ klt x y = true := by
  obtain ⟨hk, as, bs, rfl, has⟩ := List.find?_eq_some_iff_append.mp h
  refine ⟨by simp, hk, fun y hy hky => ?_⟩
  rcases List.mem_append.mp hy with hy | hy
  · have := has y hy; rw [hky] at this; cases this
  · rcases List.mem_cons.mp hy with rfl | hy
    · exact Or.inl rfl
    · exact Or.inr (List.rel_of_pairwise_cons (List.pairwise_append.mp (KSet.sorted_iff.mp hs)).2.1 hy)

theorem firstGt_unique {k : Bytes} {l : List Bytes} (hs : KSet.Sorted l) {x : Bytes}
    (hx : x ∈ l) (hk : klt k x = true)
    (hmin : ∀ y ∈ l, klt k y = true → x = y ∨ klt x y = true) : firstGt k l = some x := by
  cases h : firstGt k l with
  | none => have := firstGt_eq_none_iff.mp h x hx; rw [hk] at this; cases this
  | some z =>
    obtain ⟨z1, z2, z3⟩ := firstGt_some hs h
    rcases hmin z z1 z2 with e | e
    · rw [e]
    · rcases z3 x hx hk with e' | e'
      · rw [e']
      · have := klt_asymm e; rw [e'] at this; cases this

-- the answer stands behind an equation `= o` so that the caller (`firstGt_union`, with `rfl`) can state
-- `hx` about `firstGt k l` without a case split on it
theorem firstGt_bound {k x : Bytes} {l : List Bytes} (hs : KSet.Sorted l) {o : Option Bytes}
    (h : firstGt k l = o) (hx : ∀ z, o = some z → x = z ∨ klt x z = true) :
    ∀ y ∈ l, klt k y = true → x = y ∨ klt x y = true := by
  intro y hy hky
  cases o with
  | none => rw [firstGt_eq_none_iff.mp h y hy] at hky; cases hky
  | some z =>
    rcases hx z rfl with rfl | hxz
    · exact (firstGt_some hs h).2.2 y hy hky
    · rcases (firstGt_some hs h).2.2 y hy hky with rfl | hzy
      · exact Or.inr hxz
      · exact Or.inr (klt_trans hxz hzy)

/-- the merge of `nextKey` / `nextKeyOnState` (trie.go) -/
theorem firstGt_union {k : Bytes} {U B R : List Bytes} (sU : KSet.Sorted U) (sB : KSet.Sorted B)
    (sR : KSet.Sorted R) (mem : ∀ x, x ∈ R ↔ (x ∈ U ∨ x ∈ B)) :
    firstGt k R = mergeNext (firstGt k U) (firstGt k B) := by
  have key : ∀ x, x ∈ R → klt k x = true →
      (∀ z, firstGt k U = some z → x = z ∨ klt x z = true) →
      (∀ z, firstGt k B = some z → x = z ∨ klt x z = true) → firstGt k R = some x :=
    fun x hx hk hu hb => firstGt_unique sR hx hk fun y hy hky =>
      ((mem y).mp hy).elim (fun h => firstGt_bound sU rfl hu y h hky)
        (fun h => firstGt_bound sB rfl hb y h hky)
  cases hU : firstGt k U with
  | none =>
    cases hB : firstGt k B with
    | none =>
      exact firstGt_eq_none_iff.mpr fun y hy =>
        ((mem y).mp hy).elim (firstGt_eq_none_iff.mp hU y) (firstGt_eq_none_iff.mp hB y)
    | some b =>
      obtain ⟨b1, b2, _⟩ := firstGt_some sB hB
      exact key b ((mem b).mpr (Or.inr b1)) b2 (fun _ h => by rw [hU] at h; cases h)
        (fun z h => Or.inl (Option.some.inj (hB.symm.trans h)))
  | some u =>
    obtain ⟨u1, u2, _⟩ := firstGt_some sU hU
    cases hB : firstGt k B with
    | none =>
      exact key u ((mem u).mpr (Or.inl u1)) u2
        (fun z h => Or.inl (Option.some.inj (hU.symm.trans h))) (fun _ h => by rw [hB] at h; cases h)
    | some b =>
      obtain ⟨b1, b2, _⟩ := firstGt_some sB hB
      show _ = if klt b u then some b else some u
      split
      · rename_i hbu
        exact key b ((mem b).mpr (Or.inr b1)) b2
          (fun z h => Option.some.inj (hU.symm.trans h) ▸ Or.inr hbu)
          (fun z h => Or.inl (Option.some.inj (hB.symm.trans h)))
      · rename_i hbu
        refine key u ((mem u).mpr (Or.inl u1)) u2
          (fun z h => Or.inl (Option.some.inj (hU.symm.trans h)))
          (fun z h => Option.some.inj (hB.symm.trans h) ▸ ?_)
        rcases klt_trichotomy u b with t | t | t
        · exact Or.inr t
        · exact Or.inl t
        · exact absurd t hbu

/-- `slices.BinarySearch` + "skip the key itself" on a strictly ascending slice = least element above -/
theorem nextSorted_eq (key : Bytes) (l : List Bytes) (hs : KSet.Sorted l) :
    nextSorted key l = firstGt key l := by
  induction l with
  | nil => rfl
  | cons e r ih =>
    by_cases h1 : klt e key = true
    · -- e < key: the search moves on
      have h2 : klt key e = false := klt_asymm h1
      have : nextSorted key (e :: r) = nextSorted key r := by
        unfold nextSorted bsearch
        simp only [List.takeWhile_cons, h1, if_true, List.length_cons, List.getElem?_cons_succ]
        split <;> simp only [List.getElem?_cons_succ]
      rw [this, ih hs.2]
      simp only [firstGt, List.find?_cons, h2]
    · have h1' : klt e key = false := Bool.eq_false_iff.mpr h1
      by_cases he : e = key
      · subst he
        have : nextSorted e (e :: r) = r.head? := by
          unfold nextSorted bsearch
          simp [h1', List.head?_eq_getElem?]
        rw [this]
        simp only [firstGt, List.find?_cons, klt_irrefl]
        cases r with
        | nil => rfl
        | cons e' r' =>
          have := hs.1 e' (by simp)
          simp [this]
      · have h3 : klt key e = true := by
          rcases klt_trichotomy key e with h | h | h
          · exact h
          · exact absurd h.symm he
          · rw [h] at h1'; cases h1'
        have : nextSorted key (e :: r) = some e := by
          unfold nextSorted bsearch
          simp [h1', he]
        rw [this]
        simp only [firstGt, List.find?_cons, h3]

theorem omap_sorted_keys {es : Entries} (h : OMap.Sorted es) : KSet.Sorted (es.map (·.1)) :=
  KSet.sorted_iff.mpr (AList.sorted_iff_keys.mp ((OMap.sorted_iff_pairwise _).mp h))

theorem omap_mem_keys (es : Entries) (k : Bytes) : k ∈ es.map (·.1) ↔ OMap.get k es ≠ none := by
  rw [OMap.get_eq, Ne, AList.lookup_eq_none_iff_keys, Classical.not_not]

theorem nextKey_eq_firstGt (k : Bytes) (es : Entries) :
    OMap.nextKey k es = firstGt k (es.map (·.1)) :=
  List.find?_map.symm

theorem keysAfterE_eq (es : Entries) (k : Bytes) :
    Logical.keysAfterE es k = (es.map (·.1)).filter (fun x => klt k x) :=
  (List.filter_map ..).symm

theorem mem_keysAfterE (es : Entries) (k y : Bytes) :
    y ∈ Logical.keysAfterE es k ↔ (OMap.get y es ≠ none ∧ klt k y = true) := by
  rw [keysAfterE_eq, List.mem_filter, omap_mem_keys]

theorem sorted_keysAfterE {es : Entries} (hs : OMap.Sorted es) (k : Bytes) :
    KSet.Sorted (Logical.keysAfterE es k) :=
  keysAfterE_eq es k ▸ KSet.sorted_filter (omap_sorted_keys hs) _

theorem find_keysAfter (base : Entries) (k : Bytes) (p : Bytes → Bool) :
    (Logical.keysAfterE base k).find? p = firstGt k ((base.map (·.1)).filter p) := by
  unfold firstGt
  rw [keysAfterE_eq, List.find?_filter, List.find?_filter]
  simp only [and_comm]

theorem find_map_some (es : Entries) (k : Bytes) :
    KMap.find k (es.map (fun e => (e.1, some e.2))) = (OMap.get k es).map some := by
  rw [KMap.find_eq, OMap.get_eq]
  exact AList.lookup_map_val some es k

theorem sorted_map_some {es : Entries} (h : OMap.Sorted es) :
    KMap.Sorted (es.map (fun e => (e.1, some e.2))) :=
  KMap.sorted_iff.mpr (((OMap.sorted_iff_pairwise _).mp h).map _ fun _ _ h => h)

theorem keysWithPrefix_eq (p : Bytes) (es : Entries) :
    OMap.keysWithPrefix p es = (es.map (·.1)).filter (fun k => p.isPrefixOf k) :=
  (List.filter_map ..).symm

theorem mem_keysWithPrefix_iff_get (p : Bytes) (es : Entries) (y : Bytes) :
    y ∈ OMap.keysWithPrefix p es ↔ (OMap.get y es ≠ none ∧ p.isPrefixOf y = true) := by
  rw [keysWithPrefix_eq, List.mem_filter, omap_mem_keys]

theorem keysWithPrefix_sorted {es : Entries} (h : OMap.Sorted es) (p : Bytes) :
    KSet.Sorted (OMap.keysWithPrefix p es) :=
  KSet.sorted_iff.mpr (OMap.keysWithPrefix_asc h p)

theorem keys_filter_map (es : Entries) (p : Bytes) :
    (KMap.keys (es.map (fun e => (e.1, some e.2)))).filter (fun k => p.isPrefixOf k) =
      OMap.keysWithPrefix p es := by
  unfold KMap.keys
  rw [List.map_map, keysWithPrefix_eq]
  rfl

theorem filter_const_true {α : Type} (l : List α) : l.filter (fun _ => true) = l :=
  List.filter_eq_self.mpr fun _ _ => rfl

theorem filter_not_contains_nil {es : Entries} {K : List Bytes} (h : ∀ e ∈ es, e.1 ∈ K) :
    es.filter (fun e => !K.contains e.1) = [] :=
  List.filter_eq_nil_iff.mpr fun e he => by
    rw [List.contains_iff_mem.mpr (h e he)]; exact Bool.false_ne_true

theorem get_foldl_upsert_distinct (ups : List (Bytes × Bytes)) (hn : AList.NodupKeys ups) (es : Entries) (k : Bytes) :
    OMap.get k (ups.foldl (fun es kv => OMap.upsert kv.1 kv.2 es) es) =
      ov (KMap.find k ups) (OMap.get k es) := by
  rw [look_foldl_ins (fun es k => OMap.get k es) _ (fun a _ => some a.2) KMap.find_lookup
    (fun s a x => OMap.get_upsert a.1 a.2 s x) ups hn es k]
  cases KMap.find k ups <;> rfl

theorem sorted_foldl_upsert (ups : List (Bytes × Bytes)) {es : Entries} (hs : OMap.Sorted es) :
    OMap.Sorted (ups.foldl (fun es kv => OMap.upsert kv.1 kv.2 es) es) :=
  foldl_pres OMap.Sorted _ (fun _ _ h => OMap.sorted_upsert _ _ h) ups hs

theorem get_foldl_erase (ds : List Bytes) (es : Entries) (k : Bytes) :
    OMap.get k (ds.foldl (fun es d => OMap.erase d es) es) =
      if k ∈ ds then none else OMap.get k es :=
  look_foldl_del (fun es k => OMap.get k es) _ none (fun s d x => OMap.get_erase d s x) ds es k

theorem foldl_erase_eq_filter (T : List Bytes) (es : Entries) :
    T.foldl (fun t k => OMap.erase k t) es = es.filter (fun e => !(T.contains e.1)) := by
  induction T generalizing es with
  | nil => exact (List.filter_eq_self.mpr fun _ _ => rfl).symm
  | cons k r ih =>
    rw [List.foldl_cons, ih, OMap.erase, List.filter_filter]
    exact List.filter_congr fun e _ => by rw [List.contains_cons, Bool.not_or, Bool.and_comm]

theorem mem_insDup (k x : Bytes) (l : List Bytes) : x ∈ insDup k l ↔ x = k ∨ x ∈ l := by
  induction l with
  | nil => simp [insDup]
  | cons e r ih =>
    unfold insDup
    split
    · rw [List.mem_cons, ih, List.mem_cons, or_left_comm]
    · exact List.mem_cons

theorem sortKeys_cons (e : Bytes) (r : List Bytes) : sortKeys (e :: r) = insDup e (sortKeys r) := rfl

theorem mem_sortKeys (x : Bytes) (l : List Bytes) : x ∈ sortKeys l ↔ x ∈ l := by
  induction l with
  | nil => simp [sortKeys]
  | cons e r ih =>
    rw [sortKeys_cons, mem_insDup, ih]
    simp only [List.mem_cons]

theorem sorted_insDup {k : Bytes} {l : List Bytes} (hs : KSet.Sorted l) (hk : k ∉ l) :
    KSet.Sorted (insDup k l) := by
  induction l with
  | nil => exact ⟨fun _ h => by simp at h, trivial⟩
  | cons e r ih =>
    simp only [insDup]
    have hne : k ≠ e := fun h => hk (by simp [h])
    split
    · rename_i hlt
      refine ⟨?_, ih hs.2 (fun h => hk (by simp [h]))⟩
      intro x hx
      rcases (mem_insDup k x r).mp hx with hx | hx
      · subst hx; exact hlt
      · exact hs.1 x hx
    · rename_i hlt
      have hke : klt k e = true := by
        rcases klt_trichotomy k e with h | h | h
        · exact h
        · exact absurd h hne
        · exact absurd h hlt
      refine ⟨?_, hs⟩
      intro x hx
      rcases List.mem_cons.mp hx with hx | hx
      · subst hx; exact hke
      · exact klt_trans hke (hs.1 x hx)

theorem sorted_sortKeys {l : List Bytes} (h : l.Nodup) : KSet.Sorted (sortKeys l) := by
  induction l with
  | nil => trivial
  | cons e r ih =>
    simp only [List.nodup_cons] at h
    rw [sortKeys_cons]
    exact sorted_insDup (ih h.2) (fun hm => h.1 ((mem_sortKeys e r).mp hm))

theorem sorted_sortKeys_append {a b : List Bytes} (ha : KSet.Sorted a) (hb : KSet.Sorted b)
    (hab : ∀ x ∈ a, x ∉ b) : KSet.Sorted (sortKeys (a ++ b)) := by
  apply sorted_sortKeys
  rw [List.nodup_append]
  exact ⟨KSet.nodup_of_sorted ha, KSet.nodup_of_sorted hb, fun x hx y hy e => hab x hx (e ▸ hy)⟩

theorem sortKeys_sorted {l : List Bytes} (h : KSet.Sorted l) : sortKeys l = l := by
  induction l with
  | nil => rfl
  | cons e r ih =>
    rw [sortKeys_cons, ih h.2]
    cases r with
    | nil => rfl
    | cons x r' =>
      have hx := h.1 x (by simp)
      simp [insDup, klt_asymm hx]

theorem length_insDup (k : Bytes) (l : List Bytes) : (insDup k l).length = l.length + 1 := by
  induction l with
  | nil => rfl
  | cons e r ih =>
    simp only [insDup]
    split
    · simp [ih]
    · simp

theorem length_sortKeys (l : List Bytes) : (sortKeys l).length = l.length := by
  induction l with
  | nil => rfl
  | cons e r ih =>
    rw [sortKeys_cons, length_insDup, ih]
    rfl

theorem sorted_unionKeys (a b : List Bytes) : KSet.Sorted (unionKeys a b) := by
  unfold unionKeys
  exact foldl_pres KSet.Sorted _ (fun _ e hs => KSet.sorted_ins e hs) _ trivial

theorem mem_foldl_ins (l : List Bytes) (s : KSet) (x : Bytes) :
    x ∈ l.foldl (fun s k => KSet.ins k s) s ↔ (x ∈ l ∨ x ∈ s) := by
  induction l generalizing s with
  | nil => simp
  | cons e r ih => rw [List.foldl_cons, ih, KSet.mem_ins, List.mem_cons, or_left_comm, or_assoc]

theorem mem_unionKeys (a b : List Bytes) (x : Bytes) : x ∈ unionKeys a b ↔ (x ∈ a ∨ x ∈ b) := by
  unfold unionKeys
  rw [mem_foldl_ins]
  simp [List.mem_append]

theorem klt_of_proper_prefix {p x : Bytes} (h : p.isPrefixOf x = true) (hne : x ≠ p) :
    klt p x = true := by
  obtain ⟨t, rfl⟩ := List.isPrefixOf_iff_prefix.mp h
  cases t with
  | nil => simp at hne
  | cons a r => exact klt_append_cons p a r

/-- the keys with prefix `p` form an interval directly above `p` (why `keysWithPrefix` of trie.go may
    stop at the first key without the prefix) -/
theorem prefix_between : ∀ (p e x : Bytes), klt p e = true → klt e x = true →
    p.isPrefixOf x = true → p.isPrefixOf e = true := by
  intro p
  induction p with
  | nil => intro e x _ _ _; rfl
  | cons a p' ih =>
    intro e x h1 h2 h3
    cases x with
    | nil => simp [List.isPrefixOf] at h3
    | cons b x' =>
      simp only [List.isPrefixOf, Bool.and_eq_true, beq_iff_eq] at h3
      obtain ⟨hab, hp⟩ := h3
      subst hab
      cases e with
      | nil => simp [klt] at h1
      | cons c e' =>
        simp only [klt, Bool.or_eq_true, decide_eq_true_eq, Bool.and_eq_true, beq_iff_eq] at h1 h2
        have hac : a = c := by
          rcases h1 with h1 | ⟨h1, _⟩
          · rcases h2 with h2 | ⟨h2, _⟩
            · omega
            · omega
          · exact Rank.rank_inj h1
        subst hac
        have k1 : klt p' e' = true := by
          rcases h1 with h1 | ⟨_, h1⟩
          · omega
          · exact h1
        have k2 : klt e' x' = true := by
          rcases h2 with h2 | ⟨_, h2⟩
          · omega
          · exact h2
        simp [List.isPrefixOf, ih e' x' k1 k2 hp]

theorem mem_takeWhile_prefix (p : Bytes) (l : List Bytes) (hs : KSet.Sorted l)
    (hgt : ∀ y ∈ l, klt p y = true) (x : Bytes) (hx : x ∈ l) (hp : p.isPrefixOf x = true) :
    x ∈ l.takeWhile (fun k => p.isPrefixOf k) := by
  induction l with
  | nil => simp at hx
  | cons e r ih =>
    rcases List.mem_cons.mp hx with hx | hx
    · subst hx
      simp [hp]
    · have he : p.isPrefixOf e = true :=
        prefix_between p e x (hgt e (by simp)) (hs.1 x hx) hp
      simp only [List.takeWhile_cons, he, if_true, List.mem_cons]
      exact Or.inr (ih hs.2 (fun y hy => hgt y (by simp [hy])) hx)

theorem mem_keysWithPrefixOn (es : Entries) (hs : OMap.Sorted es) (p x : Bytes) :
    x ∈ keysWithPrefixOn (fun k => OMap.get k es) (Logical.keysAfterE es) p ↔
      (OMap.get x es ≠ none ∧ p.isPrefixOf x = true) := by
  unfold keysWithPrefixOn
  simp only [List.mem_append]
  constructor
  · rintro (h | h)
    · by_cases hg : (OMap.get p es).isSome = true
      · simp only [hg, if_true, List.mem_singleton] at h
        subst h
        refine ⟨?_, isPrefixOf_self x⟩
        intro hn; rw [hn] at hg; cases hg
      · simp [hg] at h
    · have h1 := List.all_eq_true.mp List.all_takeWhile x h
      have h2 := (mem_keysAfterE es p x).mp ((List.takeWhile_sublist _).subset h)
      exact ⟨h2.1, by simpa using h1⟩
  · rintro ⟨hg, hp⟩
    by_cases hxp : x = p
    · subst hxp
      left
      have : (OMap.get x es).isSome = true := by
        cases h : OMap.get x es with
        | none => exact absurd h hg
        | some v => rfl
      simp [this]
    · right
      exact mem_takeWhile_prefix p _ (sorted_keysAfterE hs p)
        (fun y hy => ((mem_keysAfterE es p y).mp hy).2) x
        ((mem_keysAfterE es p x).mpr ⟨hg, klt_of_proper_prefix hp hxp⟩) hp

theorem sorted_keysWithPrefixOn (es : Entries) (hs : OMap.Sorted es) (p : Bytes) :
    KSet.Sorted (keysWithPrefixOn (fun k => OMap.get k es) (Logical.keysAfterE es) p) := by
  unfold keysWithPrefixOn
  have hT := KSet.sorted_sublist (List.takeWhile_sublist fun k => p.isPrefixOf k)
    (sorted_keysAfterE hs p)
  split
  · exact ⟨fun x hx => ((mem_keysAfterE es p x).mp ((List.takeWhile_sublist _).subset hx)).2, hT⟩
  · simpa using hT

theorem keysWithPrefixOn_nil (p : Bytes) :
    keysWithPrefixOn (fun k => OMap.get k ([] : Entries)) (Logical.keysAfterE []) p = [] := by
  simp [keysWithPrefixOn, OMap.get, Logical.keysAfterE]

end Gossamer.C08
