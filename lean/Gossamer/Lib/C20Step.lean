/-
C20: shape of one import of the model round.  `importVote` of the model round and `importVoteC` of the round on the
compressed graph (`C20GraphRound`) branch on the same tests, so what an import can do is stated once, for both together,
as a rule for an arbitrary relation between the two rounds (`import_lockstep`); the rule for the model round alone is
its instance `importVote_cases`.  That is why this file of the uncompressed layer imports `C20GraphRound` (definitions
only).  `update` recomputes finalized/estimate/completable as if from scratch (`Coherent`, `coherent_update`).
-/
import Gossamer.Lib.C20GraphRound
import Gossamer.Lib.AList
namespace Gossamer.C20

variable {t : Tree} {ws : List Nat}

theorem update_eq (t : Tree) (ws : List Nat) (r : Round) :
    update t ws r = { r with fin := (update t ws r).fin, est := (update t ws r).est,
                             compl := (update t ws r).compl } := by
  unfold update
  simp only
  split
  · rfl
  · split
    · rfl
    · split <;> rfl

theorem ghostStep_eq (t : Tree) (ws : List Nat) (ph : Bool) (r : Round) :
    ∃ g, ghostStep t ws ph r = { r with ghost := g } := by
  unfold ghostStep
  split <;> exact ⟨_, rfl⟩

structure SameBook (r' r : Round) : Prop where
  trk : r'.trk = r.trk
  cur : r'.cur = r.cur
  eqv : r'.eqv = r.eqv
  cum : r'.cum = r.cum

theorem update_book (t : Tree) (ws : List Nat) (r : Round) : SameBook (update t ws r) r := by
  rw [update_eq]; exact ⟨rfl, rfl, rfl, rfl⟩

theorem update_ghost (t : Tree) (ws : List Nat) (r : Round) : (update t ws r).ghost = r.ghost := by
  rw [update_eq]

theorem ghostStep_book (t : Tree) (ws : List Nat) (ph : Bool) (r : Round) : SameBook (ghostStep t ws ph r) r := by
  obtain ⟨g, h⟩ := ghostStep_eq t ws ph r
  rw [h]; exact ⟨rfl, rfl, rfl, rfl⟩

/-- "update prevote-GHOST" and then `update`, the tail of an import that changed something, leave the bookkeeping alone -/
theorem post_book (t : Tree) (ws : List Nat) (ph : Bool) (r : Round) :
    SameBook (update t ws (ghostStep t ws ph r)) r := by
  obtain ⟨g, h'⟩ := ghostStep_eq t ws ph r
  rw [update_eq, h']; exact ⟨rfl, rfl, rfl, rfl⟩

/-- importing `sv` into slot `s` is the voter's first equivocation -/
def firstEquivocation (s : Option VM) (sv : SV) : Bool :=
  match s with
  | some (.single a) => decide (a ≠ sv)
  | _ => false

theorem addVote_cases (s : Option VM) (sv : SV) :
    (s = none ∧ addVote s sv = (.fresh, some (.single sv))) ∨
    (∃ a, s = some (.single a) ∧ a ≠ sv ∧ addVote s sv = (.equivocated a sv, some (.equiv a sv))) ∨
    (s ≠ none ∧ (addVote s sv = (.dup, s) ∨ addVote s sv = (.ignored, s))) := by
  match s with
  | none => exact Or.inl ⟨rfl, rfl⟩
  | some (.single a) =>
    by_cases heq : a = sv
    · exact Or.inr (Or.inr ⟨by simp, Or.inl (by simp [addVote, heq])⟩)
    · exact Or.inr (Or.inl ⟨a, rfl, heq, by simp [addVote, heq]⟩)
  | some (.equiv a b) =>
    by_cases heq : a = sv ∨ b = sv
    · exact Or.inr (Or.inr ⟨by simp, Or.inl (by simp [addVote, heq])⟩)
    · exact Or.inr (Or.inr ⟨by simp, Or.inr (by simp [addVote, heq])⟩)

theorem addVote_snd_equiv (a b sv : SV) : (addVote (some (.equiv a b)) sv).2 = some (.equiv a b) := by
  show (if a = sv ∨ b = sv then _ else _ : AddRes × Option VM).2 = _
  split <;> rfl

theorem firstEquivocation_of_same {s : Option VM} {sv : SV} (h : (addVote s sv).2 = s) :
    firstEquivocation s sv = false := by
  match s with
  | none => rfl
  | some (.single a) =>
    by_cases heq : a = sv
    · simp [firstEquivocation, heq]
    · simp [addVote, heq] at h
  | some (.equiv a b) => rfl

/-- What one import does to a pair of rounds with the same trackers, for ANY relation `R` between a model round and a
round on the compressed graph.  `hsame`: nothing new came (no voter of the set, a duplicate, or a third vote; for a voter
the slot is taken and stays as it is); `herr`: the bookkeeping of a first vote whose target is outside the tree;
`hfresh`: bookkeeping + "update prevote-GHOST" + `update` of a first vote inside the tree; `hequiv`: the same for a first
equivocation.  The trackers of the second round are written with `r.trk` in the cases (they are equal by `htrk`). -/
theorem import_lockstep (key : Nat → Nat) (R : Round → RoundC → Prop) {r : Round} {rc : RoundC}
    (htrk : rc.trk = r.trk) (ph : Bool) (v : Nat) (sv : SV)
    (hsame : (v < ws.length → r.trk ph v ≠ none ∧ (addVote (r.trk ph v) sv).2 = r.trk ph v) → R r rc)
    (herr : v < ws.length → r.trk ph v = none → ¬ sv.blk < t.size →
      R { r with trk := fun p u => if p = ph ∧ u = v then some (.single sv) else r.trk p u,
                 cur := fun p => if p = ph then r.cur p + ws.getD v 0 else r.cur p }
        { rc with trk := fun p u => if p = ph ∧ u = v then some (.single sv) else r.trk p u,
                  cur := fun p => if p = ph then rc.cur p + ws.getD v 0 else rc.cur p })
    (hfresh : v < ws.length → r.trk ph v = none → sv.blk < t.size →
      R (update t ws (ghostStep t ws ph
          { r with trk := fun p u => if p = ph ∧ u = v then some (.single sv) else r.trk p u,
                   cur := fun p => if p = ph then r.cur p + ws.getD v 0 else r.cur p,
                   cum := insert t r.cum sv.blk (bitPos v (phN ph)) }))
        (updateC key t ws (ghostStepC key t ws ph
          { rc with trk := fun p u => if p = ph ∧ u = v then some (.single sv) else r.trk p u,
                    cur := fun p => if p = ph then rc.cur p + ws.getD v 0 else rc.cur p,
                    graph := rc.graph.insert key t sv.blk (bitPos v (phN ph)) })))
    (hequiv : ∀ a, v < ws.length → r.trk ph v = some (.single a) → a ≠ sv →
      R (update t ws (ghostStep t ws ph
          { r with trk := fun p u => if p = ph ∧ u = v then some (.equiv a sv) else r.trk p u,
                   eqv := setBit r.eqv (bitPos v (phN ph)) }))
        (updateC key t ws (ghostStepC key t ws ph
          { rc with trk := fun p u => if p = ph ∧ u = v then some (.equiv a sv) else r.trk p u,
                    eqv := setBit rc.eqv (bitPos v (phN ph)) }))) :
    R (importVote t ws r ph v sv).2 (importVoteC key t ws rc ph v sv).2 := by
  unfold importVote importVoteC
  rw [htrk]
  by_cases hv : v ≥ ws.length
  · simp only [hv, if_true]; exact hsame (fun h => absurd h (by omega))
  · have hv' : v < ws.length := by omega
    simp only [hv, if_false]
    rcases addVote_cases (r.trk ph v) sv with ⟨hs, ha⟩ | ⟨a, hs, hne, ha⟩ | ⟨hs, ha | ha⟩
    · rw [hs] at ha
      simp only [hs, ha]
      by_cases hb : sv.blk ≥ t.size
      · simp only [hb, if_true]; exact herr hv' hs (by omega)
      · simp only [hb, if_false]; exact hfresh hv' hs (by omega)
    · rw [hs] at ha
      simp only [hs, ha]; exact hequiv a hv' hs hne
    · simp only [ha]; exact hsame (fun _ => ⟨hs, by rw [ha]⟩)
    · simp only [ha]; exact hsame (fun _ => ⟨hs, by rw [ha]⟩)

/-- any second round with the same trackers will do: the relation ignores it -/
theorem importVote_cases (P : Round → Prop) {r : Round} (ph : Bool) (v : Nat) (sv : SV)
    (hsame : (v < ws.length → r.trk ph v ≠ none ∧ (addVote (r.trk ph v) sv).2 = r.trk ph v) → P r)
    (herr : v < ws.length → r.trk ph v = none → ¬ sv.blk < t.size →
      P { r with trk := fun p u => if p = ph ∧ u = v then some (.single sv) else r.trk p u,
                 cur := fun p => if p = ph then r.cur p + ws.getD v 0 else r.cur p })
    (hfresh : v < ws.length → r.trk ph v = none → sv.blk < t.size →
      P (update t ws (ghostStep t ws ph
          { r with trk := fun p u => if p = ph ∧ u = v then some (.single sv) else r.trk p u,
                   cur := fun p => if p = ph then r.cur p + ws.getD v 0 else r.cur p,
                   cum := insert t r.cum sv.blk (bitPos v (phN ph)) })))
    (hequiv : ∀ a, v < ws.length → r.trk ph v = some (.single a) → a ≠ sv →
      P (update t ws (ghostStep t ws ph
          { r with trk := fun p u => if p = ph ∧ u = v then some (.equiv a sv) else r.trk p u,
                   eqv := setBit r.eqv (bitPos v (phN ph)) }))) :
    P (importVote t ws r ph v sv).2 :=
  import_lockstep (fun _ => 0) (fun r' _ => P r')
    (rc := ⟨r.trk, r.cur, r.eqv, Graph.init, none, none, none, none, false⟩) rfl ph v sv hsame herr hfresh hequiv

theorem importVote_book (t : Tree) (ws : List Nat) (r : Round) (ph : Bool) (v : Nat) (sv : SV)
    (hv : v < ws.length) :
    let r' := (importVote t ws r ph v sv).2
    r'.trk = (fun p u => if p = ph ∧ u = v then (addVote (r.trk ph v) sv).2 else r.trk p u) ∧
    r'.cur = (fun p => if p = ph ∧ r.trk ph v = none then r.cur p + ws.getD v 0 else r.cur p) ∧
    r'.eqv = (if firstEquivocation (r.trk ph v) sv then setBit r.eqv (bitPos v (phN ph)) else r.eqv) ∧
    r'.cum = (if r.trk ph v = none ∧ sv.blk < t.size then insert t r.cum sv.blk (bitPos v (phN ph)) else r.cum) := by
  refine importVote_cases (fun r' => r'.trk = _ ∧ r'.cur = _ ∧ r'.eqv = _ ∧ r'.cum = _)
    ph v sv ?_ ?_ ?_ ?_
  · intro hs
    obtain ⟨hn, ha⟩ := hs hv
    simp only [hn, firstEquivocation_of_same ha, ha, false_and, and_false, if_false, Bool.false_eq_true, and_true]
    funext p u
    split
    · rename_i hpu; rw [hpu.1, hpu.2]
    · rfl
  · intro _ hn hb
    simp only [hn, hb, addVote, firstEquivocation, and_true, and_false, if_false, Bool.false_eq_true, and_self]
  · intro _ hn hb
    obtain ⟨p1, p2, p3, p4⟩ := post_book t ws ph
      { r with trk := fun p u => if p = ph ∧ u = v then some (.single sv) else r.trk p u,
               cur := fun p => if p = ph then r.cur p + ws.getD v 0 else r.cur p,
               cum := insert t r.cum sv.blk (bitPos v (phN ph)) }
    simp only [p1, p2, p3, p4, hn, hb, addVote, firstEquivocation, and_true, and_self, if_true, Bool.false_eq_true,
      if_false]
  · intro a _ hs hne
    obtain ⟨p1, p2, p3, p4⟩ := post_book t ws ph
      { r with trk := fun p u => if p = ph ∧ u = v then some (.equiv a sv) else r.trk p u,
               eqv := setBit r.eqv (bitPos v (phN ph)) }
    simp only [p1, p2, p3, p4, hs, hne, addVote, firstEquivocation, ne_eq, not_false_eq_true, decide_true, if_true,
      if_false, reduceCtorEq, and_false, false_and, and_self]

theorem importVote_notVoter (t : Tree) (ws : List Nat) (r : Round) (ph : Bool) (v : Nat) (sv : SV)
    (hv : ¬ v < ws.length) : (importVote t ws r ph v sv).2 = r := by
  have : v ≥ ws.length := by omega
  simp only [importVote, this, if_true]

theorem ghostStep_memo (t : Tree) (ws : List Nat) (ph : Bool) (r : Round) :
    (ghostStep t ws ph r).fin = r.fin ∧ (ghostStep t ws ph r).est = r.est ∧
    (ghostStep t ws ph r).compl = r.compl := by
  obtain ⟨g, hg⟩ := ghostStep_eq t ws ph r
  rw [hg]; exact ⟨rfl, rfl, rfl⟩

/-- the right-hand side reads the bookkeeping off the RESULT (it is that of `r`, `post_book`): the users know the result as
`run t ws (ops ++ [o])`, and after rewriting with that equation the `_run` lemmas apply to it -/
theorem post_ghost (t : Tree) (ws : List Nat) (ph : Bool) (r : Round) :
    (update t ws (ghostStep t ws ph r)).ghost =
      if ph = false ∧ (update t ws (ghostStep t ws ph r)).cur false ≥ threshold (total ws)
      then findGhost t (update t ws (ghostStep t ws ph r)).cum r.ghost
        (supermCond ws (update t ws (ghostStep t ws ph r)).eqv false)
      else r.ghost := by
  have p := post_book t ws ph r
  rw [update_ghost, p.cur, p.eqv, p.cum]
  unfold ghostStep
  split <;> rfl

/-- the state the memoised fields are recomputed from: same bookkeeping and ghosts, nothing remembered -/
def reset (r : Round) : Round := { r with fin := none, est := none, compl := false }

def recompute (t : Tree) (ws : List Nat) (r : Round) : Round := update t ws (reset r)

theorem reset_update (t : Tree) (ws : List Nat) (r : Round) : reset (update t ws r) = reset r := by
  rw [update_eq]; rfl

structure Coherent (t : Tree) (ws : List Nat) (r : Round) : Prop where
  fin : r.fin = (recompute t ws r).fin
  est : r.est = (recompute t ws r).est
  compl : r.compl = (recompute t ws r).compl

/-- `update` only remembers `fin`/`compl` below the precommit threshold, and everything when it returns early: if
what it remembers then is what it would compute, its result is coherent -/
theorem coherent_update (t : Tree) (ws : List Nat) (r : Round)
    (h1 : (r.cur false < threshold (total ws) ∨ r.ghost = none) →
      r.fin = none ∧ r.est = none ∧ r.compl = false)
    (h2 : r.cur true < threshold (total ws) → r.fin = none ∧ r.compl = false) :
    Coherent t ws (update t ws r) := by
  suffices h : (update t ws r).fin = (update t ws (reset r)).fin ∧ (update t ws r).est = (update t ws (reset r)).est ∧
      (update t ws r).compl = (update t ws (reset r)).compl by
    have e : update t ws (reset r) = recompute t ws (update t ws r) :=
      (congrArg (update t ws) (reset_update t ws r)).symm
    exact ⟨e ▸ h.1, e ▸ h.2.1, e ▸ h.2.2⟩
  unfold update reset
  simp only
  by_cases ha : r.cur false < threshold (total ws)
  · obtain ⟨f1, f2, f3⟩ := h1 (Or.inl ha)
    simp [ha, f1, f2, f3]
  · simp only [ha, if_false]
    cases hg : r.ghost with
    | none =>
      obtain ⟨f1, f2, f3⟩ := h1 (Or.inr hg)
      simp [f1, f2, f3]
    | some g =>
      by_cases hc : r.cur true ≥ threshold (total ws)
      · simp [hc]
      · obtain ⟨f1, f3⟩ := h2 (by omega)
        simp [hc, f1, f3]

theorem recompute_early (t : Tree) (ws : List Nat) (r : Round)
    (h : r.cur false < threshold (total ws) ∨ r.ghost = none) :
    (recompute t ws r).fin = none ∧ (recompute t ws r).est = none ∧ (recompute t ws r).compl = false := by
  unfold recompute update reset
  simp only
  by_cases ha : r.cur false < threshold (total ws)
  · simp [ha]
  · rcases h with h | h
    · exact absurd h ha
    · simp [ha, h]

theorem recompute_below (t : Tree) (ws : List Nat) (r : Round)
    (h : r.cur true < threshold (total ws)) :
    (recompute t ws r).fin = none ∧ (recompute t ws r).compl = false := by
  unfold recompute update reset
  simp only
  have hc : ¬ r.cur true ≥ threshold (total ws) := by omega
  split
  · simp
  · split
    · simp
    · simp

theorem run_append (t : Tree) (ws : List Nat) (ops : List Op) (o : Op) :
    run t ws (ops ++ [o]) = step t ws (run t ws ops) o := by
  simp [run, List.foldl_append]

theorem run_induction {t : Tree} {ws : List Nat} (P : List Op → Round → Prop)
    (h0 : P [] Round.init)
    (hstep : ∀ ops o, P ops (run t ws ops) → P (ops ++ [o]) (step t ws (run t ws ops) o)) :
    ∀ ops, P ops (run t ws ops) :=
  snoc_induction h0 (fun ops o ih => by rw [run_append]; exact hstep ops o ih)

end Gossamer.C20
