/-
C20 layer (b), proofs: the abstract content of a compressed vote graph (the list of inserted votes), what the
uncompressed cumulative vote of that list satisfies on its own (bit by bit; it only grows towards the base), and the
representation invariant that ties the entry map to it.
-/
import Gossamer.Lib.C20GraphEdge
import Gossamer.Lib.C20Sum
import Gossamer.Lib.AList
namespace Gossamer.C20

variable {t : Tree}

/-- the history of inserts: (target block, bit position) -/
abbrev Ins := List (Nat × Nat)

def isNode (ins : Ins) (b : Nat) : Bool := b == 0 || ins.any (fun p => p.1 == b)

/-- the cumulative vote masks of the UNCOMPRESSED graph after the same inserts (`insert` of `Model/C20.lean`) -/
def cumOf (t : Tree) (ins : Ins) : Nat → Mask := ins.foldl (fun c p => insert t c p.1 p.2) (fun _ => 0)

/-- the COMPRESSED graph after the same inserts -/
def graphOf (key : Nat → Nat) (t : Tree) (ins : Ins) : Graph :=
  ins.foldl (fun g p => g.insert key t p.1 p.2) Graph.init

theorem isNode_zero (ins : Ins) : isNode ins 0 = true := by simp [isNode]

theorem isNode_iff {ins : Ins} {b : Nat} : isNode ins b = true ↔ b = 0 ∨ ∃ p, p ∈ ins ∧ p.1 = b := by
  rw [isNode, Bool.or_eq_true, beq_iff_eq, List.any_eq_true]
  exact or_congr Iff.rfl (exists_congr fun _ => and_congr Iff.rfl beq_iff_eq)

theorem isNode_append (ins : Ins) (p : Nat × Nat) (b : Nat) :
    isNode (ins ++ [p]) b = (isNode ins b || p.1 == b) := by
  simp [isNode, List.any_append, Bool.or_assoc]

theorem cumOf_append (t : Tree) (ins : Ins) (p : Nat × Nat) :
    cumOf t (ins ++ [p]) = insert t (cumOf t ins) p.1 p.2 := by
  simp [cumOf, List.foldl_append]

theorem graphOf_append (key : Nat → Nat) (t : Tree) (ins : Ins) (p : Nat × Nat) :
    graphOf key t (ins ++ [p]) = (graphOf key t ins).insert key t p.1 p.2 := by
  simp [graphOf, List.foldl_append]

theorem isNode_append_eq (ins : Ins) (p : Nat × Nat) : isNode (ins ++ [p]) = addNode (isNode ins) p.1 := by
  funext b
  rw [isNode_append, addNode, BEq.comm]

theorem cumOf_testBit (t : Tree) (ins : Ins) (B q : Nat) :
    (cumOf t ins B).testBit q = ins.any (fun p => p.2 == q && (t.chain p.1).contains B) := by
  have := foldl_inv (fun c p => insert t c p.1 p.2)
    (fun pre c => (c B).testBit q = pre.any (fun p => p.2 == q && (t.chain p.1).contains B)) (fun _ => True)
    (fun pre c p _ hP => by
      rw [insert_testBit, hP, List.any_append, Tree.le, Bool.and_comm]; simp)
    ins [] (fun _ => 0) (fun _ _ => trivial) (by simp)
  simpa [cumOf] using this

theorem node_cum_ne_zero {ins : Ins} {b : Nat} (hN : isNode ins b = true) (hb : b ≠ 0) :
    cumOf t ins b ≠ 0 := by
  rcases isNode_iff.1 hN with h0 | ⟨p, hp, rfl⟩
  · exact absurd h0 hb
  · apply mask_ne_zero.2
    refine ⟨p.2, ?_⟩
    rw [cumOf_testBit]
    exact List.any_eq_true.2 ⟨p, hp, by simp [t.mem_chain_self p.1]⟩

theorem cum_mono_chain (h : t.WF) (ins : Ins) {a b : Nat} (hab : a ∈ t.chain b) (q : Nat)
    (hq : (cumOf t ins b).testBit q = true) : (cumOf t ins a).testBit q = true := by
  rw [cumOf_testBit] at *
  obtain ⟨p, hp, hpq⟩ := List.any_eq_true.1 hq
  simp only [Bool.and_eq_true, List.contains_iff_mem] at hpq
  exact List.any_eq_true.2 ⟨p, hp, by simp [hpq.1, (Tree.upChain h).trans hab hpq.2]⟩

theorem inGraph_anc (h : t.WF) (ins : Ins) {a b : Nat} (hab : a ∈ t.chain b)
    (hb : inGraph (cumOf t ins) b = true) : inGraph (cumOf t ins) a = true := by
  simp only [inGraph, Bool.or_eq_true, beq_iff_eq, bne_iff_ne, ne_eq] at hb ⊢
  rcases hb with h0 | hne
  · subst h0
    exact Or.inl ((Tree.upChain h).mem_zero.1 hab)
  · by_cases ha : a = 0
    · exact Or.inl ha
    · right
      obtain ⟨q, hq⟩ := mask_ne_zero.1 hne
      exact mask_ne_zero.2 ⟨q, cum_mono_chain h ins hab q hq⟩

/-- **representation invariant** of the compressed vote graph w.r.t. the insert history.  `descendants` and `heads`
are described as sets (`descNodup` adds "each once"): their ORDER is not part of the invariant (it is compared with
Go by the driver's dump only), which is why what a search returns is stated up to `Top` or under `UniqChild`. -/
structure GInv (t : Tree) (ins : Ins) (g : Graph) : Prop where
  nodes : ∀ b, (g.entries b).isSome = isNode ins b
  number : ∀ b e, g.entries b = some e → e.number = t.num b
  anc : ∀ b e, g.entries b = some e → e.ancestors = edge t (isNode ins) b
  cum : ∀ b e, g.entries b = some e → e.cum = cumOf t ins b
  descNodup : ∀ b e, g.entries b = some e → e.descendants.Nodup
  desc : ∀ b e, g.entries b = some e → ∀ d, d ∈ e.descendants ↔
    (isNode ins d = true ∧ ancNode t (isNode ins) d = some b)
  heads : ∀ x, x ∈ g.heads ↔
    (isNode ins x = true ∧ ∀ d, isNode ins d = true → ancNode t (isNode ins) d ≠ some x)
  /-- the targets are blocks of the tree: this bounds every fuel (`GInv.node_lt`) -/
  valid : ∀ p, p ∈ ins → p.1 < t.size

theorem GInv.node_lt (h : t.WF) {ins : Ins} {g : Graph} (inv : GInv t ins g) {b : Nat}
    (hb : isNode ins b = true) : b < t.size := by
  rcases isNode_iff.1 hb with rfl | ⟨p, hp, rfl⟩
  · exact h.1
  · exact inv.valid p hp

/-- `GInv` with the node set and the cumulative votes as parameters: `Insert` first makes the target a vote-node
(node set grows, votes unchanged) and then adds the vote along the chain (votes change, node set fixed), so the two
steps are proved about `GStruct` and put together in `insert_inv`.  The lemmas that only read the entry map are
stated here and serve `GInv` through `toStruct`. -/
structure GStruct (t : Tree) (N : Nat → Bool) (c : Nat → Mask) (g : Graph) : Prop where
  nodes : ∀ b, (g.entries b).isSome = N b
  number : ∀ b e, g.entries b = some e → e.number = t.num b
  anc : ∀ b e, g.entries b = some e → e.ancestors = edge t N b
  cum : ∀ b e, g.entries b = some e → e.cum = c b
  descNodup : ∀ b e, g.entries b = some e → e.descendants.Nodup
  desc : ∀ b e, g.entries b = some e → ∀ d, d ∈ e.descendants ↔ (N d = true ∧ ancNode t N d = some b)
  heads : ∀ x, x ∈ g.heads ↔ (N x = true ∧ ∀ d, N d = true → ancNode t N d ≠ some x)

theorem GInv.toStruct {ins : Ins} {g : Graph} (inv : GInv t ins g) :
    GStruct t (isNode ins) (cumOf t ins) g :=
  ⟨inv.nodes, inv.number, inv.anc, inv.cum, inv.descNodup, inv.desc, inv.heads⟩

theorem GStruct.toInv {ins : Ins} {g : Graph} (gs : GStruct t (isNode ins) (cumOf t ins) g)
    (hv : ∀ p, p ∈ ins → p.1 < t.size) : GInv t ins g :=
  ⟨gs.nodes, gs.number, gs.anc, gs.cum, gs.descNodup, gs.desc, gs.heads, hv⟩

theorem GStruct.entry_of_node {N : Nat → Bool} {c : Nat → Mask} {g : Graph} (gs : GStruct t N c g) {b : Nat}
    (hb : N b = true) : ∃ e, g.entries b = some e :=
  Option.isSome_iff_exists.1 ((gs.nodes b).trans hb)

theorem GStruct.node_of_entry {N : Nat → Bool} {c : Nat → Mask} {g : Graph} (gs : GStruct t N c g) {b : Nat}
    {e : Entry} (hb : g.entries b = some e) : N b = true := by
  rw [← gs.nodes b, hb]; rfl

theorem GInv.entry_of_node {ins : Ins} {g : Graph} (inv : GInv t ins g) {b : Nat}
    (hb : isNode ins b = true) : ∃ e, g.entries b = some e := inv.toStruct.entry_of_node hb

theorem GInv.node_of_entry {ins : Ins} {g : Graph} (inv : GInv t ins g) {b : Nat} {e : Entry}
    (hb : g.entries b = some e) : isNode ins b = true := inv.toStruct.node_of_entry hb

theorem GInv.ancestorNode_eq {ins : Ins} {g : Graph} (inv : GInv t ins g) {b : Nat} {e : Entry}
    (hb : g.entries b = some e) : e.ancestorNode = ancNode t (isNode ins) b := ancestorNode_spec (inv.anc b e hb)

theorem GInv.ancestorBlock_iff (h : t.WF) {ins : Ins} {g : Graph} (inv : GInv t ins g) {b : Nat} {e : Entry}
    (hb : g.entries b = some e) (n x : Nat) :
    e.ancestorBlock n = some x ↔ x ∈ edge t (isNode ins) b ∧ t.num x = n :=
  ancestorBlock_spec h (inv.number b e hb) (inv.anc b e hb) n x

theorem GInv.inDirectAncestry_iff (h : t.WF) {ins : Ins} {g : Graph} (inv : GInv t ins g) {b : Nat} {e : Entry}
    (hb : g.entries b = some e) (hash : Nat) :
    e.inDirectAncestry hash (t.num hash) = some true ↔ hash ∈ edge t (isNode ins) b :=
  inDirectAncestry_true h (inv.number b e hb) (inv.anc b e hb) hash

end Gossamer.C20
