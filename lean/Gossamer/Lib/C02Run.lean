/-
Runs of the harness language of `Gossamer.Model.C02`: an op outside the known-finding regions (`opSafe`) prints the
same from the Go trie as from the map and keeps `Rep` (`step_refines`), hence so does a run (`run_refines`).
`Lib/C38Run` has the same four notions for C38's run: the two runs are different fixed functions over different
states, so the induction is written per run.
-/
import Gossamer.Lib.TrieLimit
import Gossamer.Model.C02
namespace Gossamer.C02
open Gossamer Gossamer.Trie

/-- the op is outside of every known-finding region (this is `kfTag t es op = ""`) -/
def opSafe (t : Trie) (es : Entries) : Op → Bool
  | .get k => !emptyKeyHit t (keyLEToNibbles k)
  | .del k => !emptyKeyHit t (keyLEToNibbles k)
  | .keys p => !trimRegion p es
  | .clr p => !trimRegion p es
  | .clrl p _ => !trimRegion p es && !nestedRegion p es
  | _ => true

theorem opSafe_iff_no_tag (t : Trie) (es : Entries) (op : Op) :
    opSafe t es op = true ↔ kfTag t es op = "" := by
  cases op <;> simp [opSafe, kfTag] <;> (try split) <;> simp_all <;> (try split) <;> simp_all

/-- no op of the run lies in a known-finding region -/
def safeFrom (t : Trie) (es : Entries) : List Op → Bool
  | [] => true
  | op :: r => opSafe t es op && safeFrom (stepModel t op).1 (stepSpec es op).1 r

abbrev SafeFrom (t : Trie) (es : Entries) (ops : List Op) : Prop := safeFrom t es ops = true

def finalModel (ops : List Op) : Trie := ops.foldl (fun t op => (stepModel t op).1) Trie.nil
def finalSpec (ops : List Op) : Entries := ops.foldl (fun es op => (stepSpec es op).1) []

theorem modelEntries_eq {t : Trie} {es : Entries} (h : Rep t es) : modelEntries t = specEntries es := by
  rw [modelEntries, specEntries, h.entries_eq, sortEntries]
  exact congrArg _ (mergeSort_of_sorted (List.pairwise_map.mpr ((OMap.sorted_iff_pairwise es).mp h.sorted)))

theorem step_refines {t : Trie} {es : Entries} (h : Rep t es) (op : Op)
    (hs : opSafe t es op = true) :
    (stepModel t op).2 = (stepSpec es op).2 ∧ Rep (stepModel t op).1 (stepSpec es op).1 := by
  cases op with
  | put k v =>
    have h' := h.put k v
    exact ⟨by simp [stepModel, stepSpec, modelEntries_eq h'], h'⟩
  | del k =>
    have h' := h.delete k (by simpa [opSafe, keyLEToNibbles_eq] using hs)
    exact ⟨by simp [stepModel, stepSpec, modelEntries_eq h'], h'⟩
  | clr p =>
    have h' := h.clearPrefix p (by simpa [opSafe] using hs)
    exact ⟨by simp [stepModel, stepSpec, modelEntries_eq h'], h'⟩
  | clrl p n =>
    simp only [opSafe, Bool.and_eq_true, Bool.not_eq_true'] at hs
    have h' := h.clearPrefixLimit p n hs.1 hs.2
    refine ⟨?_, h'.1⟩
    simp only [stepModel, stepSpec, modelEntries_eq h'.1]
    rw [h'.2]
  | get k =>
    have := h.get k (by simpa [opSafe, keyLEToNibbles_eq] using hs)
    exact ⟨by simp [stepModel, stepSpec, this], h⟩
  | next k => exact ⟨by simp [stepModel, stepSpec, h.nextKey k], h⟩
  | keys p =>
    have := h.keysWithPrefix p (by simpa [opSafe] using hs)
    exact ⟨by simp [stepModel, stepSpec, this], h⟩
  | entries => exact ⟨by simp [stepModel, stepSpec, modelEntries_eq h], h⟩
  | bad => exact ⟨rfl, h⟩

theorem run_refines {t : Trie} {es : Entries} (h : Rep t es) (ops : List Op) (hs : SafeFrom t es ops) :
    runModelFrom t ops = runSpecFrom es ops ∧
      Rep (ops.foldl (fun t op => (stepModel t op).1) t) (ops.foldl (fun es op => (stepSpec es op).1) es) := by
  induction ops generalizing t es with
  | nil => exact ⟨rfl, h⟩
  | cons op r ih =>
    simp only [SafeFrom, safeFrom, Bool.and_eq_true] at hs
    obtain ⟨e1, e2⟩ := step_refines h op hs.1
    obtain ⟨i1, i2⟩ := ih e2 hs.2
    exact ⟨by simp only [runModelFrom, runSpecFrom, e1, i1], i2⟩

theorem final_rep (ops : List Op) (hs : SafeFrom Trie.nil [] ops) : Rep (finalModel ops) (finalSpec ops) :=
  (run_refines Rep.empty ops hs).2

end Gossamer.C02
