/-
C20: the bookkeeping of the round (vote trackers, current weights, equivocation bits, cumulative vote bits)
after importing ANY list of votes is exactly what membership facts about that list say (`BookInv`, `bookInv_run`).
-/
import Gossamer.Lib.C20Spec
import Gossamer.Lib.C20Step
import Gossamer.Lib.C20Sum
import Gossamer.Lib.C20Tree
namespace Gossamer.C20

/-- one voter's tracker slot as a function of its votes in import order -/
def trkOf (l : List SV) : Option VM := l.foldl (fun s sv => (addVote s sv).2) none

theorem trkOf_append (l : List SV) (sv : SV) : trkOf (l ++ [sv]) = (addVote (trkOf l) sv).2 := by
  simp [trkOf, List.foldl_append]

/-- two different signed votes in the list: the bridge between the equivocation test of the specification (`isEquivL`,
`isEquiv_iff`) and the slot (`trkOf_equiv_iff`).  Lemmas about histories are stated with `isEquiv … = true`. -/
def distinct2 (l : List SV) : Prop := ∃ a, a ∈ l ∧ ∃ b, b ∈ l ∧ a ≠ b

/-- `isEquiv ops ph v` is `isEquivL (votesOf ops ph v)` by definition -/
def isEquivL (l : List SV) : Bool := l.any (fun a => l.any (fun b => a != b))

theorem isEquivL_iff (l : List SV) : isEquivL l = true ↔ distinct2 l := by
  simp [isEquivL, distinct2, List.any_eq_true]

/-- what a tracker slot remembers of the votes `l` it has seen: the first, and one different from it -/
def TrkSpec (l : List SV) : Option VM → Prop
  | none => l = []
  | some (.single a) => l.head? = some a ∧ ∀ x, x ∈ l → x = a
  | some (.equiv a b) => l.head? = some a ∧ a ≠ b ∧ b ∈ l

theorem TrkSpec_step {l : List SV} {s : Option VM} (h : TrkSpec l s) (sv : SV) :
    TrkSpec (l ++ [sv]) (addVote s sv).2 := by
  match s, h with
  | none, h =>
    simp only [TrkSpec] at h
    subst h
    simp [addVote, TrkSpec]
  | some (.single a), h =>
    obtain ⟨hh, hall⟩ := h
    simp only [addVote]
    by_cases heq : a = sv
    · subst heq
      simp only [if_true, TrkSpec]
      refine ⟨by simp [List.head?_append, hh], ?_⟩
      intro x hx
      rcases List.mem_append.1 hx with hx | hx
      · exact hall x hx
      · simpa using hx
    · simp only [heq, if_false, TrkSpec]
      exact ⟨by simp [List.head?_append, hh], heq, by simp⟩
  | some (.equiv a b), h =>
    obtain ⟨hh, hne, hb⟩ := h
    rw [addVote_snd_equiv]
    exact ⟨by simp [List.head?_append, hh], hne, List.mem_append_left _ hb⟩

theorem trkOf_spec : ∀ l : List SV, TrkSpec l (trkOf l) :=
  snoc_induction (by simp [TrkSpec, trkOf]) (fun l sv ih => by rw [trkOf_append]; exact TrkSpec_step ih sv)

theorem trkOf_none {l : List SV} : trkOf l = none ↔ l = [] := by
  constructor
  · intro h; have := trkOf_spec l; rw [h] at this; exact this
  · intro h; subst h; rfl

theorem trkOf_head {l : List SV} {a : SV} (h : l.head? = some a) :
    (∃ b, trkOf l = some (.equiv a b)) ∨ trkOf l = some (.single a) := by
  have hs := trkOf_spec l
  match hl : trkOf l, hs with
  | none, hs => simp only [TrkSpec] at hs; subst hs; simp at h
  | some (.single a'), hs =>
    have : a' = a := by have := hs.1; rw [h] at this; exact (Option.some.inj this).symm
    subst this; exact Or.inr rfl
  | some (.equiv a' b), hs =>
    have : a' = a := by have := hs.1; rw [h] at this; exact (Option.some.inj this).symm
    subst this; exact Or.inl ⟨b, rfl⟩

theorem trkOf_equiv_iff (l : List SV) : (∃ a b, trkOf l = some (.equiv a b)) ↔ distinct2 l := by
  have hs := trkOf_spec l
  constructor
  · rintro ⟨a, b, h⟩
    rw [h] at hs
    obtain ⟨hh, hne, hb⟩ := hs
    have ha : a ∈ l := List.mem_of_mem_head? hh
    exact ⟨a, ha, b, hb, hne⟩
  · rintro ⟨a, ha, b, hb, hne⟩
    match hl : trkOf l, hs with
    | none, hs => simp only [TrkSpec] at hs; subst hs; simp at ha
    | some (.single c), hs =>
      exact absurd ((hs.2 a ha).trans (hs.2 b hb).symm) hne
    | some (.equiv c d), _ => exact ⟨c, d, rfl⟩

theorem votesOf_append (ops : List Op) (o : Op) (ph : Bool) (v : Nat) :
    votesOf (ops ++ [o]) ph v = if ph = o.ph ∧ v = o.v then votesOf ops ph v ++ [o.sv] else votesOf ops ph v := by
  unfold votesOf
  rw [List.filter_append, List.map_append]
  split
  · rename_i h; simp [h.1, h.2]
  · rename_i h
    have : (o.ph == ph && o.v == v) = false := by
      rcases Classical.not_and_iff_not_or_not.1 h with h | h <;> simp [Ne.symm h]
    simp [this]

theorem isEquiv_eq (ops : List Op) (ph : Bool) (v : Nat) : isEquiv ops ph v = isEquivL (votesOf ops ph v) := rfl

theorem isEquiv_iff (ops : List Op) (ph : Bool) (v : Nat) :
    isEquiv ops ph v = true ↔ distinct2 (votesOf ops ph v) := isEquivL_iff _

theorem hasVote_iff (ops : List Op) (ph : Bool) (v : Nat) :
    hasVote ops ph v = true ↔ votesOf ops ph v ≠ [] := by
  simp [hasVote]

theorem votesGE_iff (t : Tree) (ops : List Op) (ph : Bool) (v B : Nat) :
    votesGE t ops ph v B = true ↔ ∃ x, x ∈ votesOf ops ph v ∧ x.blk < t.size ∧ B ∈ t.chain x.blk := by
  simp only [votesGE, List.any_eq_true, Bool.and_eq_true, decide_eq_true_eq, Tree.le_iff]

def firstGE (t : Tree) (ops : List Op) (ph : Bool) (v B : Nat) : Bool :=
  (votesOf ops ph v).head?.any (fun sv => decide (sv.blk < t.size) && t.le B sv.blk)

theorem any_of_not_distinct2 {l : List SV} (h : ¬ distinct2 l) (p : SV → Bool) : l.any p = l.head?.any p := by
  cases l with
  | nil => rfl
  | cons a l =>
    have hall : ∀ x, x ∈ a :: l → x = a := fun x hx =>
      Classical.byContradiction fun hxa => h ⟨x, hx, a, List.mem_cons_self, hxa⟩
    apply Bool.eq_iff_iff.2
    rw [List.any_eq_true]
    exact ⟨fun ⟨x, hx, hp⟩ => hall x hx ▸ hp, fun hp => ⟨a, List.mem_cons_self, hp⟩⟩

theorem equiv_or_votesGE (t : Tree) (ops : List Op) (ph : Bool) (v B : Nat) :
    (isEquiv ops ph v || votesGE t ops ph v B) = (isEquiv ops ph v || firstGE t ops ph v B) := by
  cases he : isEquiv ops ph v
  · rw [votesGE, firstGE, any_of_not_distinct2 fun h => Bool.false_ne_true (he ▸ (isEquiv_iff ops ph v).2 h)]
  · rfl

theorem addVote_equiv_iff (s : Option VM) (sv : SV) :
    (∃ a b, (addVote s sv).2 = some (.equiv a b)) ↔ (∃ a b, s = some (.equiv a b)) ∨ firstEquivocation s sv = true := by
  match s with
  | none => simp [addVote, firstEquivocation]
  | some (.single a) =>
    by_cases heq : a = sv <;> simp [addVote, firstEquivocation, heq]
  | some (.equiv a b) => simp [addVote_snd_equiv]

theorem isEquivL_append (l : List SV) (sv : SV) :
    isEquivL (l ++ [sv]) = (isEquivL l || firstEquivocation (trkOf l) sv) := by
  apply Bool.eq_iff_iff.2
  rw [Bool.or_eq_true, isEquivL_iff, isEquivL_iff, ← trkOf_equiv_iff, ← trkOf_equiv_iff, trkOf_append,
    addVote_equiv_iff]

theorem voteWeight_nil (ws : List Nat) (ph : Bool) : voteWeight ws [] ph = 0 :=
  (wsum_eq ws _).trans (WSum.wsum_false ..)

/-- the bookkeeping `r` is what the votes of `ops` say.  `cum` speaks of a voter's FIRST vote (`firstGE`), because only that
reaches the vote graph; the paper counts any vote (`votesGE`), and the two weigh the same since a voter with a second,
different vote is an equivocator and counts for every block (`equiv_or_votesGE`).  The two masks are described bit
`bitPos v (phN ph)` by bit, which is every bit (`pos_as_bitPos`). -/
structure BookInv (t : Tree) (ws : List Nat) (ops : List Op) (r : Round) : Prop where
  trk : ∀ ph v, r.trk ph v = if v < ws.length then trkOf (votesOf ops ph v) else none
  cur : ∀ ph, r.cur ph = voteWeight ws ops ph
  eqv : ∀ ph v, r.eqv.testBit (bitPos v (phN ph)) = (decide (v < ws.length) && isEquiv ops ph v)
  cum : ∀ B ph v, (r.cum B).testBit (bitPos v (phN ph)) = (decide (v < ws.length) && firstGE t ops ph v B)

theorem bookInv_init (t : Tree) (ws : List Nat) : BookInv t ws [] Round.init := by
  refine ⟨?_, ?_, ?_, ?_⟩
  · intro ph v; simp [Round.init, votesOf, trkOf]
  · intro ph; exact (voteWeight_nil ws ph).symm
  · intro ph v; simp [Round.init, isEquiv, votesOf]
  · intro B ph v; simp [Round.init, firstGE, votesOf]

section
variable (t : Tree) (ops : List Op) (o : Op) (ph : Bool) (v : Nat)

theorem trkOf_votesOf_append : trkOf (votesOf (ops ++ [o]) ph v) =
    if ph = o.ph ∧ v = o.v then (addVote (trkOf (votesOf ops ph v)) o.sv).2 else trkOf (votesOf ops ph v) := by
  rw [votesOf_append, apply_ite trkOf, trkOf_append]

theorem hasVote_append : hasVote (ops ++ [o]) ph v = (hasVote ops ph v || decide (ph = o.ph ∧ v = o.v)) := by
  unfold hasVote
  rw [votesOf_append]
  split <;> simp [*]

theorem isEquiv_append : isEquiv (ops ++ [o]) ph v =
    (isEquiv ops ph v || (decide (ph = o.ph ∧ v = o.v) && firstEquivocation (trkOf (votesOf ops ph v)) o.sv)) := by
  rw [isEquiv_eq, votesOf_append, apply_ite isEquivL, isEquivL_append, ← isEquiv_eq]
  split <;> simp [*]

theorem firstGE_append (B : Nat) : firstGE t (ops ++ [o]) ph v B =
    if (ph = o.ph ∧ v = o.v) ∧ votesOf ops ph v = [] then decide (o.sv.blk < t.size) && t.le B o.sv.blk
    else firstGE t ops ph v B := by
  unfold firstGE
  rw [votesOf_append]
  by_cases hc : ph = o.ph ∧ v = o.v
  · rw [if_pos hc]
    cases votesOf ops ph v <;> simp [hc]
  · rw [if_neg hc, if_neg (fun e => hc e.1)]

end

theorem bookInv_step {t : Tree} {ws : List Nat} {ops : List Op} {r : Round} (inv : BookInv t ws ops r)
    (o : Op) : BookInv t ws (ops ++ [o]) (step t ws r o) := by
  unfold step
  by_cases hv : o.v < ws.length
  · obtain ⟨hT, hC, hE, hG⟩ := importVote_book t ws r o.ph o.v o.sv hv
    have hslot : r.trk o.ph o.v = trkOf (votesOf ops o.ph o.v) := by rw [inv.trk]; simp [hv]
    have hnone : r.trk o.ph o.v = none ↔ votesOf ops o.ph o.v = [] := by rw [hslot]; exact trkOf_none
    have hbit : ∀ {ph v}, ¬ (ph = o.ph ∧ v = o.v) → ¬ bitPos o.v (phN o.ph) = bitPos v (phN ph) := fun hpv => by
      rw [bitPos_inj]; exact fun e => hpv ⟨e.2.symm, e.1.symm⟩
    refine ⟨fun ph v => ?_, fun ph => ?_, fun ph v => ?_, fun B ph v => ?_⟩
    · rw [hT, trkOf_votesOf_append]
      by_cases hpv : ph = o.ph ∧ v = o.v
      · obtain ⟨rfl, rfl⟩ := hpv
        simp only [and_self, if_true, hv, hslot]
      · simp only [hpv, if_false]; exact inv.trk ph v
    · rw [hC]
      dsimp only
      rw [inv.cur, voteWeight, voteWeight]
      by_cases hc : ph = o.ph ∧ r.trk o.ph o.v = none
      · -- the voter's first vote of the phase: its weight is seen now
        obtain ⟨rfl, hn⟩ := hc
        rw [if_pos ⟨rfl, hn⟩]
        refine (wsum_set o.v (fun j hj => ?_) ?_ ?_).symm
        · rw [hasVote_append]; simp [hj]
        · simp [hasVote, hnone.1 hn]
        · rw [hasVote_append]; simp
      · rw [if_neg hc]
        refine wsum_congr fun v _ => ?_
        rw [hasVote_append]
        by_cases hpv : ph = o.ph ∧ v = o.v
        · obtain ⟨rfl, rfl⟩ := hpv
          rw [(hasVote_iff ops o.ph o.v).2 (fun e => hc ⟨rfl, hnone.2 e⟩)]; rfl
        · simp [hpv]
    · rw [hE, isEquiv_append]
      by_cases hpv : ph = o.ph ∧ v = o.v
      · obtain ⟨rfl, rfl⟩ := hpv
        rw [← hslot]
        cases firstEquivocation (r.trk o.ph o.v) o.sv <;> simp [testBit_setBit, inv.eqv, hv]
      · cases firstEquivocation (r.trk o.ph o.v) o.sv <;> simp [testBit_setBit, inv.eqv, hpv, hbit hpv]
    · rw [hG, firstGE_append]
      by_cases hc : r.trk o.ph o.v = none ∧ o.sv.blk < t.size
      · rw [if_pos hc, insert_testBit, inv.cum]
        by_cases hpv : ph = o.ph ∧ v = o.v
        · obtain ⟨rfl, rfl⟩ := hpv
          simp [hnone.1 hc.1, hc.2, hv, firstGE]
        · simp [hpv, hbit hpv]
      · rw [if_neg hc, inv.cum]
        by_cases hpv : ph = o.ph ∧ v = o.v
        · obtain ⟨rfl, rfl⟩ := hpv
          -- the slot was taken already, or the target is outside the tree
          by_cases hn : r.trk o.ph o.v = none
          · have hb : ¬ o.sv.blk < t.size := fun hb => hc ⟨hn, hb⟩
            simp [hnone.1 hn, hb, firstGE]
          · simp [mt hnone.2 hn]
        · simp [hpv]
  · -- not a voter: nothing changes, and the spec side only looks at voters of the set
    rw [importVote_notVoter t ws r o.ph o.v o.sv hv]
    have hne : ∀ ph v, v < ws.length → ¬ (ph = o.ph ∧ v = o.v) := fun _ _ hlt e => hv (e.2 ▸ hlt)
    refine ⟨fun ph v => ?_, fun ph => ?_, fun ph v => ?_, fun B ph v => ?_⟩
    · rw [inv.trk, trkOf_votesOf_append]
      by_cases hlt : v < ws.length
      · simp [hlt, hne ph v hlt]
      · simp [hlt]
    · rw [inv.cur]
      exact wsum_congr fun v hlt => by rw [hasVote_append]; simp [hne ph v hlt]
    · rw [inv.eqv, isEquiv_append]
      by_cases hlt : v < ws.length
      · simp [hlt, hne ph v hlt]
      · simp [hlt]
    · rw [inv.cum, firstGE_append]
      by_cases hlt : v < ws.length
      · simp [hlt, hne ph v hlt]
      · simp [hlt]

theorem bookInv_run (t : Tree) (ws : List Nat) (ops : List Op) : BookInv t ws ops (run t ws ops) :=
  run_induction (fun ops r => BookInv t ws ops r) (bookInv_init t ws)
    (fun _ o h => bookInv_step h o) ops

end Gossamer.C20
