/-
C08: committing the outermost transaction = applying the operations directly (on the key-value
fragment `OpOK0`): first for the specification, then transferred to the model by the simulation.
-/
import Gossamer.Lib.C08SimStep
import Gossamer.Lib.C08Rollback
namespace Gossamer.C08
open Gossamer

/-- the transactional key-value fragment (no child-trie deletion, no prefix clears, no ordered reads).
    On it the side conditions of `StepOK`, which look at the state, hold of every reachable state
    (`safe_of_ok0`, through `NoCKDel`): a hypothesis on the operations alone suffices.  Transaction
    control is allowed because the same predicate serves the history before `start` in
    `commit_direct`; between `start` and `commit` it is excluded there by `isTx op = false`. -/
def OpOK0 (CK : Bytes → Bool) : Op → Prop
  | .put k _ => Logical.isChildKey k = false ∧ CK k = false
  | .del k => Logical.isChildKey k = false ∧ CK k = false
  | .get k => Logical.isChildKey k = false ∧ CK k = false
  | .cput c _ _ => CK c = true
  | .cdel c _ => CK c = true
  | .cget c _ => CK c = true
  | .start => True
  | .commit => True
  | .rollback => True
  | _ => False

theorem ok0_ok {CK : Bytes → Bool} {op : Op} (h : OpOK0 CK op) : OpOK CK op := by
  cases op <;> first | exact h | exact h.elim

/-- no child-trie key is marked deleted in any open transaction (`OpOK0` has no `kill`), so a child
    write never meets a child deleted in its transaction: the state-dependent clause of `StepOK` -/
def NoCKDel (CK : Bytes → Bool) (t : TS Logical) : Prop :=
  ∀ d ∈ t.txs, ∀ k ∈ d.c.deletes, CK k = false

section safe
variable (Hc Hm : Entries → Bytes) (D : Dumper Logical) {CK : Bytes → Bool}

theorem step_noCK (t : TS Logical) (op : Op) (hop : OpOK0 CK op) (h : NoCKDel CK t) :
    NoCKDel CK (stepTS (idealBackend Hc Hm) D Diff.sortedOrder t op).1 := by
  obtain ⟨b, txs⟩ := t
  cases txs with
  | nil =>
    rcases stepTS_nil (idealBackend Hc Hm) D Diff.sortedOrder b op with e | e <;> rw [NoCKDel, e]
    · exact fun _ hd => nomatch hd
    · exact fun d hd _ hk => nomatch List.mem_singleton.mp hd ▸ hk
  | cons d r =>
    obtain ⟨hd, hr⟩ := List.forall_mem_cons.mp h
    have hcons : ∀ d' : Diff, (∀ k ∈ d'.c.deletes, CK k = false) →
        NoCKDel CK ({ base := b, txs := d' :: r } : TS Logical) :=
      fun d' hd' => List.forall_mem_cons.mpr ⟨hd', hr⟩
    cases op
    case put k v | cput c k v => exact hcons _ fun x hx => hd x (KSet.mem_del.mp hx).2
    case del k =>
      refine hcons _ fun x hx => ?_
      rcases KSet.mem_ins.mp hx with rfl | hx
      · exact hop.2
      · exact hd x hx
    case cdel c k => exact hcons _ hd
    case get | cget => exact h
    case start => exact List.forall_mem_cons.mpr ⟨hd, h⟩
    case commit =>
      cases r with
      | nil =>
        simp only [stepTS, commitTS, applyToTrie_ideal]
        exact fun _ hx => nomatch hx
      | cons u r' =>
        exact List.forall_mem_cons.mpr ⟨hd, (List.forall_mem_cons.mp hr).2⟩
    case rollback => exact hr
    all_goals exact hop.elim

theorem safe_of_ok0 (ops : List Op) (hops : ∀ op ∈ ops, OpOK0 CK op) :
    ∀ (t : TS Logical), NoCKDel CK t → SafeRun Hc Hm D CK t ops := by
  induction ops with
  | nil => intro t _; trivial
  | cons op r ih =>
    intro t ht
    have hop := hops op (by simp)
    refine ⟨⟨ok0_ok hop, ?_⟩, ih (fun x hx => hops x (by simp [hx])) _ (step_noCK Hc Hm D t op hop ht)⟩
    cases op <;> try trivial
    -- a child write: the child was not deleted in the transaction, because no child key ever is
    rename_i c k v
    cases htx : t.txs with
    | nil => trivial
    | cons d r' =>
      exact fun hmem => ne_of_true_of_false hop (ht d (htx ▸ List.mem_cons_self ..) c hmem) rfl

end safe

section spec
variable (Hc Hm : Entries → Bytes) {CK : Bytes → Bool}

theorem SS.top_setTop (s : SS) (l : Logical) : (s.setTop l).top = l := by
  unfold SS.setTop SS.top
  cases s.stack <;> rfl

theorem SS.length_setTop (s : SS) (l : Logical) : (s.setTop l).stack.length = s.stack.length := by
  unfold SS.setTop
  cases s.stack <;> rfl

theorem nonTx_setTop (s s' : SS) (h : s.top = s'.top) (f : Logical → Logical) (o : Out) :
    (s.setTop (f s.top), o).2 = (s'.setTop (f s'.top), o).2 ∧
      (s.setTop (f s.top)).top = (s'.setTop (f s'.top)).top ∧
      (s.setTop (f s.top)).stack.length = s.stack.length ∧
      (s'.setTop (f s'.top)).stack.length = s'.stack.length :=
  ⟨rfl, by rw [SS.top_setTop, SS.top_setTop, h], SS.length_setTop _ _, SS.length_setTop _ _⟩

/-- on the fragment, an operation other than start/commit/rollback reads and writes only the
    current storage (`top`) -/
theorem spec_nonTx (s s' : SS) (h : s.top = s'.top) (op : Op) (hop : OpOK0 CK op)
    (hp : isTx op = false) :
    (specStep Hc Hm s op).2 = (specStep Hc Hm s' op).2 ∧
      (specStep Hc Hm s op).1.top = (specStep Hc Hm s' op).1.top ∧
      (specStep Hc Hm s op).1.stack.length = s.stack.length ∧
      (specStep Hc Hm s' op).1.stack.length = s'.stack.length := by
  cases op
  case put k v =>
    rw [spec_put Hc Hm s v hop.1, spec_put Hc Hm s' v hop.1]
    exact nonTx_setTop s s' h (fun l => { l with main := OMap.upsert k (v.getD []) l.main }) _
  case del k =>
    rw [spec_del Hc Hm s hop.1, spec_del Hc Hm s' hop.1]
    exact nonTx_setTop s s' h (fun l => { l with main := OMap.erase k l.main }) _
  case cput c k v => exact nonTx_setTop s s' h (fun l => Logical.putIntoChild l c k v) _
  case cdel c k =>
    exact nonTx_setTop s s' h (fun l => Logical.setKid l c (OMap.erase k (kidOf l c))) _
  case get k =>
    refine ⟨congrArg Out.val ?_, h, rfl, rfl⟩
    rw [mainView_get Hc s k hop.1, mainView_get Hc s' k hop.1, h]
  case cget c k => exact ⟨congrArg (fun l => Out.val (OMap.get k (kidOf l c))) h, h, rfl, rfl⟩
  case start | commit | rollback => cases hp
  all_goals exact hop.elim

theorem spec_nonTx_run (xs : List Op) (hops : ∀ op ∈ xs, OpOK0 CK op)
    (hp : ∀ op ∈ xs, isTx op = false) :
    ∀ (s s' : SS), s.top = s'.top →
      (specRun Hc Hm s xs).2 = (specRun Hc Hm s' xs).2 ∧
      (specRun Hc Hm s xs).1.top = (specRun Hc Hm s' xs).1.top ∧
      (specRun Hc Hm s xs).1.stack.length = s.stack.length ∧
      (specRun Hc Hm s' xs).1.stack.length = s'.stack.length := by
  induction xs with
  | nil => intro s s' h; exact ⟨rfl, h, rfl, rfl⟩
  | cons op r ih =>
    intro s s' h
    obtain ⟨h1, h2, h3, h4⟩ := spec_nonTx Hc Hm s s' h op (hops op (by simp)) (hp op (by simp))
    obtain ⟨g1, g2, g3, g4⟩ := ih (fun x hx => hops x (by simp [hx])) (fun x hx => hp x (by simp [hx]))
      _ _ h2
    simp only [specRun]
    exact ⟨by rw [h1, g1], g2, by rw [g3, h3], by rw [g4, h4]⟩

theorem specRun_append (s : SS) (l1 l2 : List Op) :
    (specRun Hc Hm s (l1 ++ l2)).1 = (specRun Hc Hm (specRun Hc Hm s l1).1 l2).1 := by
  induction l1 generalizing s with
  | nil => rfl
  | cons o r ih => simp only [List.cons_append, specRun]; exact ih _

theorem spec_commit_direct (b : Logical) (xs : List Op) (hops : ∀ op ∈ xs, OpOK0 CK op)
    (hp : ∀ op ∈ xs, isTx op = false) :
    (specRun Hc Hm { back := b, stack := [] } ([Op.start] ++ xs ++ [Op.commit])).1 =
      (specRun Hc Hm { back := b, stack := [] } xs).1 := by
  rw [specRun_append, specRun_append]
  have hs : (specRun Hc Hm { back := b, stack := [] } [Op.start]).1 = { back := b, stack := [b] } := rfl
  rw [hs]
  obtain ⟨_, g2, g3, g4⟩ := spec_nonTx_run Hc Hm xs hops hp { back := b, stack := [b] }
    { back := b, stack := [] } rfl
  generalize specRun Hc Hm { back := b, stack := [b] } xs = ra at g2 g3
  generalize specRun Hc Hm { back := b, stack := [] } xs = rb at g2 g4
  obtain ⟨⟨ab, as⟩, _⟩ := ra
  obtain ⟨⟨bb, bs⟩, _⟩ := rb
  simp only [List.length_cons, List.length_nil] at g3 g4
  match as, g3 with
  | [l], _ =>
    match bs, g4 with
    | [], _ =>
      simp only [SS.top, List.head?_cons, Option.getD_some, List.head?_nil, Option.getD_none] at g2
      simp only [specRun, specStep]
      rw [g2]

end spec

section model
variable (Hc Hm : Entries → Bytes) (D : Dumper Logical) {CK : Bytes → Bool}

theorem Sim.unique_nil {t1 t2 : TS Logical} {s : SS} (h1 : Sim CK t1 s) (h2 : Sim CK t2 s)
    (h0 : s.stack = []) : t1 = t2 := by
  obtain ⟨b1, x1⟩ := t1
  obtain ⟨b2, x2⟩ := t2
  have e : b1 = b2 := h1.back.symm.trans h2.back
  have n1 : x1 = [] :=
    List.length_eq_zero_iff.mp (h1.stack.length_eq.trans (congrArg List.length h0))
  have n2 : x2 = [] :=
    List.length_eq_zero_iff.mp (h2.stack.length_eq.trans (congrArg List.length h0))
  rw [e, n1, n2]

/-- model over the ideal trie: from any state reached on the fragment with no transaction open,
    `start ++ xs ++ commit` leaves exactly the state that `xs` applied directly leaves -/
theorem commit_direct {t : TS Logical} {s : SS} (h : Sim CK t s) (hd0 : t.txs = [])
    (xs : List Op) (hops : ∀ op ∈ xs, OpOK0 CK op) (hp : ∀ op ∈ xs, isTx op = false) :
    (runTS (idealBackend Hc Hm) D Diff.sortedOrder t ([Op.start] ++ xs ++ [Op.commit])).1 =
      (runTS (idealBackend Hc Hm) D Diff.sortedOrder t xs).1 := by
  have hall : ∀ op ∈ [Op.start] ++ xs ++ [Op.commit], OpOK0 CK op := by
    intro op hop
    simp only [List.mem_append, List.mem_singleton] at hop
    rcases hop with (rfl | hop) | rfl
    · trivial
    · exact hops op hop
    · trivial
  have hno : NoCKDel CK t := fun d hd => by rw [hd0] at hd; cases hd
  have hs : s = { back := t.base, stack := [] } := by
    obtain ⟨sb, ss⟩ := s
    have hl : ss.length = 0 := h.stack.length_eq.symm.trans (congrArg List.length hd0)
    rw [show sb = t.base from h.back, List.length_eq_zero_iff.mp hl]
  have h1 := (sim_run Hc Hm D h _ (safe_of_ok0 Hc Hm D _ hall t hno)).1
  have h2 := (sim_run Hc Hm D h _ (safe_of_ok0 Hc Hm D _ hops t hno)).1
  rw [hs, spec_commit_direct Hc Hm t.base xs hops hp] at h1
  rw [hs] at h2
  exact h1.unique_nil h2 (List.length_eq_zero_iff.mp
    (spec_nonTx_run Hc Hm xs hops hp _ { back := t.base, stack := [] } rfl).2.2.1)

end model

end Gossamer.C08
