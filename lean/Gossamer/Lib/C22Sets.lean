/-
Executions of the abstract protocol that span several authority sets.

Votes are signed with a set id, so the votes of different sets are disjoint histories; set `s` has its own
voter set `P.vs s` (weights, its own Byzantine members; a key that is not in `(P.vs s).ids` weighs nothing in
set `s` whatever it sends — a retired authority that keeps voting is outside every budget).  The state of
the whole system is one protocol state per set id; a step is a step of the single-set protocol in one set.

What joins consecutive sets is the HANDOVER block `P.limit s` (the block that enacts the change from set s
to set s+1).  Assumed honest behaviour, beyond the single-set rules (`okVote`, required of PRECOMMITS only):
  cap     a precommit of set s never lies strictly above `limit s` (voters cap their votes at the pending
          change: determinePreCommit → NextGrandpaAuthorityChange in lib/grandpa);
  base    a precommit of set s+1 descends from `limit s`, and is cast only when `limit s` has a supermajority of
          the precommits of some round of set s (a voter enters set s+1 by finalising the handover block).
Prevotes need not obey either rule (lib/grandpa's determinePreVote asks for the pending change on the chain of
its BEST block, so a primary's block on another chain is copied uncapped).
Assumed of the parameters: the handover blocks lie on one chain, `limit s ≤ limit (s+1)`.
-/
import Gossamer.Lib.C22Inv
namespace Gossamer.C22

section
variable {B : Type} [DecidableEq B]

theorem Step.sent_mono {vs : Voters} {O : BlockOrder B} {s t : State B} (h : Step vs O s t) :
    ∀ m, m ∈ s.sent → m ∈ t.sent := by
  intro m hm
  cases h with
  | byzCast _ _ => exact List.mem_cons_of_mem _ hm
  | drop _ => exact hm
  | dup _ _ => exact hm
  | reorder _ _ => exact hm
  | deliver _ _ _ => exact hm
  | prevote _ _ _ _ _ => exact List.mem_cons_of_mem _ hm
  | precommit _ _ _ _ _ _ => exact List.mem_cons_of_mem _ hm
  | advance _ _ _ _ _ => exact hm
  | finalise _ _ _ _ _ => exact hm

structure SetParams (B : Type) where
  vs : Nat → Voters
  limit : Nat → B

abbrev MState (B : Type) := Nat → State B

/-- the rules `cap` and `base` of the file header -/
def okVote (P : SetParams B) (O : BlockOrder B) (σ : MState B) (s : Nat) (b : B) : Prop :=
  (O.le (P.limit s) b = true → O.le b (P.limit s) = true) ∧
  ∀ p, p + 1 = s → O.le (P.limit p) b = true ∧
    ∃ r, hasSuper (P.vs p) O (votesOf (σ p).sent r .precommit) (P.limit p)

inductive MStep (P : SetParams B) (O : BlockOrder B) : MState B → MState B → Prop
  | mk (σ : MState B) (s : Nat) (t : State B) : Step (P.vs s) O (σ s) t →
      (∀ m, m ∈ t.sent → m ∉ (σ s).sent → (P.vs s).honest m.voter → m.stage = .precommit →
        okVote P O σ s m.block) →
      MStep P O σ (upd σ s t)

inductive MReachable (P : SetParams B) (O : BlockOrder B) : MState B → Prop
  | init : MReachable P O (fun _ => State.init)
  | step (σ τ : MState B) : MReachable P O σ → MStep P O σ τ → MReachable P O τ

structure MInv (P : SetParams B) (O : BlockOrder B) (σ : MState B) : Prop where
  inv : ∀ s, Inv (P.vs s) O (σ s)
  ok : ∀ s m, m ∈ (σ s).sent → (P.vs s).honest m.voter → m.stage = .precommit → okVote P O σ s m.block

variable {P : SetParams B} {O : BlockOrder B}

theorem okVote_lift {σ τ : MState B} (hsub : ∀ p m, m ∈ (σ p).sent → m ∈ (τ p).sent) (s : Nat) (b : B)
    (h : okVote P O σ s b) : okVote P O τ s b := by
  refine ⟨h.1, ?_⟩
  intro p hp
  have ⟨h1, r, hr⟩ := h.2 p hp
  exact ⟨h1, r, hasSuper_mono (P.vs p) O (votesOf_sub (hsub p) r .precommit) _ hr⟩

theorem MInv.init : MInv P O (fun _ => (State.init : State B)) where
  inv := fun _ => Inv.init
  ok := fun _ _ h => by simp [State.init] at h

theorem MInv.step {σ τ : MState B} (I : MInv P O σ) (h : MStep P O σ τ) : MInv P O τ := by
  cases h with
  | mk s t hst hguard =>
    have hsub : ∀ p m, m ∈ (σ p).sent → m ∈ (upd σ s t p).sent := by
      intro p m hm
      by_cases hp : p = s
      · subst hp; rw [upd_self]; exact hst.sent_mono m hm
      · rw [upd_of_ne _ _ hp]; exact hm
    constructor
    · intro s'
      by_cases hs : s' = s
      · subst hs; rw [upd_self]; exact (I.inv s').step hst
      · rw [upd_of_ne _ _ hs]; exact I.inv s'
    · intro s' m hm hv hst'
      apply okVote_lift hsub
      by_cases hs : s' = s
      · subst hs
        rw [upd_self] at hm
        rcases Classical.em (m ∈ (σ s').sent) with hold | hnew
        · exact I.ok s' m hold hv hst'
        · exact hguard m hm hnew hv hst'
      · rw [upd_of_ne _ _ hs] at hm
        exact I.ok s' m hm hv hst'

theorem MReachable.minv {σ : MState B} (h : MReachable P O σ) : MInv P O σ := by
  induction h with
  | init => exact MInv.init
  | step σ τ _ hst ih => exact ih.step hst

theorem MReachable.of_set0 {t : State B} (h : Reachable (P.vs 0) O t)
    (hcap : ∀ m ∈ t.sent, O.le (P.limit 0) m.block = true → O.le m.block (P.limit 0) = true) :
    MReachable P O (upd (fun _ => State.init) 0 t) := by
  induction h with
  | init =>
    have : upd (fun _ => (State.init : State B)) 0 State.init = fun _ => State.init := by
      funext u; unfold upd; split <;> rfl
    rw [this]; exact .init
  | step s t _ hst ih =>
    have := MStep.mk (P := P) (O := O) (upd (fun _ => State.init) 0 s) 0 t hst
      (fun m hm _ _ _ => ⟨hcap m hm, fun p hp => absurd hp (Nat.succ_ne_zero p)⟩)
    have e : upd (upd (fun _ => (State.init : State B)) 0 s) 0 t = upd (fun _ => State.init) 0 t := by
      funext u; unfold upd; split <;> rfl
    rw [e] at this
    exact .step _ _ (ih fun m hm => hcap m (hst.sent_mono m hm)) this

omit [DecidableEq B] in
theorem limit_mono (hlim : ∀ s, O.le (P.limit s) (P.limit (s + 1)) = true) {s t : Nat} (h : s ≤ t) :
    O.le (P.limit s) (P.limit t) = true := by
  induction h with
  | refl => exact O.refl _
  | step _ ih => exact O.trans _ _ _ ih (hlim _)

theorem MInv.handover {σ : MState B} (I : MInv P O σ) (s1 : Nat) :
    ∀ d s2, s2 = s1 + d + 1 → (∀ k, s1 < k → k < s2 → (P.vs k).minority) →
      (∃ m, m ∈ (σ s2).sent ∧ (P.vs s2).honest m.voter ∧ m.stage = .precommit) →
      ∃ r, hasSuper (P.vs s1) O (votesOf (σ s1).sent r .precommit) (P.limit s1) := by
  intro d
  induction d with
  | zero =>
    intro s2 hs2 _ ⟨m, hm, hv, hst⟩
    exact ((I.ok s2 m hm hv hst).2 s1 (by omega)).2
  | succ d ih =>
    intro s2 hs2 hmin ⟨m, hm, hv, hst⟩
    -- the handover block of the set before got its supermajority from an honest precommit of that set
    have ⟨_, r, hr⟩ := (I.ok s2 m hm hv hst).2 (s1 + d + 1) (by omega)
    have ⟨v, c, hvh, hvc, _⟩ := (I.inv (s1 + d + 1)).hist.honest_vote (hmin (s1 + d + 1) (by omega) (by omega)) hr
    exact ih (s1 + d + 1) rfl (fun k h1 h2 => hmin k h1 (by omega)) ⟨_, hvc, hvh, rfl⟩

theorem MInv.safe {σ : MState B} (I : MInv P O σ)
    (hlim : ∀ s, O.le (P.limit s) (P.limit (s + 1)) = true)
    (s1 s2 r1 r2 : Nat) (b1 b2 : B) (hle : s1 ≤ s2)
    (hmin : ∀ k, s1 ≤ k → k ≤ s2 → (P.vs k).minority)
    (h1 : hasSuper (P.vs s1) O (votesOf (σ s1).sent r1 .precommit) b1)
    (h2 : hasSuper (P.vs s2) O (votesOf (σ s2).sent r2 .precommit) b2) : O.comparable b1 b2 := by
  have hm1 := hmin s1 (Nat.le_refl _) hle
  rcases Nat.eq_or_lt_of_le hle with rfl | hlt
  · exact (I.inv s1).hist.safe hm1 r1 r2 b1 b2 h1 h2
  obtain ⟨p, rfl⟩ : ∃ p, s2 = p + 1 := ⟨s2 - 1, by omega⟩
  -- an honest precommit of set s2 above b2
  have ⟨v2, c2, hv2, hvc2, hb2⟩ := (I.inv (p + 1)).hist.honest_vote (hmin _ hle (Nat.le_refl _)) h2
  -- the handover block of set s1 was finalisable in set s1
  have ⟨r, hr⟩ := I.handover s1 (p - s1) (p + 1) (by omega)
    (fun k h1 h2 => hmin k (Nat.le_of_lt h1) (Nat.le_of_lt h2)) ⟨_, hvc2, hv2, rfl⟩
  -- … so b1 is below it: it is comparable, and honest precommits of set s1 are capped at it
  have hb1 : O.le b1 (P.limit s1) = true := by
    rcases (I.inv s1).hist.safe hm1 r1 r b1 _ h1 hr with h | h
    · exact h
    · have ⟨v1, c1, hv1, hvc1, hbc1⟩ := (I.inv s1).hist.honest_vote hm1 h1
      exact O.trans _ _ _ hbc1 ((I.ok s1 _ hvc1 hv1 rfl).1 (O.trans _ _ _ h hbc1))
  -- and the precommit of set s2 is above the handover block of set s2-1, hence of set s1
  have hbase := ((I.ok (p + 1) _ hvc2 hv2 rfl).2 p rfl).1
  exact O.chain b1 b2 c2
    (O.trans _ _ _ hb1 (O.trans _ _ _ (limit_mono hlim (Nat.le_of_lt_succ hlt)) hbase)) hb2

end

end Gossamer.C22
