/-
C20 layer (b), proofs: the round on the compressed graph (`RoundC`) and the round of the model (`Round`) keep
the same bookkeeping; the graph of `RoundC` is `graphOf` of the inserted votes and the `cum` of `Round` is
their uncompressed cumulative vote.
-/
import Gossamer.Lib.C20GraphInsert
import Gossamer.Lib.C20Derived
namespace Gossamer.C20

variable {t : Tree}

theorem updateC_eq (key : Nat → Nat) (t : Tree) (ws : List Nat) (r : RoundC) :
    updateC key t ws r = { r with fin := (updateC key t ws r).fin, est := (updateC key t ws r).est,
                                  compl := (updateC key t ws r).compl } := by
  unfold updateC
  simp only
  split
  · rfl
  · split
    · rfl
    · split <;> rfl

theorem ghostStepC_eq (key : Nat → Nat) (t : Tree) (ws : List Nat) (ph : Bool) (r : RoundC) :
    ∃ g, ghostStepC key t ws ph r = { r with ghost := g } := by
  unfold ghostStepC
  split <;> exact ⟨_, rfl⟩

theorem ghostStepC_book (key : Nat → Nat) (t : Tree) (ws : List Nat) (ph : Bool) (r : RoundC) :
    (ghostStepC key t ws ph r).trk = r.trk ∧ (ghostStepC key t ws ph r).cur = r.cur ∧
    (ghostStepC key t ws ph r).eqv = r.eqv ∧ (ghostStepC key t ws ph r).graph = r.graph := by
  obtain ⟨g, h⟩ := ghostStepC_eq key t ws ph r
  rw [h]; exact ⟨rfl, rfl, rfl, rfl⟩

theorem ghostStepC_compl (key : Nat → Nat) (t : Tree) (ws : List Nat) (ph : Bool) (r : RoundC) :
    (ghostStepC key t ws ph r).compl = r.compl := by
  unfold ghostStepC; split <;> rfl

theorem postC_book (key : Nat → Nat) (t : Tree) (ws : List Nat) (ph : Bool) (r : RoundC) :
    (updateC key t ws (ghostStepC key t ws ph r)).trk = r.trk ∧
    (updateC key t ws (ghostStepC key t ws ph r)).cur = r.cur ∧
    (updateC key t ws (ghostStepC key t ws ph r)).eqv = r.eqv ∧
    (updateC key t ws (ghostStepC key t ws ph r)).graph = r.graph := by
  rw [updateC_eq]; exact ghostStepC_book key t ws ph r

theorem importVoteC_notVoter (key : Nat → Nat) (t : Tree) (ws : List Nat) (r : RoundC) (ph : Bool) (v : Nat)
    (sv : SV) (hv : ¬ v < ws.length) : (importVoteC key t ws r ph v sv).2 = r := by
  have : v ≥ ws.length := by omega
  simp only [importVoteC, this, if_true]

/-- the votes that reach the vote graph while importing `ops`: the first vote of every voter of the set in each
phase, when its target is a block of the tree -/
def insOf (t : Tree) (ws : List Nat) (ops : List Op) : Ins :=
  (ops.foldl (fun (acc : Round × Ins) o =>
    (step t ws acc.1 o,
     if o.v < ws.length ∧ acc.1.trk o.ph o.v = none ∧ o.sv.blk < t.size
     then acc.2 ++ [(o.sv.blk, bitPos o.v (phN o.ph))] else acc.2)) (Round.init, [])).2

theorem foldl_pair_fst {α β γ : Type} (f : α → γ → α) (k : α × β → γ → β) : ∀ (l : List γ) (acc : α × β),
    (l.foldl (fun acc o => (f acc.1 o, k acc o)) acc).1 = l.foldl f acc.1 := by
  intro l
  induction l with
  | nil => intro acc; rfl
  | cons o l ih => intro acc; simp only [List.foldl_cons]; rw [ih]

theorem insOf_append (t : Tree) (ws : List Nat) (ops : List Op) (o : Op) :
    insOf t ws (ops ++ [o]) =
      if o.v < ws.length ∧ (run t ws ops).trk o.ph o.v = none ∧ o.sv.blk < t.size
      then insOf t ws ops ++ [(o.sv.blk, bitPos o.v (phN o.ph))] else insOf t ws ops := by
  unfold insOf
  rw [List.foldl_append]
  simp only [List.foldl_cons, List.foldl_nil]
  rw [foldl_pair_fst (step t ws)]
  rfl

/-- the two rounds after the same history `ops`: the model's `cum` and the compressed graph are both determined by the
votes that reached the graph (`insOf`) -/
structure BookSim (key : Nat → Nat) (t : Tree) (ws : List Nat) (ops : List Op) (r : Round) (rc : RoundC) :
    Prop where
  trk : rc.trk = r.trk
  cur : rc.cur = r.cur
  eqv : rc.eqv = r.eqv
  cum : r.cum = cumOf t (insOf t ws ops)
  graph : rc.graph = graphOf key t (insOf t ws ops)
  valid : ∀ p, p ∈ insOf t ws ops → p.1 < t.size

theorem runC_append (key : Nat → Nat) (t : Tree) (ws : List Nat) (ops : List Op) (o : Op) :
    runC key t ws (ops ++ [o]) = stepC key t ws (runC key t ws ops) o := by
  simp [runC, List.foldl_append]

theorem BookSim.of_ins {key : Nat → Nat} {ops ops' : List Op} {r r' : Round} {rc rc' : RoundC}
    (hs : BookSim key t ws ops r rc) (e : insOf t ws ops' = insOf t ws ops)
    (h1 : rc'.trk = r'.trk) (h2 : rc'.cur = r'.cur) (h3 : rc'.eqv = r'.eqv) (h4 : r'.cum = r.cum)
    (h5 : rc'.graph = rc.graph) : BookSim key t ws ops' r' rc' :=
  ⟨h1, h2, h3, by rw [h4, e]; exact hs.cum, by rw [h5, e]; exact hs.graph, by rw [e]; exact hs.valid⟩

theorem BookSim.post {key : Nat → Nat} {ops : List Op} {r : Round} {rc : RoundC} (ph : Bool)
    (hs : BookSim key t ws ops r rc) :
    BookSim key t ws ops (update t ws (ghostStep t ws ph r)) (updateC key t ws (ghostStepC key t ws ph rc)) := by
  obtain ⟨a1, a2, a3, a4⟩ := post_book t ws ph r
  obtain ⟨b1, b2, b3, b4⟩ := postC_book key t ws ph rc
  exact ⟨by rw [a1, b1]; exact hs.trk, by rw [a2, b2]; exact hs.cur, by rw [a3, b3]; exact hs.eqv,
    by rw [a4]; exact hs.cum, by rw [b4]; exact hs.graph, hs.valid⟩

theorem bookSim_run (key : Nat → Nat) (t : Tree) (ws : List Nat) : ∀ ops,
    BookSim key t ws ops (run t ws ops) (runC key t ws ops) := by
  apply snoc_induction
  · exact ⟨rfl, rfl, rfl, rfl, rfl, fun p hp => absurd hp List.not_mem_nil⟩
  · intro pre o hs
    have hins := insOf_append t ws pre o
    rw [run_append, runC_append]
    refine import_lockstep key (BookSim key t ws (pre ++ [o])) hs.trk o.ph o.v o.sv ?_ ?_ ?_ ?_
    · -- nothing new (non-voter, duplicate, further equivocation)
      intro hne
      rw [if_neg (fun hh => (hne hh.1).1 hh.2.1)] at hins
      exact hs.of_ins hins hs.trk hs.cur hs.eqv rfl rfl
    · -- first vote, target outside the tree: tracked, not inserted
      intro hv hn hb
      rw [if_neg (fun hh => hb hh.2.2)] at hins
      exact hs.of_ins hins rfl (by rw [hs.cur]) hs.eqv rfl rfl
    · -- first vote: inserted
      intro hv hn hb
      rw [if_pos ⟨hv, hn, hb⟩] at hins
      refine BookSim.post o.ph ⟨rfl, by rw [hs.cur], hs.eqv, ?_, ?_, ?_⟩
      · rw [hins, cumOf_append, ← hs.cum]
      · rw [hins, graphOf_append, ← hs.graph]
      · rw [hins]
        exact List.forall_mem_append.2 ⟨hs.valid, List.forall_mem_singleton.2 hb⟩
    · -- first equivocation
      intro a hv hn _
      rw [if_neg (fun hh => by rw [hn] at hh; cases hh.2.1)] at hins
      exact BookSim.post o.ph (hs.of_ins hins rfl hs.cur (by rw [hs.eqv]) rfl rfl)

theorem runC_inv (h : t.WF) (key : Nat → Nat) (ws : List Nat) (ops : List Op) :
    GInv t (insOf t ws ops) (runC key t ws ops).graph :=
  (bookSim_run key t ws ops).graph ▸ graphOf_inv h key _ (bookSim_run key t ws ops).valid

end Gossamer.C20
