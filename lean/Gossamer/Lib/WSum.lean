/-
Weighted sums over a list of voters: `wsum w p l` is the weight of the members of `l` that satisfy `p`.  The GRANDPA
models each keep their own sum (it mirrors the code: C19 lists id/weight pairs, C20 weights by position, C22 ids beside
a weight function) and tie it to `wsum` by one equation (`C19.wsum_eq`, `C20.wsum_eq`, `C22.Voters.weight_eq`).

Quorum intersection, `meet`, is stated without a threshold: two predicates that together outweigh the whole list and `z`
share a member outside `z`.  The models compare with different thresholds (more than two thirds in C22,
`total - ⌊(total-1)/3⌋` in C19 and C20); each states its threshold once in the linear form "more than two thirds" /
"less than one third" (`wsum_super`, `wsum_tol` in C19 and C20) and calls `meet_of_super`.  From the witness a model
concludes that two blocks with a supermajority lie on one chain: a voter that is no equivocator and counts for both has
one vote above both.
-/
namespace Gossamer.WSum

variable {α : Type} {w : α → Nat} {p q a b z : α → Bool} {l : List α}

def wsum (w : α → Nat) (p : α → Bool) : List α → Nat
  | [] => 0
  | v :: l => (if p v then w v else 0) + wsum w p l

theorem wsum_mono (h : ∀ v ∈ l, p v = true → q v = true) : wsum w p l ≤ wsum w q l := by
  induction l with
  | nil => exact Nat.le_refl 0
  | cons v l ih =>
    refine Nat.add_le_add ?_ (ih fun u hu => h u (List.mem_cons_of_mem v hu))
    cases hp : p v
    · exact Nat.zero_le _
    · rw [h v List.mem_cons_self hp]; exact Nat.le_refl _

theorem wsum_congr (h : ∀ v ∈ l, p v = q v) : wsum w p l = wsum w q l :=
  Nat.le_antisymm (wsum_mono fun v hv hp => (h v hv).symm.trans hp) (wsum_mono fun v hv hq => (h v hv).trans hq)

theorem wsum_or_and (w : α → Nat) (p q : α → Bool) (l : List α) :
    wsum w (fun v => p v || q v) l + wsum w (fun v => p v && q v) l = wsum w p l + wsum w q l := by
  induction l with
  | nil => rfl
  | cons v l ih =>
    have : (if (p v || q v) then w v else 0) + (if (p v && q v) then w v else 0) =
        (if p v then w v else 0) + (if q v then w v else 0) := by
      cases p v <;> cases q v <;> simp
    simp only [wsum]
    omega

abbrev total (w : α → Nat) (l : List α) : Nat := wsum w (fun _ => true) l

theorem wsum_le_total (w : α → Nat) (p : α → Bool) (l : List α) : wsum w p l ≤ total w l :=
  wsum_mono fun _ _ _ => rfl

theorem wsum_false (w : α → Nat) (l : List α) : wsum w (fun _ => false) l = 0 := by
  induction l with
  | nil => rfl
  | cons v l ih => exact (Nat.zero_add _).trans ih

theorem wsum_split (h : ∀ v ∈ l, q v = true → p v = true) :
    wsum w p l = wsum w q l + wsum w (fun v => p v && !q v) l := by
  have h1 := wsum_or_and w q (fun v => p v && !q v) l
  rw [wsum_congr (q := p) fun v hv => by cases hq : q v <;> simp [h v hv, hq],
    wsum_congr (q := fun _ => false) (p := fun v => q v && (p v && !q v)) fun v _ => by cases q v <;> simp,
    wsum_false] at h1
  exact h1

theorem exists_of_wsum_lt (h : wsum w z l < wsum w a l) : ∃ v ∈ l, a v = true ∧ z v = false :=
  Classical.byContradiction fun hn => Nat.not_le.2 h <| wsum_mono fun v hv ha =>
    Classical.byContradiction fun hz => hn ⟨v, hv, ha, Bool.eq_false_iff.2 hz⟩

theorem meet (h : wsum w z l + total w l < wsum w a l + wsum w b l) :
    ∃ v ∈ l, a v = true ∧ b v = true ∧ z v = false := by
  have h1 := wsum_or_and w a b l
  have h2 := wsum_le_total w (fun v => a v || b v) l
  have ⟨v, hv, hab, hz⟩ := exists_of_wsum_lt (w := w) (l := l) (z := z) (a := fun v => a v && b v) (by omega)
  exact ⟨v, hv, (Bool.and_eq_true_iff.1 hab).1, (Bool.and_eq_true_iff.1 hab).2, hz⟩

theorem meet_of_super (hz : 3 * wsum w z l < total w l) (ha : 2 * total w l < 3 * wsum w a l)
    (hb : 2 * total w l < 3 * wsum w b l) : ∃ v ∈ l, a v = true ∧ b v = true ∧ z v = false :=
  meet (w := w) (by omega)

theorem exists_of_super (hz : 3 * wsum w z l < total w l) (ha : 2 * total w l < 3 * wsum w a l) :
    ∃ v ∈ l, a v = true ∧ z v = false :=
  exists_of_wsum_lt (w := w) (by omega)

end Gossamer.WSum
