/-
Every operation of a well-behaved guest (`OpOk`) preserves the invariant.  A guest store and a growth leave
the ghost alone.  `Allocate` and `Deallocate` each move one block in two steps, between which it is carved
but neither on a free list nor live (`Limbo`): off a free list or out of the bump region, then to the live
allocations (`unlink` / `carve`, `handout`); off the live allocations, then onto a free list (`retire`,
`link`).  `alloc_sim`, `free_sim` compose the moves along the exits of the two functions and also say which
single header word was written.
-/
import Gossamer.Lib.C28Inv
namespace Gossamer.C28
variable {S : Store}

/-- what a well-behaved guest may do (no ghost state involved).
    `free`: a pointer it holds -- or any pointer in front of which there is NO well-formed occupied header
    (that call fails and poisons; a forged header is the inherent limitation of the design).
    `poke`: below the ALIGNED heap base (`newAlloc` rounds the base it is given up to a multiple of 8; the
    bytes in between are the guest's), above the bumper, or inside a payload it holds. -/
def OpOk (r : Run S) : Op → Prop
  | .alloc _ => True
  | .free p => (∃ o, (p, o) ∈ r.live) ∨ ¬ OccAt r.m p
  | .poke a _ => a + 8 ≤ r.s.base ∨ r.s.bumper ≤ a ∨ ∃ e ∈ r.live, e.1 ≤ a ∧ a + 8 ≤ e.1 + osize e.2
  | .grow _ => True

theorem poke_hdr_sep {r : Run S} {g : Ghost} (hG : Geo r g) {a v : Nat} (hok : OpOk r (.poke a v))
    {b : Nat × Nat} (hb : b ∈ g.blocks) : b.1 + 8 ≤ a ∨ a + 8 ≤ b.1 := by
  rcases hok with h | h | ⟨e, he, h1, h2⟩
  · exact Or.inr (Nat.le_trans h (blk_base hG hb))
  · exact Or.inl (Nat.le_trans (Nat.le_trans (Nat.add_le_add_left (by decide) _) (blk_below hG hb)) h)
  · obtain ⟨e8, eb⟩ := hG.live_blk e he
    by_cases hh : b.1 = e.1 - 8
    · exact Or.inl (by rw [hh, Nat.sub_add_cancel e8]; exact h1)
    · have hd := blk_sep hG hb eb hh
      have := bend_ge16 b
      unfold Disj at hd
      rw [bend_live e8] at hd
      omega

theorem inv_poke (hS : S.Lawful) {r : Run S} {g : Ghost} (hI : Inv r g) (a v : Nat)
    (hok : OpOk r (.poke a v)) : Inv (r.step (.poke a v)).1 g := by
  obtain ⟨hG, hH⟩ := hI
  rw [step_poke]
  split
  · refine ⟨Geo_transfer hG rfl rfl rfl (Nat.le_refl _) hG.live_blk hG.live_nodup, fun hp => ?_⟩
    have hH := hH hp
    exact ⟨fun e he => (le64_put64_other hS _ _ _ _ (poke_hdr_sep hG hok (hG.live_blk e he).2)).trans
        (hH.live_hdr e he),
      fun o ho => Chain_put64 hS v (fun x hx => poke_hdr_sep hG hok (hH.fl_blk o ho x hx).1)
        (hH.chain o ho),
      hH.fl_blk, hH.fl_nodup, hH.freed⟩
  · exact ⟨hG, hH⟩

theorem inv_grow {r : Run S} {g : Ghost} (hI : Inv r g) (d : Nat) : Inv (r.step (.grow d)).1 g := by
  obtain ⟨hG, hH⟩ := hI
  rw [step_grow]
  split
  · exact ⟨Geo_transfer hG rfl rfl rfl (Nat.mul_le_mul_left _ (Nat.le_add_right _ _)) hG.live_blk hG.live_nodup,
      fun hp => ⟨(hH hp).live_hdr, (hH hp).chain, (hH hp).fl_blk, (hH hp).fl_nodup, (hH hp).freed⟩⟩
  · exact ⟨hG, hH⟩

/-! Each move is a theorem `good_<move>`: it keeps the invariant of a state that is not poisoned (`Good`),
for every allocator state `s'` that has the heads, base and bumper the move leaves (the statistics are
free). -/

structure Good (r : Run S) (g : Ghost) : Prop where
  geo : Geo r g
  heap : Heap r g

theorem Good.inv {r : Run S} {g : Ghost} (h : Good r g) : Inv r g := ⟨h.geo, fun _ => h.heap⟩

/-- between the two stores of a call: the block at `c` is carved, on no free list and not live -/
structure Limbo (live : List (Nat × Nat)) (g : Ghost) (c o : Nat) : Prop where
  blk : (c, o) ∈ g.blocks
  off_lists : ∀ i, i < 23 → c ∉ g.fl i
  not_live : ∀ e ∈ live, e.1 ≠ c + 8

def Ghost.setFl (g : Ghost) (o : Nat) (l : List Nat) : Ghost :=
  { g with fl := fun i => if i = o then l else g.fl i }

theorem Ghost.fl_setFl (g : Ghost) (o : Nat) (l : List Nat) (i : Nat) :
    (g.setFl o l).fl i = if i = o then l else g.fl i := rfl

/-- the two stores of the allocator (`handout`, `link`) go into the header word of a block in limbo; this and
    `limbo_chain` are their frame -/
theorem limbo_live_hdr (hS : S.Lawful) {r : Run S} {g : Ghost} (hI : Good r g) {c o : Nat}
    (hL : Limbo r.live g c o) (v : Nat) {e : Nat × Nat} (he : e ∈ r.live) :
    le64 (put64 r.m.bytes c v) (e.1 - 8) = OCC + e.2 := by
  obtain ⟨e8, eb⟩ := hI.geo.live_blk e he
  rw [le64_put64_other hS _ _ _ _
    (hdr_sep hI.geo eb hL.blk (fun h => hL.not_live e he ((Nat.sub_eq_iff_eq_add e8).mp h)))]
  exact hI.heap.live_hdr e he

theorem limbo_chain (hS : S.Lawful) {r : Run S} {g : Ghost} (hI : Good r g) {c o : Nat}
    (hL : Limbo r.live g c o) (v : Nat) {i : Nat} (hi : i < 23) :
    Chain (put64 r.m.bytes c v) (r.s.heads i) (g.fl i) :=
  Chain_put64 hS v (fun x hx => hdr_sep hI.geo (hI.heap.fl_blk i hi x hx).1 hL.blk
    (fun (e : x = c) => hL.off_lists i hi (e ▸ hx))) (hI.heap.chain i hi)

/-- `Allocate`, free list not empty; `freed` loses the pointer that is handed out -/
theorem good_unlink {r : Run S} {g : Ghost} (hI : Good r g) {o next : Nat} (ho : o < 23)
    (hne : r.s.heads o ≠ NIL)
    (hrd : readHeader r.m (r.s.heads o) = .ok (.free next))
    {s' : St} (hb : s'.base = r.s.base) (hbu : s'.bumper = r.s.bumper)
    (hh : s'.heads = setHead r.s.heads o next) :
    ∃ rest, Good { r with s := s', freed := r.freed.filter (· ≠ r.s.heads o + 8) } (g.setFl o rest) ∧
      Limbo r.live (g.setFl o rest) (r.s.heads o) o := by
  obtain ⟨hG, hH⟩ := hI
  obtain ⟨rest, hfl, hlt, hch⟩ := Chain_cons_of_ne_nil (hH.chain o ho) hne
  obtain ⟨hlb, hlive⟩ := hH.fl_blk o ho _ (hfl ▸ List.mem_cons_self ..)
  rw [readHeader_free_of_lt r.m _ (Nat.le_trans (Nat.le_add_right _ _) (blk_size hG hlb)) hlt] at hrd
  obtain rfl : le64 r.m.bytes (r.s.heads o) = next := by
    injection hrd with hrd; injection hrd
  have hnd := hH.fl_nodup o ho
  rw [hfl, List.nodup_cons] at hnd
  have mem' : ∀ i, i < 23 → ∀ x,
      x ∈ (g.setFl o rest).fl i ↔ x ∈ g.fl i ∧ x ≠ r.s.heads o := by
    intro i hi x
    rw [Ghost.fl_setFl]
    by_cases hio : i = o
    · subst hio
      rw [if_pos rfl, hfl, List.mem_cons]
      exact ⟨fun hx => ⟨Or.inr hx, fun e => hnd.1 (e ▸ hx)⟩, fun ⟨hx, hne⟩ => hx.resolve_left hne⟩
    · -- the unlinked head is on no list of another order: a header address determines its block
      rw [if_neg hio]
      exact ⟨fun hx => ⟨hx, fun e => hio (congrArg Prod.snd
        (blk_same_hdr hG (hH.fl_blk i hi x hx).1 hlb e))⟩, And.left⟩
  refine ⟨rest, ⟨Geo_transfer hG rfl hb hbu (Nat.le_refl _) hG.live_blk hG.live_nodup,
    hH.live_hdr, fun i hi => ?_, fun i hi x hx => hH.fl_blk i hi x ((mem' i hi x).mp hx).1,
    fun i hi => ?_, fun p hp => ?_⟩, hlb, fun i hi h => ((mem' i hi _).mp h).2 rfl, hlive⟩
  · rw [Ghost.fl_setFl, hh, setHead]
    split
    · exact hch
    · exact hH.chain i hi
  · rw [Ghost.fl_setFl]
    split
    · exact hnd.2
    · exact hH.fl_nodup i hi
  · have hf := List.mem_filter.mp hp
    obtain ⟨p8, i, hi, hx⟩ := hH.freed p hf.1
    exact ⟨p8, i, hi, (mem' i hi _).mpr
      ⟨hx, fun e => of_decide_eq_true hf.2 ((Nat.sub_eq_iff_eq_add p8).mp e)⟩⟩

/-- `Allocate`, free list empty: the new block starts at the bumper, and every old block ends at or below it -/
theorem good_carve {r : Run S} {g : Ghost} (hI : Good r g) {o : Nat} (ho : o < 23)
    (h32 : r.s.bumper + (osize o + 8) ≤ 4294967295) {pg : Nat} (hpg : r.m.pages ≤ pg)
    (hsz : r.s.bumper + (osize o + 8) ≤ PAGE * pg)
    {s' : St} (hb : s'.base = r.s.base) (hbu : s'.bumper = r.s.bumper + (osize o + 8))
    (hh : s'.heads = r.s.heads) :
    Good { r with s := s', m := { r.m with pages := pg } }
        { g with blocks := (r.s.bumper, o) :: g.blocks } ∧
      Limbo r.live { g with blocks := (r.s.bumper, o) :: g.blocks } r.s.bumper o := by
  obtain ⟨hG, hH⟩ := hI
  have below : ∀ b ∈ g.blocks, b.1 ≠ r.s.bumper := fun b hb' e =>
    Nat.lt_irrefl _ (Nat.lt_of_lt_of_le (Nat.lt_add_of_pos_right (by decide)) (e ▸ blk_below hG hb'))
  have hend : bend (r.s.bumper, o) = r.s.bumper + (osize o + 8) := by
    rw [bend, Nat.add_assoc, Nat.add_comm 8]
  have hsize : r.m.size ≤ PAGE * pg := Nat.mul_le_mul_left _ hpg
  refine ⟨⟨⟨hb ▸ hG.base8, ?_, ?_, hbu ▸ Nat.lt_succ_of_le h32, ?_, ?_, ?_, hG.live_nodup⟩,
    hH.live_hdr, fun i hi => hh ▸ hH.chain i hi,
    fun i hi x hx => ⟨List.mem_cons_of_mem _ (hH.fl_blk i hi x hx).1, (hH.fl_blk i hi x hx).2⟩,
    hH.fl_nodup, hH.freed⟩,
    List.mem_cons_self .., fun i hi h => below _ (hH.fl_blk i hi _ h).1 rfl, fun e he h =>
      below _ (hG.live_blk e he).2 ((Nat.sub_eq_iff_eq_add (hG.live_blk e he).1).mpr h)⟩
  · rw [hbu]
    exact Nat.mod_eq_zero_of_dvd (Nat.dvd_add (Nat.dvd_of_mod_eq_zero hG.bump8)
      (Nat.dvd_add (Nat.dvd_of_mod_eq_zero (osize_mod8 o)) (Nat.dvd_refl 8)))
  · rw [hb, hbu]
    exact Nat.le_trans hG.base_le (Nat.le_add_right _ _)
  · intro b hb'
    rcases List.mem_cons.mp hb' with rfl | hb'
    · exact ⟨hG.bump8, hb ▸ hG.base_le, hbu ▸ hend ▸ Nat.le_refl _, ho, hend ▸ hsz⟩
    · obtain ⟨al, lo, hi, od, sz⟩ := hG.blk b hb'
      exact ⟨al, hb ▸ lo, hbu ▸ Nat.le_trans hi (Nat.le_add_right _ _), od, Nat.le_trans sz hsize⟩
  · intro b1 h1 b2 h2
    rcases List.mem_cons.mp h1 with rfl | h1 <;> rcases List.mem_cons.mp h2 with rfl | h2
    · exact Or.inl rfl
    · exact Or.inr (Or.inr (blk_bumper hG h2))
    · exact Or.inr (Or.inl (blk_bumper hG h1))
    · exact hG.disj b1 h1 b2 h2
  · exact fun e he => ⟨(hG.live_blk e he).1, List.mem_cons_of_mem _ (hG.live_blk e he).2⟩

theorem good_handout (hS : S.Lawful) {r : Run S} {g : Ghost} (hI : Good r g) {c o : Nat}
    (hL : Limbo r.live g c o) {f' : List Nat} (hf : f' ⊆ r.freed) :
    Good { r with m := { r.m with bytes := put64 r.m.bytes c (OCC + o) }, live := (c + 8, o) :: r.live,
                  freed := f' } g := by
  have ⟨hG, hH⟩ := hI
  have ⟨hc, hnf, hnl⟩ := hL
  refine ⟨Geo_transfer hG rfl rfl rfl (Nat.le_refl _) (fun e he => ?_)
      (List.pairwise_cons.mpr ⟨fun e he h => hnl e he h.symm, hG.live_nodup⟩),
    fun e he => ?_, fun i hi => limbo_chain hS hI hL _ hi,
    fun i hi x hx => ⟨(hH.fl_blk i hi x hx).1, fun e he => ?_⟩, hH.fl_nodup,
    fun p hp => hH.freed p (hf hp)⟩
  · rcases List.mem_cons.mp he with rfl | he
    · exact ⟨Nat.le_add_left _ _, (Nat.add_sub_cancel (n := c) (m := 8)).symm ▸ hc⟩
    · exact hG.live_blk e he
  · rcases List.mem_cons.mp he with rfl | he
    · show le64 (put64 r.m.bytes c (OCC + o)) (c + 8 - 8) = OCC + o
      rw [Nat.add_sub_cancel, le64_put64_same hS, Nat.mod_eq_of_lt
        (Nat.lt_trans (Nat.add_lt_add_left (blk_order hG hc) OCC) (by decide))]
    · exact limbo_live_hdr hS hI hL _ he
  · rcases List.mem_cons.mp he with rfl | he
    · exact fun e => hnf i hi (Nat.add_right_cancel e ▸ hx)
    · exact (hH.fl_blk i hi x hx).2 e he

theorem good_retire {r : Run S} {g : Ghost} (hI : Good r g) {p o : Nat} (hl : (p, o) ∈ r.live) :
    Good { r with live := eraseLive p r.live } g ∧ Limbo (eraseLive p r.live) g (p - 8) o := by
  obtain ⟨hG, hH⟩ := hI
  obtain ⟨p8, pb⟩ := hG.live_blk _ hl
  have sub := eraseLive_sublist p r.live
  exact ⟨⟨Geo_transfer hG rfl rfl rfl (Nat.le_refl _) (fun e he => hG.live_blk e (sub.subset he))
      (hG.live_nodup.sublist sub),
    fun e he => hH.live_hdr e (sub.subset he), hH.chain,
    fun i hi x hx => ⟨(hH.fl_blk i hi x hx).1, fun e he => (hH.fl_blk i hi x hx).2 e (sub.subset he)⟩,
    hH.fl_nodup, hH.freed⟩,
    pb, fun i hi hx => (hH.fl_blk i hi _ hx).2 _ hl (Nat.sub_add_cancel p8).symm,
    fun e he e' => ne_of_mem_eraseLive hG.live_nodup he (e'.trans (Nat.sub_add_cancel p8))⟩

theorem good_link (hS : S.Lawful) {r : Run S} {g : Ghost} (hI : Good r g) {p o : Nat} (p8 : 8 ≤ p)
    (hL : Limbo r.live g (p - 8) o) {s' : St} (hb : s'.base = r.s.base) (hbu : s'.bumper = r.s.bumper)
    (hh : s'.heads = setHead r.s.heads o (p - 8)) :
    Good { r with s := s', m := { r.m with bytes := put64 r.m.bytes (p - 8) (r.s.heads o) },
                  freed := p :: r.freed } (g.setFl o ((p - 8) :: g.fl o)) := by
  have ⟨hG, hH⟩ := hI
  have ⟨hc, hnf, hnl⟩ := hL
  have ho := blk_order hG hc
  -- the old head is `NIL` or a block address: the word written is a free header (occupied bit clear)
  -- and `le64` reads it back exactly
  have hhead : r.s.heads o < U32 := by
    rcases Chain_head (hH.chain o ho) with e | hm
    · rw [e]; decide
    · exact Nat.lt_trans (blk_lt_nil hG (hH.fl_blk o ho _ hm).1) (by decide)
  have mem' : ∀ i x, x ∈ (g.setFl o ((p - 8) :: g.fl o)).fl i ↔ (i = o ∧ x = p - 8) ∨ x ∈ g.fl i := by
    intro i x
    rw [Ghost.fl_setFl]
    split
    · rename_i hio
      subst hio
      rw [List.mem_cons]
      exact ⟨Or.imp_left (And.intro rfl), Or.imp_left And.right⟩
    · rename_i hio
      exact ⟨Or.inr, fun h => h.resolve_left (fun a => hio a.1)⟩
  refine ⟨Geo_transfer hG rfl hb hbu (Nat.le_refl _) hG.live_blk hG.live_nodup,
    fun e he => limbo_live_hdr hS hI hL _ he, fun i hi => ?_, fun i hi x hx => ?_,
    fun i hi => ?_, fun q hq => ?_⟩
  · have keep := limbo_chain hS hI hL (r.s.heads o) hi
    rw [Ghost.fl_setFl, hh, setHead]
    by_cases hio : i = o
    · subst hio
      have e : le64 (put64 r.m.bytes (p - 8) (r.s.heads i)) (p - 8) = r.s.heads i := by
        rw [le64_put64_same hS]
        exact Nat.mod_eq_of_lt (Nat.lt_trans hhead (by decide))
      rw [if_pos rfl, if_pos rfl]
      exact ⟨rfl, Nat.ne_of_lt (blk_lt_nil hG hc), e.symm ▸ hhead, e.symm ▸ keep⟩
    · rw [if_neg hio, if_neg hio]; exact keep
  · rcases (mem' i x).mp hx with ⟨rfl, rfl⟩ | hx
    · exact ⟨hc, hnl⟩
    · exact hH.fl_blk i hi x hx
  · rw [Ghost.fl_setFl]
    split
    · exact List.nodup_cons.mpr ⟨hnf o ho, hH.fl_nodup o ho⟩
    · exact hH.fl_nodup i hi
  · rcases List.mem_cons.mp hq with rfl | hq
    · exact ⟨p8, o, ho, (mem' o _).mpr (Or.inl ⟨rfl, rfl⟩)⟩
    · obtain ⟨q8, i, hi, hm⟩ := hH.freed q hq
      exact ⟨q8, i, hi, (mem' i _).mpr (Or.inr hm)⟩

theorem alloc_sim (hS : S.Lawful) {r : Run S} {g : Ghost} (hI : Inv r g) (n : Nat) :
    ∃ g', Inv (r.step (.alloc n)).1 g' ∧ (r.step (.alloc n)).1.s.base = r.s.base ∧
      (((r.step (.alloc n)).1.m = r.m ∧ ∃ e, (r.step (.alloc n)).2 = .err e) ∨
       ∃ c o, orderFromSize n = some o ∧ (r.step (.alloc n)).2 = .ptr (c + 8) ∧
         (r.step (.alloc n)).1.live = (c + 8, o) :: r.live ∧
         (r.step (.alloc n)).1.m.bytes = put64 r.m.bytes c (OCC + o)) := by
  obtain ⟨hG, hH⟩ := hI
  rcases allocate_cases r.s r.m n with
    ⟨s', e, heq, hpo, hb, hbu⟩ |
    ⟨s', o, next, heq, hp, ho, hne, _, hrd, hpo, hb, hbu, hh⟩ |
    ⟨s', pg, o, heq, hp, ho, hnil, h32, hsz, hpg, _, hpo, hb, hbu, hh⟩
  · rw [step_alloc_err heq]
    exact ⟨g, Inv_fail hG _ hb hbu hpo, hb, Or.inl ⟨rfl, e, rfl⟩⟩
  · -- the head of the free list of order `o` is unlinked and handed out
    obtain ⟨rest, hgood, hL⟩ := good_unlink ⟨hG, hH hp⟩ (orderFromSize_lt ho) hne hrd hb hbu hh
    have hptr : (r.s.heads o + 8) % U32 = r.s.heads o + 8 :=
      Nat.mod_eq_of_lt (Nat.lt_of_lt_of_le (Nat.add_lt_add_left (by decide) _)
        (Nat.le_trans (blk_below hgood.geo hL.blk) (Nat.le_of_lt hgood.geo.bump_lt)))
    rw [step_alloc_ok heq, ho, hptr]
    exact ⟨_, (good_handout hS hgood hL (List.Subset.refl _)).inv, hb, Or.inr ⟨_, o, rfl, rfl, rfl, rfl⟩⟩
  · -- a new block is carved at the bumper and handed out
    obtain ⟨hgood, hL⟩ := good_carve ⟨hG, hH hp⟩ (orderFromSize_lt ho) h32 hpg hsz hb hbu hh
    rw [step_alloc_ok heq, ho]
    exact ⟨_, (good_handout hS hgood hL List.filter_sublist.subset).inv, hb,
      Or.inr ⟨_, o, rfl, rfl, rfl, rfl⟩⟩

theorem free_sim (hS : S.Lawful) {r : Run S} {g : Ghost} (hI : Inv r g) (p : Nat)
    (hok : OpOk r (.free p)) :
    ∃ g', Inv (r.step (.free p)).1 g' ∧
      ((r.step (.free p)).1.m = r.m ∨
       ∃ o, (p, o) ∈ r.live ∧ (r.step (.free p)).1.m.bytes = put64 r.m.bytes (p - 8) (r.s.heads o)) := by
  obtain ⟨hG, hH⟩ := hI
  rcases deallocate_cases r.s r.m p with
    ⟨s', e, heq, hpo, hb, hbu⟩ |
    ⟨s', o, res, heq, hp, hocc, ho, hb, hbu, hh, hres⟩
  · rw [step_free_err heq]
    exact ⟨g, Inv_fail hG _ hb hbu hpo, Or.inl rfl⟩
  · -- accepted: by `OpOk` the pointer is live, and the order in its header is its order
    have hH := hH hp
    have ⟨o', hlive⟩ : ∃ o, (p, o) ∈ r.live := hok.resolve_right (fun hno => hno hocc)
    obtain ⟨p8, pb⟩ := hG.live_blk _ hlive
    obtain rfl : o = o' := by
      have := hH.live_hdr _ hlive
      simp only at this
      rw [ho, this]
      exact (Nat.add_mod_left OCC o').trans
        (Nat.mod_eq_of_lt (Nat.lt_trans (blk_order hG pb) (by decide)))
    rcases hres.symm with ⟨rfl, hpo⟩ | ⟨rfl, hpo⟩
    · -- statistics underflow: error, poisoned; the geometry is untouched
      rw [step_free_err heq]
      exact ⟨g, Inv_fail hG _ hb hbu hpo, Or.inr ⟨o, hlive, rfl⟩⟩
    · -- the allocation is retired and its block linked into the free list
      obtain ⟨hgood, hL⟩ := good_retire ⟨hG, hH⟩ hlive
      rw [step_free_ok heq]
      exact ⟨_, (good_link hS hgood p8 hL hb hbu hh).inv, Or.inr ⟨o, hlive, rfl⟩⟩

end Gossamer.C28
