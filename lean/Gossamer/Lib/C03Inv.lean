import Gossamer.Model.C03
import Gossamer.Lib.TrieHeapTop
namespace Gossamer.C03
open Gossamer Gossamer.Trie Gossamer.TrieHeap

theorem setAt_eq_set {α : Type} : ∀ (l : List α) (n : Nat) (x : α), setAt l n x = l.set n x
  | [], _, _ => rfl
  | _ :: _, 0, _ => rfl
  | a :: r, n + 1, x => congrArg (a :: ·) (setAt_eq_set r n x)

theorem getElem?_setAt {α : Type} (l : List α) (h : Nat) (x : α) (i : Nat) :
    (setAt l h x)[i]? = if i = h ∧ h < l.length then some x else l[i]? := by
  rw [setAt_eq_set, List.getElem?_set]
  by_cases e : h = i
  · subst e
    by_cases hl : h < l.length <;> simp [hl]
  · rw [if_neg e, if_neg (fun c => e c.1.symm)]

theorem length_setAt {α : Type} (l : List α) (h : Nat) (x : α) : (setAt l h x).length = l.length := by
  rw [setAt_eq_set, List.length_set]

theorem getElem?_snoc {α : Type} {l : List α} {x y : α} {i : Nat} (h : (l ++ [x])[i]? = some y) :
    (i < l.length ∧ l[i]? = some y) ∨ (i = l.length ∧ y = x) := by
  by_cases hi : i < l.length
  · rw [List.getElem?_append_left hi] at h; exact Or.inl ⟨hi, h⟩
  · rw [List.getElem?_append_right (Nat.le_of_not_lt hi)] at h
    cases hd : i - l.length with
    | zero => rw [hd] at h; exact Or.inr ⟨Nat.le_antisymm (Nat.le_of_sub_eq_zero hd) (Nat.le_of_not_lt hi), (Option.some.inj h).symm⟩
    | succ n => rw [hd] at h; cases h

/-- `a` is a proper ancestor of handle `i`, through ALL handles: a dropped snapshot in between still transmits
    ancestry (as in `hasLiveDesc` of the model), which `sep` needs -/
inductive Anc (hs : List HInfo) (a : Nat) : Nat → Prop where
  | parent {i : Nat} {x : HInfo} : hs[i]? = some x → x.parent = some a → Anc hs a i
  | step {p i : Nat} {x : HInfo} : hs[i]? = some x → x.parent = some p → Anc hs a p → Anc hs a i

theorem parent_congr {hs hs' : List HInfo} (h : ∀ i : Nat, (hs'[i]?).map HInfo.parent = (hs[i]?).map HInfo.parent)
    {i : Nat} {x : HInfo} (hx : hs[i]? = some x) : ∃ x', hs'[i]? = some x' ∧ x'.parent = x.parent := by
  have := h i
  rw [hx] at this
  exact Option.map_eq_some_iff.mp this

theorem Anc.congr {hs hs' : List HInfo} (h : ∀ i : Nat, (hs'[i]?).map HInfo.parent = (hs[i]?).map HInfo.parent)
    {a i : Nat} (ha : Anc hs a i) : Anc hs' a i := by
  induction ha with
  | parent hx hp =>
    obtain ⟨x', hx', e⟩ := parent_congr h hx
    exact Anc.parent hx' (e.trans hp)
  | step hx hp _ ih =>
    obtain ⟨x', hx', e⟩ := parent_congr h hx
    exact Anc.step hx' (e.trans hp) ih

theorem isAncestor_of_anc {hs : List HInfo} (hlt : ∀ (i : Nat) (x : HInfo) (p : Nat), hs[i]? = some x → x.parent = some p → p < i)
    {a i : Nat} (h : Anc hs a i) : ∀ f, i < f → isAncestor hs a f i = true := by
  induction h with
  | @parent i x hx hp =>
    intro f hf
    cases f with
    | zero => omega
    | succ f => simp [isAncestor, hx, hp]
  | @step p i x hx hp _ ih =>
    intro f hf
    cases f with
    | zero => omega
    | succ f =>
      have hpi := hlt i x p hx hp
      simp only [isAncestor, hx, hp]
      rw [ih f (by omega)]
      simp

def Live (s : St) (i : Nat) (x : HInfo) : Prop := s.hs[i]? = some x ∧ x.live = true

theorem live_lt {s : St} {i : Nat} {x : HInfo} (h : Live s i x) : i < s.hs.length :=
  (List.getElem?_eq_some_iff.mp h.1).1

theorem handle?_live {s : St} {h : Nat} {x : HInfo} (hh : s.handle? h = some x) : Live s h x := by
  unfold St.handle? at hh
  cases hx : s.hs[h]? with
  | none => rw [hx] at hh; simp at hh
  | some y =>
    rw [hx] at hh
    simp only at hh
    split at hh
    · rename_i hl; cases hh; exact ⟨hx, hl⟩
    · cases hh

theorem no_live_desc {s : St} {h : Nat}
    (hlt : ∀ (i : Nat) (x : HInfo) (p : Nat), s.hs[i]? = some x → x.parent = some p → p < i)
    (hg : hasLiveDesc s h = false) : ∀ j y, Live s j y → ¬ Anc s.hs h j := by
  intro j y hl ha
  have hj := live_lt hl
  have : hasLiveDesc s h = true := by
    unfold hasLiveDesc
    rw [List.any_eq_true]
    refine ⟨j, List.mem_range.mpr hj, ?_⟩
    simp only [hl.1, hl.2, Bool.true_and]
    exact isAncestor_of_anc hlt ha _ hj
  rw [hg] at this
  cases this

/-- The invariant of the states reached without a write through a handle that has a live snapshot below it.
    * `genBound`: a handle reaches no cell of a later generation than its own.  So a new snapshot (generation + 1)
      owns nothing yet (`snap_step`), and the cells a mutator adds keep the bound.
    * `sep`: the cells handle `i` may write IN PLACE (reachable from its root and of its own generation) are
      invisible to every other live handle `j`, unless `j` is a snapshot below `i`: what a guarded write through
      `i` changes in place, nobody else sees (`hother` in `mut_step`).  The exception is what the guard is for.
    * `parentLt`: a snapshot has a larger index than its parent, so that `isAncestor` with fuel = number of
      handles decides `Anc`.
    `wf`, `roots`: child pointers and live roots are allocated (what `put_ok` and its like ask for). -/
structure SInv (s : St) : Prop where
  wf : HeapWF s.hp
  roots : ∀ i x, Live s i x → ∀ r, x.t.root = some r → r < s.hp.size
  genBound : ∀ i x, Live s i x → ∀ a, ReachO s.hp x.t.root a → (s.hp.get a).gen ≤ x.t.gen
  sep : ∀ i x j y, Live s i x → Live s j y → i ≠ j → ¬ Anc s.hs i j →
    ∀ a, ReachO s.hp x.t.root a → (s.hp.get a).gen = x.t.gen → ¬ ReachO s.hp y.t.root a
  parentLt : ∀ (i : Nat) (x : HInfo) (p : Nat), s.hs[i]? = some x → x.parent = some p → p < i

theorem init_handle {i : Nat} {x : HInfo} (h : St.init.hs[i]? = some x) : x.t.root = none ∧ x.parent = none := by
  cases i with
  | zero => simp [St.init] at h; subst h; exact ⟨rfl, rfl⟩
  | succ i => simp [St.init] at h

theorem SInv.init : SInv St.init where
  wf := fun a ha => absurd ha (Nat.not_lt_zero a)
  roots := fun i x hl r hr => by rw [(init_handle hl.1).1] at hr; cases hr
  genBound := fun i x hl a ha => by rw [(init_handle hl.1).1] at ha; exact ha.elim
  sep := fun i x j y hi _ _ _ a ha => by rw [(init_handle hi.1).1] at ha; exact ha.elim
  parentLt := fun i x p hx hp => by rw [(init_handle hx).2] at hp; cases hp

end Gossamer.C03
