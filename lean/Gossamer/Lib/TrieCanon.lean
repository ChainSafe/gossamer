import Gossamer.Lib.TrieLemmas
namespace Gossamer
open Rank OMap
namespace Trie

@[simp] theorem canon_nil : Canon nil := trivial
@[simp] theorem canon_leaf (pk : Nibs) (v : Bytes) : Canon (leaf pk v) := trivial

theorem canon_branch_iff (pk : Nibs) (v : Option Bytes) (cs : Nib → Trie) :
    Canon (branch pk v cs) ↔ (∀ i, Canon (cs i)) ∧
      ((∃ i j, i ≠ j ∧ cs i ≠ nil ∧ cs j ≠ nil) ∨ (v.isSome = true ∧ ∃ i, cs i ≠ nil)) := Iff.rfl

theorem canon_branch_child {pk : Nibs} {v : Option Bytes} {cs : Nib → Trie}
    (h : Canon (branch pk v cs)) : ∃ i, cs i ≠ nil := by
  rcases h.2 with ⟨i, _, _, hi, _⟩ | ⟨_, i, hi⟩ <;> exact ⟨i, hi⟩

theorem canon_prepend (p : Nibs) {t : Trie} (h : Canon t) : Canon (prepend p t) := by
  cases t with
  | nil => trivial
  | leaf pk v => trivial
  | branch pk v cs => exact h

theorem canon_setChild {cs : Nib → Trie} (hcs : ∀ j, Canon (cs j)) (i : Nib) {c : Trie}
    (hc : Canon c) (x : Nib) : Canon (setChild cs i c x) := by
  by_cases hx : x = i
  · subst hx; simpa using hc
  · rw [setChild_other _ _ _ _ hx]; exact hcs x

theorem canon_single (c : Nibs) (x : Bytes) (i : Nib) {a : Trie} (ha : Canon a) (hne : a ≠ nil) :
    Canon (branch c (some x) (setChild noChildren i a)) :=
  ⟨canon_setChild (fun _ => canon_nil) i ha, Or.inr ⟨rfl, i, by rwa [setChild_same]⟩⟩

theorem canon_pair (c : Nibs) (v : Option Bytes) {i j : Nib} (hij : i ≠ j) {a b : Trie}
    (ha : Canon a) (hna : a ≠ nil) (hb : Canon b) (hnb : b ≠ nil) :
    Canon (branch c v (setChild (setChild noChildren i a) j b)) :=
  ⟨canon_setChild (canon_setChild (fun _ => canon_nil) i ha) j hb,
    Or.inl ⟨i, j, hij, by rwa [setChild_other _ _ _ _ hij, setChild_same], by rwa [setChild_same]⟩⟩

theorem canon_replace {pk : Nibs} {v : Option Bytes} {cs : Nib → Trie} (h : Canon (branch pk v cs))
    (idx : Nib) {c : Trie} (hc : Canon c) (hne : c ≠ nil) : Canon (branch pk v (setChild cs idx c)) := by
  have hkeep : ∀ a, cs a ≠ nil → setChild cs idx c a ≠ nil := fun a ha => by
    by_cases hai : a = idx
    · subst hai; rw [setChild_same]; exact hne
    · rw [setChild_other _ _ _ _ hai]; exact ha
  refine ⟨canon_setChild h.1 idx hc, ?_⟩
  rcases h.2 with ⟨a, b, hab, ha, hb⟩ | ⟨hv, a, ha⟩
  · exact Or.inl ⟨a, b, hab, hkeep a ha, hkeep b hb⟩
  · exact Or.inr ⟨hv, a, hkeep a ha⟩

theorem canon_insertInLeaf (pk : Nibs) (lv : Bytes) (key : Nibs) (value : Bytes) :
    Canon (insertInLeaf pk lv key value) := by
  rcases two_keys_cases key pk with rfl | ⟨i, rest, rfl⟩ | ⟨j, krest, rfl⟩ |
    ⟨c, i, rest, j, krest, hij, rfl, rfl⟩
  · rw [insertInLeaf_self]; trivial
  · rw [insertInLeaf_above]; exact canon_single _ _ _ trivial nofun
  · rw [insertInLeaf_below]; exact canon_single _ _ _ trivial nofun
  · rw [insertInLeaf_fork c hij]; exact canon_pair _ _ hij.symm trivial nofun trivial nofun

theorem canon_insert {t : Trie} (h : Canon t) (key : Nibs) (value : Bytes) :
    Canon (insert t key value) := by
  induction t generalizing key with
  | nil => trivial
  | leaf pk lv => exact canon_insertInLeaf pk lv key value
  | branch pk v cs ih =>
    rcases two_keys_cases key pk with rfl | ⟨oi, orest, rfl⟩ | ⟨i, rest, rfl⟩ |
      ⟨c, oi, orest, j, krest, hj, rfl, rfl⟩
    · rw [insert_branch_self]
      exact ⟨h.1, Or.inr ⟨rfl, canon_branch_child h⟩⟩
    · rw [insert_branch_above]
      exact canon_single _ _ _ (show Canon (branch orest v cs) from h) nofun
    · rw [insert_branch_child]
      exact canon_replace h i (ih i (h.1 i) rest) (insert_ne_nil _ _ _)
    · rw [insert_branch_fork c hj]
      exact canon_pair _ _ hj.symm (show Canon (branch orest v cs) from h) nofun trivial nofun

theorem childIdx_cases (cs : Nib → Trie) :
    childIdx cs = [] ∨ (∃ i, childIdx cs = [i]) ∨
      (∃ i j, i ≠ j ∧ cs i ≠ nil ∧ cs j ≠ nil ∧ ∃ r, childIdx cs = i :: j :: r) := by
  have hnd : (childIdx cs).Nodup := (List.nodup_finRange 16).filter _
  cases h : childIdx cs with
  | nil => left; rfl
  | cons a l =>
    cases l with
    | nil => right; left; exact ⟨a, rfl⟩
    | cons b l' =>
      right; right
      rw [h] at hnd
      have hab : a ≠ b := by
        intro e; subst e; simp at hnd
      have ha : cs a ≠ nil := (mem_childIdx cs a).mp (by simp [h])
      have hb : cs b ≠ nil := (mem_childIdx cs b).mp (by simp [h])
      exact ⟨a, b, hab, ha, hb, l', rfl⟩

theorem canon_handleDeletion (pk : Nibs) (v : Option Bytes) (cs : Nib → Trie) (key : Nibs)
    (hcs : ∀ i, Canon (cs i)) (hne : v.isSome = true ∨ ∃ i, cs i ≠ nil) :
    handleDeletion pk v cs key ≠ nil ∧ Canon (handleDeletion pk v cs key) := by
  unfold handleDeletion
  rcases childIdx_cases cs with h0 | ⟨i, h1⟩ | ⟨i, j, hij, hi, hj, r, h2⟩
  · rw [h0]
    cases v with
    | some x => simp
    | none =>
      rcases hne with h | ⟨i, hi⟩
      · simp at h
      · exact absurd (childIdx_nil h0 i) hi
  · rw [h1]
    cases v with
    | some x =>
      simp only
      exact ⟨by simp, hcs, Or.inr ⟨rfl, i, (childIdx_single h1 i).mpr rfl⟩⟩
    | none =>
      simp only
      have hci : cs i ≠ nil := (childIdx_single h1 i).mpr rfl
      have hcan := hcs i
      cases hc : cs i with
      | nil => exact absurd hc hci
      | leaf cpk cv => simp
      | branch cpk cv ccs => rw [hc] at hcan; exact ⟨by simp, hcan⟩
  · rw [h2]
    refine ⟨by cases v <;> simp, ?_⟩
    have : Canon (branch pk v cs) := ⟨hcs, Or.inl ⟨i, j, hij, hi, hj⟩⟩
    cases v <;> simpa using this

theorem handleDeletion_of_canon {pk : Nibs} {v : Option Bytes} {cs : Nib → Trie}
    (h : Canon (branch pk v cs)) (key : Nibs) : handleDeletion pk v cs key = branch pk v cs := by
  unfold handleDeletion
  rcases childIdx_cases cs with h0 | ⟨i, h1⟩ | ⟨i, j, _, _, _, r, h2⟩
  · obtain ⟨i, hi⟩ := canon_branch_child h
    exact absurd (childIdx_nil h0 i) hi
  · rw [h1]
    rcases h.2 with ⟨a, b, hab, ha, hb⟩ | ⟨hv, _⟩
    · exact absurd (((childIdx_single h1 a).mp ha).trans ((childIdx_single h1 b).mp hb).symm) hab
    · obtain ⟨x, rfl⟩ := Option.isSome_iff_exists.mp hv
      rfl
  · rw [h2]

theorem canon_branch_after_set {pk : Nibs} {v : Option Bytes} {cs : Nib → Trie}
    (h : Canon (branch pk v cs)) (i : Nib) (c : Trie) :
    v.isSome = true ∨ ∃ j, setChild cs i c j ≠ nil := by
  rcases h.2 with ⟨a, b, hab, ha, hb⟩ | ⟨hv, _⟩
  · right
    by_cases hai : a = i
    · exact ⟨b, by rwa [setChild_other _ _ _ _ (fun e => hab (hai.trans e.symm))]⟩
    · exact ⟨a, by rwa [setChild_other _ _ _ _ hai]⟩
  · exact Or.inl hv

/-- What the deleting operations (`deleteAtNode`, `clearPrefixAtNode`) do: `r.1` is `t` without the keys
    in `P`, canonical if `t` is.  `flag` (without the flag `r.2` no key of `t` was in `P`) is there for the induction:
    it lets the `false` arm of `Restricts.child` leave the branch alone; the converse is not claimed. -/
structure Restricts (P : Nibs → Bool) (t : Trie) (r : Trie × Bool) : Prop where
  look : ∀ k, lookup r.1 k = if P k then none else lookup t k
  canon : Canon t → Canon r.1
  flag : r.2 = false → ∀ k, P k = true → lookup t k = none

namespace Restricts
variable {P : Nibs → Bool} {t : Trie}

theorem unchanged (h : ∀ k, P k = true → lookup t k = none) : Restricts P t (t, false) :=
  ⟨fun k => (by cases hk : P k <;> simp [h, hk]), id, fun _ => h⟩

theorem all (h : ∀ k x, lookup t k = some x → P k = true) : Restricts P t (nil, true) :=
  ⟨fun k => (by
      cases hk : P k with
      | true => rfl
      | false =>
        cases hl : lookup t k with
        | none => rfl
        | some x => rw [h k x hl] at hk; cases hk),
    fun _ => trivial, nofun⟩

/-- the step the deleting operations share: restrict below child `i`, then `handleDeletion` -/
theorem child {pk : Nibs} {v : Option Bytes} {cs : Nib → Trie} {i : Nib} {P' : Nibs → Bool}
    {r : Trie × Bool} (hr : Restricts P' (cs i) r) (key : Nibs) (hkey : pk.isPrefixOf key = true)
    (hin : ∀ s, P (pk ++ i :: s) = P' s) (hout : ∀ k, (pk ++ [i]).isPrefixOf k = false → P k = false) :
    Restricts P (branch pk v cs)
      (if r.2 then (handleDeletion pk v (setChild cs i r.1) key, true) else (branch pk v cs, false)) := by
  cases hflag : r.2 with
  | false =>
    refine unchanged fun k hk => ?_
    rcases slot_cases pk i k with ⟨s, rfl⟩ | hp
    · rw [lookup_branch_child]; exact hr.flag hflag s (by rwa [hin] at hk)
    · rw [hout k hp] at hk; cases hk
  | true =>
    refine ⟨fun k => ?_, fun hc => ?_, nofun⟩
    · simp only [if_true]
      rw [lookup_handleDeletion _ _ _ _ (fun _ => hkey)]
      rcases slot_cases pk i k with ⟨s, rfl⟩ | hp
      · rw [lookup_setChild_child, hr.look, hin, lookup_branch_child]
      · rw [lookup_setChild_other _ _ _ _ _ hp, hout k hp]; rfl
    · exact (canon_handleDeletion pk v _ _ (canon_setChild hc.1 i (hr.canon (hc.1 i)))
        (canon_branch_after_set hc _ _)).2

theorem own (pk : Nibs) (v : Option Bytes) (cs : Nib → Trie) (key : Nibs) :
    Restricts (· == pk) (branch pk v cs) (handleDeletion pk none cs key, true) := by
  refine ⟨fun k => ?_, fun hc => (canon_handleDeletion _ none cs _ hc.1
    (Or.inr (canon_branch_child hc))).2, nofun⟩
  rw [lookup_handleDeletion pk none cs key (by simp), lookup_branch_value pk v]
  simp

theorem entriesN_eq {r : Trie × Bool} (h : Restricts P t r) :
    entriesN r.1 = (entriesN t).filter (fun e => !P e.1) := by
  apply OMap.sorted_ext (sorted_entriesN _) (OMap.sorted_filter _ (sorted_entriesN t))
  intro k
  rw [get_entriesN, h.look, OMap.get_filter_key (fun x => !P x), get_entriesN]
  cases P k <;> rfl

end Restricts

/-- `deleteAtNode` removes exactly one key: `key` itself, except where the `len(key) == 0` short cut
    makes it the key of the node at which the walk ends -/
theorem deleteAtNode_restricts (t : Trie) (key : Nibs) :
    ∃ key', (emptyKeyHit t key = false → key' = key) ∧
      Restricts (· == key') t (deleteAtNode t key) := by
  induction t generalizing key with
  | nil => exact ⟨key, fun _ => rfl, .unchanged fun _ _ => rfl⟩
  | leaf pk v =>
    simp only [deleteAtNode]
    split
    · rename_i h
      simp only [Bool.and_eq_true, Bool.not_eq_true', beq_eq_false_iff_ne] at h
      exact ⟨key, fun _ => rfl, .unchanged fun k hk => by rw [beq_iff_eq.mp hk]; simp [h.2]⟩
    · rename_i h
      refine ⟨pk, fun he => ?_, .all fun k x hx => beq_iff_eq.mpr (lookup_leaf_eq_some.mp hx).1⟩
      cases key with
      | nil => cases pk with
        | nil => rfl
        | cons a as => cases he
      | cons a as => exact (show a :: as = pk by simpa using h).symm
  | branch pk v cs ih =>
    rcases key_cases pk key with rfl | ⟨i, rest, rfl⟩ | hoff
    · rw [deleteAtNode_branch_self]; exact ⟨key, fun _ => rfl, .own key v cs key⟩
    · obtain ⟨k', hk', hr⟩ := ih i rest
      rw [deleteAtNode_branch_child]
      refine ⟨pk ++ i :: k', fun he => by rw [hk' (by rwa [emptyKeyHit_branch_child] at he)],
        hr.child _ (isPrefixOf_append_self pk (i :: rest))
          (fun s => by rw [Bool.eq_iff_iff]; simp) fun k hk =>
            beq_eq_false_iff_ne.mpr (by simpa using off_ne_append hk k')⟩
    · cases key with
      | nil =>
        rw [deleteAtNode_branch_nil]
        exact ⟨pk, fun he => (by rw [emptyKeyHit_branch_off v cs hoff] at he; cases he), .own pk v cs []⟩
      | cons a as =>
        rw [deleteAtNode_branch_off v cs hoff (by simp)]
        exact ⟨a :: as, fun _ => rfl, .unchanged fun k hk => by
          rw [beq_iff_eq.mp hk]; exact lookup_branch_off _ _ _ _ hoff⟩

theorem canon_deleteAtNode (t : Trie) (key : Nibs) (h : Canon t) : Canon (deleteAtNode t key).1 :=
  (deleteAtNode_restricts t key).elim fun _ hr => hr.2.canon h

theorem clearPrefixAtNode_restricts (t : Trie) (pre : Nibs) :
    Restricts pre.isPrefixOf t (clearPrefixAtNode t pre) := by
  induction t generalizing pre with
  | nil => exact .unchanged fun _ _ => rfl
  | leaf pk v =>
    simp only [clearPrefixAtNode]
    cases h : pre.isPrefixOf pk with
    | true =>
      exact .all fun k x hx => (lookup_leaf_eq_some.mp hx).1 ▸ h
    | false =>
      exact .unchanged fun k hk => by
        have : k ≠ pk := by rintro rfl; rw [h] at hk; cases hk
        simp [this]
  | branch pk v cs ih =>
    rcases prefix_cases pre pk with hA | ⟨i, rest, rfl⟩ | ⟨h1, h2⟩
    · rw [clearPrefixAtNode_branch_all hA]
      exact .all fun k x hx => isPrefixOf_trans hA (branch_key_prefix hx)
    · rw [clearPrefixAtNode_branch_child]
      refine (ih i rest).child _ (isPrefixOf_append_self pk (i :: rest))
        (fun s => by rw [isPrefixOf_append_left]; simp)
        (fun k hk => by simpa using isPrefixOf_off_append hk rest)
    · rw [clearPrefixAtNode_branch_off h1 h2]
      exact .unchanged fun k hk => by
        cases hp : pk.isPrefixOf k with
        | false => exact lookup_branch_off _ _ _ _ hp
        | true => rw [off_of_diverge h1 h2 hp] at hk; cases hk

theorem canon_has_key (t : Trie) (h : Canon t) (hne : t ≠ nil) : ∃ k v, lookup t k = some v := by
  induction t with
  | nil => exact absurd rfl hne
  | leaf pk v => exact ⟨pk, v, by simp⟩
  | branch pk v cs ih =>
    obtain ⟨i, hi⟩ := canon_branch_child h
    obtain ⟨k, x, hk⟩ := ih i (h.1 i) hi
    exact ⟨pk ++ i :: k, x, by rw [lookup_branch_child]; exact hk⟩

theorem canon_eq_nil {t : Trie} (hc : Canon t) (h : ∀ k, lookup t k = none) : t = nil := by
  by_cases hn : t = nil
  · exact hn
  · obtain ⟨k, v, hk⟩ := canon_has_key t hc hn
    rw [h k] at hk; cases hk

theorem canon_entries_nil {t : Trie} (hc : Canon t) (he : entriesN t = []) : t = nil :=
  canon_eq_nil hc fun k => by rw [← get_entriesN, he]; rfl

theorem isNil_eq_decide_of_canon {t : Trie} (hc : Canon t) :
    t.isNil = decide ((entriesN t).length = 0) := by
  cases t with
  | nil => rfl
  | leaf pk v => rfl
  | branch pk v cs =>
    have : entriesN (branch pk v cs) ≠ [] := fun e => by
      have := canon_entries_nil hc e; cases this
    have h2 : (entriesN (branch pk v cs)).length ≠ 0 := fun e => this (List.eq_nil_of_length_eq_zero e)
    simp [isNil, h2]

/-- the partial key of a canonical branch is the longest common prefix of its keys: this is what pins `pk` in
    `canon_unique` -/
theorem canon_branch_glb {pk : Nibs} {v : Option Bytes} {cs : Nib → Trie}
    (h : Canon (branch pk v cs)) (p : Nibs)
    (hp : ∀ k x, lookup (branch pk v cs) k = some x → p.isPrefixOf k = true) :
    p.isPrefixOf pk = true := by
  rcases h.2 with ⟨i, j, hij, hi, hj⟩ | ⟨hv, _⟩
  · obtain ⟨k1, x1, h1⟩ := canon_has_key (cs i) (h.1 i) hi
    obtain ⟨k2, x2, h2⟩ := canon_has_key (cs j) (h.1 j) hj
    have p1 := hp (pk ++ i :: k1) x1 (by rw [lookup_branch_child]; exact h1)
    have p2 := hp (pk ++ j :: k2) x2 (by rw [lookup_branch_child]; exact h2)
    -- `p` and `pk` are prefixes of one key; were `p` the longer, its next nibble would be `i` and `j`
    rcases isPrefixOf_total p1 (isPrefixOf_append_self pk (i :: k1)) with h | h
    · exact h
    · obtain ⟨q, rfl⟩ := isPrefixOf_iff.mp h
      cases q with
      | nil => rw [List.append_nil]; exact isPrefixOf_self pk
      | cons a q =>
        rw [isPrefixOf_append_left, List.isPrefixOf_cons_cons, Bool.and_eq_true, beq_iff_eq] at p1 p2
        exact absurd (p1.1.symm.trans p2.1) hij
  · obtain ⟨x, hx⟩ := Option.isSome_iff_exists.mp hv
    exact hp pk x (by rw [lookup_branch_self]; exact hx)

theorem leaf_ne_branch_of_lookup {pk : Nibs} {lv : Bytes} {pk' : Nibs} {v' : Option Bytes}
    {cs' : Nib → Trie} (hb : Canon (branch pk' v' cs'))
    (h : ∀ k, lookup (leaf pk lv) k = lookup (branch pk' v' cs') k) : False := by
  have h1 : pk'.isPrefixOf pk = true :=
    branch_key_prefix (x := lv) (by rw [← h]; simp)
  have h2 : pk.isPrefixOf pk' = true := by
    apply canon_branch_glb hb
    intro k x hk
    rw [(lookup_leaf_eq_some.mp ((h k).trans hk)).1]
    exact isPrefixOf_self _
  have e := isPrefixOf_antisymm h1 h2
  subst e
  obtain ⟨i, hi⟩ := canon_branch_child hb
  obtain ⟨k, x, hk⟩ := canon_has_key (cs' i) (hb.1 i) hi
  have := h (pk' ++ i :: k)
  rw [lookup_branch_child, hk] at this
  simp at this

theorem canon_unique {a b : Trie} (ha : Canon a) (hb : Canon b)
    (h : ∀ k, lookup a k = lookup b k) : a = b := by
  induction a generalizing b with
  | nil => exact (canon_eq_nil hb fun k => (h k).symm).symm
  | leaf pk lv =>
    cases b with
    | nil => have := h pk; simp at this
    | leaf pk' lv' =>
      obtain ⟨rfl, rfl⟩ := lookup_leaf_eq_some.mp ((h pk).symm.trans (if_pos rfl))
      rfl
    | branch pk' v' cs' => exact (leaf_ne_branch_of_lookup hb h).elim
  | branch pk v cs ih =>
    cases b with
    | nil => exact canon_eq_nil ha h
    | leaf pk' lv' => exact (leaf_ne_branch_of_lookup ha (fun k => (h k).symm)).elim
    | branch pk' v' cs' =>
      have h1 : pk'.isPrefixOf pk = true :=
        canon_branch_glb ha pk' (fun k x hk => branch_key_prefix (by rw [← h]; exact hk))
      have h2 : pk.isPrefixOf pk' = true :=
        canon_branch_glb hb pk (fun k x hk => branch_key_prefix (by rw [h]; exact hk))
      have e := isPrefixOf_antisymm h2 h1
      subst e
      have hv : v = v' := by
        have := h pk
        rwa [lookup_branch_self, lookup_branch_self] at this
      subst hv
      have hcs : cs = cs' := by
        funext i
        apply ih i (ha.1 i) (hb.1 i)
        intro r
        have := h (pk ++ i :: r)
        rwa [lookup_branch_child, lookup_branch_child] at this
      subst hcs
      rfl

end Trie
end Gossamer
