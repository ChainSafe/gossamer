/-
C20: the executable paper definitions of `C20Spec` (`specGhost`, `specFinalized`, `specEstimate`,
`specCompletable` – `highest`-based: "the block of highest number with …"; the functions the driver prints as
`spec=`) satisfy the relational characterisations the round is proved against: `highest` over a family of pairwise
comparable blocks is its `IsTop`.
-/
import Gossamer.Lib.C20Weights
import Gossamer.Lib.C20Top
namespace Gossamer.C20

variable {t : Tree} {ws : List Nat}

def highestStep (t : Tree) (p : Nat → Bool) (best : Option Nat) (b : Nat) : Option Nat :=
  if p b then
    match best with
    | none => some b
    | some a => if depth t b > depth t a then some b else some a
  else best

theorem highest_eq (t : Tree) (p : Nat → Bool) :
    highest t p = (List.range t.size).foldl (highestStep t p) none := rfl

theorem foldl_highest (t : Tree) (p : Nat → Bool) : ∀ l : List Nat,
    match l.foldl (highestStep t p) none with
    | none => ∀ b, b ∈ l → p b = false
    | some a => a ∈ l ∧ p a = true ∧ ∀ b, b ∈ l → p b = true → depth t b ≤ depth t a := by
  apply snoc_induction
  · intro b hb; cases hb
  · intro l x ih
    rw [List.foldl_append, List.foldl_cons, List.foldl_nil]
    have hmem : ∀ b, b ∈ l ++ [x] ↔ b ∈ l ∨ b = x := by intro b; simp
    cases hr : l.foldl (highestStep t p) none with
    | none =>
      rw [hr] at ih
      unfold highestStep
      cases hp : p x
      · simp only [Bool.false_eq_true, if_false]
        intro b hb
        rcases (hmem b).1 hb with hb | rfl
        · exact ih b hb
        · exact hp
      · simp only [if_true]
        refine ⟨(hmem x).2 (Or.inr rfl), hp, ?_⟩
        intro b hb hpb
        rcases (hmem b).1 hb with hb | rfl
        · rw [ih b hb] at hpb; cases hpb
        · exact Nat.le_refl _
    | some a =>
      rw [hr] at ih
      obtain ⟨ha, hpa, hmax⟩ := ih
      unfold highestStep
      cases hp : p x
      · simp only [Bool.false_eq_true, if_false]
        refine ⟨(hmem a).2 (Or.inl ha), hpa, ?_⟩
        intro b hb hpb
        rcases (hmem b).1 hb with hb | rfl
        · exact hmax b hb hpb
        · rw [hp] at hpb; cases hpb
      · simp only [if_true]
        by_cases hd : depth t x > depth t a
        · simp only [hd, if_true]
          refine ⟨(hmem x).2 (Or.inr rfl), hp, ?_⟩
          intro b hb hpb
          rcases (hmem b).1 hb with hb | rfl
          · have := hmax b hb hpb; omega
          · exact Nat.le_refl _
        · simp only [hd, if_false]
          refine ⟨(hmem a).2 (Or.inl ha), hpa, ?_⟩
          intro b hb hpb
          rcases (hmem b).1 hb with hb | rfl
          · exact hmax b hb hpb
          · omega

theorem highest_none {p : Nat → Bool} (hn : highest t p = none) : ∀ b, b < t.size → p b = false := by
  have := foldl_highest t p (List.range t.size)
  rw [← highest_eq, hn] at this
  exact fun b hb => this b (List.mem_range.2 hb)

theorem highest_some {p : Nat → Bool} {a : Nat} (hs : highest t p = some a) :
    a < t.size ∧ p a = true ∧ ∀ b, b < t.size → p b = true → depth t b ≤ depth t a := by
  have := foldl_highest t p (List.range t.size)
  rw [← highest_eq, hs] at this
  exact ⟨List.mem_range.1 this.1, this.2.1, fun b hb hpb => this.2.2 b (List.mem_range.2 hb) hpb⟩

theorem highest_isTop (h : t.WF) {p : Nat → Bool} (hlt : ∀ b, p b = true → b < t.size)
    (hcmp : ∀ a b, p a = true → p b = true → a ∈ t.chain b ∨ b ∈ t.chain a) : IsTop t p (highest t p) := by
  cases hh : highest t p with
  | none =>
    intro b
    cases hb : p b
    · rfl
    · exact Bool.noConfusion ((highest_none hh b (hlt b hb)).symm.trans hb)
  | some a =>
    obtain ⟨_, hpa, hmax⟩ := highest_some hh
    refine ⟨hpa, fun b hb => (hcmp a b hpa hb).elim (fun hab => ?_) id⟩
    by_cases hne : a = b
    · exact hne ▸ t.mem_chain_self a
    · -- `depth` is the length of the chain, and a proper ancestor has a shorter one
      exact absurd ((Tree.upChain h).length_lt hab hne) (Nat.not_lt.2 (hmax b (hlt b hb) hb))

theorem specGhost_isGhost (h : t.WF) (h0 : 0 < total ws) (ops : List Op) (ph : Bool)
    (htol : tolerant ws ops ph = true) : IsGhost t ws ops ph (specGhost t ws ops ph) :=
  (isGhost_iff ops ph _).2 (highest_isTop h (fun _ hb => superm_lt_size h h0 htol hb)
    (fun _ _ ha hb => superm_comparable h h0 htol ha hb))

theorem specFinalized_isFinalized (h : t.WF) (h0 : 0 < total ws) (ops : List Op)
    (htol : tolerant ws ops false = true) : IsFinalized t ws ops (specFinalized t ws ops) :=
  (isFinalized_iff ops _).2 (highest_isTop h
    (fun _ hb => superm_lt_size h h0 htol (Bool.and_eq_true_iff.1 hb).1)
    (fun _ _ ha hb => superm_comparable h h0 htol (Bool.and_eq_true_iff.1 ha).1 (Bool.and_eq_true_iff.1 hb).1))

theorem specEstimate_isEstimate (h : t.WF) (h0 : 0 < total ws) (ops : List Op)
    (htol : tolerant ws ops false = true) :
    IsEstimate t ws ops (specGhost t ws ops false) (specEstimate t ws ops) := by
  have hg := specGhost_isGhost h h0 ops false htol
  unfold specEstimate
  cases hgh : specGhost t ws ops false with
  | none => exact rfl
  | some g =>
    rw [hgh] at hg
    exact (isEstimate_iff ops g _).2 (highest_isTop h
      (fun _ hb => Nat.lt_of_le_of_lt ((Tree.upChain h).mem_le (Tree.le_iff.1 (Bool.and_eq_true_iff.1 hb).1))
        (superm_lt_size h h0 htol hg.1))
      (fun _ _ ha hb => Tree.comparable h (Tree.le_iff.1 (Bool.and_eq_true_iff.1 ha).1)
        (Tree.le_iff.1 (Bool.and_eq_true_iff.1 hb).1)))

theorem specCompletable_iff (t : Tree) (ws : List Nat) (ops : List Op) :
    specCompletable t ws ops = true ↔
      SpecCompletable t ws ops (specGhost t ws ops false) (specEstimate t ws ops) := by
  unfold specCompletable
  cases hg : specGhost t ws ops false with
  | none => exact iff_of_false Bool.false_ne_true (not_specCompletable_none_ghost ops _)
  | some g =>
    cases he : specEstimate t ws ops with
    | none => exact iff_of_false Bool.false_ne_true (not_specCompletable_none_est ops _)
    | some e =>
      rw [specCompletable_some]
      simp only [Bool.or_eq_true, Bool.and_eq_true, bne_iff_ne, ne_eq, List.all_eq_true, Bool.not_eq_true']

end Gossamer.C20
