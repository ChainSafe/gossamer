/-
The actor behind the `Handler` API: the goroutine `listenActionAllocSlots` of peerset.go serving the
`actionQueue` that the methods of handler.go fill (`hstep`, `hrun`).  `ActorOk` relates a handler state to the synchronous
semantics `run` of the operations it has logged and to the API calls made so far.
-/
import Gossamer.Model.C30
namespace Gossamer.C30
variable {n : Nat}

def logOps (h : HS n) : List (Op n × List (Msg n)) := h.log.map (fun e => (e.op, e.hint))

theorem run_append (s : PS n) (a b : List (Op n × List (Msg n))) : run s (a ++ b) = run (run s a) b := by
  induction a generalizing s with
  | nil => rfl
  | cons o a ih => obtain ⟨op, h⟩ := o; exact ih _

/-- `s0`: the state the handler started from (empty queue, empty log); `calls`: the API calls made so far -/
structure ActorOk (s0 : PS n) (calls : List (Action n)) (h : HS n) : Prop where
  sem : h.ps = run s0 (logOps h)
  fifo : h.log.filterMap (·.act) ++ h.queue = calls
  ops : ∀ e ∈ h.log, (∃ a ord, e.act = some a ∧ e.op = a.toOp ord) ∨ (e.act = none ∧ e.op = .tick)

theorem ActorOk.applied {s0 : PS n} {calls : List (Action n)} {h : HS n} (hk : ActorOk s0 calls h)
    (e : LogEntry n) (h' : HS n) (hps : h'.ps = (step h.ps e.op e.hint).1) (hlog : h'.log = h.log ++ [e])
    (hq : h.queue = e.act.toList ++ h'.queue)
    (hop : (∃ a ord, e.act = some a ∧ e.op = a.toOp ord) ∨ (e.act = none ∧ e.op = .tick)) :
    ActorOk s0 calls h' := by
  refine ⟨?_, ?_, ?_⟩
  · rw [hps, logOps, hlog, List.map_append, run_append, ← logOps, ← hk.sem]
    rfl
  · rw [hlog, List.filterMap_append, ← hk.fifo, hq, List.append_assoc, List.filterMap_cons]
    cases e.act <;> rfl
  · intro e' he
    rw [hlog] at he
    rcases List.mem_append.mp he with he | he
    · exact hk.ops e' he
    · rw [List.mem_singleton.mp he]; exact hop

theorem hstep_ok (s0 : PS n) (calls : List (Action n)) (h : HS n) (ev : Ev n) (hk : ActorOk s0 calls h) :
    ActorOk s0 (calls ++ callsOf [ev]) (hstep h ev) := by
  cases ev with
  | call a =>
    refine ⟨hk.sem, ?_, hk.ops⟩
    show h.log.filterMap (·.act) ++ (h.queue ++ [a]) = calls ++ [a]
    rw [← List.append_assoc, hk.fifo]
  | serve hint ord =>
    simp only [callsOf, List.append_nil, hstep]
    cases hq : h.queue with
    | nil => exact hk
    | cons a q => exact hk.applied ⟨some a, a.toOp ord, hint⟩ _ rfl rfl hq (.inl ⟨a, ord, rfl, rfl⟩)
  | fire hint =>
    simp only [callsOf, List.append_nil]
    exact hk.applied ⟨none, .tick, hint⟩ _ rfl rfl rfl (.inr ⟨rfl, rfl⟩)

theorem callsOf_append (a b : List (Ev n)) : callsOf (a ++ b) = callsOf a ++ callsOf b := by
  induction a with
  | nil => rfl
  | cons e a ih => cases e <;> simp [callsOf, ih]

theorem hrun_ok (s0 : PS n) (calls : List (Action n)) (h : HS n) (evs : List (Ev n))
    (hk : ActorOk s0 calls h) : ActorOk s0 (calls ++ callsOf evs) (hrun h evs) := by
  induction evs generalizing h calls with
  | nil => simpa [hrun, callsOf] using hk
  | cons ev evs ih =>
    have := ih (calls ++ callsOf [ev]) (hstep h ev) (hstep_ok s0 calls h ev hk)
    rw [List.append_assoc, ← callsOf_append] at this
    exact this

theorem actor_ok (maxIn maxOut : Nat) (ro : Bool) (evs : List (Ev n)) :
    ActorOk (newPS maxIn maxOut ro) (callsOf evs) (hrun (newHS maxIn maxOut ro : HS n) evs) :=
  hrun_ok (newPS maxIn maxOut ro : PS n) [] (newHS maxIn maxOut ro) evs
    ⟨rfl, rfl, fun e he => by simp [newHS] at he⟩

theorem log_as_calls (log : List (LogEntry n))
    (hops : ∀ e ∈ log, (∃ a ord, e.act = some a ∧ e.op = a.toOp ord) ∨ (e.act = none ∧ e.op = .tick))
    (hnofire : ∀ e ∈ log, e.act ≠ none) :
    ∃ ords hints, ords.length = (log.filterMap (·.act)).length ∧
      hints.length = (log.filterMap (·.act)).length ∧
      log.map (fun e => (e.op, e.hint)) =
        (((log.filterMap (·.act)).zip ords).zip hints).map (fun x => (x.1.1.toOp x.1.2, x.2)) := by
  induction log with
  | nil => exact ⟨[], [], rfl, rfl, rfl⟩
  | cons e log ih =>
    obtain ⟨ords, hints, h1, h2, h3⟩ := ih (fun e' he' => hops e' (List.mem_cons_of_mem _ he'))
      (fun e' he' => hnofire e' (List.mem_cons_of_mem _ he'))
    rcases hops e (List.mem_cons_self ..) with ⟨a, ord, ha, hop⟩ | ⟨hn', _⟩
    · refine ⟨ord :: ords, e.hint :: hints, ?_, ?_, ?_⟩
      · simp [ha, h1]
      · simp [ha, h2]
      · simp [ha, hop, h3]
    · exact absurd hn' (hnofire e (List.mem_cons_self ..))

end Gossamer.C30
