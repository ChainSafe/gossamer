/-
C27: the refinement between the database model of dot/state/slot.go (Model/C27) and the abstract machine of
Lib/C27Spec: the relation `R`, what `CheckEquivocation` reads from a related database, the batch it writes
(`R_write`), one check against one step of the machine (`refines_step`) and sequences of checks (`refines_run`);
`absState`, the abstract content of a database.  Core Lean only.
-/
import Gossamer.Model.C27
import Gossamer.Lib.C27DB
import Gossamer.Lib.C27Spec
open Gossamer Gossamer.C27
namespace Gossamer.C27

section
variable {H S Hh : Type}

/-- refinement relation between the database and the abstract state.  It speaks only of the keys
    `CheckEquivocation` reads (`startKey`, `slotKey n`), from the abstract state to the database; anything else in the
    database is never read.  Slot numbers are below `2^64` because only those have distinct keys (`slotKey_inj`) and
    survive the 8-byte round trip (`le64_leBytes`). -/
structure R (c : Codec H S) (db : DB) (st : Spec H S) : Prop where
  start_none : st.start = none → db.get startKey = none
  start_some : ∀ n, st.start = some n → n < 2 ^ 64 ∧ db.get startKey = some (leBytes 8 n)
  slot_nil : ∀ n, n < 2 ^ 64 → st.slots n = [] → db.get (slotKey n) = none
  slot_cons : ∀ n, n < 2 ^ 64 → st.slots n ≠ [] → db.get (slotKey n) = some (c.enc (st.slots n))

theorem R_empty (c : Codec H S) : R c [] (Spec.empty : Spec H S) :=
  ⟨fun _ => rfl, fun _ h => by simp [Spec.empty] at h, fun _ _ _ => rfl,
   fun _ _ h => by simp [Spec.empty] at h⟩

theorem read_slot {c : Codec H S} (hc : c.Lawful) {db : DB} {st : Spec H S} (hR : R c db st)
    {n : Nat} (hn : n < 2 ^ 64) :
    (if ((db.get (slotKey n)).getD []).length > 0 then c.dec ((db.get (slotKey n)).getD [])
      else some []) = some (st.slots n) := by
  by_cases h : st.slots n = []
  · rw [hR.slot_nil n hn h, h]; rfl
  · rw [hR.slot_cons n hn h, Option.getD_some, if_pos (List.length_pos_iff.mpr (hc.enc_ne _)), hc.dec_enc]

theorem read_start {c : Codec H S} {db : DB} {st : Spec H S} (hR : R c db st) (slot : Nat) :
    (if ((db.get startKey).getD []).length > 0 then le64 ((db.get startKey).getD []) else slot)
      = st.start.getD slot := by
  cases h : st.start with
  | none => rw [hR.start_none h]; rfl
  | some n =>
    obtain ⟨hn, hg⟩ := hR.start_some n h
    rw [hg, Option.getD_some, if_pos (by rw [length_leBytes]; decide), le64_leBytes n hn]; rfl

theorem scan_eq_find [DecidableEq S] [DecidableEq Hh] (hash : H → Hh) (slot : Nat) (header : H) (signer : S) (l : List (H × S)) :
    scan hash slot header signer l =
      (l.find? (fun e => e.2 = signer)).map
        (fun e => if hash header ≠ hash e.1 then .proof slot signer e.1 header else .none) := by
  induction l with
  | nil => rfl
  | cons e r ih =>
    obtain ⟨ph, ps⟩ := e
    by_cases h : ps = signer
    · by_cases h2 : hash ph = hash header
      · simp [scan, h, h2]
      · have : ¬ hash header = hash ph := fun x => h2 x.symm
        simp [scan, h, h2, this]
    · simp [scan, h, ih]

theorem mem_pruneKeys {first newFirst n : Nat} (hn : n < 2 ^ 64) (hnf : newFirst ≤ 2 ^ 64) :
    slotKey n ∈ pruneKeys first newFirst ↔ first ≤ n ∧ n < newFirst := by
  have hr : ∀ m, m ∈ List.range' first (newFirst - first) ↔ first ≤ m ∧ m < newFirst := fun m => by
    rw [List.mem_range'_1]; omega
  rw [pruneKeys, List.mem_map]
  constructor
  · rintro ⟨m, hm, h3⟩
    have hm := (hr m).1 hm
    exact slotKey_inj (Nat.lt_of_lt_of_le hm.2 hnf) hn h3 ▸ hm
  · exact fun h => ⟨n, (hr n).2 h, rfl⟩

theorem startKey_not_mem_pruneKeys (first newFirst : Nat) : startKey ∉ pruneKeys first newFirst := by
  simp only [pruneKeys, List.mem_map, not_exists, not_and]
  intro m _ h
  exact slotKey_ne_startKey m h

theorem R_write {c : Codec H S} {db : DB} {st : Spec H S} (hR : R c db st) {slot first newFirst : Nat}
    (h2 : slot < 2 ^ 64) (hnf : newFirst < 2 ^ 64) (keys : List Bytes)
    (hk : ∀ n, n < 2 ^ 64 → (slotKey n ∈ keys ↔ first ≤ n ∧ n < newFirst))
    (hs : startKey ∉ keys) (l' : List (H × S)) (hl : l' ≠ []) :
    R c (db.flush ([BatchOp.put (slotKey slot) (c.enc l'), BatchOp.put startKey (leBytes 8 newFirst)]
          ++ keys.map BatchOp.del))
      { start := some newFirst,
        slots := fun n => if first ≤ n ∧ n < newFirst then [] else if n = slot then l' else st.slots n } := by
  constructor
  · intro h; simp at h
  · intro n h
    simp only [Option.some.injEq] at h
    subst h
    refine ⟨hnf, ?_⟩
    rw [get_flush_batch]; simp [hs]
  · intro n hn h
    rw [get_flush_batch]
    by_cases hr : first ≤ n ∧ n < newFirst
    · simp [(hk n hn).mpr hr]
    · simp only [hr, if_false] at h
      have hne : n ≠ slot := by intro e; simp [e, hl] at h
      simp only [hne, if_false] at h
      have hk' : slotKey n ∉ keys := fun x => hr ((hk n hn).mp x)
      have h3 : ¬ slotKey n = slotKey slot := fun e => hne (slotKey_inj hn h2 e)
      simp [hk', slotKey_ne_startKey n, h3, hR.slot_nil n hn h]
  · intro n hn h
    rw [get_flush_batch]
    by_cases hr : first ≤ n ∧ n < newFirst
    · simp [hr] at h
    · simp only [hr, if_false] at h ⊢
      have hk' : slotKey n ∉ keys := fun x => hr ((hk n hn).mp x)
      by_cases hne : n = slot
      · subst hne; simp [hk', slotKey_ne_startKey n]
      · simp only [hne, if_false] at h ⊢
        have h3 : ¬ slotKey n = slotKey slot := fun e => hne (slotKey_inj hn h2 e)
        simp [hk', slotKey_ne_startKey n, h3, hR.slot_cons n hn h]

/-- the abstract content of a database: what `CheckEquivocation` would read from it -/
def absState (c : Codec H S) (db : DB) : Spec H S where
  start := (db.get startKey).map le64
  slots := fun n => match db.get (slotKey n) with
    | some b => (c.dec b).getD []
    | none => []

theorem abs_start {c : Codec H S} {db : DB} {st : Spec H S} (hR : R c db st) :
    (absState c db).start = st.start := by
  cases h : st.start with
  | none => simp [absState, hR.start_none h]
  | some n =>
    obtain ⟨hn, hg⟩ := hR.start_some n h
    simp [absState, hg, le64_leBytes n hn]

theorem abs_slots {c : Codec H S} (hc : c.Lawful) {db : DB} {st : Spec H S} (hR : R c db st)
    {n : Nat} (hn : n < 2 ^ 64) : (absState c db).slots n = st.slots n := by
  by_cases h : st.slots n = []
  · simp [absState, hR.slot_nil n hn h, h]
  · simp [absState, hR.slot_cons n hn h, hc.dec_enc]

/-- inputs are Go `uint64` -/
def Op.wf (o : Op H S) : Prop := o.slotNow < 2 ^ 64 ∧ o.slot < 2 ^ 64

variable [DecidableEq S] [DecidableEq Hh]

theorem refines_step {c : Codec H S} (hc : c.Lawful) (hash : H → Hh) {db : DB} {st : Spec H S}
    (hR : R c db st) (o : Op H S) (ho : o.wf) :
    (mstep c hash db o).1 = (sstep hash st o).1 ∧ R c (mstep c hash db o).2 (sstep hash st o).2 := by
  obtain ⟨h1, h2⟩ := ho
  have hfirst : st.start.getD o.slot < 2 ^ 64 := by
    cases h : st.start with
    | none => exact h2
    | some n => exact (hR.start_some n h).1
  unfold mstep checkEquivocation
  dsimp only
  -- the exits of `CheckEquivocation` in the order of the code; the first two are the checks outside the window
  by_cases hcap : satSub o.slotNow o.slot > maxSlotCapacity
  · rw [if_pos hcap, sstep_out_of_window hash st o fun hw => Nat.not_lt_of_le hw.1 hcap]; exact ⟨rfl, hR⟩
  rw [if_neg hcap, read_slot hc hR h2]
  dsimp only
  rw [read_start hR o.slot]
  by_cases hst : o.slotNow < st.start.getD o.slot
  · rw [if_pos hst, sstep_out_of_window hash st o fun hw => Nat.not_lt_of_le hw.2 hst]; exact ⟨rfl, hR⟩
  rw [if_neg hst, sstep_in_window hash st o ⟨Nat.le_of_not_lt hcap, Nat.le_of_not_lt hst⟩, scan_eq_find]
  cases (st.slots o.slot).find? (fun e => e.2 = o.signer) with
  | some e => exact ⟨rfl, hR⟩
  | none =>
    refine ⟨rfl, ?_⟩
    dsimp only [Option.map]
    -- the batch of slot.go against the state written by the reference, with and without pruning
    unfold written
    by_cases hp : o.slotNow - st.start.getD o.slot ≥ pruningBound
    · have hlt : o.slotNow - 1000 < 2 ^ 64 := Nat.lt_of_le_of_lt (Nat.sub_le ..) h1
      rw [if_pos hp, if_pos hp, show newFirst st o = o.slotNow - 1000 from if_pos hp]
      exact R_write hR h2 hlt _ (fun n hn => mem_pruneKeys hn (Nat.le_of_lt hlt))
        (startKey_not_mem_pruneKeys _ _) _ (List.append_ne_nil_of_right_ne_nil _ (List.cons_ne_nil _ _))
    · rw [if_neg hp, if_neg hp, show newFirst st o = st.start.getD o.slot from if_neg hp]
      exact R_write hR h2 hfirst [] (fun n _ => ⟨nofun, fun h => absurd h.2 (Nat.not_lt_of_le h.1)⟩)
        nofun _ (List.append_ne_nil_of_right_ne_nil _ (List.cons_ne_nil _ _))

theorem refines_run {c : Codec H S} (hc : c.Lawful) (hash : H → Hh) :
    ∀ (ops : List (Op H S)) (db : DB) (st : Spec H S), R c db st → (∀ o ∈ ops, o.wf) →
      (run (mstep c hash) db ops).1 = (run (sstep hash) st ops).1 ∧
      R c (run (mstep c hash) db ops).2 (run (sstep hash) st ops).2 := by
  intro ops
  induction ops with
  | nil => intro db st hR _; exact ⟨rfl, hR⟩
  | cons o r ih =>
    intro db st hR hwf
    obtain ⟨e1, hR'⟩ := refines_step hc hash hR o (hwf o (by simp))
    obtain ⟨e2, hR''⟩ := ih _ _ hR' (fun x hx => hwf x (by simp [hx]))
    simp only [run]
    exact ⟨by rw [e1, e2], hR''⟩

end

end Gossamer.C27
