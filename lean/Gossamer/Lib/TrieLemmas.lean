/-
What a trie node means (`lookup`, `entriesN`) and what the Go functions of `TrieMem` do at one node.
Every operation is analysed along one of the case splitters on how a key lies to a partial key:
`key_cases`, `slot_cases`, `two_keys_cases`, `prefix_cases`.
-/
import Gossamer.Lib.OMapLemmas
import Gossamer.Lib.TrieMem
namespace Gossamer
open Rank OMap

/-- the three positions look-up and delete distinguish -/
theorem key_cases (pk k : Nibs) :
    k = pk ∨ (∃ i r, k = pk ++ i :: r) ∨ pk.isPrefixOf k = false := by
  cases h : pk.isPrefixOf k with
  | false => right; right; rfl
  | true =>
    obtain ⟨r, hr⟩ := isPrefixOf_iff.mp h
    cases r with
    | nil => left; simpa using hr
    | cons i r => right; left; exact ⟨i, r, hr⟩

theorem append_cons_ne_self (pk : Nibs) (i : Nib) (r : Nibs) : pk ++ i :: r ≠ pk :=
  fun h => List.cons_ne_nil i r (List.append_right_eq_self.mp h)

theorem off_ne_append {pk k : Nibs} (h : pk.isPrefixOf k = false) (r : Nibs) : k ≠ pk ++ r := by
  intro e; subst e; simp [isPrefixOf_append_self] at h

theorem isPrefixOf_false_ne {pk k : Nibs} (h : pk.isPrefixOf k = false) : k ≠ pk := by
  intro e; subst e; simp [isPrefixOf_self] at h

namespace Trie

@[simp] theorem lookup_nil (k : Nibs) : lookup nil k = none := rfl

@[simp] theorem lookup_leaf (pk : Nibs) (v : Bytes) (k : Nibs) :
    lookup (leaf pk v) k = if k = pk then some v else none := rfl

theorem lookup_leaf_eq_some {pk : Nibs} {v : Bytes} {k : Nibs} {x : Bytes} :
    lookup (leaf pk v) k = some x ↔ k = pk ∧ v = x := by
  rw [lookup_leaf]
  split <;> simp [*]

theorem lookup_branch_self (pk : Nibs) (v : Option Bytes) (cs : Nib → Trie) :
    lookup (branch pk v cs) pk = v := by
  simp [lookup]

theorem lookup_branch_child (pk : Nibs) (v : Option Bytes) (cs : Nib → Trie) (i : Nib) (r : Nibs) :
    lookup (branch pk v cs) (pk ++ i :: r) = lookup (cs i) r := by
  simp [lookup, isPrefixOf_append_self]

theorem lookup_branch_off (pk : Nibs) (v : Option Bytes) (cs : Nib → Trie) (k : Nibs)
    (h : pk.isPrefixOf k = false) : lookup (branch pk v cs) k = none := by
  simp [lookup, isPrefixOf_false_ne h, h]

theorem lookup_branch_some {pk : Nibs} {v : Option Bytes} {cs : Nib → Trie} {k : Nibs} {x : Bytes}
    (h : lookup (branch pk v cs) k = some x) :
    (k = pk ∧ v = some x) ∨ ∃ i rest, k = pk ++ i :: rest ∧ lookup (cs i) rest = some x := by
  rcases key_cases pk k with rfl | ⟨i, r, rfl⟩ | hoff
  · exact .inl ⟨rfl, by rwa [lookup_branch_self] at h⟩
  · exact .inr ⟨i, r, rfl, by rwa [lookup_branch_child] at h⟩
  · rw [lookup_branch_off _ _ _ _ hoff] at h; cases h

theorem branch_key_prefix {pk : Nibs} {v : Option Bytes} {cs : Nib → Trie} {k : Nibs} {x : Bytes}
    (h : lookup (branch pk v cs) k = some x) : pk.isPrefixOf k = true := by
  cases hp : pk.isPrefixOf k with
  | true => rfl
  | false => rw [lookup_branch_off _ _ _ _ hp] at h; cases h

theorem lookup_branch_value (pk : Nibs) (v v' : Option Bytes) (cs : Nib → Trie) (k : Nibs) :
    lookup (branch pk v' cs) k = if k = pk then v' else lookup (branch pk v cs) k := by
  rcases key_cases pk k with rfl | ⟨j, q, rfl⟩ | hoff
  · rw [lookup_branch_self, if_pos rfl]
  · rw [lookup_branch_child, lookup_branch_child, if_neg (append_cons_ne_self pk j q)]
  · rw [lookup_branch_off _ _ _ _ hoff, lookup_branch_off _ _ _ _ hoff, if_neg (isPrefixOf_false_ne hoff)]

theorem get_map_prefix (p : Nibs) (es : List (Nibs × Bytes)) (k : Nibs) :
    OMap.get (p ++ k) (es.map (fun e => (p ++ e.1, e.2))) = OMap.get k es := by
  induction es with
  | nil => rfl
  | cons e r ih => simp [OMap.get, ih]

theorem get_map_prefix_off (p : Nibs) (es : List (Nibs × Bytes)) (k : Nibs)
    (h : p.isPrefixOf k = false) :
    OMap.get k (es.map (fun e => (p ++ e.1, e.2))) = none :=
  OMap.get_lookup.none_of_not_mem fun hm => by
    obtain ⟨e, he, rfl⟩ := List.mem_map.mp hm
    obtain ⟨x, _, rfl⟩ := List.mem_map.mp he
    exact off_ne_append h x.1 rfl

/-- `entriesN` of a branch is the case `l = finRange 16` (`entriesN_branch`); the slot list is a variable so that
    inductions can run over the slots still to come (`get_childEntries`, `dnl_loop`). -/
def childEntries (E : Nib → List (Nibs × Bytes)) (l : List Nib) : List (Nibs × Bytes) :=
  l.flatMap (fun i => (E i).map (fun e => (i :: e.1, e.2)))

theorem get_childEntries_nil (E : Nib → List (Nibs × Bytes)) (l : List Nib) :
    OMap.get [] (childEntries E l) = none :=
  OMap.get_lookup.none_of_not_mem fun hm => by
    obtain ⟨e, he, h0⟩ := List.mem_map.mp hm
    obtain ⟨i, _, hi⟩ := List.mem_flatMap.mp he
    obtain ⟨c, _, rfl⟩ := List.mem_map.mp hi
    cases h0

theorem get_childEntries (E : Nib → List (Nibs × Bytes)) (l : List Nib) (i : Nib) (r : Nibs) :
    OMap.get (i :: r) (childEntries E l) = if i ∈ l then OMap.get r (E i) else none := by
  induction l with
  | nil => simp [childEntries, OMap.get]
  | cons j l ih =>
    simp only [childEntries, List.flatMap_cons] at ih ⊢
    rw [get_append, ih]
    by_cases hij : i = j
    · subst hij
      have := get_map_prefix [i] (E i) r
      simp only [List.singleton_append] at this
      rw [this]
      cases h : OMap.get r (E i) <;> simp
    · have : OMap.get (i :: r) ((E j).map (fun e => (j :: e.1, e.2))) = none :=
        get_map_prefix_off [j] (E j) (i :: r) (isPrefixOf_fork [] (Ne.symm hij) [] r)
      simp [this, hij]

theorem entriesN_branch (pk : Nibs) (v : Option Bytes) (cs : Nib → Trie) :
    entriesN (branch pk v cs) =
      (match v with | some x => [(pk, x)] | none => []) ++
      (childEntries (fun i => entriesN (cs i)) (List.finRange 16)).map
        (fun e => (pk ++ e.1, e.2)) := by
  simp [entriesN, childEntries, List.map_flatMap, List.map_map, Function.comp_def]
  cases v <;> rfl

theorem get_entriesN (t : Trie) (k : Nibs) : OMap.get k (entriesN t) = lookup t k := by
  induction t generalizing k with
  | nil => rfl
  | leaf pk v => simp [entriesN, OMap.get, eq_comm]
  | branch pk v cs ih =>
    rw [entriesN_branch, get_append]
    have hval : ∀ k', k' ≠ pk → OMap.get k' (match v with | some x => [(pk, x)] | none => []) = none :=
      fun k' h => by cases v <;> simp [OMap.get, h.symm]
    rcases key_cases pk k with h | ⟨i, r, h⟩ | h
    · subst h
      rw [lookup_branch_self]
      have h2 := get_map_prefix k (childEntries (fun i => entriesN (cs i)) (List.finRange 16)) []
      simp only [List.append_nil] at h2
      rw [h2, get_childEntries_nil]
      cases v <;> simp [OMap.get]
    · subst h
      rw [lookup_branch_child, get_map_prefix, get_childEntries]
      simp [hval _ (append_cons_ne_self pk i r), List.mem_finRange, ih]
    · rw [lookup_branch_off _ _ _ _ h, get_map_prefix_off _ _ _ h]
      simp [hval _ (isPrefixOf_false_ne h)]

/-- `pairwise_*`: ascending in core's `Pairwise` spelling (`AList.Sorted klt`), which the list lemmas work on;
    `sorted_entriesN` is the `OMap.Sorted` form -/
theorem pairwise_map_prefix (q : Nibs) {es : List (Nibs × Bytes)}
    (h : AList.Sorted klt es) : AList.Sorted klt (es.map (fun e => (q ++ e.1, e.2))) :=
  List.pairwise_map.mpr (h.imp fun hab => by rwa [klt_append_left])

theorem pairwise_childEntries (E : Nib → List (Nibs × Bytes)) (l : List Nib)
    (hE : ∀ i, AList.Sorted klt (E i))
    (hl : l.Pairwise (fun a b => a < b)) :
    AList.Sorted klt (childEntries E l) := by
  rw [childEntries, AList.Sorted, List.pairwise_flatMap]
  constructor
  · exact fun i _ => pairwise_map_prefix [i] (hE i)
  · refine hl.imp ?_
    intro a b hab x hx y hy
    obtain ⟨x', _, rfl⟩ := List.mem_map.mp hx
    obtain ⟨y', _, rfl⟩ := List.mem_map.mp hy
    simp only [klt, Bool.or_eq_true, decide_eq_true_eq]
    left
    exact hab

theorem pairwise_entriesN (t : Trie) : AList.Sorted klt (entriesN t) := by
  induction t with
  | nil => simp [entriesN]
  | leaf pk v => simp [entriesN]
  | branch pk v cs ih =>
    rw [entriesN_branch, AList.Sorted, List.pairwise_append]
    refine ⟨by cases v <;> simp, ?_, ?_⟩
    · exact pairwise_map_prefix pk (pairwise_childEntries _ _ ih (List.pairwise_lt_finRange 16))
    · intro a ha b hb
      obtain ⟨b', hb', rfl⟩ := List.mem_map.mp hb
      have ha' : a.1 = pk := by cases v <;> simp at ha; simp [ha]
      rw [ha']
      -- keys of children are non-empty
      obtain ⟨i, _, hi⟩ := List.mem_flatMap.mp hb'
      obtain ⟨c, _, rfl⟩ := List.mem_map.mp hi
      exact klt_append_cons pk i c.1

theorem sorted_entriesN (t : Trie) : OMap.Sorted (entriesN t) :=
  (OMap.sorted_iff_pairwise _).mpr (pairwise_entriesN t)

theorem entriesN_ext {a b : Trie} (h : ∀ k, lookup a k = lookup b k) : entriesN a = entriesN b :=
  OMap.sorted_ext (sorted_entriesN a) (sorted_entriesN b)
    (fun k => by rw [get_entriesN, get_entriesN, h])

theorem lcp_spec (a b : Nibs) : ∃ a' b', a = lcp a b ++ a' ∧ b = lcp a b ++ b' ∧
    (∀ x xs y ys, a' = x :: xs → b' = y :: ys → x ≠ y) := by
  induction a generalizing b with
  | nil => exact ⟨[], b, rfl, rfl, fun _ _ _ _ h => nomatch h⟩
  | cons x xs ih =>
    cases b with
    | nil => exact ⟨x :: xs, [], rfl, rfl, fun _ _ _ _ _ h => nomatch h⟩
    | cons y ys =>
      by_cases hxy : x = y
      · subst hxy
        obtain ⟨a', b', h1, h2, h3⟩ := ih ys
        refine ⟨a', b', ?_, ?_, h3⟩
        · simp only [lcp, if_true, List.cons_append]; rw [← h1]
        · simp only [lcp, if_true, List.cons_append]; rw [← h2]
      · refine ⟨x :: xs, y :: ys, by simp [lcp, hxy], by simp [lcp, hxy], ?_⟩
        intro x' xs' y' ys' h1 h2
        cases h1; cases h2; exact hxy

theorem lcpLen_eq_lcp (a b : Nibs) : lcpLen a b = (lcp a b).length := by
  induction a generalizing b with
  | nil => cases b <;> rfl
  | cons x xs ih =>
    cases b with
    | nil => rfl
    | cons y ys => simp only [lcpLen, lcp]; split <;> simp [ih]

/-- `lcp_spec` with the Go function `lcpLen` for the length of the common part -/
theorem lcp_split (a b : Nibs) : ∃ c a' b', a = c ++ a' ∧ b = c ++ b' ∧ lcpLen a b = c.length ∧
    (∀ x xs y ys, a' = x :: xs → b' = y :: ys → x ≠ y) := by
  obtain ⟨a', b', h1, h2, h3⟩ := lcp_spec a b
  exact ⟨lcp a b, a', b', h1, h2, lcpLen_eq_lcp a b, h3⟩

theorem lcpLen_append (c a b : Nibs) : lcpLen (c ++ a) (c ++ b) = c.length + lcpLen a b := by
  induction c with
  | nil => simp
  | cons x xs ih => simp [lcpLen, ih]; omega

theorem lcpLen_prefix (pk r : Nibs) : lcpLen pk (pk ++ r) = pk.length := by
  have := lcpLen_append pk [] r
  rwa [List.append_nil, show lcpLen [] r = 0 by cases r <;> rfl] at this

theorem lcpLen_self (pk : Nibs) : lcpLen pk pk = pk.length := by
  have := lcpLen_prefix pk []
  rwa [List.append_nil] at this

theorem lcpLen_le_left (a b : Nibs) : lcpLen a b ≤ a.length := by
  induction a generalizing b with
  | nil => simp [lcpLen]
  | cons x xs ih =>
    cases b with
    | nil => simp [lcpLen]
    | cons y ys =>
      simp only [lcpLen]
      split
      · simp; exact ih ys
      · simp

theorem lcpLen_lt_of_off {pk key : Nibs} (h : pk.isPrefixOf key = false) :
    lcpLen pk key < pk.length := by
  obtain ⟨c, pa, ka, rfl, rfl, h3, _⟩ := lcp_split pk key
  rw [h3]
  cases pa with
  | nil => simp [isPrefixOf_append_self] at h
  | cons x xs => simp

/-- the four positions `insert` distinguishes -/
theorem two_keys_cases (key pk : Nibs) :
    key = pk ∨ (∃ i rest, pk = key ++ i :: rest) ∨ (∃ j krest, key = pk ++ j :: krest) ∨
      ∃ c i rest j krest, j ≠ i ∧ pk = c ++ i :: rest ∧ key = c ++ j :: krest := by
  obtain ⟨c, ka, pa, rfl, rfl, _, h4⟩ := lcp_split key pk
  cases ka with
  | nil =>
    cases pa with
    | nil => exact Or.inl rfl
    | cons i rest => exact Or.inr (Or.inl ⟨i, rest, by simp⟩)
  | cons j krest =>
    cases pa with
    | nil => exact Or.inr (Or.inr (Or.inl ⟨j, krest, by simp⟩))
    | cons i rest => exact Or.inr (Or.inr (Or.inr ⟨c, i, rest, j, krest, h4 j krest i rest rfl rfl, rfl, rfl⟩))

/-- the three positions the prefix operations distinguish -/
theorem prefix_cases (pre pk : Nibs) :
    pre.isPrefixOf pk = true ∨ (∃ i rest, pre = pk ++ i :: rest) ∨
      (pre.isPrefixOf pk = false ∧ pk.isPrefixOf pre = false) := by
  rcases key_cases pk pre with rfl | h | h
  · exact Or.inl (isPrefixOf_self _)
  · exact Or.inr (Or.inl h)
  · cases h' : pre.isPrefixOf pk with
    | true => exact Or.inl rfl
    | false => exact Or.inr (Or.inr ⟨rfl, h⟩)

theorem off_of_diverge {pre pk k : Nibs} (h1 : pre.isPrefixOf pk = false)
    (h2 : pk.isPrefixOf pre = false) (hk : pk.isPrefixOf k = true) : pre.isPrefixOf k = false :=
  Bool.eq_false_iff.mpr fun hp => by
    rcases isPrefixOf_total hp hk with h | h
    · rw [h1] at h; cases h
    · rw [h2] at h; cases h

theorem dropLast_ne_of_off {pre pk : Nibs} (h : pk.isPrefixOf pre = false) :
    (pre.dropLast == pk) = false := by
  rw [beq_eq_false_iff_ne]
  rintro rfl
  rw [List.isPrefixOf_iff_prefix.mpr (List.dropLast_prefix pre)] at h; cases h

/-- a child as the branch above it sees it (`lookup_prepend`) -/
def prepend (p : Nibs) : Trie → Trie
  | nil => nil
  | leaf pk v => leaf (p ++ pk) v
  | branch pk v cs => branch (p ++ pk) v cs

theorem lookup_prepend (p : Nibs) (t : Trie) (k : Nibs) :
    lookup (prepend p t) (p ++ k) = lookup t k := by
  cases t with
  | nil => rfl
  | leaf pk v => simp [prepend]
  | branch pk v cs =>
    simp only [prepend, lookup, List.append_cancel_left_eq, isPrefixOf_append_left, List.length_append]
    have : (p ++ k).drop (p.length + pk.length) = k.drop pk.length := by
      rw [← List.drop_drop]; simp
    rw [this]

theorem lookup_prepend_off (p : Nibs) (t : Trie) (k : Nibs) (h : p.isPrefixOf k = false) :
    lookup (prepend p t) k = none := by
  have hne := off_ne_append h
  have hpre := isPrefixOf_off_append h
  cases t with
  | nil => rfl
  | leaf pk v => simp [prepend, hne]
  | branch pk v cs => simp [prepend, lookup, hne, hpre]

@[simp] theorem setChild_same (cs : Nib → Trie) (i : Nib) (c : Trie) : setChild cs i c i = c := by
  simp [setChild]

theorem setChild_other (cs : Nib → Trie) (i j : Nib) (c : Trie) (h : j ≠ i) :
    setChild cs i c j = cs j := by
  simp [setChild, h]

theorem setChild_self (cs : Nib → Trie) (idx : Nib) : setChild cs idx (cs idx) = cs := by
  funext i
  by_cases hi : i = idx
  · subst hi; exact setChild_same cs i _
  · exact setChild_other cs idx i _ hi

theorem isPrefixOf_snoc_iff {pk : Nibs} {i : Nib} {k : Nibs} :
    (pk ++ [i]).isPrefixOf k = true ↔ ∃ r, k = pk ++ i :: r := by
  rw [isPrefixOf_iff]
  exact exists_congr fun r => by rw [List.append_assoc, List.singleton_append]

theorem slot_cases (pk : Nibs) (i : Nib) (k : Nibs) :
    (∃ r, k = pk ++ i :: r) ∨ (pk ++ [i]).isPrefixOf k = false := by
  cases h : (pk ++ [i]).isPrefixOf k with
  | true => exact Or.inl (isPrefixOf_snoc_iff.mp h)
  | false => exact Or.inr rfl

theorem lookup_setChild_child (pk : Nibs) (v : Option Bytes) (cs : Nib → Trie) (i : Nib) (c : Trie)
    (r : Nibs) : lookup (branch pk v (setChild cs i c)) (pk ++ i :: r) = lookup c r := by
  rw [lookup_branch_child, setChild_same]

theorem lookup_setChild_other (pk : Nibs) (v : Option Bytes) (cs : Nib → Trie) (i : Nib) (c : Trie)
    {k : Nibs} (h : (pk ++ [i]).isPrefixOf k = false) :
    lookup (branch pk v (setChild cs i c)) k = lookup (branch pk v cs) k := by
  rcases key_cases pk k with rfl | ⟨j, r, rfl⟩ | hoff
  · rw [lookup_branch_self, lookup_branch_self]
  · have hj : j ≠ i := by
      rintro rfl
      rw [isPrefixOf_snoc_iff.mpr ⟨r, rfl⟩] at h; cases h
    rw [lookup_branch_child, lookup_branch_child, setChild_other _ _ _ _ hj]
  · rw [lookup_branch_off _ _ _ _ hoff, lookup_branch_off _ _ _ _ hoff]

theorem lookup_prepend_snoc (pk : Nibs) (i : Nib) (t : Trie) (r : Nibs) :
    lookup (prepend (pk ++ [i]) t) (pk ++ i :: r) = lookup t r := by
  have := lookup_prepend (pk ++ [i]) t r
  rwa [List.append_assoc, List.singleton_append] at this

theorem lookup_branch_noChildren (c : Nibs) (v : Option Bytes) (k : Nibs) :
    lookup (branch c v noChildren) k = if k = c then v else none := by
  rcases key_cases c k with rfl | ⟨j, r, rfl⟩ | hoff
  · rw [lookup_branch_self, if_pos rfl]
  · rw [lookup_branch_child, if_neg (append_cons_ne_self c j r)]; rfl
  · rw [lookup_branch_off _ _ _ _ hoff, if_neg (isPrefixOf_false_ne hoff)]

/-- this and `lookup_pair`: the shapes `insertInLeaf` and `insert` build where two keys part -/
theorem lookup_single (c : Nibs) (v : Option Bytes) (i : Nib) (a : Trie) (k : Nibs) :
    lookup (branch c v (setChild noChildren i a)) k =
      if k = c then v else lookup (prepend (c ++ [i]) a) k := by
  rcases slot_cases c i k with ⟨r, rfl⟩ | h
  · rw [lookup_setChild_child, lookup_prepend_snoc, if_neg (append_cons_ne_self c i r)]
  · rw [lookup_setChild_other _ _ _ _ _ h, lookup_prepend_off _ _ _ h, lookup_branch_noChildren]

theorem lookup_pair (c : Nibs) (v : Option Bytes) {i j : Nib} (hij : i ≠ j) (a b : Trie) (k : Nibs) :
    lookup (branch c v (setChild (setChild noChildren i a) j b)) k =
      if k = c then v else
        (lookup (prepend (c ++ [i]) a) k).or (lookup (prepend (c ++ [j]) b) k) := by
  rcases slot_cases c j k with ⟨r, rfl⟩ | h
  · rw [lookup_setChild_child, lookup_prepend_snoc, if_neg (append_cons_ne_self c j r),
      lookup_prepend_off _ _ _ (isPrefixOf_fork c hij [] r), Option.none_or]
  · rw [lookup_setChild_other _ _ _ _ _ h, lookup_single, lookup_prepend_off _ _ _ h, Option.or_none]

theorem insertInLeaf_self (pk : Nibs) (lv value : Bytes) : insertInLeaf pk lv pk value = leaf pk value := by
  simp [insertInLeaf]

theorem insertInLeaf_above (c : Nibs) (i : Nib) (rest : Nibs) (lv value : Bytes) :
    insertInLeaf (c ++ i :: rest) lv c value =
      branch c (some value) (setChild noChildren i (leaf rest lv)) := by
  simp [insertInLeaf, lcpLen_prefix]

theorem insertInLeaf_below (c : Nibs) (j : Nib) (krest : Nibs) (lv value : Bytes) :
    insertInLeaf c lv (c ++ j :: krest) value =
      branch c (some lv) (setChild noChildren j (leaf krest value)) := by
  have := lcpLen_append c (j :: krest) []
  simp only [List.append_nil] at this
  simp [insertInLeaf, this, lcpLen]

theorem insertInLeaf_fork (c : Nibs) {i j : Nib} (h : j ≠ i) (rest krest : Nibs) (lv value : Bytes) :
    insertInLeaf (c ++ i :: rest) lv (c ++ j :: krest) value =
      branch c none (setChild (setChild noChildren i (leaf rest lv)) j (leaf krest value)) := by
  simp [insertInLeaf, lcpLen_append, lcpLen, h, Ne.symm h]

theorem insert_branch_self (pk : Nibs) (v : Option Bytes) (cs : Nib → Trie) (value : Bytes) :
    insert (branch pk v cs) pk value = branch pk (some value) cs := by
  simp [insert]

theorem insert_branch_child (pk : Nibs) (v : Option Bytes) (cs : Nib → Trie) (i : Nib) (rest : Nibs)
    (value : Bytes) :
    insert (branch pk v cs) (pk ++ i :: rest) value =
      branch pk v (setChild cs i (insert (cs i) rest value)) := by
  simp [insert, isPrefixOf_append_self]

theorem insert_branch_above (c : Nibs) (oi : Nib) (orest : Nibs) (v : Option Bytes) (cs : Nib → Trie)
    (value : Bytes) :
    insert (branch (c ++ oi :: orest) v cs) c value =
      branch c (some value) (setChild noChildren oi (branch orest v cs)) := by
  simp [insert, append_cons_isPrefixOf_self, lcpLen_prefix]

theorem insert_branch_fork (c : Nibs) {oi j : Nib} (h : j ≠ oi) (orest krest : Nibs)
    (v : Option Bytes) (cs : Nib → Trie) (value : Bytes) :
    insert (branch (c ++ oi :: orest) v cs) (c ++ j :: krest) value =
      branch c none (setChild (setChild noChildren oi (branch orest v cs)) j (leaf krest value)) := by
  simp [insert, isPrefixOf_fork c (Ne.symm h), lcpLen_append, lcpLen, h]

theorem lookup_insertInLeaf (pk : Nibs) (lv : Bytes) (key : Nibs) (value : Bytes) (k' : Nibs) :
    lookup (insertInLeaf pk lv key value) k' =
      if k' = key then some value else lookup (leaf pk lv) k' := by
  rcases two_keys_cases key pk with rfl | ⟨i, rest, rfl⟩ | ⟨j, krest, rfl⟩ |
    ⟨c, i, rest, j, krest, hij, rfl, rfl⟩
  · rw [insertInLeaf_self]; by_cases h : k' = key <;> simp [h]
  · rw [insertInLeaf_above, lookup_single]; simp [prepend]
  · rw [insertInLeaf_below, lookup_single]
    by_cases h1 : k' = pk
    · subst h1; simp
    · simp [prepend, h1]
  · rw [insertInLeaf_fork c hij, lookup_pair _ _ hij.symm]
    by_cases h1 : k' = c ++ j :: krest
    · subst h1; simp [prepend, hij]
    · by_cases h0 : k' = c
      · subst h0; simp
      · simp [prepend, h0, h1]

theorem lookup_insert (t : Trie) (key : Nibs) (value : Bytes) (k' : Nibs) :
    lookup (insert t key value) k' = if k' = key then some value else lookup t k' := by
  induction t generalizing key k' with
  | nil => simp [insert]
  | leaf pk lv => exact lookup_insertInLeaf pk lv key value k'
  | branch pk v cs ih =>
    rcases two_keys_cases key pk with rfl | ⟨oi, orest, rfl⟩ | ⟨i, rest, rfl⟩ |
      ⟨c, oi, orest, j, krest, hj, rfl, rfl⟩
    · rw [insert_branch_self]; exact lookup_branch_value key v _ cs k'
    · rw [insert_branch_above, lookup_single]; simp [prepend]
    · rw [insert_branch_child]
      rcases slot_cases pk i k' with ⟨r, rfl⟩ | h
      · simp [lookup_branch_child, ih]
      · rw [lookup_setChild_other _ _ _ _ _ h, if_neg (by simpa using off_ne_append h rest)]
    · -- the old branch holds neither the common prefix nor the new key
      have hc := lookup_branch_off _ v cs _ (append_cons_isPrefixOf_self c oi orest)
      have hk : lookup (branch (c ++ oi :: orest) v cs) (c ++ j :: krest) = none :=
        lookup_branch_off _ _ _ _ (isPrefixOf_fork c hj.symm _ _)
      rw [insert_branch_fork c hj, lookup_pair _ _ hj.symm]
      by_cases e1 : k' = c ++ j :: krest
      · subst e1; simp [prepend, hk]
      · by_cases e0 : k' = c
        · subst e0; simp [hc]
        · simp [prepend, e0, e1]

theorem insert_ne_nil (t : Trie) (k : Nibs) (v : Bytes) : Trie.insert t k v ≠ nil := by
  intro e
  have := lookup_insert t k v k
  rw [e] at this
  simp at this

theorem entriesN_insert (t : Trie) (key : Nibs) (value : Bytes) :
    entriesN (insert t key value) = OMap.upsert key value (entriesN t) := by
  apply OMap.sorted_ext (sorted_entriesN _) (OMap.sorted_upsert _ _ (sorted_entriesN t))
  intro k
  rw [get_entriesN, lookup_insert, OMap.get_upsert, get_entriesN]

theorem isNil_iff (t : Trie) : t.isNil = true ↔ t = nil := by
  cases t <;> simp [isNil]

theorem isNil_false_of_ne {t : Trie} (h : t ≠ nil) : t.isNil = false := by
  cases t <;> simp_all [isNil]

theorem ne_nil_of_lookup {t : Trie} {k : Nibs} {x : Bytes} (h : lookup t k = some x) : t ≠ nil :=
  fun e => by rw [e] at h; cases h

theorem isNil_false_of_lookup {t : Trie} {k : Nibs} {x : Bytes} (h : lookup t k = some x) :
    t.isNil = false := isNil_false_of_ne (ne_nil_of_lookup h)

theorem emptyKeyHit_branch_self (pk : Nibs) (v : Option Bytes) (cs : Nib → Trie) :
    emptyKeyHit (branch pk v cs) pk = false := by
  cases pk <;> simp [emptyKeyHit]

theorem emptyKeyHit_branch_child (pk : Nibs) (v : Option Bytes) (cs : Nib → Trie) (i : Nib) (rest : Nibs) :
    emptyKeyHit (branch pk v cs) (pk ++ i :: rest) = emptyKeyHit (cs i) rest := by
  simp [emptyKeyHit, isPrefixOf_append_self]

/-- the `len(key) == 0` short cut is taken wrongly exactly by the empty key -/
theorem emptyKeyHit_branch_off {pk : Nibs} (v : Option Bytes) (cs : Nib → Trie) {key : Nibs}
    (h : pk.isPrefixOf key = false) : emptyKeyHit (branch pk v cs) key = key.isEmpty := by
  cases key with
  | nil => cases pk <;> simp_all [emptyKeyHit]
  | cons a as => simp [emptyKeyHit, h, (isPrefixOf_false_ne h).symm]

theorem retrieve_branch_self (pk : Nibs) (v : Option Bytes) (cs : Nib → Trie) :
    retrieve (branch pk v cs) pk = v := by
  simp [retrieve]

theorem retrieve_branch_child (pk : Nibs) (v : Option Bytes) (cs : Nib → Trie) (i : Nib) (rest : Nibs) :
    retrieve (branch pk v cs) (pk ++ i :: rest) = retrieve (cs i) rest := by
  simp [retrieve, isPrefixOf_append_self]

theorem retrieve_branch_off {pk : Nibs} (v : Option Bytes) (cs : Nib → Trie) {key : Nibs}
    (h : pk.isPrefixOf key = false) (hne : key ≠ []) : retrieve (branch pk v cs) key = none := by
  simp [retrieve, h, hne, (isPrefixOf_false_ne h).symm]

theorem retrieve_eq_lookup (t : Trie) (key : Nibs) (h : emptyKeyHit t key = false) :
    retrieve t key = lookup t key := by
  induction t generalizing key with
  | nil => rfl
  | leaf pk v => simp [retrieve, eq_comm]
  | branch pk v cs ih =>
    rcases key_cases pk key with rfl | ⟨i, rest, rfl⟩ | hoff
    · rw [retrieve_branch_self, lookup_branch_self]
    · rw [retrieve_branch_child, lookup_branch_child]
      exact ih i rest (by rwa [emptyKeyHit_branch_child] at h)
    · rw [emptyKeyHit_branch_off v cs hoff, List.isEmpty_eq_false_iff] at h
      rw [retrieve_branch_off v cs hoff h, lookup_branch_off _ _ _ _ hoff]

theorem lookup_of_emptyKeyHit (t : Trie) (key : Nibs) (h : emptyKeyHit t key = true) :
    lookup t key = none := by
  induction t generalizing key with
  | nil => rfl
  | leaf pk v =>
    simp only [emptyKeyHit, Bool.and_eq_true, List.isEmpty_iff, Bool.not_eq_true',
      List.isEmpty_eq_false_iff] at h
    obtain ⟨rfl, h2⟩ := h
    simp [eq_comm, h2]
  | branch pk v cs ih =>
    rcases key_cases pk key with rfl | ⟨i, rest, rfl⟩ | hoff
    · rw [emptyKeyHit_branch_self] at h; cases h
    · rw [emptyKeyHit_branch_child] at h
      rw [lookup_branch_child]; exact ih i rest h
    · exact lookup_branch_off _ _ _ _ hoff

theorem mem_childIdx (cs : Nib → Trie) (i : Nib) : i ∈ childIdx cs ↔ cs i ≠ nil := by
  simp [childIdx, List.mem_finRange, ← isNil_iff]

theorem childIdx_nil {cs : Nib → Trie} (h : childIdx cs = []) (i : Nib) : cs i = nil := by
  by_cases hc : cs i = nil
  · exact hc
  · have := (mem_childIdx cs i).mpr hc
    simp [h] at this

theorem childIdx_single {cs : Nib → Trie} {i : Nib} (h : childIdx cs = [i]) (x : Nib) :
    cs x ≠ nil ↔ x = i := by
  rw [← mem_childIdx, h]; simp

/-- `hpre`: where the branch becomes a leaf, Go cuts its key out of the caller's `key` -/
theorem lookup_handleDeletion (pk : Nibs) (v : Option Bytes) (cs : Nib → Trie) (key : Nibs)
    (hpre : v.isSome = true → pk.isPrefixOf key = true) (k' : Nibs) :
    lookup (handleDeletion pk v cs key) k' = lookup (branch pk v cs) k' := by
  unfold handleDeletion
  split
  · -- no child, value: leaf
    rename_i x hc
    obtain ⟨r, rfl⟩ := isPrefixOf_iff.mp (hpre rfl)
    have hcs : cs = noChildren := funext (childIdx_nil hc)
    rw [hcs, lookup_branch_noChildren, lcpLen_prefix, List.take_left' rfl, lookup_leaf]
  · -- a single child, no value: the child with the longer key holds the same keys
    rename_i i hc
    have hcs : cs = setChild noChildren i (cs i) := funext fun x => by
      by_cases hx : x = i
      · subst hx; rw [setChild_same]
      · rw [setChild_other _ _ _ _ hx]
        exact Classical.byContradiction fun h => hx ((childIdx_single hc x).mp h)
    have hmerge : lookup (prepend (pk ++ [i]) (cs i)) k' = lookup (branch pk none cs) k' := by
      rw [hcs, setChild_same, lookup_single]
      split
      · rename_i e; subst e
        exact lookup_prepend_off _ _ _ (by simpa using append_cons_isPrefixOf_self k' i [])
      · rfl
    split
    · rename_i cpk cv hci
      rw [← hmerge, hci]; simp [prepend]
    · rename_i cpk cv ccs hci
      rw [← hmerge, hci]; simp [prepend]
    · rfl
  · rfl

theorem handleDeletion_key (pk : Nibs) (v : Option Bytes) (cs : Nib → Trie) (r : Nibs) :
    handleDeletion pk v cs (pk ++ r) = handleDeletion pk v cs pk := by
  simp only [handleDeletion, lcpLen_prefix, lcpLen_self, List.take_left', List.take_length]

theorem clearPrefixAtNode_nil_prefix (t : Trie) : clearPrefixAtNode t [] = (nil, !t.isNil) := by
  cases t <;> simp [clearPrefixAtNode, isNil]

theorem clearPrefixAtNode_branch_all {pre pk : Nibs} (h : pre.isPrefixOf pk = true) (v : Option Bytes)
    (cs : Nib → Trie) : clearPrefixAtNode (branch pk v cs) pre = (nil, true) := by
  simp [clearPrefixAtNode, h]

/-- the two Go cases "the prefix is one of the children" and "the prefix goes deeper" are one -/
theorem clearPrefixAtNode_branch_child (pk : Nibs) (v : Option Bytes) (cs : Nib → Trie) (i : Nib)
    (rest : Nibs) :
    clearPrefixAtNode (branch pk v cs) (pk ++ i :: rest) =
      if (clearPrefixAtNode (cs i) rest).2 then
        (handleDeletion pk v (setChild cs i (clearPrefixAtNode (cs i) rest).1) (pk ++ i :: rest), true)
      else (branch pk v cs, false) := by
  cases rest with
  | nil =>
    rw [clearPrefixAtNode_nil_prefix]
    cases h : (cs i).isNil <;>
      simp [clearPrefixAtNode, append_cons_isPrefixOf_self, h]
  | cons j r =>
    have hlen : ¬ (pk.length + (r.length + 1 + 1) ≤ pk.length) := by omega
    cases h : (clearPrefixAtNode (cs i) (j :: r)).2 <;>
      simp [clearPrefixAtNode, append_cons_isPrefixOf_self, lcpLen_prefix, hlen, h]

theorem clearPrefixAtNode_branch_off {pre pk : Nibs} (h1 : pre.isPrefixOf pk = false)
    (h2 : pk.isPrefixOf pre = false) (v : Option Bytes) (cs : Nib → Trie) :
    clearPrefixAtNode (branch pk v cs) pre = (branch pk v cs, false) := by
  simp [clearPrefixAtNode, h1, dropLast_ne_of_off h2, lcpLen_lt_of_off h2]

theorem deleteAtNode_branch_self (pk : Nibs) (v : Option Bytes) (cs : Nib → Trie) :
    deleteAtNode (branch pk v cs) pk = (handleDeletion pk none cs pk, true) := by
  simp [deleteAtNode]

theorem deleteAtNode_branch_nil (pk : Nibs) (v : Option Bytes) (cs : Nib → Trie) :
    deleteAtNode (branch pk v cs) [] = (handleDeletion pk none cs [], true) := by
  simp [deleteAtNode]

theorem deleteAtNode_branch_child (pk : Nibs) (v : Option Bytes) (cs : Nib → Trie) (i : Nib)
    (rest : Nibs) :
    deleteAtNode (branch pk v cs) (pk ++ i :: rest) =
      if (deleteAtNode (cs i) rest).2 then
        (handleDeletion pk v (setChild cs i (deleteAtNode (cs i) rest).1) (pk ++ i :: rest), true)
      else (branch pk v cs, false) := by
  simp [deleteAtNode, lcpLen_prefix]
  cases (deleteAtNode (cs i) rest).2 <;> rfl

theorem deleteAtNode_branch_off {pk : Nibs} (v : Option Bytes) (cs : Nib → Trie) {key : Nibs}
    (h : pk.isPrefixOf key = false) (hne : key ≠ []) :
    deleteAtNode (branch pk v cs) key = (branch pk v cs, false) := by
  simp [deleteAtNode, hne, (isPrefixOf_false_ne h).symm, lcpLen_lt_of_off h]

theorem deleteAtNode_unchanged (t : Trie) (key : Nibs) (h : (deleteAtNode t key).2 = false) :
    (deleteAtNode t key).1 = t := by
  -- the arms that return `true` are 3 (leaf hit), 4 (branch key reached or empty key) and 7 (a child changed)
  fun_induction deleteAtNode t key with
  | case1 | case2 | case5 | case6 | case8 => rfl
  | case3 | case4 | case7 => cases h

theorem lcpLen_nil_right (a : Nibs) : lcpLen a [] = 0 := by cases a <;> rfl

theorem lcpLen_drop (a b : Nibs) (i : Nat) (ha : i < a.length) (hb : i < b.length) :
    lcpLen (a.drop i) (b.drop i) =
      if a[i] = b[i] then lcpLen (a.drop (i + 1)) (b.drop (i + 1)) + 1 else 0 := by
  rw [List.drop_eq_getElem_cons ha, List.drop_eq_getElem_cons hb]
  rfl

theorem lcpLen_eq_length_iff (a b : Nibs) : lcpLen a b = b.length ↔ b.isPrefixOf a = true := by
  induction a generalizing b with
  | nil => cases b <;> simp [lcpLen]
  | cons x r ih =>
    cases b with
    | nil => simp [lcpLen]
    | cons y t =>
      simp only [lcpLen, List.isPrefixOf, List.length_cons]
      by_cases hxy : x = y
      · subst hxy; simp [ih]
      · have : ¬ y = x := fun e => hxy e.symm
        simp [hxy, this]

end Trie
/-! ### the height of a trie

`depth` is named in `TrieHeap`: it bounds the fuel of the heap model's recursions and is the measure by which the
write side of C04 excludes cycles (`Lib/C04HRep`).  The pure deletions do not raise it. -/
namespace TrieHeap
open Trie

def maxKids (f : Nib → Nat) : Nat := (List.finRange 16).foldl (fun m i => max m (f i)) 0

theorem maxKids_le_iff {f : Nib → Nat} {n : Nat} : maxKids f ≤ n ↔ ∀ i, f i ≤ n := by
  have key : ∀ (l : List Nib) (m : Nat), l.foldl (fun m i => max m (f i)) m ≤ n ↔ m ≤ n ∧ ∀ i ∈ l, f i ≤ n := by
    intro l
    induction l with
    | nil => intro m; simp
    | cons x xs ih =>
      intro m; rw [List.foldl_cons, ih, Nat.max_le, and_assoc]; simp only [List.mem_cons, forall_eq_or_imp]
  unfold maxKids
  rw [key]
  simp only [Nat.zero_le, true_and, List.mem_finRange, true_imp_iff]

theorem le_maxKids (f : Nib → Nat) (i : Nib) : f i ≤ maxKids f :=
  maxKids_le_iff.mp (Nat.le_refl _) i

def depth : Trie → Nat
  | .nil => 0
  | .leaf _ _ => 1
  | .branch _ _ cs => maxKids (fun i => depth (cs i)) + 1

theorem depth_kid (pk : Nibs) (v : Option Bytes) (cs : Nib → Trie) (i : Nib) :
    depth (cs i) < depth (.branch pk v cs) := by
  show depth (cs i) < maxKids (fun i => depth (cs i)) + 1
  exact Nat.lt_succ_of_le (le_maxKids (fun i => depth (cs i)) i)

theorem depth_pos {t : Trie} (h : t ≠ .nil) : 0 < depth t := by
  cases t with
  | nil => exact absurd rfl h
  | leaf _ _ => exact Nat.one_pos
  | branch _ _ _ => exact Nat.succ_pos _

theorem depth_branch_mono (pk pk' : Nibs) (v v' : Option Bytes) {cs cs' : Nib → Trie}
    (h : ∀ i, depth (cs' i) ≤ depth (cs i)) : depth (.branch pk' v' cs') ≤ depth (.branch pk v cs) := by
  show maxKids (fun i => depth (cs' i)) + 1 ≤ maxKids (fun i => depth (cs i)) + 1
  exact Nat.succ_le_succ (maxKids_le_iff.mpr (fun i => Nat.le_trans (h i) (le_maxKids (fun i => depth (cs i)) i)))

theorem depth_handleDeletion_le (pk : Nibs) (v : Option Bytes) (cs : Nib → Trie) (key : Nibs) :
    depth (Trie.handleDeletion pk v cs key) ≤ depth (.branch pk v cs) := by
  have h1 : 1 ≤ depth (.branch pk v cs) := Nat.succ_le_succ (Nat.zero_le _)
  unfold Trie.handleDeletion
  split
  · exact h1
  · rename_i i _
    split
    · exact h1
    · rename_i cpk cv ccs hci
      have := depth_kid pk none cs i
      rw [hci] at this
      exact Nat.le_of_lt this
    · exact Nat.le_refl _
  · exact Nat.le_refl _

theorem depth_setChild_le {cs : Nib → Trie} {i : Nib} {t : Trie} (h : depth t ≤ depth (cs i)) (m : Nib) :
    depth (setChild cs i t m) ≤ depth (cs m) := by
  unfold setChild
  split
  · rename_i e; rw [e]; exact h
  · exact Nat.le_refl _

theorem depth_deleteAtNode_le (t : Trie) (key : Nibs) : depth (deleteAtNode t key).1 ≤ depth t := by
  fun_induction deleteAtNode t key with
  | case1 | case2 | case5 | case6 | case8 => exact Nat.le_refl _
  | case3 => exact Nat.zero_le _
  | case4 =>
    exact Nat.le_trans (depth_handleDeletion_le _ none _ _) (depth_branch_mono _ _ _ _ (fun _ => Nat.le_refl _))
  | case7 =>
    rename_i ih
    exact Nat.le_trans (depth_handleDeletion_le _ _ _ _) (depth_branch_mono _ _ _ _ (depth_setChild_le ih))

theorem depth_clearPrefixAtNode_le (t : Trie) (pre : Nibs) : depth (clearPrefixAtNode t pre).1 ≤ depth t := by
  fun_induction clearPrefixAtNode t pre with
  | case1 | case3 | case5 | case7 | case8 | case9 | case11 => exact Nat.le_refl _
  | case2 | case4 => exact Nat.zero_le _
  | case6 =>
    exact Nat.le_trans (depth_handleDeletion_le _ _ _ _) (depth_branch_mono _ _ _ _ (depth_setChild_le (Nat.zero_le _)))
  | case10 =>
    rename_i ih
    exact Nat.le_trans (depth_handleDeletion_le _ _ _ _) (depth_branch_mono _ _ _ _ (depth_setChild_le ih))

end TrieHeap
end Gossamer
