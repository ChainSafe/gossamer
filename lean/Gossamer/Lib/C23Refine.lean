import Gossamer.Lib.C23Sim
namespace Gossamer.C23

/-- the specification's scope: no block is imported while it is in the block tree, and a header carries at most one
    change of each kind -/
def InScope (t : Tree) (s : St) : Op → Prop
  | .imp b => inBt t s b = false ∧ malformed t b = false
  | .fin _ => True

instance (t : Tree) (s : St) (op : Op) : Decidable (InScope t s op) := by
  cases op <;> unfold InScope <;> exact inferInstance

/-- the two import results of finding `failed-import-keeps-block` -/
def Refused (r : Res) : Prop := r = .eDigest .already ∨ r = .eForced .pending

instance (r : Res) : Decidable (Refused r) := by unfold Refused; exact inferInstance

theorem sim_import {t : Tree} (wf : t.WF) {s : St} {p : Spec} (hs : Sim t s p) (hi : Inv t s) (b : Nat)
    (hfresh : inBt t s b = false) (hhdr : malformed t b = false) (hres : ¬ Refused (importBlock t s b).2) :
    (p.importBlock t b).2 = (importBlock t s b).2 ∧ Sim t (importBlock t s b).1 (p.importBlock t b).1 := by
  unfold importBlock Spec.importBlock at *
  rw [hs.inBt]
  cases hpar : inBt t s (par t b) with
  | false => exact ⟨rfl, hs⟩
  | true =>
    have hA := sim_addChange wf hs hi ⟨hpar, hfresh⟩ hhdr
    have m := mid_add wf hi.live hi.forced hi.roots ⟨hpar, hfresh⟩
    rw [hpar, hfresh] at hres
    rw [hfresh]
    simp only [Bool.not_true, Bool.false_eq_true, if_false] at hres ⊢
    cases hd : handleDigests t { s with live := s.live ++ [b] } (filterDigests (t.anns.filter (·.blk = b))) with
    | error e =>
      rw [hd] at hA hres
      exact absurd (Or.inl (congrArg Res.eDigest hA)) hres
    | ok s1 =>
      rw [hd] at hA hres
      obtain ⟨p1, hadd, hpre⟩ := hA
      have hE := sim_enactForced wf hpre (mid_handleDigests m (filterDigests_blk t b) hd) p
      rw [hadd]
      dsimp only at hres ⊢
      cases hap : applyForced t s1 b with
      | error e =>
        rw [hap] at hE hres
        exact absurd (Or.inr (congrArg Res.eForced hE)) hres
      | ok s2 => rw [hap] at hE; exact hE

theorem sim_fin {t : Tree} (wf : t.WF) {s : St} {p : Spec} (hs : Sim t s p) (hi : Inv t s) (b : Nat) :
    (p.finalise t b).2 = (finalise t s b).2 ∧ Sim t (finalise t s b).1 (p.finalise t b).1 := by
  unfold finalise Spec.finalise setFinalised
  rw [hs.inBt, show (fun x => anc t b x || anc t x b) = cmp t b from rfl]
  cases hb : inBt t s b with
  | false => exact ⟨rfl, hs⟩
  | true =>
    have hb' := (inBt_iff t s b).1 hb
    have hl1 := liveInv_fin wf hi.live hb
    have hr1 : RInv t { s with live := s.live.filter (cmp t b), root := b } :=
      (inv_fin wf hi.live hi.forced hi.roots hb rfl .same).2.2
    have hanc : ∀ x ∈ blocksF s.roots, isDesc t { s with live := s.live.filter (cmp t b), root := b } x b =
        some (anc t x b) :=
      fun x hx => isDesc_eq_anc wf (hr1 x hx) ((inBt_iff ..).2 ⟨hl1.1, anc_refl wf b⟩)
    have hlive : p.known.filter (cmp t b) = s.live.filter (cmp t b) := by rw [hs.live]
    have hpf : (s.forced.filter (fun c => anc t b c.blk)).Perm (p.forced.filter (fun f => anc t b f.blk)) :=
      hs.forced.filter _
    have hL1 : p.std.filter (fun r => cmp t b r.ann.blk) =
        s.roots.filter (fun r => (s.live.filter (cmp t b)).contains r.ann.blk) := by
      rw [hs.std, List.filter_filter]
      exact List.filter_congr fun r _ => by rw [contains_filter, Bool.and_comm]
    have hkids : ∀ r ∈ s.roots, r.kids.filter (fun k => cmp t b k.ann.blk) =
        r.kids.filter (fun k => (s.live.filter (cmp t b)).contains k.ann.blk) := by
      intro r hr
      refine List.filter_congr fun k hk => ?_
      rw [contains_filter]
      rcases hi.roots _ (mem_blocksF_kids hr (mem_blocksF_of_mem hk)) with h | h
      · rw [List.contains_eq_mem, decide_eq_true h, Bool.true_and]
      · rw [dead_stays_dead wf h hb'.2, Bool.and_false]
    have hfind : p.std.find? (fun r => decide (eff t r.ann ≤ num t b) && anc t r.ann.blk b) =
        s.roots.find? (dueOn t b (num t b)) := by
      rw [hs.std]
      refine find?_filter_of_imp _ _ _ fun r hr hdue => ?_
      rw [List.contains_eq_mem, decide_eq_true (tracked_live wf hi.roots (mem_blocksF_of_mem hr) hb'.2
        (Bool.and_eq_true_iff.1 hdue).2)]
    simp only [Bool.not_true, Bool.false_eq_true, if_false, if_true]
    rw [applyScheduledPartial_eq, applyScheduled_eq, prunedForced_fin wf hi.forced hb, hfind]
    by_cases hemp : s.roots = []
    · rw [hemp]
      exact ⟨rfl, hs.update hlive rfl hpf (by rw [hs.std, hemp]; rfl)⟩
    · rw [if_neg (by rw [List.isEmpty_iff]; exact hemp),
        lookupRoots_applicable_eq wf _ b (num t b) s.roots fun r hr =>
          ⟨hanc _ (mem_blocksF_of_mem hr), fun k hk => hanc _ (mem_blocksF_kids hr (mem_blocksF_of_mem hk))⟩]
      cases hfd : s.roots.find? (dueOn t b (num t b)) with
      | none =>
        refine ⟨rfl, hs.update hlive rfl hpf ?_⟩
        -- a root kept by `pruneChanges` is one whose block is still known
        rw [hL1, List.filter_filter]
        refine List.filter_congr fun r hr => ?_
        by_cases hrl : r.ann.blk ∈ s.live.filter (cmp t b)
        · rw [isDesc_fin wf hb (List.mem_filter.1 hrl).1, hanc _ (mem_blocksF_of_mem hr), List.contains_eq_mem,
            decide_eq_true hrl, Option.some_beq_some, beq_true, Option.some_beq_some, beq_true]
          exact (List.mem_filter.1 hrl).2.symm
        · rw [List.contains_eq_mem, decide_eq_false hrl]; rfl
      | some r =>
        have hrm := List.mem_of_find?_eq_some hfd
        dsimp only
        cases hsk : r.kids.any (skipped t b (num t b)) with
        | true =>
          exact ⟨rfl, hs.update hlive rfl hpf hL1⟩
        | false =>
          exact ⟨rfl, (hs.update hlive rfl hpf (hkids r hrm)).enact _ _⟩

/-- a history all of whose operations are in scope and none of whose imports is refused by the code (the refusal is
    read off the model's own result: the scope leaves out exactly the imports after which gossamer and Substrate
    differ, finding `failed-import-keeps-block`) -/
def Scoped (t : Tree) : St → List Op → Prop
  | _, [] => True
  | s, op :: ops => InScope t s op ∧ ¬ Refused (step t s op).2 ∧ Scoped t (step t s op).1 ops

instance (t : Tree) : ∀ (s : St) (ops : List Op), Decidable (Scoped t s ops)
  | _, [] => by unfold Scoped; exact inferInstance
  | s, op :: ops => by
    unfold Scoped
    have := instDecidableScoped t (step t s op).1 ops
    exact inferInstance

theorem inScope_fresh {t : Tree} {s : St} {op : Op} (h : InScope t s op) : FreshOp t s op := by
  cases op with
  | imp b => exact h.1
  | fin b => trivial

theorem sim_step {t : Tree} (wf : t.WF) {s : St} {p : Spec} (hs : Sim t s p) (hi : Inv t s) (op : Op)
    (hsc : InScope t s op) (hres : ¬ Refused (step t s op).2) :
    (p.step t op).2 = (step t s op).2 ∧ Sim t (step t s op).1 (p.step t op).1 := by
  cases op with
  | imp b => exact sim_import wf hs hi b hsc.1 hsc.2 hres
  | fin b => exact sim_fin wf hs hi b

def Spec.run (t : Tree) (p : Spec) (ops : List Op) : Spec := ops.foldl (fun p op => (p.step t op).1) p

def trace (t : Tree) : St → List Op → List Res
  | _, [] => []
  | s, op :: ops => (step t s op).2 :: trace t (step t s op).1 ops

def Spec.trace (t : Tree) : Spec → List Op → List Res
  | _, [] => []
  | p, op :: ops => (p.step t op).2 :: Spec.trace t (p.step t op).1 ops

theorem sim_setIdAt {t : Tree} {s : St} {p : Spec} (hs : Sim t s p) (hk : KeysOK s) (n : Nat) :
    setIdAt s n = some (p.setIdAt n) := by
  rw [setIdAt_eq s hk n, Spec.setIdAt, hs.setId]
  refine congrArg some (topBelow_congr _ _ n _ fun i hi => ?_)
  rw [hs.starts i hi, List.getD_eq_getElem?_getD]

end Gossamer.C23
