/-
C04, read side: what it means for the database to hold a trie (`Rep`, `RootRep`), and the proof that
`getFromDBAtNode` (`gfdF` of `TrieHeapDB`) then returns exactly what the in-memory `Get`
(`Trie.retrieve` of `TrieMem`) returns — for present and for absent keys (`gfd_nibs`).
The database only; no heap.
-/
import Gossamer.Lib.TrieHeapDB
import Gossamer.Lib.Nibble
import Gossamer.Lib.AList
namespace Gossamer
namespace TrieHeap
open Trie

def IsNib (k : Bytes) : Prop := ∀ x, x ∈ k → x < 16

theorem toNib_eq (b : UInt8) : toNib b = loNib b := Fin.ext (Nat.mod_mod _ _).symm

theorem isNib_drop {k : Bytes} (h : IsNib k) (n : Nat) : IsNib (k.drop n) :=
  fun x hx => h x (List.mem_of_mem_drop hx)

theorem nibs_toNib {k : Bytes} (h : IsNib k) : Nibble.nibs (k.map toNib) = k := by
  rw [funext toNib_eq]; exact Nibble.nibs_map_lo h

/-- the storage value of a decoded node, resolved through the database, is `v` -/
def ValRep (db : DB) (pk : Bytes) (v' : Option Bytes) (hashed : Bool) (v : Option Bytes) : Prop :=
  (hashed = false ∧ v' = v) ∨ (hashed = true ∧ ∃ x, v = some x ∧ dbGet db (pk ++ v'.getD []) = some x)

theorem gfdValue_rep {db : DB} {pk : Bytes} {v' : Option Bytes} {hashed : Bool} {v : Option Bytes}
    (h : ValRep db pk v' hashed v) : gfdValue db pk v' hashed = some v := by
  unfold gfdValue
  rcases h with ⟨h1, h2⟩ | ⟨h1, x, h2, h3⟩
  · simp [h1, h2]
  · simp [h1, h3, h2]

/-- the decoded node `n` (children and hashed values resolved through `db`) is the trie `t` -/
def Rep (db : DB) : Trie → TrieCodec.Node → Prop
  | .nil, _ => False
  | .leaf pk v, n =>
    ∃ pkb v' hashed, n = .leaf pkb v' hashed ∧ IsNib pkb ∧ pkb.map toNib = pk ∧
      ValRep db pkb v' hashed (some v)
  | .branch pk v cs, n =>
    ∃ pkb v' hashed kids, n = .branch pkb v' hashed kids ∧ IsNib pkb ∧ pkb.map toNib = pk ∧
      ValRep db pkb v' hashed v ∧
      ∀ i : Nib,
        match kids[i.val]? with
        | none => cs i = .nil
        | some .empty => cs i = .nil
        | some (.stub mv) =>
          ∃ enc n', dbGet db mv = some enc ∧ decodeNode enc = some n' ∧ Rep db (cs i) n'
        | some c => Rep db (cs i) c

theorem gfd_nibs (db : DB) : ∀ (t : Trie) (n : TrieCodec.Node) (key : Nibs) (f : Nat),
    Rep db t n → key.length < f → gfdF db f n (Nibble.nibs key) = some (retrieve t key)
  | .nil, _, _, _, h, _ => h.elim
  | .leaf pk v, n, key, f, h, hf => by
    obtain ⟨pkb, v', hashed, rfl, hpk, hpk2, hv⟩ := h
    obtain rfl : pkb = Nibble.nibs pk := by rw [← hpk2, nibs_toNib hpk]
    cases f with
    | zero => omega
    | succ f =>
      simp only [gfdF, retrieve, Nibble.nibs_beq]
      by_cases he : pk = key
      · subst he; simp [gfdValue_rep hv]
      · simp [he]
  | .branch pk v cs, n, key, f, h, hf => by
    obtain ⟨pkb, v', hashed, kids, rfl, hpk, hpk2, hv, hkids⟩ := h
    obtain rfl : pkb = Nibble.nibs pk := by rw [← hpk2, nibs_toNib hpk]
    cases f with
    | zero => omega
    | succ f =>
      simp only [gfdF, retrieve, List.length_map, Nibble.nibs_beq, Nibble.nibs_isPrefixOf, Nibble.nibs_drop]
      -- the two sides spell the first test differently (`key.length == 0` / `decide (key.length = 0)`): each `if`
      -- is rewritten once per spelling
      by_cases h1 : (key.length == 0 || pk == key) = true
      · rw [if_pos h1]
        have h1' : (decide (key.length = 0) || pk == key) = true := by simpa using h1
        rw [if_pos h1']
        exact gfdValue_rep hv
      · rw [if_neg h1]
        have h1' : ¬ (decide (key.length = 0) || pk == key) = true := by simpa using h1
        rw [if_neg h1']
        by_cases h2 : (!pk.isPrefixOf key) = true
        · rw [if_pos h2, if_pos h2]
        · rw [if_neg h2, if_neg h2]
          cases hd : key.drop pk.length with
          | nil => rfl
          | cons i rest =>
            have hlen := drop_length_lt hd hf
            have hkid := hkids i
            simp only [List.map_cons, Nibble.ofNat_val_toNat]
            cases hk0 : kids[i.val]? with
            | none =>
              rw [hk0] at hkid
              simp only [hkid, retrieve]
            | some c =>
              rw [hk0] at hkid
              cases c with
              | empty =>
                simp only at hkid
                simp only [hkid, retrieve]
              | stub mv =>
                simp only at hkid
                obtain ⟨enc, n', h3, h4, h5⟩ := hkid
                simp only [h3, h4]
                exact gfd_nibs db (cs i) n' rest f h5 hlen
              | leaf _ _ _ | branch _ _ _ _ =>
                simp only at hkid
                exact gfd_nibs db (cs i) _ rest f hkid hlen

/-- the database holds the trie `t` under the root hash `root` -/
def RootRep (H : Bytes → Bytes) (db : DB) (root : Bytes) (t : Trie) : Prop :=
  (t = .nil ∧ root = H [0]) ∨
  (root ≠ H [0] ∧ ∃ enc n, dbGet db root = some enc ∧ decodeNode enc = some n ∧ Rep db t n)

end TrieHeap
end Gossamer
