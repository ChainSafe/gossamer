/-
Sizes and parts of the spec encoding `encodeNode` (TrieSpec): a branch encoding ends with the
references to its children, each the SCALE bytes of the child's Merkle value after at least three
bytes of header and bitmap; hence a child reference is shorter than the branch encoding, every
child of an inlined node is inlined, and an inlined node holds no hashed value.  A name `inline_child…`, `inline_branch…`, `inline_leaf…` says which
node's encoding is assumed shorter than 32 bytes.
-/
import Gossamer.Lib.TrieSpec
import Gossamer.Lib.AList
import Gossamer.Lib.Scale.Compact
namespace Gossamer
open Trie

theorem compactNat_eq (n : Nat) : compactNat n = Scale.compactEnc n := by
  unfold compactNat Scale.compactEnc
  rw [show (2:Nat) ^ 14 = 16384 by decide, show (2:Nat) ^ 30 = 1073741824 by decide]
  simp only [Nat.mul_comm n 4, Nat.mul_comm ((leMin n).length - 4) 4]

theorem compactNat_inj {a b : Nat} (ha : a < 256 ^ 67) (hb : b < 256 ^ 67)
    (h : compactNat a = compactNat b) : a = b := by
  rw [compactNat_eq, compactNat_eq] at h
  exact Scale.compactEnc_inj ha hb h

theorem compactNat_length_pos (n : Nat) : 1 ≤ (compactNat n).length :=
  compactNat_eq n ▸ Scale.compactEnc_length_pos n

theorem header_length_pos (bits mask len : Nat) : 1 ≤ (header bits mask len).length := by
  unfold header; split <;> simp

theorem merkleValue_short {H : Bytes → Bytes} {e : Bytes} (h : e.length < 32) : merkleValue H e = e :=
  if_pos h

theorem merkleValue_long {H : Bytes → Bytes} {e : Bytes} (h : 32 ≤ e.length) : merkleValue H e = H e :=
  if_neg (Nat.not_lt.mpr h)

/-- `a`: header, partial key, bitmap and the value; header and bitmap are the three bytes -/
theorem encodeNode_branch (ver : Ver) (H : Bytes → Bytes) (pk : Nibs) (v : Option Bytes) (cs : Nib → Trie) :
    ∃ a : Bytes, 3 ≤ a.length ∧ encodeNode ver H (branch pk v cs) =
      a ++ (List.finRange 16).flatMap (fun i =>
        if (cs i).isNil then [] else scaleBytes (merkleValue H (encodeNode ver H (cs i)))) := by
  refine ⟨?a, ?_, ?eq⟩
  case eq => simp only [encodeNode]; rfl
  simp only [List.length_append, length_leBytes]
  have h1 := header_length_pos 0x80 0x3f pk.length
  have h2 := header_length_pos 0x10 0x0f pk.length
  have h3 := header_length_pos 0xc0 0x3f pk.length
  cases v with
  | none => simp only []; omega
  | some x => simp only []; split <;> omega

/-- `hlen`: a hashed value could otherwise be empty, and a leaf one byte -/
theorem encodeNode_length (ver : Ver) (H : Bytes → Bytes) (hlen : ∀ x, (H x).length = 32) (t : Trie)
    (ht : t ≠ nil) : 2 ≤ (encodeNode ver H t).length := by
  cases t with
  | nil => exact absurd rfl ht
  | leaf pk v =>
    simp only [encodeNode, List.length_append, encodeValue]
    have h1 := header_length_pos 0x20 0x1f pk.length
    have h2 := header_length_pos 0x40 0x3f pk.length
    have h3 := compactNat_length_pos v.length
    split <;> simp_all [scaleBytes] <;> omega
  | branch pk v cs =>
    obtain ⟨a, ha, e⟩ := encodeNode_branch ver H pk v cs
    rw [e, List.length_append]
    exact Nat.le_trans (Nat.le_trans (by decide) ha) (Nat.le_add_right _ _)

theorem childRef_infix (ver : Ver) (H : Bytes → Bytes) (pk : Nibs) (v : Option Bytes) (cs : Nib → Trie)
    (i : Nib) (hn : (cs i).isNil = false) :
    ∃ a b : Bytes, 3 ≤ a.length ∧ encodeNode ver H (branch pk v cs) =
      a ++ scaleBytes (merkleValue H (encodeNode ver H (cs i))) ++ b := by
  obtain ⟨a, ha, e⟩ := encodeNode_branch ver H pk v cs
  obtain ⟨s, t, hst⟩ := infix_flatMap (List.finRange 16) (fun i =>
    if (cs i).isNil then [] else scaleBytes (merkleValue H (encodeNode ver H (cs i)))) i (List.mem_finRange i)
  simp only [hn, Bool.false_eq_true, if_false] at hst
  exact ⟨a ++ s, t, Nat.le_trans ha (by rw [List.length_append]; exact Nat.le_add_right _ _),
    by rw [e, ← hst]; simp only [List.append_assoc]⟩

/-- the 4: header, bitmap and the length prefix of the reference -/
theorem merkleValue_child_le (ver : Ver) (H : Bytes → Bytes) (pk : Nibs) (v : Option Bytes) (cs : Nib → Trie)
    (i : Nib) (hn : (cs i).isNil = false) :
    (merkleValue H (encodeNode ver H (cs i))).length + 4 ≤ (encodeNode ver H (branch pk v cs)).length := by
  obtain ⟨a, b, ha, e⟩ := childRef_infix ver H pk v cs i hn
  have h2 := compactNat_length_pos (merkleValue H (encodeNode ver H (cs i))).length
  rw [e, List.length_append, List.length_append, scaleBytes, List.length_append]
  omega

theorem inline_child_lt (ver : Ver) (H : Bytes → Bytes) (pk : Nibs) (v : Option Bytes) (cs : Nib → Trie)
    (i : Nib) (hn : (cs i).isNil = false) (hl : (encodeNode ver H (cs i)).length < 32) :
    (encodeNode ver H (cs i)).length < (encodeNode ver H (branch pk v cs)).length := by
  have := merkleValue_child_le ver H pk v cs i hn
  rw [merkleValue_short hl] at this
  omega

theorem inline_branch_child_le {ver : Ver} {H : Bytes → Bytes} (hlen : ∀ x, (H x).length = 32) {pk : Nibs}
    {v : Option Bytes} {cs : Nib → Trie} (hs : (encodeNode ver H (branch pk v cs)).length < 32)
    (i : Nib) (hn : (cs i).isNil = false) :
    (encodeNode ver H (cs i)).length + 4 ≤ (encodeNode ver H (branch pk v cs)).length := by
  have := merkleValue_child_le ver H pk v cs i hn
  by_cases hl : (encodeNode ver H (cs i)).length < 32
  · rwa [merkleValue_short hl] at this
  · rw [merkleValue_long (Nat.le_of_not_lt hl), hlen] at this; omega

/-- a reference by hash takes 33 bytes -/
theorem inline_branch_child {ver : Ver} {H : Bytes → Bytes} (hlen : ∀ m, (H m).length = 32) {pk : Nibs}
    {v : Option Bytes} {cs : Nib → Trie} (hl : (encodeNode ver H (branch pk v cs)).length < 32) (i : Nib) :
    (encodeNode ver H (cs i)).length < 32 := by
  cases hn : (cs i).isNil with
  | true =>
    cases hc : cs i with
    | nil => exact (by decide : 1 < 32)
    | leaf _ _ => rw [hc] at hn; cases hn
    | branch _ _ _ => rw [hc] at hn; cases hn
  | false => have := inline_branch_child_le hlen hl i hn; omega

/-- a hashed value alone takes 32 bytes -/
theorem inline_leaf_value {ver : Ver} {H : Bytes → Bytes} (hlen : ∀ x, (H x).length = 32) {pk : Nibs}
    {v : Bytes} (hs : (encodeNode ver H (leaf pk v)).length < 32) : mustBeHashed ver v = false := by
  cases hm : mustBeHashed ver v with
  | false => rfl
  | true =>
    simp only [encodeNode, hm, if_true, List.length_append, encodeValue, hlen] at hs
    omega

theorem inline_branch_value {ver : Ver} {H : Bytes → Bytes} (hlen : ∀ x, (H x).length = 32) {pk : Nibs}
    {x : Bytes} {cs : Nib → Trie} (hs : (encodeNode ver H (branch pk (some x) cs)).length < 32) :
    mustBeHashed ver x = false := by
  cases hm : mustBeHashed ver x with
  | false => rfl
  | true =>
    simp only [encodeNode, hm, if_true, List.length_append, encodeValue, hlen] at hs
    omega

end Gossamer
