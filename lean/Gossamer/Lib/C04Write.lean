/-
C04, write side: cache coherence and what the hashing functions do under it.  `Coh`: the caches are coherent
with respect to a store `G` — a clean cell carries the Merkle value of its sub-trie (root cell: the root hash)
and its sub-trie is already held by the store (`StoG`).  On a represented (`HRep`), coherent sub-trie
`CalculateMerkleValue` and `EncodeAndHash` return the values of the codec node and write only caches of dirty
cells of that sub-trie.

Two vocabularies describe what the functions of `TrieHeap` do to the heap, independent on purpose.
`TrieHeapCache … TrieHeapTop` (C03) speak of ANY heap, shared and cyclic ones included: `Val`/`RVal` are what the
hashing functions compute reading whatever is cached, `TrP`/`VP`/`Good` say that other tries do not notice; C03's
frame theorem holds for histories that break the snapshot guard, where caches are stale, so nothing there says that
a cached value is RIGHT.  C04 speaks of a heap that represents a pure trie (`HRep`) with right caches (`Coh`), and
says what is computed in terms of that trie (`calcMV_pure` against `calcMV_ok`, `insertF_tree` against
`insertF_post`, `wd_main` against `writeDirtyF_vp`).  C04Chain takes from the C03 side only what concerns cells
outside the trie (`put_ok`: `HeapWF`, generations).

The relations "the heap changed only so much", by strength (each implies the one before):
`CacheOnly` (TrieHeapCache: all fields but `Dirty`/`MerkleValue` equal) ⊇ `MvOnly` (`Dirty` equal
too) ⊇ `DFrame` (here: only `MerkleValue` of DIRTY cells differs; `DFrame.mvOnly`).  `DFrame` is what hashing does to a
coherent heap, and what `Coh` survives (`coh_dframe`); `MvOnly` would not do, since a clean cell's cache is part of
`Coh`.  `DT` is `DFrame` with `Touch` (below); `WD` is `CacheOnly` plus an account, cell by cell, of the caches
`WriteDirty` sets and of what it stored; `FR S` (C04Tree) is `DFrame` outside the cells `S` a mutator may write, with
the heap allowed to grow (`FR.of_dframe`).
-/
import Gossamer.Lib.C04HRep
namespace Gossamer
namespace TrieHeap
open Trie TrieCodec

def mvOf (H : Bytes → Bytes) (root : Bool) (N : Node) : Bytes :=
  if root then H (encode H N) else Gossamer.merkleValue H (encode H N)

theorem mvOf_small {H : Bytes → Bytes} (hH : ∀ m, (H m).length = 32) {root : Bool} {N : Node}
    (h : (mvOf H root N).length < 32) : root = false ∧ (encode H N).length < 32 := by
  unfold mvOf Gossamer.merkleValue at h
  cases root with
  | true => rw [if_pos rfl, hH] at h; omega
  | false =>
    refine ⟨rfl, ?_⟩
    by_cases hl : (encode H N).length < 32
    · exact hl
    · rw [if_neg (by decide), if_neg hl, hH] at h; omega

/-- what `Coh` asks of a CLEAN cell: its cache is the Merkle value of the codec node (`mvOf`, spelt out), the store
    holds its sub-trie, and also its own encoding when no parent inlines it (root cell, or 32 bytes and more) -/
def CleanOK (H : Bytes → Bytes) (G : Bytes → Bytes → Prop) (root : Bool) (n : HNode) (t : Trie)
    (N : Node) : Prop :=
  n.mv = some (if root then H (encode H N) else Gossamer.merkleValue H (encode H N)) ∧ StoG H G t N ∧
    ((root = true ∨ 32 ≤ (encode H N).length) → G (H (encode H N)) (encode H N))

/-- `r`: the flavour of Merkle value expected in the cache of `a` (root hash or not); non-root below.
    Nothing is asked of a dirty cell, nor does a clean parent make its children clean. -/
def Coh (H : Bytes → Bytes) (G : Bytes → Bytes → Prop) (hp : Heap) : Bool → Trie → Node → Nat → Prop
  | _, .nil, _, _ => True
  | r, .leaf pk v, N, a => (hp.get a).dirty = false → CleanOK H G r (hp.get a) (.leaf pk v) N
  | r, .branch pk v cs, N, a =>
    ((hp.get a).dirty = false → CleanOK H G r (hp.get a) (.branch pk v cs) N) ∧
    (∀ i c, (hp.get a).kids i = some c → Coh H G hp false (cs i) (kidAt N i) c)

theorem Coh.clean {H : Bytes → Bytes} {G : Bytes → Bytes → Prop} {hp : Heap} {r : Bool} {t : Trie} {N : Node}
    {a : Nat} (h : Coh H G hp r t N a) (hne : t ≠ .nil) (hd : (hp.get a).dirty = false) :
    CleanOK H G r (hp.get a) t N := by
  cases t with
  | nil => exact absurd rfl hne
  | leaf pk v => exact h hd
  | branch pk v cs => exact h.1 hd

theorem Coh.kid {H : Bytes → Bytes} {G : Bytes → Bytes → Prop} {hp : Heap} {r : Bool} {t t' : Trie}
    {N N' : Node} {a c : Nat} {i : Nib} (hr : HRep hp t N a) (hc : Coh H G hp r t N a)
    (hk : (hp.get a).kids i = some c) (hr' : HRep hp t' N' c) :
    depth t' < depth t ∧ Coh H G hp false t' N' c := by
  cases t with
  | nil => exact hr.elim
  | leaf pk v => rw [hr.2.2.2.1 i] at hk; cases hk
  | branch pk v cs =>
    obtain ⟨_, _, _, kn, hN, hkids⟩ := hr
    have hki := hkids i
    rw [hk] at hki
    obtain ⟨rfl, rfl⟩ := HRep.func hr' hki.2
    have := hc.2 i c hk
    rw [hN, kidAt_map] at this
    exact ⟨depth_kid pk v cs i, this⟩

structure DFrame (hp hp' : Heap) : Prop where
  size : hp'.size = hp.size
  cell : ∀ b, hp'.get b = hp.get b ∨
    ((hp.get b).dirty = true ∧ ∃ m, hp'.get b = { hp.get b with mv := m })

theorem DFrame.refl (hp : Heap) : DFrame hp hp := ⟨rfl, fun _ => Or.inl rfl⟩

theorem DFrame.strip {hp hp' : Heap} (h : DFrame hp hp') (b : Nat) :
    (hp'.get b).strip = (hp.get b).strip ∧ (hp'.get b).dirty = (hp.get b).dirty := by
  rcases h.cell b with e | ⟨_, m, e⟩ <;> rw [e] <;> exact ⟨rfl, rfl⟩

theorem DFrame.mvOnly {hp hp' : Heap} (h : DFrame hp hp') : MvOnly hp hp' := ⟨h.size, h.strip⟩

theorem DFrame.cacheOnly {hp hp' : Heap} (h : DFrame hp hp') : CacheOnly hp hp' := h.mvOnly.cacheOnly

theorem DFrame.clean {hp hp' : Heap} (h : DFrame hp hp') {b : Nat} (hd : (hp.get b).dirty = false) :
    hp'.get b = hp.get b := by
  rcases h.cell b with e | ⟨hd', _⟩
  · exact e
  · rw [hd] at hd'; cases hd'

theorem DFrame.trans {hp hp1 hp2 : Heap} (a : DFrame hp hp1) (b : DFrame hp1 hp2) : DFrame hp hp2 := by
  refine ⟨b.size.trans a.size, fun x => ?_⟩
  rcases a.cell x with e1 | ⟨hd1, m1, e1⟩
  · rcases b.cell x with e2 | ⟨hd2, m2, e2⟩
    · left; rw [e2, e1]
    · right; rw [e1] at hd2 e2; exact ⟨hd2, m2, e2⟩
  · rcases b.cell x with e2 | ⟨hd2, m2, e2⟩
    · right; exact ⟨hd1, m1, by rw [e2, e1]⟩
    · right; exact ⟨hd1, m2, by rw [e2, e1]⟩

theorem DFrame.modify_mv {hp : Heap} {a : Nat} (hd : (hp.get a).dirty = true) (m : Option Bytes) :
    DFrame hp (hp.modify a (fun x => { x with mv := m })) := by
  refine ⟨by simp, fun b => ?_⟩
  rcases hp.get_modify_cases a _ b with ⟨rfl, e⟩ | e <;> rw [e]
  · exact Or.inr ⟨hd, m, rfl⟩
  · exact Or.inl rfl

theorem hrep_dframe {hp hp' : Heap} (hf : DFrame hp hp') {t : Trie} {N : Node} {a : Nat}
    (h : HRep hp t N a) : HRep hp' t N a := (hrep_cacheOnly hf.cacheOnly t N a).mpr h

theorem cleanOK_congr {H : Bytes → Bytes} {G : Bytes → Bytes → Prop} {r : Bool} {t : Trie} {N : Node} {n n' : HNode}
    (hd : n'.dirty = n.dirty) (hcl : n.dirty = false → n' = n) (h : n.dirty = false → CleanOK H G r n t N)
    (hd' : n'.dirty = false) : CleanOK H G r n' t N := by
  have hd0 : n.dirty = false := hd ▸ hd'
  rw [hcl hd0]; exact h hd0

theorem coh_dframe {H : Bytes → Bytes} {G : Bytes → Bytes → Prop} {hp hp' : Heap} (hf : DFrame hp hp') :
    ∀ {t : Trie} {r : Bool} {N : Node} {a : Nat}, Coh H G hp r t N a → Coh H G hp' r t N a
  | .nil, _, _, _, _ => trivial
  | .leaf pk v, r, N, a, h => cleanOK_congr (hf.strip a).2 hf.clean h
  | .branch pk v cs, r, N, a, h => by
    refine ⟨cleanOK_congr (hf.strip a).2 hf.clean h.1, fun i c hk => ?_⟩
    · have hk0 : (hp.get a).kids i = some c := by rw [← strip_kids (hf.strip a).1]; exact hk
      exact coh_dframe hf (h.2 i c hk0)

/-- every changed cell is the cell of a represented sub-trie of height at most `d`.  The height is how cycles are
    excluded: a cell represents at most one trie (`HRep.func`), so a loop over the children of `t` (height below
    `depth t`) has not written the cell of `t` itself (`untouched_of_lower`). -/
def Touch (hp hp' : Heap) (d : Nat) : Prop :=
  ∀ x, hp'.get x = hp.get x ∨ ∃ t' N', HRep hp t' N' x ∧ depth t' ≤ d

theorem Touch.refl (hp : Heap) (d : Nat) : Touch hp hp d := fun _ => Or.inl rfl

theorem Touch.mono {hp hp' : Heap} {d d' : Nat} (h : Touch hp hp' d) (hd : d ≤ d') : Touch hp hp' d' := by
  intro x
  rcases h x with e | ⟨t', N', h1, h2⟩
  · exact Or.inl e
  · exact Or.inr ⟨t', N', h1, Nat.le_trans h2 hd⟩

theorem Touch.trans {hp hp1 hp2 : Heap} {d : Nat} (hc : CacheOnly hp hp1) (a : Touch hp hp1 d)
    (b : Touch hp1 hp2 d) : Touch hp hp2 d := by
  intro x
  rcases b x with e | ⟨t', N', h1, h2⟩
  · rw [e]; exact a x
  · exact Or.inr ⟨t', N', (hrep_cacheOnly hc t' N' x).mp h1, h2⟩

/-- what hashing a coherent sub-trie of height `d` does to the heap -/
structure DT (hp hp' : Heap) (d : Nat) : Prop where
  frame : DFrame hp hp'
  touch : Touch hp hp' d

theorem DT.refl (hp : Heap) (d : Nat) : DT hp hp d := ⟨DFrame.refl hp, Touch.refl hp d⟩

theorem DT.mono {hp hp' : Heap} {d d' : Nat} (h : DT hp hp' d) (hd : d ≤ d') : DT hp hp' d' :=
  ⟨h.frame, h.touch.mono hd⟩

theorem DT.trans {hp hp1 hp2 : Heap} {d : Nat} (a : DT hp hp1 d) (b : DT hp1 hp2 d) : DT hp hp2 d :=
  ⟨a.frame.trans b.frame, Touch.trans a.frame.cacheOnly a.touch b.touch⟩

theorem DT.modify_mv {hp hp1 : Heap} {a : Nat} {t : Trie} {N : Node} (h : DT hp hp1 (depth t))
    (hd : (hp.get a).dirty = true) (hr : HRep hp t N a) (m : Option Bytes) :
    DT hp (hp1.modify a (fun x => { x with mv := m })) (depth t) :=
  ⟨h.frame.trans (DFrame.modify_mv ((h.frame.strip a).2.trans hd) m), fun x => by
    rcases hp1.get_modify_cases a _ x with ⟨rfl, _⟩ | e
    · exact Or.inr ⟨t, N, hr, Nat.le_refl _⟩
    · rw [e]; exact h.touch x⟩

theorem untouched_of_lower {hp hp' : Heap} {t : Trie} {N : Node} {a : Nat} {d : Nat} (hr : HRep hp t N a)
    (tc : Touch hp hp' d) (hd : d < depth t) : hp'.get a = hp.get a := by
  rcases tc a with e | ⟨t', N', h1, h2⟩
  · exact e
  · obtain ⟨rfl, _⟩ := HRep.func h1 hr
    omega

/-- `root` (the flavour computed) and `r` (the flavour `Coh` expects in the cell's own cache) are unrelated:
    `hashFinish` never reads that cache. -/
theorem hashFinish_pure (H : Bytes → Bytes) (G : Bytes → Bytes → Prop) (root : Bool) (f : Nat) {t : Trie}
    {N : Node} {a : Nat} {hp : Heap} {r : Bool} (hr : HRep hp t N a) (hc : Coh H G hp r t N a)
    (ih : ∀ t' N' c hp', depth t' < depth t → HRep hp' t' N' c → Coh H G hp' false t' N' c →
      DT hp' (calcMV H f hp' c).1 (depth t') ∧
        (calcMV H f hp' c).2 = some (Gossamer.merkleValue H (encode H N'))) :
    ∃ hp1, DT hp hp1 (depth t) ∧
      hashFinish H root (hp.get a) a (encodeKids (calcMV H f) (hp.get a).encKids hp) =
        (hp1.modify a (fun x => { x with mv := some (mvOf H root N) }), some (encode H N, mvOf H root N)) := by
  cases t with
  | nil => exact hr.elim
  | leaf pk v =>
    have hek : (hp.get a).encKids = noKids := by unfold HNode.encKids; rw [hr.1]; rfl
    refine ⟨hp, DT.refl hp _, ?_⟩
    rw [hek, encodeKids_noKids]
    unfold hashFinish
    simp only [List.append_nil]
    rw [hrep_enc_leaf H hr]; rfl
  | branch pk v cs =>
    have hek : (hp.get a).encKids = (hp.get a).kids := by unfold HNode.encKids; rw [hr.1]; rfl
    obtain ⟨hb, hpk, hv, kn, hN, hk⟩ := id hr
    obtain ⟨h1, h2, h3⟩ := encodeKids_inv (P := fun hp' => DT hp hp' (depth (.branch pk v cs))) (S := fun _ _ => True)
      (calcMV H f) (hp.get a).kids (fun i => Gossamer.merkleValue H (encode H (kn i)))
      (fun hp' i c hdt hic => by
        have hki := hk i
        rw [hic] at hki
        obtain ⟨hlt, hck⟩ := hc.kid hr hic hki.2
        obtain ⟨g1, g2⟩ := ih _ _ c hp' hlt (hrep_dframe hdt.frame hki.2) (coh_dframe hdt.frame hck)
        exact ⟨hdt.trans (g1.mono (Nat.le_of_lt hlt)), fun m hm => ⟨Option.some.inj (hm.symm.trans g2), trivial⟩⟩)
      hp (DT.refl hp _)
    have hsome := h3 (fun hp' i c hdt hic => by
      have hki := hk i
      rw [hic] at hki
      obtain ⟨hlt, hck⟩ := hc.kid hr hic hki.2
      rw [(ih _ _ c hp' hlt (hrep_dframe hdt.frame hki.2) (coh_dframe hdt.frame hck)).2]
      exact fun e => nomatch e)
    cases he : (encodeKids (calcMV H f) (hp.get a).kids hp).2 with
    | none => exact absurd he hsome
    | some out =>
      refine ⟨_, h1, ?_⟩
      unfold hashFinish
      rw [hek, he, (h2 out he).2]
      dsimp only
      rw [hrep_enc_branch H hb hpk hv hk, ← hN]; rfl

theorem calcMV_pure (H : Bytes → Bytes) (G : Bytes → Bytes → Prop) : ∀ (f : Nat) (t : Trie) (N : Node) (a : Nat)
    (hp : Heap), HRep hp t N a → Coh H G hp false t N a → depth t ≤ f →
    DT hp (calcMV H f hp a).1 (depth t) ∧ (calcMV H f hp a).2 = some (Gossamer.merkleValue H (encode H N))
  | 0, t, _, _, _, h, _, hf => absurd (depth_pos h.ne_nil) (by omega)
  | f + 1, t, N, a, hp, h, hc, hf => by
    unfold calcMV
    dsimp only
    split
    · rename_i hcl
      exact ⟨DT.refl hp _, (hc.clean h.ne_nil hcl.1).1⟩
    · rename_i hcl
      have hd : (hp.get a).dirty = true := by
        cases hd : (hp.get a).dirty with
        | true => rfl
        | false => exact absurd ⟨hd, by rw [(hc.clean h.ne_nil hd).1]; rfl⟩ hcl
      obtain ⟨hp1, hdt, he⟩ := hashFinish_pure H G false f h hc
        (fun t' N' c hp' hlt h1 h2 => calcMV_pure H G f t' N' c hp' h1 h2 (by omega))
      rw [he]
      exact ⟨hdt.modify_mv hd h _, rfl⟩

theorem encodeAndHash_pure (H : Bytes → Bytes) (G : Bytes → Bytes → Prop) (root : Bool) {t : Trie} {N : Node}
    {a : Nat} {hp : Heap} {r : Bool} (hr : HRep hp t N a) (hc : Coh H G hp r t N a)
    (hdep : depth t ≤ bigFuel + 1) :
    ∃ hp1, DT hp hp1 (depth t) ∧
      encodeAndHash H root hp a =
        (hp1.modify a (fun x => { x with mv := some (mvOf H root N) }), some (encode H N, mvOf H root N)) :=
  hashFinish_pure H G root bigFuel hr hc
    (fun t' N' c hp' hlt h1 h2 => calcMV_pure H G bigFuel t' N' c hp' h1 h2 (by omega))

/-- `CalculateRootMerkleValue` on a represented, coherent trie: the root hash of the codec node, and only caches of
    dirty cells written.  A clean root returns its cache, which `Coh` says is that hash. -/
theorem calcRootMV_pure {H : Bytes → Bytes} {G : Bytes → Bytes → Prop} (hH : ∀ m, (H m).length = 32) {hp : Heap}
    {t : Trie} {N : Node} {a : Nat} (hr : HRep hp t N a) (hc : Coh H G hp true t N a) (hd : depth t ≤ bigFuel + 1) :
    DFrame hp (calcRootMV H hp a).1 ∧ (calcRootMV H hp a).2 = some (H (encode H N)) := by
  rw [calcRootMV_eq]
  by_cases hdf : (hp.get a).dirty = false
  · have hcl := (Coh.clean hc (HRep.ne_nil hr) hdf).1
    rw [if_pos ⟨hdf, by rw [hcl]; simp [hH]⟩]
    exact ⟨DFrame.refl hp, hcl⟩
  · rw [if_neg (fun hu => hdf hu.1)]
    obtain ⟨hp1, hdt, he⟩ := encodeAndHash_pure H G true hr hc hd
    rw [he]
    exact ⟨(hdt.modify_mv (by simpa using hdf) hr _).frame, rfl⟩

/-- `ensureMerkleValueIsCalculated` / `registerDeletedNodeHash` on a represented, coherent sub-trie -/
theorem ensureMV_dframe {G : Bytes → Bytes → Prop} {c : Ctx} (hH : ∀ m, (c.H m).length = 32) {hp : Heap}
    {t : Trie} {N : Node} {a : Nat} {r : Bool} (hr : HRep hp t N a) (hc : Coh c.H G hp r t N a)
    (hflav : (c.troot == some a) = r) (hd : depth t ≤ bigFuel + 1) :
    DFrame hp (ensureMV c hp (some a)) := by
  rw [ensureMV_some]
  by_cases hroot : c.troot = some a
  · rw [if_pos hroot]
    obtain rfl : r = true := by rw [← hflav]; simp [hroot]
    exact (calcRootMV_pure hH hr hc hd).1
  · rw [if_neg hroot]
    obtain rfl : r = false := by rw [← hflav]; simp [hroot]
    exact (calcMV_pure c.H G (bigFuel + 1) t N a hp hr hc hd).1.frame

/-- the effect of (a part of) `WriteDirty`; `cell`: a changed cell was dirty and either only got a Merkle
    value or was cleaned with the right Merkle value after its sub-trie was stored -/
structure WD (c : Ctx) (s s' : Heap × DB) : Prop where
  cache : CacheOnly s.1 s'.1
  dbmono : ∀ k v, Mem s.2 k v → Mem s'.2 k v
  cell : ∀ x, s'.1.get x = s.1.get x ∨
    ((s.1.get x).dirty = true ∧
      ((∃ m, s'.1.get x = { s.1.get x with mv := m }) ∨
       (∃ t N, HRep s.1 t N x ∧
          s'.1.get x = { s.1.get x with dirty := false, mv := some (mvOf c.H (c.troot == some x) N) } ∧
          StoG c.H (Mem s'.2) t N ∧
          (((c.troot == some x) = true ∨ 32 ≤ (encode c.H N).length) → Mem s'.2 (c.H (encode c.H N)) (encode c.H N)))))

theorem WD.refl (c : Ctx) (s : Heap × DB) : WD c s s :=
  ⟨CacheOnly.refl _, fun _ _ h => h, fun _ => Or.inl rfl⟩

theorem WD.db_grow {c : Ctx} (hp : Heap) {db db' : DB}
    (h : ∀ k v, Mem db k v → Mem db' k v) : WD c (hp, db) (hp, db') :=
  ⟨CacheOnly.refl _, h, fun _ => Or.inl rfl⟩

theorem WD.of_dframe {c : Ctx} {hp hp' : Heap} (db : DB) (h : DFrame hp hp') :
    WD c (hp, db) (hp', db) := by
  refine ⟨h.cacheOnly, fun _ _ h => h, fun x => ?_⟩
  rcases h.cell x with e | ⟨hd, m, e⟩
  · exact Or.inl e
  · exact Or.inr ⟨hd, Or.inl ⟨m, e⟩⟩

theorem WD.trans {c : Ctx} {s s1 s2 : Heap × DB} (a : WD c s s1) (b : WD c s1 s2) :
    WD c s s2 := by
  refine ⟨a.cache.trans b.cache, fun k v h => b.dbmono k v (a.dbmono k v h), fun x => ?_⟩
  rcases a.cell x with e1 | ⟨hd1, h1⟩
  · rcases b.cell x with e2 | ⟨hd2, h2⟩
    · left; rw [e2, e1]
    · right
      rw [e1] at hd2 h2
      refine ⟨hd2, ?_⟩
      rcases h2 with ⟨m, e2⟩ | ⟨t, N, hr, e2, hs, hm⟩
      · exact Or.inl ⟨m, e2⟩
      · exact Or.inr ⟨t, N, (hrep_cacheOnly a.cache t N x).mp hr, e2, hs, hm⟩
  · rcases h1 with ⟨m1, e1⟩ | ⟨t, N, hr, e1, hs, hm⟩
    · rcases b.cell x with e2 | ⟨hd2, h2⟩
      · right; exact ⟨hd1, Or.inl ⟨m1, by rw [e2, e1]⟩⟩
      · right
        refine ⟨hd1, ?_⟩
        rcases h2 with ⟨m, e2⟩ | ⟨t, N, hr, e2, hs, hm⟩
        · exact Or.inl ⟨m, by rw [e2, e1]⟩
        · exact Or.inr ⟨t, N, (hrep_cacheOnly a.cache t N x).mp hr, by rw [e2, e1], hs, hm⟩
    · -- cleaned by the first part: the second part cannot change it any more
      rcases b.cell x with e2 | ⟨hd2, _⟩
      · right
        exact ⟨hd1, Or.inr ⟨t, N, hr, by rw [e2, e1], StoG.mono b.dbmono t N hs,
          fun hc => b.dbmono _ _ (hm hc)⟩⟩
      · rw [e1] at hd2; cases hd2

theorem WD.clean_stays {c : Ctx} {s s' : Heap × DB} (w : WD c s s') {x : Nat}
    (h : (s.1.get x).dirty = false) : (s'.1.get x).dirty = false := by
  rcases w.cell x with e | ⟨hd, _⟩
  · rw [e]; exact h
  · rw [h] at hd; cases hd

theorem cleanOK_mono {H : Bytes → Bytes} {G G' : Bytes → Bytes → Prop} (h : ∀ k v, G k v → G' k v)
    {r : Bool} {n : HNode} {t : Trie} {N : Node} (c : CleanOK H G r n t N) : CleanOK H G' r n t N :=
  ⟨c.1, StoG.mono h t N c.2.1, fun hc => h _ _ (c.2.2 hc)⟩

/-- the root cell of the trie being written does not occur strictly inside the sub-trie `t` (height as the measure,
    as in `Touch`).  Needed because the root cell caches the other flavour of Merkle value (`CleanOK`), so a child
    slot must not point at it. -/
def RootAbove (c : Ctx) (hp : Heap) (t : Trie) : Prop :=
  ∀ x t' N', c.troot = some x → HRep hp t' N' x → depth t ≤ depth t'

theorem RootAbove.kid {c : Ctx} {hp : Heap} {t t' : Trie} {N' : Node} {x : Nat} (h : RootAbove c hp t)
    (hr : HRep hp t' N' x) (hlt : depth t' < depth t) : (c.troot == some x) = false ∧ RootAbove c hp t' := by
  refine ⟨?_, fun y t'' N'' hy hry => Nat.le_trans (Nat.le_of_lt hlt) (h y t'' N'' hy hry)⟩
  cases hb : (c.troot == some x) with
  | false => rfl
  | true =>
    have := h x t' N' (eq_of_beq hb) hr
    omega

theorem RootAbove.root {c : Ctx} {hp : Heap} {t : Trie} {N : Node} {a : Nat} (hc : c.troot = some a)
    (hr : HRep hp t N a) : RootAbove c hp t := fun x t' N' hx hrx => by
  obtain rfl : a = x := Option.some.inj (hc.symm.trans hx)
  rw [(HRep.func hrx hr).1]; exact Nat.le_refl _

theorem cleanOK_wd {c : Ctx} {s s' : Heap × DB} (w : WD c s s') {t : Trie} {r : Bool}
    {N : Node} {b : Nat} (h : HRep s.1 t N b)
    (hc : (s.1.get b).dirty = false → CleanOK c.H (Mem s.2) r (s.1.get b) t N) (hr : (c.troot == some b) = r)
    (hd' : (s'.1.get b).dirty = false) : CleanOK c.H (Mem s'.2) r (s'.1.get b) t N := by
  rcases w.cell b with e | ⟨hd, ⟨m, e⟩ | ⟨t0, N0, hr0, e, hs, hm⟩⟩
  · rw [e] at hd' ⊢
    exact cleanOK_mono w.dbmono (hc hd')
  · rw [e] at hd'; exact absurd (hd.symm.trans hd') (by decide)
  · obtain ⟨rfl, rfl⟩ := HRep.func hr0 h
    exact ⟨by rw [e]; simp only [mvOf, hr], hs, fun hcnd => hm (hr ▸ hcnd)⟩

theorem coh_wd {c : Ctx} {s s' : Heap × DB} (w : WD c s s') :
    ∀ (t : Trie) (r : Bool) (N : Node) (b : Nat), HRep s.1 t N b → Coh c.H (Mem s.2) s.1 r t N b →
      (c.troot == some b) = r → RootAbove c s.1 t → Coh c.H (Mem s'.2) s'.1 r t N b
  | .nil, _, _, _, h, _, _, _ => h.elim
  | .leaf pk v, r, N, b, h, hc, hr, _ => cleanOK_wd w h hc hr
  | .branch pk v cs, r, N, b, h, hc, hr, hab => by
    refine ⟨cleanOK_wd w h hc.1 hr, fun i x hk => ?_⟩
    have hk0 : (s.1.get b).kids i = some x := by rw [← strip_kids (w.cache.cell b)]; exact hk
    obtain ⟨_, _, _, kn, hN, hkids⟩ := id h
    have hkid := hkids i
    rw [hk0] at hkid
    obtain ⟨hlt, hcx⟩ := hc.kid h hk0 hkid.2
    obtain ⟨hnr, hrax⟩ := hab.kid hkid.2 hlt
    rw [hN, kidAt_map]
    exact coh_wd w (cs i) false (kn i) x hkid.2 hcx hnr hrax

/-- the sub-trie `t` at the cell `a` as `WriteDirty` with context `c` meets it -/
structure WSub (c : Ctx) (s : Heap × DB) (r : Bool) (t : Trie) (N : Node) (a : Nat) : Prop where
  rep : HRep s.1 t N a
  coh : Coh c.H (Mem s.2) s.1 r t N a
  flav : (c.troot == some a) = r
  above : RootAbove c s.1 t

theorem WSub.kid {c : Ctx} {s : Heap × DB} {r : Bool} {t t' : Trie} {N N' : Node} {a x : Nat}
    {i : Nib} (w : WSub c s r t N a) (hk : (s.1.get a).kids i = some x) (hr' : HRep s.1 t' N' x) :
    WSub c s false t' N' x := by
  obtain ⟨hlt, hcx⟩ := w.coh.kid w.rep hk hr'
  exact ⟨hr', hcx, (w.above.kid hr' hlt).1, (w.above.kid hr' hlt).2⟩

theorem WSub.wd {c : Ctx} {s s' : Heap × DB} {r : Bool} {t : Trie} {N : Node} {a : Nat}
    (w : WSub c s r t N a) (h : WD c s s') : WSub c s' r t N a :=
  ⟨(hrep_cacheOnly h.cache t N a).mpr w.rep, coh_wd h t r N a w.rep w.coh w.flav w.above, w.flav,
    fun x t' N' hx hr => w.above x t' N' hx ((hrep_cacheOnly h.cache t' N' x).mp hr)⟩

/-- an encoding shorter than 32 bytes holds neither a value hash nor the reference of a child of 32 bytes or more, so
    nothing below it needs the store.  The twin of `inline_branch_child`/`inline_*_value` (Lib/TrieEnc, about `encodeNode ver H t`)
    for `TrieCodec.encode H N`: the `hashed` flags of `N` are free, so `N` is not the codec node of `t` at a version. -/
theorem sto_of_small (H : Bytes → Bytes) (hH : ∀ m, (H m).length = 32) (G : Bytes → Bytes → Prop)
    {hp : Heap} : ∀ (t : Trie) (N : Node) (a : Nat), HRep hp t N a → (encode H N).length < 32 → StoG H G t N
  | .nil, _, _, h, _ => h.elim
  | .leaf pk v, N, a, h, hl => by
    obtain ⟨_, _, _, _, rfl⟩ := h
    refine ⟨nibBytes pk, (hp.get a).mbh, rfl, nibBytes_toNib pk, fun hm => ?_⟩
    exfalso
    simp only [TrieCodec.encode, TrieCodec.valueEnc, hm, if_true, List.length_append, hH] at hl
    omega
  | .branch pk v cs, N, a, h, hl => by
    obtain ⟨_, _, _, kn, rfl, hk⟩ := h
    refine ⟨nibBytes pk, (hp.get a).mbh, _, rfl, nibBytes_toNib pk, fun hm x hx => ?_, fun i => ?_⟩
    · exfalso
      subst hx
      simp only [TrieCodec.encode, TrieCodec.valueEnc, hm, if_true, List.length_append, hH] at hl
      omega
    · rw [← List.getD_eq_getElem?_getD, getD_finRange_map]
      have hki := hk i
      cases hkk : (hp.get a).kids i with
      | none =>
        rw [hkk] at hki
        rw [hki.1, hki.2]
        exact ⟨rfl, fun hne => absurd rfl hne⟩
      | some x =>
        rw [hkk] at hki
        have hke : (C07.kidEnc H (kn i)).length ≤ (encode H (.branch (nibBytes pk) v (hp.get a).mbh
            ((List.finRange 16).map kn))).length := by
          simp only [TrieCodec.encode, C07.encodeKids_flatMap, List.flatMap_map, List.length_append]
          have : (C07.kidEnc H (kn i)).length ≤ ((List.finRange 16).flatMap fun i => C07.kidEnc H (kn i)).length :=
            (infix_flatMap _ (fun i => C07.kidEnc H (kn i)) i (List.mem_finRange i)).length_le
          omega
        rw [kidEnc_real H hki.2.real] at hke
        have hsc := C07.scaleEnc_length_ge (Gossamer.merkleValue H (encode H (kn i)))
        have hsmall : (encode H (kn i)).length < 32 := by
          by_cases hlt : (encode H (kn i)).length < 32
          · exact hlt
          · have := merkleValue_long (H := H) (Nat.le_of_not_lt hlt)
            rw [this] at hsc hke
            rw [hH] at hsc
            omega
        exact ⟨sto_of_small H hH G (cs i) (kn i) x hki.2 hsmall, fun _ h32 => by omega⟩

/-- `SetClean` on a cell whose cached Merkle value is the right one and whose sub-trie is stored -/
theorem wd_clean_step {c : Ctx} {s : Heap × DB} {hpB : Heap} {dbB : DB} {a : Nat}
    {t : Trie} {N : Node} (w : WD c s (hpB, dbB)) (tc : Touch s.1 hpB (depth t))
    (hmv : (hpB.get a).mv = some (mvOf c.H (c.troot == some a) N))
    (hd : (s.1.get a).dirty = true) (hr : HRep s.1 t N a)
    (hs : StoG c.H (Mem dbB) t N)
    (hm : ((c.troot == some a) = true ∨ 32 ≤ (encode c.H N).length) → Mem dbB (c.H (encode c.H N)) (encode c.H N)) :
    WD c s (hpB.modify a (fun x => { x with dirty := false }), dbB) ∧
    Touch s.1 (hpB.modify a (fun x => { x with dirty := false })) (depth t) ∧
    ((hpB.modify a (fun x => { x with dirty := false })).get a).dirty = false := by
  have hlt : a < hpB.size := by rw [w.cache.size]; exact dirty_lt hd
  refine ⟨⟨w.cache.trans (cacheOnly_clean _ a), w.dbmono, fun x => ?_⟩, fun x => ?_, ?_⟩
  · show (Heap.modify hpB a _).get x = _ ∨ _
    rcases hpB.get_modify_cases a _ x with ⟨rfl, e⟩ | e <;> rw [e]
    · exact Or.inr ⟨hd, Or.inr ⟨t, N, hr, hnode_ext (w.cache.cell x) rfl hmv, hs, hm⟩⟩
    · exact w.cell x
  · rcases hpB.get_modify_cases a _ x with ⟨rfl, _⟩ | e
    · exact Or.inr ⟨t, N, hr, Nat.le_refl _⟩
    · rw [e]; exact tc x
  · rw [Heap.get_modify_self _ hlt]

end TrieHeap
end Gossamer

