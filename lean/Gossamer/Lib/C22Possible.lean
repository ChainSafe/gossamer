/-
The computed test `possibleW` (weight for the block + everybody who has not voted + as many
of the voters against it as may still turn out to be equivocators) is COMPLETE for the semantic notion
`possible`: whenever some extension of the received votes with tolerable equivocation gives the block a
supermajority, the computed test says so.  Hence a voter that derives its estimate from `possibleW`
(finality-grandpa's `Round.estimate`, the driver's rule check) satisfies `closable`.
-/
import Gossamer.Lib.C22Votes
namespace Gossamer.C22

section
variable {B : Type} [DecidableEq B]

theorem voted_of_supports (O : BlockOrder B) (S : Votes B) (x : B) (v : Nat)
    (h : supports O S x v = true) : voted S v = true := by
  rw [supports_iff] at h
  rcases h with ⟨b, hb, _⟩ | h
  · exact (voted_iff S v).mpr ⟨b, hb⟩
  · have ⟨b, _, hb, _, _⟩ := (equivocates_iff S v).mp h
    exact (voted_iff S v).mpr ⟨b, hb⟩

theorem possibleW_of_possible (vs : Voters) (O : BlockOrder B) (S : Votes B) (x : B)
    (h : possible vs O S x) : possibleW vs O S x = true := by
  have ⟨T, hsub, heq, hsup⟩ := h
  -- who supports x in T: supporters in S, voters that had not voted in S, or new equivocators
  have h1 : tally vs O T x ≤ tally vs O S x + vs.weight (fun v => !voted S v) +
      vs.weight (fun v => (voted S v && !supports O S x v) && (equivocates T v && !equivocates S v)) := by
    refine Nat.le_trans (vs.weight_mono _ (fun v => (supports O S x v || !voted S v) || _) ?_)
      (Nat.le_trans (vs.weight_or_le ..) (Nat.add_le_add_right (vs.weight_or_le ..) _))
    intro v _ hT
    cases hf : supports O S x v
    case true => rfl
    cases hv : voted S v
    case false => rfl
    -- `v` voted in S, for some `b` not above `x`: it supports x in T through another vote
    have heS : equivocates S v = false :=
      Bool.eq_false_iff.2 fun he => Bool.false_ne_true (hf ▸ (supports_iff O S x v).mpr (Or.inr he))
    have ⟨b, hb⟩ := (voted_iff S v).mp hv
    have heT : equivocates T v = true := by
      rcases (supports_iff O T x v).mp hT with ⟨b', hb', hle'⟩ | he
      · refine (equivocates_iff T v).mpr ⟨b, b', hsub _ hb, hb', fun hbb => ?_⟩
        exact Bool.false_ne_true (hf ▸ (supports_iff O S x v).mpr (Or.inl ⟨b, hb, hbb ▸ hle'⟩))
      · exact he
    rw [heT, heS]; rfl
  -- the three weights in the terms of `possibleW`
  have h2 : vs.total = vs.weight (voted S) + vs.weight (fun v => !voted S v) :=
    vs.weight_split (fun _ => true) (voted S) fun _ _ _ => rfl
  have h3 : vs.weight (voted S) = tally vs O S x + vs.weight (fun v => voted S v && !supports O S x v) :=
    vs.weight_split _ _ fun v _ => voted_of_supports O S x v
  have h4 : vs.weight (equivocates T) =
      vs.weight (equivocates S) + vs.weight (fun v => equivocates T v && !equivocates S v) :=
    vs.weight_split _ _ fun v _ => equivocates_mono hsub v
  -- the new equivocators are voters against x, and few: `3 * weight (equivocates T) < total` is
  -- `weight (equivocates T) ≤ (total - 1) / 3`, the `tol` of `possibleW`
  have h5 : vs.weight (fun v => (voted S v && !supports O S x v) && (equivocates T v && !equivocates S v)) ≤
      min (vs.weight (voted S) - tally vs O S x) ((vs.total - 1) / 3 - vs.weight (equivocates S)) := by
    refine Nat.le_min.2 ⟨Nat.le_trans (vs.weight_mono _ _ fun v _ hv => (Bool.and_eq_true_iff.1 hv).1) ?_,
      Nat.le_trans (vs.weight_mono _ _ fun v _ hv => (Bool.and_eq_true_iff.1 hv).2) ?_⟩ <;> omega
  have hsup' : 2 * vs.total < 3 * tally vs O T x := hsup
  simp only [possibleW, decide_eq_true_eq]
  unfold supermajority
  omega

theorem closable_of_computed (vs : Voters) (O : BlockOrder B) (view : List (Msg B)) (r : Nat) (g e : B)
    (hg : hasSuper vs O (votesOf view r .prevote) g) (he : O.le e g = true)
    (hall : ∀ x : B, O.comparable x g → possibleW vs O (votesOf view r .precommit) x = true →
      O.le x e = true) : closable vs O view r g e :=
  ⟨hg, he, fun x hc hp => hall x hc (possibleW_of_possible vs O _ x hp)⟩

/-- to find the estimate it therefore suffices to examine the chain of the GHOST and the children of the GHOST -/
theorem possible_down (vs : Voters) (O : BlockOrder B) (S : Votes B) {x x' : B}
    (hle : O.le x' x = true) (h : possible vs O S x) : possible vs O S x' := by
  have ⟨T, hsub, heq, hsup⟩ := h
  exact ⟨T, hsub, heq, hasSuper_down vs O T hle hsup⟩

end

end Gossamer.C22
