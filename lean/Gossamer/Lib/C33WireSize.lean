/-
C33: sizes through protobuf-go's parser — the fields `goParse` returns fit into the input:
`payloadSum fs + fs.length ≤ |input|`.  Used to bound the SCALE work of a block response by the
length of the whole message.
-/
import Gossamer.Lib.C33Wire
import Gossamer.Model.C33
namespace Gossamer.C33
open Gossamer Gossamer.Proto

theorem uvar_rest (k : Nat) : ∀ (bs : Bytes) (n : Nat) (r : Bytes), uvar k bs = some (n, r) → r.length < bs.length := by
  induction k with
  | zero => intro bs n r h; cases h
  | succ k ih =>
    intro bs n r h
    cases bs with
    | nil => cases h
    | cons b rest =>
      simp only [uvar] at h
      split at h
      · cases h; exact Nat.lt_succ_self _
      · split at h
        · cases h
        · cases h; exact Nat.lt_succ_of_lt (ih rest _ _ ‹_›)

theorem consumeVarint_rest (bs : Bytes) (n : Nat) (r : Bytes) (h : consumeVarint bs = some (n, r)) :
    r.length < bs.length := by
  unfold consumeVarint at h
  split at h
  · cases h
  · split at h
    · cases h; exact uvar_rest 10 bs _ _ ‹_›
    · cases h

theorem consumeBytes_rest (bs b r : Bytes) (h : consumeBytes bs = some (b, r)) :
    b.length + r.length < bs.length := by
  unfold consumeBytes at h
  split at h
  · cases h
  · have := consumeVarint_rest bs _ _ ‹_›
    split at h
    · cases h
    · cases h; rw [List.length_take, List.length_drop]; omega

/-- chained along the `if … else if …` ladder of a parser it visits the branches in the order of the
    source; below, the branches that need an argument are named after the wire type they handle -/
theorem of_ite_some {α : Type} {c : Prop} [Decidable c] {a b : Option α} {x : α} {P : Prop}
    (h : (if c then a else b) = some x) (ha : a = some x → P) (hb : b = some x → P) : P := by
  split at h
  · exact ha h
  · exact hb h

theorem drop_some_le {k : Nat} {bs r : Bytes} (h : (if bs.length < k then none else some (bs.drop k)) = some r) :
    r.length ≤ bs.length :=
  of_ite_some h nofun fun h => by cases h; rw [List.length_drop]; exact Nat.sub_le ..

/-- holds whatever the fuel.  `parseLoop` hands `skipVal` the fuel `2 * r.length + 2`: `skipVal` and
    `skipGroup` call each other, one unit each, and every round of `skipGroup` consumes at least its
    tag byte.  That this fuel always suffices is not proved; the correspondence run ties the model
    to the library. -/
theorem skip_rest (fuel : Nat) :
    (∀ num typ lvl bs r, skipVal fuel num typ lvl bs = some r → r.length ≤ bs.length) ∧
    (∀ num lvl bs r, skipGroup fuel num lvl bs = some r → r.length ≤ bs.length) := by
  induction fuel with
  | zero => exact ⟨by intro _ _ _ _ _ h; simp [skipVal] at h, by intro _ _ _ _ h; simp [skipGroup] at h⟩
  | succ fuel ih =>
    constructor
    · intro num typ lvl bs r h
      rw [skipVal] at h
      -- wire types in the order of `skipVal`: 0 varint, 1 fixed64, 2 bytes, 3 group, 5 fixed32
      refine of_ite_some h (fun h => ?varint) fun h => of_ite_some h drop_some_le fun h =>
        of_ite_some h (fun h => ?bytes) fun h => of_ite_some h (fun h => ?group) fun h =>
        of_ite_some h drop_some_le nofun
      case varint =>
        obtain ⟨⟨n, r'⟩, hv, rfl⟩ := Option.map_eq_some_iff.1 h
        exact Nat.le_of_lt (consumeVarint_rest bs n r' hv)
      case bytes =>
        obtain ⟨⟨b, r'⟩, hb, rfl⟩ := Option.map_eq_some_iff.1 h
        exact Nat.le_of_lt (Nat.lt_of_le_of_lt (Nat.le_add_left _ _) (consumeBytes_rest bs b r' hb))
      case group => exact of_ite_some h nofun (ih.2 num lvl bs r)
    · intro num lvl bs r h
      rw [skipGroup] at h
      split at h
      · cases h
      · rename_i tag r0 hv
        have hr0 := consumeVarint_rest bs tag r0 hv
        -- a bad field number; the end-group tag (of the right number); any other field, then on
        refine of_ite_some h nofun fun h =>
          of_ite_some h (fun h => of_ite_some h (fun h => ?endGroup) nofun) fun h => ?field
        case endGroup => cases h; exact Nat.le_of_lt hr0
        case field =>
          split at h
          · cases h
          · have h1 := ih.1 _ _ _ r0 _ ‹_›
            have h2 := ih.2 num lvl _ r h
            omega

/-- total length of the length-delimited payloads; with one byte per field (its tag) it fits into
    the parsed input: `goParse_size` -/
def payloadSum : List WField → Nat
  | [] => 0
  | f :: fs => (match f.val with | .len b => b.length | .varint _ => 0) + payloadSum fs

theorem parseLoop_size (fuel : Nat) : ∀ (bs : Bytes) (fs : List WField),
    parseLoop fuel bs = some fs → payloadSum fs + fs.length ≤ bs.length := by
  induction fuel with
  | zero => intro bs fs h; exact of_ite_some h (fun h => by cases h; exact Nat.zero_le _) nofun
  | succ fuel ih =>
    intro bs fs h
    rw [parseLoop] at h
    refine of_ite_some h (fun h => by cases h; exact Nat.zero_le _) fun h => ?_
    split at h
    · cases h
    · rename_i tag r hv
      have hr := consumeVarint_rest bs tag r hv
      -- a bad field number; wire type 0 (a varint field); 2 (a bytes field); 4 (a stray
      -- end-group: error); anything else is skipped by `skipVal`
      refine of_ite_some h nofun fun h => of_ite_some h (fun h => ?varint) fun h =>
        of_ite_some h (fun h => ?bytes) fun h => of_ite_some h nofun fun h => ?skipped
      case varint =>
        split at h
        · cases h
        · rename_i v r' hv2
          obtain ⟨gs, hp, rfl⟩ := Option.map_eq_some_iff.1 h
          have := consumeVarint_rest r v r' hv2
          have := ih r' gs hp
          simp only [payloadSum, List.length_cons]; omega
      case bytes =>
        split at h
        · cases h
        · rename_i b r' hb
          obtain ⟨gs, hp, rfl⟩ := Option.map_eq_some_iff.1 h
          have := consumeBytes_rest r b r' hb
          have := ih r' gs hp
          simp only [payloadSum, List.length_cons]; omega
      case skipped =>
        split at h
        · cases h
        · have := (skip_rest _).1 _ _ _ r _ ‹_›
          have := ih _ fs h
          omega

theorem goParse_size (bs : Bytes) (fs : List WField) (h : goParse bs = some fs) :
    payloadSum fs + fs.length ≤ bs.length := parseLoop_size _ bs fs h

/-- the bytes of a block that reach `scale.Unmarshal` (header, body entries), plus one per body
    entry: its wire tag, which pays for the count prefix `NewBodyFromEncodedBytes` puts in front.
    Chosen so that `bdSize (ofFields gs) ≤ payloadSum gs + |gs|` and `(blockCost d).steps ≤ 10 * bdSize d + 125`. -/
def bdSize (d : Proto.BlockData) : Nat :=
  d.header.length + (d.body.map List.length).sum + d.body.length

theorem step_size (d : Proto.BlockData) (f : WField) :
    bdSize (Proto.BlockData.step d f) ≤ bdSize d + (match f.val with | .len b => b.length | .varint _ => 0) + 1 := by
  obtain ⟨num, val⟩ := f
  simp only [Proto.BlockData.step]
  split <;> subst_vars <;>
    simp only [bdSize, List.map_append, List.sum_append, List.length_append, List.map_cons, List.map_nil,
      List.sum_cons, List.sum_nil, List.length_cons, List.length_nil] <;> omega

theorem ofFields_size (gs : List WField) :
    bdSize (Proto.BlockData.ofFields gs) ≤ payloadSum gs + gs.length := by
  have fold : ∀ (gs : List WField) (d : Proto.BlockData),
      bdSize (gs.foldl Proto.BlockData.step d) ≤ bdSize d + payloadSum gs + gs.length := by
    intro gs
    induction gs with
    | nil => intro d; exact Nat.le_refl _
    | cons g gs ih =>
      intro d
      have h1 := step_size d g
      have h2 := ih (Proto.BlockData.step d g)
      simp only [List.foldl_cons, payloadSum, List.length_cons]
      omega
  exact Nat.le_trans (fold gs Proto.BlockData.zero) (by rw [show bdSize Proto.BlockData.zero = 0 from rfl]; omega)

/-- `bdSize` summed, plus one per block (the tag of its field in the response) -/
def blocksSize : List Proto.BlockData → Nat
  | [] => 0
  | d :: ds => bdSize d + 1 + blocksSize ds

theorem blocksOf_size : ∀ (fs : List WField) (ds : List Proto.BlockData),
    blocksOf fs = some ds → blocksSize ds ≤ payloadSum fs + fs.length := by
  intro fs
  induction fs with
  | nil => intro ds h; cases h; exact Nat.le_refl _
  | cons f fs ih =>
    intro ds h
    simp only [blocksOf] at h
    split at h
    · rename_i b _ hval
      split at h
      · cases h
      · rename_i gs hp
        obtain ⟨ds', hb, rfl⟩ := Option.map_eq_some_iff.1 h
        have h1 := goParse_size b gs hp
        have h2 := ofFields_size gs
        have h3 := ih ds' hb
        simp only [blocksSize, payloadSum, hval, List.length_cons]
        omega
    · have := ih ds h
      simp only [payloadSum, List.length_cons]
      omega

theorem stateEntriesOf_len : ∀ (gs : List WField) (es : List (Bytes × Bytes)),
    stateEntriesOf gs = some es → es.length ≤ gs.length := by
  intro gs
  induction gs with
  | nil => intro es h; cases h; exact Nat.le_refl _
  | cons g gs ih =>
    intro es h
    simp only [stateEntriesOf] at h
    split at h
    · split at h
      · cases h
      · obtain ⟨es', hr, rfl⟩ := Option.map_eq_some_iff.1 h
        exact Nat.succ_le_succ (ih es' hr)
    · exact Nat.le_succ_of_le (ih es h)

/-- the copy loops of `StateResponse.Decode` run at most once per byte of the response -/
theorem kvEntriesOf_size : ∀ (fs : List WField) (es : List KVEntry),
    kvEntriesOf fs = some es →
      (es.map (fun e => 1 + e.entries.length)).sum ≤ payloadSum fs + fs.length := by
  intro fs
  induction fs with
  | nil => intro es h; cases h; exact Nat.le_refl _
  | cons f fs ih =>
    intro es h
    simp only [kvEntriesOf] at h
    split at h
    · rename_i b _ hval
      split at h
      · cases h
      · rename_i gs hp
        split at h
        · cases h
        · rename_i e hk
          obtain ⟨es', hr, rfl⟩ := Option.map_eq_some_iff.1 h
          have h1 := goParse_size b gs hp
          have h2 : e.entries.length ≤ gs.length := by
            unfold kvEntryOf at hk
            split at hk
            · cases hk
            · cases hk; exact stateEntriesOf_len gs _ ‹_›
          have h3 := ih es' hr
          simp only [List.map_cons, List.sum_cons, payloadSum, hval, List.length_cons]
          omega
    · have := ih es h
      simp only [payloadSum, List.length_cons]
      omega

end Gossamer.C33
