import Gossamer.Lib.C23Spec
namespace Gossamer.C23

/-- `∀ p0, p0 = … →` names the state cut down to the finalised branch, which the conclusion mentions twice; it is used
    as `hp _ rfl` -/
theorem Spec.finalise_cases (t : Tree) (p : Spec) (b : Nat) :
    p.finalise t b = (p, .eFin) ∨
    ∃ std : List Node, (∀ r ∈ std, cmp t b r.ann.blk = true) ∧
      ∀ p0, p0 = { p with fin := b, known := p.known.filter (cmp t b),
                          forced := p.forced.filter (fun f => anc t b f.blk), std := std } →
        (p.finalise t b).1 = p0 ∨
        ∃ r ∈ p.std, anc t r.ann.blk b = true ∧ eff t r.ann ≤ num t b ∧
          (p.finalise t b).1 = p0.enact r.ann.tag (num t b) := by
  unfold Spec.finalise
  by_cases hc : (!(p.known.contains b && anc t p.fin b)) = true
  · rw [if_pos hc]; exact Or.inl rfl
  · rw [if_neg hc]
    dsimp only
    have hf : ∀ (l : List Node), ∀ r ∈ l.filter (fun r => cmp t b r.ann.blk), cmp t b r.ann.blk = true :=
      fun l r hr => (List.mem_filter.1 hr).2
    cases hr : p.std.find? (fun r => decide (eff t r.ann ≤ num t b) && anc t r.ann.blk b) with
    | none => exact Or.inr ⟨_, hf p.std, fun p0 e => Or.inl e.symm⟩
    | some r =>
      dsimp only
      by_cases hk : r.kids.any (fun k => decide (num t k.ann.blk ≤ num t b) && anc t k.ann.blk b) = true
      · rw [if_pos hk]; exact Or.inr ⟨_, hf p.std, fun p0 e => Or.inl e.symm⟩
      · rw [if_neg hk]
        have hP := List.find?_some hr
        rw [Bool.and_eq_true_iff] at hP
        exact Or.inr ⟨_, hf r.kids, fun p0 e => Or.inr ⟨r, List.mem_of_find?_eq_some hr, hP.2, of_decide_eq_true hP.1, e ▸ rfl⟩⟩

theorem Spec.addChange_ok {t : Tree} {p p1 : Spec} {b : Nat} (h : p.addChange t b = .ok p1) :
    p1.setId = p.setId ∧ p1.auths = p.auths ∧ p1.starts = p.starts ∧
      ∀ f ∈ p1.forced, f ∈ p.forced ∨ signalled t b = some f := by
  unfold Spec.addChange at h
  cases hsig : signalled t b with
  | none => rw [hsig] at h; cases h; exact ⟨rfl, rfl, rfl, fun f hf => Or.inl hf⟩
  | some c =>
    rw [hsig] at h
    dsimp only at h
    by_cases hcf : c.forced = true
    · rw [if_pos hcf] at h
      by_cases hany : p.forced.any (fun f => anc t f.blk b) = true
      · rw [if_pos hany] at h; cases h
      · rw [if_neg hany] at h; cases h
        refine ⟨rfl, rfl, rfl, fun f hf => ?_⟩
        rcases List.mem_append.1 hf with hf | hf
        · exact Or.inl hf
        · exact Or.inr (List.mem_singleton.1 hf ▸ rfl)
    · rw [if_neg hcf] at h; cases h; exact ⟨rfl, rfl, rfl, fun f hf => Or.inl hf⟩

end Gossamer.C23
