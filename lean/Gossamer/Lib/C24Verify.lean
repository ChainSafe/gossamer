import Gossamer.Model.C24
namespace Gossamer.C24
open Gossamer.C25 (secondaryAuthor Author)

theorem vrfVerdict_ok (t : Tri) : vrfVerdict t = .ok ↔ t = .yes := by
  cases t <;> simp [vrfVerdict]

theorem sealVerdict_ok (t : Tri) : sealVerdict t = .ok ↔ t = .yes := by
  cases t <;> simp [sealVerdict]

/-- the kinds of claim the code admits under its `secondarySlots` flag -/
def kindFlag (sec : Bool) : PreDigest → Bool
  | .primary _ _ => true
  | _ => sec

theorem verifyPreRuntimeDigest_ok (H : Bytes → Bytes) (info : Info) (rand : Bytes)
    (d : Option PreDigest) (o : Oracles) :
    verifyPreRuntimeDigest H info rand d o = .ok ↔
      ∃ pd, d = some pd ∧ pd.idx < info.n ∧ kindFlag info.secondarySlots pd = true ∧
        claimRight H info.n rand o pd = true := by
  cases d with
  | none => exact ⟨nofun, fun ⟨_, h, _⟩ => nomatch h⟩
  | some pd =>
    simp only [Option.some.injEq, exists_eq_left']
    unfold verifyPreRuntimeDigest
    dsimp only
    by_cases hi : info.n ≤ pd.idx
    · rw [if_pos hi]; exact ⟨nofun, fun h => absurd h.1 (Nat.not_lt_of_le hi)⟩
    · rw [if_neg hi, and_iff_right (Nat.lt_of_not_le hi)]
      cases pd with
      | primary idx slot =>
        cases ha : o.attach <;> cases hb : o.below <;> simp [claimRight, kindFlag, ha, hb, vrfVerdict_ok]
      | secPlain idx slot =>
        cases hs : info.secondarySlots <;> simp [claimRight, kindFlag]
      | secVRF idx slot =>
        cases hs : info.secondarySlots <;> simp [claimRight, kindFlag]
        by_cases ha : secondaryAuthor H rand slot info.n = .idx idx <;> simp [ha, vrfVerdict_ok]

theorem andThen_ok (v w : Verdict) : (match v with | .ok => w | e => e) = .ok ↔ v = .ok ∧ w = .ok := by
  cases v <;> simp

theorem verifyAuthorshipRight_ok (H : Bytes → Bytes) (info : Info) (rand : Bytes)
    (digest : List Item) (o : Oracles) :
    verifyAuthorshipRight H info rand digest o = .ok ↔
      2 ≤ digest.length ∧ ∃ pd, digest.head? = some (.pre (some pd)) ∧ digest.getLast? = some .sealItem ∧
        pd.idx < info.n ∧ kindFlag info.secondarySlots pd = true ∧ claimRight H info.n rand o pd = true ∧
        o.sig = .yes := by
  unfold verifyAuthorshipRight
  constructor
  · intro h
    by_cases hl : digest.length < 2
    · rw [if_pos hl] at h; cases h
    · rw [if_neg hl] at h
      refine ⟨Nat.le_of_not_lt hl, ?_⟩
      cases hh : digest.head? with
      | none => rw [hh] at h; cases h
      | some it =>
        rw [hh] at h
        cases it with
        | sealItem => cases h
        | other => cases h
        | pre d =>
          cases hg : digest.getLast? with
          | none => rw [hg] at h; cases h
          | some lt =>
            rw [hg] at h
            cases lt with
            | pre _ => cases h
            | other => cases h
            | sealItem =>
              have hv := (andThen_ok _ _).1 h
              obtain ⟨pd, rfl, hc⟩ := (verifyPreRuntimeDigest_ok H info rand d o).1 hv.1
              exact ⟨pd, rfl, rfl, hc.1, hc.2.1, hc.2.2, (sealVerdict_ok _).1 hv.2⟩
  · rintro ⟨hl, pd, hd, hg, hi, hk, hc, hs⟩
    rw [if_neg (Nat.not_lt_of_le hl), hd, hg]
    dsimp only
    rw [(verifyPreRuntimeDigest_ok H info rand _ o).2 ⟨pd, rfl, hi, hk, hc⟩]
    exact (sealVerdict_ok _).2 hs

theorem getVerifierInfo_eq (ss c1 c2 n : Nat) :
    getVerifierInfo ss c1 c2 n = if c1 ≠ 0 ∧ c2 ≠ 0 ∧ c1 ≤ c2 then some ⟨n, decide (ss > 0)⟩ else none := by
  by_cases h : c1 = 0 ∨ c2 = 0 ∨ c1 > c2
  · exact (if_pos h).trans (if_neg fun g => h.elim g.1 (·.elim g.2.1 (Nat.not_lt_of_le g.2.2))).symm
  · have h' := h
    rw [not_or, not_or, Nat.not_lt] at h'
    exact (if_neg h).trans (if_pos h').symm

/-- `authorised` and `authorisedLax` with the admissible kinds of claim as a parameter -/
def authorisedK (kind : PreDigest → Bool) (H : Bytes → Bytes) (c1 c2 n : Nat) (rand : Bytes) (digest : List Item)
    (o : Oracles) : Bool :=
  decide (c1 ≠ 0 ∧ c2 ≠ 0 ∧ c1 ≤ c2) && decide (2 ≤ digest.length) &&
  match digest.head?, digest.getLast? with
  | some (.pre (some pd)), some .sealItem =>
    decide (pd.idx < n) && kind pd && claimRight H n rand o pd && o.sig == .yes
  | _, _ => false

theorem authorised_eq (H : Bytes → Bytes) (ss c1 c2 n : Nat) (rand : Bytes) (digest : List Item) (o : Oracles) :
    authorised H ss c1 c2 n rand digest o = authorisedK (kindAllowed ss) H c1 c2 n rand digest o := rfl

theorem authorisedLax_eq (H : Bytes → Bytes) (ss c1 c2 n : Nat) (rand : Bytes) (digest : List Item) (o : Oracles) :
    authorisedLax H ss c1 c2 n rand digest o = authorisedK (kindAllowedLax ss) H c1 c2 n rand digest o := rfl

theorem authorisedK_iff (kind : PreDigest → Bool) (H : Bytes → Bytes) (c1 c2 n : Nat) (rand : Bytes)
    (digest : List Item) (o : Oracles) :
    authorisedK kind H c1 c2 n rand digest o = true ↔
      (c1 ≠ 0 ∧ c2 ≠ 0 ∧ c1 ≤ c2) ∧ 2 ≤ digest.length ∧
      ∃ pd, digest.head? = some (.pre (some pd)) ∧ digest.getLast? = some .sealItem ∧
        pd.idx < n ∧ kind pd = true ∧ claimRight H n rand o pd = true ∧ o.sig = .yes := by
  unfold authorisedK
  rw [Bool.and_eq_true, Bool.and_eq_true, decide_eq_true_iff, decide_eq_true_iff, and_assoc]
  refine and_congr_right fun _ => and_congr_right fun _ => ⟨fun h => ?_, fun ⟨pd, hd, hg, hi, hk, hc, hs⟩ => ?_⟩
  · cases hh : digest.head? with
    | none => rw [hh] at h; cases h
    | some it =>
      rw [hh] at h
      cases it with
      | sealItem => cases h
      | other => cases h
      | pre d =>
        cases d with
        | none => cases h
        | some pd =>
          cases hg : digest.getLast? with
          | none => rw [hg] at h; cases h
          | some lt =>
            rw [hg] at h
            cases lt with
            | pre _ => cases h
            | other => cases h
            | sealItem =>
              simp only [Bool.and_eq_true, decide_eq_true_iff, beq_iff_eq, and_assoc] at h
              exact ⟨pd, rfl, rfl, h⟩
  · rw [hd, hg]
    simp only [hi, hk, hc, hs, decide_true, Bool.and_self, beq_self_eq_true]

theorem kindFlag_lax (ss : Nat) (pd : PreDigest) : kindFlag (decide (ss > 0)) pd = kindAllowedLax ss pd := by
  cases pd <;> rfl

theorem kindAllowed_lax (ss : Nat) (pd : PreDigest) (h : kindAllowed ss pd = true) :
    kindAllowedLax ss pd = true := by
  cases pd <;> simp_all [kindAllowed, kindAllowedLax]

/-- the descriptor VerifyBlock uses for a header (when it gets as far as building a verifier) -/
def descOfBlock (env : Env) (b : VB) : Desc :=
  match b.parent with
  | .blk k => env.at b.branch (whereEpoch (epochOfK k) b.epoch)
  | _ => env.at b.branch b.epoch

/-- VerifyBlock gets as far as building a verifier -/
def admissible (b : VB) : Prop :=
  match b.parent with
  | .unknown => False
  | .genesis => True
  | .blk k => epochOfK k ≤ b.epoch

theorem verifyBlock_ok (H : Bytes → Bytes) (env : Env) (b : VB) :
    verifyBlock H env b = .ok ↔ admissible b ∧ verifyWith H (descOfBlock env b) b.digest b.o = .ok := by
  unfold verifyBlock admissible descOfBlock
  cases b.parent with
  | unknown => exact ⟨nofun, fun h => h.1.elim⟩
  | genesis => exact ⟨fun h => ⟨trivial, h⟩, fun h => h.2⟩
  | blk k =>
    dsimp only
    by_cases he : epochOfK k > b.epoch
    · rw [if_pos he]; exact ⟨nofun, fun h => absurd h.1 (Nat.not_le_of_gt he)⟩
    · rw [if_neg he]; exact (and_iff_right (Nat.le_of_not_gt he)).symm

theorem blockAuthorised_iff (H : Bytes → Bytes) (env : Env) (b : VB) :
    blockAuthorised H env b = true ↔ admissible b ∧
      authorised H (descOfBlock env b).ss (descOfBlock env b).c1 (descOfBlock env b).c2 (descOfBlock env b).n
        (randOf (descOfBlock env b).rb) b.digest b.o = true := by
  unfold blockAuthorised admissible descOfBlock
  cases b.parent with
  | unknown => exact ⟨nofun, fun h => h.1.elim⟩
  | genesis => exact ⟨fun h => ⟨trivial, h⟩, fun h => h.2⟩
  | blk k => dsimp only; rw [Bool.and_eq_true, decide_eq_true_iff]

/-- no producer is recorded as disabled twice along one branch: between an earlier and a later entry for the same
    (epoch, producer), the test after which `SetOnDisabled` answers ErrAuthorityAlreadyDisabled fails -/
def DisInv (st : MState) : Prop :=
  st.disabled.Pairwise fun e1 e2 =>
    e1.epoch = e2.epoch → e1.idx = e2.idx →
      ¬ (isDescendantOf e1.blk e2.blk = true ∧ e2.number ≥ e1.number)

theorem setOnDisabled_inv (env : Env) (st : MState) (br : Branch) (k idx : Nat) (h : DisInv st) :
    DisInv (setOnDisabled env st br k idx).1 := by
  unfold setOnDisabled
  simp only []
  -- the cache step does not touch `disabled`
  have key : ∀ (st1 : MState) (n : Nat), st1.disabled = st.disabled →
      DisInv (if idx ≥ n then (st1, DisResult.index)
        else if (st1.disabled.filter fun e => e.epoch = epochOfK k ∧ e.idx = idx).any
            (fun e => isDescendantOf e.blk ⟨br, k⟩ && decide (k ≥ e.number)) then (st1, DisResult.already)
        else ({ st1 with disabled := st1.disabled ++ [⟨epochOfK k, idx, k, ⟨br, k⟩⟩] }, DisResult.ok)).1 := by
    intro st1 n hd
    have h1 : DisInv st1 := by unfold DisInv; rw [hd]; exact h
    by_cases hi : idx ≥ n
    · simp only [hi, if_true]; exact h1
    · simp only [hi, if_false]
      by_cases ha : (st1.disabled.filter fun e => e.epoch = epochOfK k ∧ e.idx = idx).any
            (fun e => isDescendantOf e.blk ⟨br, k⟩ && decide (k ≥ e.number)) = true
      · simp only [ha, if_true]; exact h1
      · simp only [ha]
        unfold DisInv
        simp only [Bool.false_eq_true, if_false]
        rw [List.pairwise_append]
        refine ⟨h1, List.pairwise_singleton _ _, ?_⟩
        intro e he e2 he2 hep hix
        simp only [List.mem_singleton] at he2
        subst he2
        simp only at hep hix
        intro ⟨hd1, hn⟩
        apply ha
        rw [List.any_eq_true]
        refine ⟨e, ?_, ?_⟩
        · rw [List.mem_filter]
          exact ⟨he, by simp [hep, hix]⟩
        · simp only [Bool.and_eq_true, decide_eq_true_eq]
          exact ⟨hd1, hn⟩
  cases hl : st.cache.lookup (epochOfK k) with
  | some n => simp only []; exact key st n rfl
  | none =>
    simp only []
    cases hg : getVerifierInfo (env.at br (epochOfK k)).ss (env.at br (epochOfK k)).c1
        (env.at br (epochOfK k)).c2 (env.at br (epochOfK k)).n with
    | none => simp only []; exact h
    | some info => simp only []; exact key _ info.n rfl

theorem claimSlot_cases (H : Bytes → Bytes) (ss n me : Nat) (rand : Bytes) (slot : Nat) (b : Bool)
    (pd : PreDigest) (h : claimSlot H ss n me rand slot b = some pd) :
    (b = true ∧ pd = .primary me slot) ∨
    (b = false ∧ ss = 2 ∧ secondaryAuthor H rand slot n = .idx me ∧ pd = .secVRF me slot) ∨
    (b = false ∧ ss = 1 ∧ secondaryAuthor H rand slot n = .idx me ∧ pd = .secPlain me slot) := by
  unfold claimSlot at h
  cases b with
  | true => exact Or.inl ⟨rfl, (Option.some.inj h).symm⟩
  | false =>
    rw [if_neg Bool.false_ne_true] at h
    by_cases h0 : ss = 0
    · rw [if_pos h0] at h; cases h
    · rw [if_neg h0] at h
      by_cases ha : secondaryAuthor H rand slot n = .idx me
      · by_cases h2 : ss = 2
        · rw [if_pos h2, if_pos ha] at h
          exact Or.inr (Or.inl ⟨rfl, h2, ha, (Option.some.inj h).symm⟩)
        · rw [if_neg h2] at h
          by_cases h1 : ss = 1
          · rw [if_pos h1, if_pos ha] at h
            exact Or.inr (Or.inr ⟨rfl, h1, ha, (Option.some.inj h).symm⟩)
          · rw [if_neg h1] at h; cases h
      · rw [if_neg ha, if_neg ha, ite_self, ite_self] at h; cases h

end Gossamer.C24
