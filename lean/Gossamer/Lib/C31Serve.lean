/-
Serving: every successful response of `handleAscendingRequest` / `handleDescendingRequest` is a segment `seg` of one
chain (or its reverse) whose entries carry exactly the requested stored fields; `ServedChain` is what the property
keeps of that.
-/
import Gossamer.Lib.C31Chain
import Gossamer.Base.Bytes
namespace Gossamer.C31

/-- the fields block `h` must carry for `RequestedData = mask`: requested and stored -/
def expectedFields (t : Tree) (mask h : Nat) : Nat :=
  bit (mask.testBit 0) 1 + bit (mask.testBit 1 && hasBody t h) 2
    + bit (mask.testBit 2 && hasReceipt h) 4
    + bit (mask.testBit 3 && hasMessageQueue h) 8 + bit (mask.testBit 4 && hasJustification h) 16

private theorem testBit_mask (m i : Nat) : decide ((m &&& 2 ^ i) >>> i = 1) = m.testBit i := by
  rw [and_two_pow]
  cases m.testBit i
  · simp
  · simp [Nat.shiftRight_eq_div_pow, Nat.div_self (Nat.two_pow_pos i)]

/-- the response entry expected for block `h` (a `BData`; the tree's blocks are the model's `Blk`) -/
def blk (t : Tree) (mask h : Nat) : BData := ⟨h, expectedFields t mask h⟩

theorem getBlockData_known (t : Tree) (h mask : Nat) (hk : known t h = true) :
    getBlockData t h mask = blk t mask h := by
  have b0 : decide (mask &&& 1 = 1) = mask.testBit 0 := by simp [← testBit_mask mask 0]
  have b1 : decide ((mask &&& 2) >>> 1 = 1) = mask.testBit 1 := by simpa using testBit_mask mask 1
  have b2 : decide ((mask &&& 4) >>> 2 = 1) = mask.testBit 2 := by simpa using testBit_mask mask 2
  have b3 : decide ((mask &&& 8) >>> 3 = 1) = mask.testBit 3 := by simpa using testBit_mask mask 3
  have b4 : decide ((mask &&& 16) >>> 4 = 1) = mask.testBit 4 := by simpa using testBit_mask mask 4
  simp only [getBlockData, blk, expectedFields, hk, b0, b1, b2, b3, b4, Bool.and_true]

def idsOf (bs : List BData) : List Nat := bs.map (·.id)

def FieldsExact (t : Tree) (mask : Nat) (bs : List BData) : Prop :=
  ∀ b ∈ bs, known t b.id = true ∧ b = blk t mask b.id

theorem map_getBlockData {t : Tree} (mask : Nat) {l : List Nat} (h : ∀ x ∈ l, known t x = true) :
    l.map (fun h => getBlockData t h mask) = l.map (blk t mask) :=
  List.map_congr_left (fun x hx => getBlockData_known t x mask (h x hx))

theorem idsOf_map_blk (t : Tree) (mask : Nat) (l : List Nat) : idsOf (l.map (blk t mask)) = l := by
  simp [idsOf, blk, List.map_map, Function.comp_def]

theorem fieldsExact_map_blk {t : Tree} (mask : Nat) {l : List Nat}
    (h : ∀ x ∈ l, known t x = true) : FieldsExact t mask (l.map (blk t mask)) := by
  intro b hb
  obtain ⟨x, hx, rfl⟩ := List.mem_map.mp hb
  exact ⟨h x hx, rfl⟩

theorem getBlockDataByNumber_eq (t : Tree) (n mask : Nat) : getBlockDataByNumber t n mask =
    if n ≤ bestNum t then .ok (getBlockData t (canon t n) mask) else .error .other := by
  rw [getBlockDataByNumber, hashByNumber_eq]
  by_cases h : n ≤ bestNum t
  · rw [if_pos h, if_pos h]
  · rw [if_neg h, if_neg h]

theorem ascByNumber_eq (t : Tree) (mask : Nat) : ∀ (cnt start : Nat), start + cnt ≤ bestNum t + 1 →
    ascByNumber t mask cnt start = .ok ((seg t (best t) start cnt).map (fun h => getBlockData t h mask))
  | 0, _, _ => rfl
  | cnt + 1, start, h => by
    rw [ascByNumber, getBlockDataByNumber_eq, if_pos (by omega), ascByNumber_eq t mask cnt (start + 1) (by omega),
      seg_succ, canon_eq]
    rfl

theorem descByNumber_eq (t : Tree) (mask cnt start lo : Nat) (hc : lo + cnt = start + 1) (hb : start ≤ bestNum t) :
    descByNumber t mask cnt start = .ok ((seg t (best t) lo cnt).reverse.map (fun h => getBlockData t h mask)) := by
  induction cnt generalizing start with
  | zero => rfl
  | succ cnt ih =>
    cases (Nat.succ.inj hc : lo + cnt = start)
    rw [descByNumber, getBlockDataByNumber_eq, if_pos hb, seg_concat, List.reverse_append, canon_eq]
    cases cnt with
    | zero => rfl
    | succ c =>
      rw [ih (lo + (c + 1) - 1) rfl (Nat.le_of_succ_le hb)]
      rfl

/-- the cut of `handleChainByHash` -/
theorem cut_eq {α : Type} (sub : List α) (max : Nat) (desc : Bool) :
    (if sub.length > max then (if desc then sub.drop (sub.length - max) else sub.take max) else sub) =
      if desc then sub.drop (sub.length - max) else sub.take max := by
  by_cases h : sub.length > max
  · rw [if_pos h]
  · rw [if_neg h]
    cases desc
    · exact (List.take_of_length_le (Nat.le_of_not_lt h)).symm
    · rw [if_pos rfl, Nat.sub_eq_zero_of_le (Nat.le_of_not_lt h)]; rfl

theorem chainByHash_ok {t : Tree} (wf : WF t) {a d max mask : Nat} {desc : Bool} {bs : List BData}
    (ha : known t a = true) (h : chainByHash t a d max mask desc = .ok bs) :
    known t d = true ∧ ∃ lo len, lo + len ≤ numOf t d + 1 ∧ len ≤ max ∧
      (desc = false → bs = (seg t d lo len).map (blk t mask) ∧ onChain t d lo = a) ∧
      (desc = true → bs = (seg t d lo len).reverse.map (blk t mask) ∧ lo + len = numOf t d + 1) := by
  unfold chainByHash at h
  cases hr : range t a d with
  | none => rw [hr] at h; cases h
  | some sub =>
    rw [hr] at h
    obtain ⟨rfl, hnum, hup, hkd⟩ := range_ok hr
    have hkd : known t d = true := hkd.elim (fun e => e ▸ ha) id
    refine ⟨hkd, ?_⟩
    simp only [cut_eq] at h
    simp only [seg_length] at h
    have hsub : ∀ lo len, lo + len ≤ numOf t d + 1 →
        (seg t d lo len).map (fun h => getBlockData t h mask) = (seg t d lo len).map (blk t mask) :=
      fun lo len hb => map_getBlockData mask (seg_known wf hkd hb)
    have hL : numOf t a + (numOf t d + 1 - numOf t a) = numOf t d + 1 :=
      Nat.add_sub_cancel' (Nat.le_succ_of_le hnum)
    generalize numOf t d + 1 - numOf t a = L at h hL
    cases desc with
    | false =>
      -- the first `min max L` blocks from `a` on
      have h2 := Nat.le_trans (Nat.add_le_add_left (Nat.min_le_right max L) (numOf t a)) (Nat.le_of_eq hL)
      simp only [Bool.false_eq_true, if_false, seg_take, Except.ok.injEq] at h
      rw [hsub _ _ h2] at h
      exact ⟨_, _, h2, Nat.min_le_left _ _, fun _ => ⟨h.symm, hup⟩, fun h => Bool.noConfusion h⟩
    | true =>
      -- the last `L - (L - max)` blocks, which end at `d`
      have h2 : numOf t a + (L - max) + (L - (L - max)) = numOf t d + 1 := by
        rw [Nat.add_assoc, Nat.add_sub_cancel' (Nat.sub_le L max)]
        exact hL
      simp only [if_true, seg_drop, Except.ok.injEq] at h
      rw [hsub _ _ (Nat.le_of_eq h2), ← List.map_reverse] at h
      have hcut : L - (L - max) ≤ max :=
        Nat.sub_le_iff_le_add.2 (by rw [Nat.add_comm, Nat.sub_add_eq_max]; exact Nat.le_max_left _ _)
      exact ⟨_, _, Nat.le_of_eq h2, hcut, fun h => Bool.noConfusion h, fun _ => ⟨h.symm, h2⟩⟩

theorem effMax_le (m : Option Nat) : effMax m ≤ maxBlocks := by
  unfold effMax
  split
  · split <;> omega
  · exact Nat.le_refl _

theorem effMax_le_max (x : Nat) : effMax (some x) ≤ x := by
  simp only [effMax]
  split <;> omega

/-- The block a request names. By hash: that block. By number: the block with that number on the
    chain of the best block; a descending request above the best block names the best block
    (`handleDescendingRequest`: "only return blocks from our best block and below"). -/
def StartsAt (t : Tree) (r : Request) (x : Nat) : Prop :=
  match r.from_ with
  | .hash h => x = h
  | .num n => if r.dir = 0 then x = canon t n else x = canon t (min n (bestNum t))

/-- the conclusions of the serving property for one response.  It keeps less than the proofs know: every response is
    a `seg` of ONE chain or its reverse (`servedAsc`, `servedDesc`); which chain is not recorded here. -/
structure ServedChain (t : Tree) (r : Request) (bs : List BData) : Prop where
  len_protocol : bs.length ≤ maxBlocks
  len_requested : ∀ m, r.max = some m → bs.length ≤ m
  fields : FieldsExact t r.mask bs
  start : ∀ x, (idsOf bs)[0]? = some x → StartsAt t r x
  /-- gap-free, parent to child -/
  asc : r.dir = 0 → Linked (Link t) (idsOf bs)
  /-- gap-free, child to parent -/
  desc : r.dir = 1 → Linked (fun x y => Link t y x) (idsOf bs)

private theorem served_of_effMax {r : Request} {bs : List BData}
    (hlen : bs.length ≤ effMax r.max) :
    bs.length ≤ maxBlocks ∧ ∀ m, r.max = some m → bs.length ≤ m := by
  refine ⟨Nat.le_trans hlen (effMax_le _), ?_⟩
  intro m hm
  rw [hm] at hlen
  exact Nat.le_trans hlen (effMax_le_max m)

/-- the wrapped `startNumber + max - 1` of `handleAscendingRequest` -/
theorem endNumber_mod {n : Nat} (mx : Nat) (h : 0 < n) : (n + mx + W - 1) % W = (n + mx - 1) % W := by
  rw [Nat.sub_add_comm (Nat.le_add_right_of_le h), Nat.add_mod_right]

/-- ascending from `n ≤ b` up to the end number `e`, cut at the best number `b`: at most `M` blocks, none above `b` -/
theorem ascCount_le {n M e b : Nat} (h1 : 1 ≤ n) (he : e ≤ n + M - 1) (hn : n ≤ b) :
    n + (min e b + 1 - n) ≤ b + 1 ∧ min e b + 1 - n ≤ M := by
  omega

theorem ascCount_eq {n M : Nat} (b : Nat) (h1 : 1 ≤ n) : min (n + M - 1) b + 1 - n = min M (b + 1 - n) := by
  rw [← Nat.add_min_add_right, Nat.sub_add_cancel (Nat.le_add_right_of_le h1), ← Nat.sub_min_sub_right,
    Nat.add_sub_cancel_left]

theorem ite_lt_eq_min (b n : Nat) : (if b < n then b else n) = min n b := by
  by_cases h : b < n
  · rw [if_pos h, Nat.min_eq_right (Nat.le_of_lt h)]
  · rw [if_neg h, Nat.min_eq_left (Nat.le_of_not_lt h)]

/-- how many blocks `handleDescendingRequest` serves from number `s` downwards (never below number 1) -/
theorem descCount_eq (s M : Nat) : s + 1 - (if s > M then s - M + 1 else 1) = min M s := by
  by_cases h : s > M
  · rw [if_pos h, Nat.min_eq_left (Nat.le_of_lt h), Nat.add_sub_add_right, Nat.sub_sub_self (Nat.le_of_lt h)]
  · rw [if_neg h, Nat.min_eq_right (Nat.le_of_not_lt h)]; rfl

theorem servedAsc {t : Tree} (wf : WF t) {r : Request} {d lo len : Nat} (hk : known t d = true)
    (hseg : lo + len ≤ numOf t d + 1) (hlen : len ≤ effMax r.max) (hdir : r.dir = 0)
    (hst : StartsAt t r (onChain t d lo)) : ServedChain t r ((seg t d lo len).map (blk t r.mask)) := by
  obtain ⟨h1, h2⟩ := served_of_effMax (r := r) (bs := (seg t d lo len).map (blk t r.mask))
    (by rw [List.length_map, seg_length]; exact hlen)
  refine ⟨h1, h2, fieldsExact_map_blk _ (seg_known wf hk hseg), ?_, ?_, fun h => by omega⟩
  · intro x hx
    rw [idsOf_map_blk] at hx
    rw [(seg_get _ _ _ _ hx).2]
    exact hst
  · intro _
    rw [idsOf_map_blk]
    exact seg_linked wf hk hseg

/-- the first block of the reversed segment is its last, `onChain t d (lo + k)` for `len = k + 1` -/
theorem servedDesc {t : Tree} (wf : WF t) {r : Request} {d lo len : Nat} (hk : known t d = true)
    (hseg : lo + len ≤ numOf t d + 1) (hlen : len ≤ effMax r.max) (hdir : r.dir = 1)
    (hst : ∀ k, len = k + 1 → StartsAt t r (onChain t d (lo + k))) :
    ServedChain t r ((seg t d lo len).reverse.map (blk t r.mask)) := by
  obtain ⟨h1, h2⟩ := served_of_effMax (r := r) (bs := (seg t d lo len).reverse.map (blk t r.mask))
    (by rw [List.length_map, List.length_reverse, seg_length]; exact hlen)
  refine ⟨h1, h2, fieldsExact_map_blk _ (fun x hx => seg_known wf hk hseg x (List.mem_reverse.mp hx)), ?_,
    fun h => by omega, ?_⟩
  · intro x hx
    rw [idsOf_map_blk] at hx
    cases len with
    | zero => cases hx
    | succ k =>
      rw [seg_concat, List.reverse_append] at hx
      cases hx
      exact hst k rfl
  · intro _
    rw [idsOf_map_blk]
    exact linked_reverse (seg_linked wf hk hseg)

theorem handleAscending_ok {t : Tree} (wf : WF t) {r : Request} {bs : List BData}
    (hdir : r.dir = 0) (hgen : r.from_ ≠ .num 0) (h : handleAscending t r = .ok bs) :
    ServedChain t r bs := by
  unfold handleAscending at h
  cases hf : r.from_ with
  | hash hh =>
    simp only [hf] at h
    split at h
    · cases h
    · rename_i hk
      split at h
      · cases h
      · -- whatever end hash `checkOrGetDescendantHash` chose, `Range(h, eh)` inside `handleChainByHash` checks the
        -- ancestry again, so nothing about the descendant search is needed
        obtain ⟨hkd, lo, len, hseg, hlen, hasc, _⟩ := chainByHash_ok wf (by simpa using hk) h
        obtain ⟨rfl, hup⟩ := hasc rfl
        exact servedAsc wf hkd hseg hlen hdir (by simp only [StartsAt, hf]; exact hup)
  | num n =>
    have hn : 0 < n := Nat.pos_of_ne_zero fun h0 => hgen (h0 ▸ hf)
    -- the cut of the end number at the best number becomes a `min`, and `+ W - 1` loses its `W` since `0 < n`
    simp only [hf, Nat.ne_of_gt hn, if_false, ite_lt_eq_min, endNumber_mod _ hn] at h
    by_cases hbest : bestNum t < n
    · rw [if_pos hbest] at h; cases h
    have hseg := ascCount_le hn (Nat.mod_le (n + effMax r.max - 1) W) (Nat.le_of_not_lt hbest)
    rw [if_neg hbest, ascByNumber_eq t r.mask _ _ hseg.1,
      map_getBlockData _ (seg_known wf (best_known wf) hseg.1)] at h
    cases h
    exact servedAsc wf (best_known wf) hseg.1 hseg.2 hdir (by simp only [StartsAt, hf, hdir, if_true, canon_eq])

theorem handleDescending_ok {t : Tree} (wf : WF t) {r : Request} {bs : List BData}
    (hdir : r.dir = 1) (h : handleDescending t r = .ok bs) : ServedChain t r bs := by
  unfold handleDescending at h
  cases hf : r.from_ with
  | hash hh =>
    simp only [hf] at h
    cases hk : known t hh
    · rw [hk] at h; cases h
    rw [hk, if_neg (by decide), hashByNumber_eq] at h
    generalize (if numOf t hh > effMax r.max then numOf t hh - effMax r.max + 1 else 1) = en at h
    by_cases hle : en ≤ bestNum t
    · rw [if_pos hle, canon_eq] at h
      -- the end block is on the best chain
      obtain ⟨hkd, lo, len, hseg, hlen, _, hdesc⟩ := chainByHash_ok wf (onChain_known wf (best_known wf) hle).1 h
      obtain ⟨rfl, hlast⟩ := hdesc rfl
      refine servedDesc wf hkd hseg hlen hdir (fun k hk => ?_)
      subst hk
      simp only [StartsAt, hf]
      rw [(Nat.succ.inj hlast : lo + k = numOf t hh), onChain_self]
    · rw [if_neg hle] at h; cases h
  | num n =>
    simp only [hf, ite_lt_eq_min, descCount_eq] at h
    have hsb : min n (bestNum t) ≤ bestNum t := Nat.min_le_right _ _
    have hlo := Nat.sub_add_cancel (Nat.le_succ_of_le (Nat.min_le_right (effMax r.max) (min n (bestNum t))))
    have hseg := Nat.le_trans (Nat.le_of_eq hlo) (Nat.succ_le_succ hsb)
    rw [descByNumber_eq t r.mask _ _ _ hlo hsb,
      map_getBlockData _ (fun x hx => seg_known wf (best_known wf) hseg x (List.mem_reverse.mp hx))] at h
    cases h
    refine servedDesc wf (best_known wf) hseg (Nat.min_le_left _ _) hdir (fun k hk => ?_)
    simp only [StartsAt, hf, hdir, Nat.one_ne_zero, if_false]
    rw [hk] at hlo ⊢
    rw [(Nat.succ.inj hlo : _ + k = _), canon_eq]

theorem serve_asc_by_number_length (t : Tree) (n : Nat) (mx : Option Nat) (mask : Nat)
    (hmask : mask ≠ 0) (hW : bestNum t + maxBlocks < W) (h1 : 1 ≤ n) (hn : n ≤ bestNum t) :
    ∃ bs, serve t ⟨.num n, 0, mx, mask⟩ = .ok bs
      ∧ bs.length = min (effMax mx) (bestNum t + 1 - n) := by
  have hlt : n + effMax mx - 1 < W := by have := effMax_le mx; omega
  simp only [serve, dispatch, handleAscending, hmask, if_true, if_false, Nat.ne_of_gt h1, Nat.not_lt.mpr hn,
    endNumber_mod _ h1, Nat.mod_eq_of_lt hlt, ite_lt_eq_min, ascCount_eq _ h1]
  rw [ascByNumber_eq _ _ _ _ (Nat.le_trans (Nat.add_le_add_left (Nat.min_le_right _ _) n)
    (Nat.le_of_eq (Nat.add_sub_cancel' (Nat.le_succ_of_le hn))))]
  exact ⟨_, rfl, by rw [List.length_map, seg_length]⟩

theorem serve_desc_by_number_length (t : Tree) (n : Nat) (mx : Option Nat) (mask : Nat)
    (hmask : mask ≠ 0) :
    ∃ bs, serve t ⟨.num n, 1, mx, mask⟩ = .ok bs
      ∧ bs.length = min (effMax mx) (min n (bestNum t)) := by
  simp only [serve, dispatch, handleDescending, hmask, if_true, if_false, Nat.one_ne_zero, ite_lt_eq_min,
    descCount_eq]
  rw [descByNumber_eq _ _ _ _ _ (Nat.sub_add_cancel (Nat.le_succ_of_le (Nat.min_le_right _ _)))
    (Nat.min_le_right _ _)]
  exact ⟨_, rfl, by rw [List.length_map, List.length_reverse, seg_length]⟩

end Gossamer.C31
