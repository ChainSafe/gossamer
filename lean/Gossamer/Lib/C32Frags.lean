import Gossamer.Lib.C32Chain
namespace Gossamer.C32

/-- the unready set holds only good fragments, and announced blocks under the hash of their header -/
structure Inv (st : St) : Prop where
  dj : ∀ f ∈ st.disjoint, GoodFrag f
  inc : ∀ b ∈ st.incomplete, b.stated = b.id

theorem takeJoin_spec {last : BD} {dj : List (List BD)} {f : List BD} {rest : List (List BD)}
    (h : takeJoin last dj = some (f, rest)) :
    f ∈ dj ∧ (∀ g ∈ rest, g ∈ dj) ∧ f.head?.any (isParent last) = true := by
  induction dj generalizing rest with
  | nil => cases h
  | cons g gs ih =>
    unfold takeJoin at h
    by_cases hg : g.head?.any (isParent last) = true
    · rw [if_pos hg] at h
      cases h
      exact ⟨List.mem_cons_self, fun x hx => List.mem_cons_of_mem _ hx, hg⟩
    · rw [if_neg hg] at h
      obtain ⟨⟨f', rest'⟩, hj, hp⟩ := Option.map_eq_some_iff.mp h
      cases hp
      obtain ⟨h1, h2, h3⟩ := ih hj
      exact ⟨List.mem_cons_of_mem _ h1, List.forall_mem_cons.mpr
        ⟨List.mem_cons_self, fun x hx => List.mem_cons_of_mem _ (h2 x hx)⟩, h3⟩

theorem complete_spec (resp inc : List BD) (hinc : ∀ b ∈ inc, b.stated = b.id)
    (hb : ∀ r ∈ resp, r.hasBody = true) :
    (∀ b ∈ (complete inc resp).1, GoodBlock b) ∧ (∀ b ∈ (complete inc resp).2, b ∈ inc) := by
  induction resp generalizing inc with
  | nil => exact ⟨List.forall_mem_nil _, fun _ h => h⟩
  | cons r rest ih =>
    obtain ⟨hr, hrest⟩ := List.forall_mem_cons.mp hb
    unfold complete
    split
    · exact ih inc hinc hrest
    · rename_i i hi
      obtain ⟨h1, h2⟩ := ih _ (fun b h => hinc b (List.mem_filter.mp h).1) hrest
      exact ⟨List.forall_mem_cons.mpr ⟨⟨hinc i (List.mem_of_find?_eq_some hi), hr⟩, h1⟩,
        fun b hbm => (List.mem_filter.mp (h2 b hbm)).1⟩

theorem linked_of_join {bs f : List BD} {last : BD} (hl : bs.getLast? = some last)
    (hj : f.head?.any (isParent last) = true) : linked bs f = true := by
  unfold linked
  rw [hl]
  cases f with
  | nil => simp at hj
  | cons h t => simpa using hj

/-- the invariant of the first loop of `Process` -/
structure AbsInv (st0 : St) (acc : St × List (List BD)) : Prop where
  inv : Inv acc.1
  ready : ∀ f ∈ acc.2, GoodFrag f
  known : acc.1.known = st0.known
  fin : acc.1.fin = st0.fin

theorem absorb_inv {st0 : St} {fin0 : Nat} {acc : St × List (List BD)} {v : Kind × List BD}
    (h : AbsInv st0 acc) (hv : ValidResp v) : AbsInv st0 (absorb fin0 acc v) := by
  obtain ⟨st, ready⟩ := acc
  obtain ⟨k, bs⟩ := v
  unfold absorb
  dsimp only
  by_cases hk : k.hdr = true
  · have hg : GoodFrag bs := hv.hdr hk
    have hpush : AbsInv st0 (st, ready ++ [bs]) :=
      ⟨h.inv, List.forall_mem_append.mpr ⟨h.ready, List.forall_mem_singleton.mpr hg⟩, h.known, h.fin⟩
    rw [if_pos hk]
    cases hl : bs.getLast? with
    | none => exact hpush
    | some last =>
      dsimp only
      cases hj : takeJoin last st.disjoint with
      | none => exact hpush
      | some p =>
        obtain ⟨f, rest⟩ := p
        obtain ⟨hf, hrest, hjoin⟩ := takeJoin_spec hj
        have happ := goodFrag_append hg (h.inv.dj f hf) (linked_of_join hl hjoin)
        refine ⟨⟨fun g hg' => h.inv.dj g (hrest g hg'), h.inv.inc⟩, ?_, h.known, h.fin⟩
        dsimp only
        split
        · exact h.ready
        · rename_i hne
          exact List.forall_mem_append.mpr ⟨h.ready, List.forall_mem_singleton.mpr
            (goodFrag_of_suffix happ (validUnder_suffix fin0 _) (mt List.isEmpty_iff.mpr hne))⟩
  · rw [if_neg hk]
    obtain ⟨h1, h2⟩ := complete_spec bs st.incomplete h.inv.inc hv.body
    exact ⟨⟨h.inv.dj, fun b hb => h.inv.inc b (h2 b hb)⟩,
      List.forall_mem_append.mpr
        ⟨h.ready, List.forall_mem_map.mpr fun b hb => goodFrag_singleton (h1 b hb)⟩,
      h.known, h.fin⟩

theorem forall_insertFrag {P : List BD → Prop} {f : List BD} {l : List (List BD)}
    (hf : P f) (hl : ∀ g ∈ l, P g) : ∀ g ∈ insertFrag f l, P g := by
  induction l with
  | nil => exact List.forall_mem_singleton.mpr hf
  | cons x xs ih =>
    unfold insertFrag
    split
    · exact List.forall_mem_cons.mpr ⟨hf, hl⟩
    · have hl := List.forall_mem_cons.mp hl
      exact List.forall_mem_cons.mpr ⟨hl.1, ih hl.2⟩

theorem forall_sortFrags {P : List BD → Prop} {l : List (List BD)} (h : ∀ g ∈ l, P g) :
    ∀ g ∈ sortFrags l, P g := by
  induction l with
  | nil => exact h
  | cons f fs ih =>
    obtain ⟨hf, hfs⟩ := List.forall_mem_cons.mp h
    exact forall_insertFrag hf (ih hfs)

theorem mergeGo_good (fs : List (List BD)) (cur : List BD) (hc : GoodFrag cur)
    (hfs : ∀ f ∈ fs, GoodFrag f) : ∀ g ∈ mergeGo cur fs, GoodFrag g := by
  induction fs generalizing cur with
  | nil => exact List.forall_mem_singleton.mpr hc
  | cons f fs ih =>
    obtain ⟨hf, hrest⟩ := List.forall_mem_cons.mp hfs
    unfold mergeGo
    split
    · rename_i hl
      exact ih (cur ++ f) (goodFrag_append hc hf hl) hrest
    · exact List.forall_mem_cons.mpr ⟨hc, ih f hf hrest⟩

theorem mergeFrags_good : ∀ {l : List (List BD)}, (∀ f ∈ l, GoodFrag f) →
    ∀ g ∈ mergeFrags l, GoodFrag g
  | [], h => h
  | f :: fs, h => mergeGo_good fs f (List.forall_mem_cons.mp h).1 (List.forall_mem_cons.mp h).2

theorem removeIrrelevant_inv {st : St} (h : Inv st) : Inv (removeIrrelevant st) := by
  refine ⟨fun f hf => ?_, fun b hb => h.inc b (List.mem_filter.mp hb).1⟩
  obtain ⟨hm, hne⟩ := List.mem_filter.mp hf
  obtain ⟨g, hg, rfl⟩ := List.mem_map.mp hm
  exact goodFrag_of_suffix (h.dj g hg) (keepAbove_suffix st.fin g) (by simpa using hne)

theorem newIncomplete_inv {st : St} (h : Inv st) (b : BD) : Inv (newIncomplete st b) :=
  ⟨h.dj, List.forall_mem_cons.mpr ⟨rfl, fun x hx => h.inc x (List.mem_filter.mp hx).1⟩⟩

end Gossamer.C32
