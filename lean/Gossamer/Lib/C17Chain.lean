/-
C17 — the finalised chain as ghost state: `runG` is `run` carrying genesis followed by the subchains of all successful
finalisations, `ChainInv` says what that chain is to the state, and it holds in every reachable state.
-/
import Gossamer.Lib.C17Step
namespace Gossamer.C17

/-- `subchain[1:]` of `handleFinalisedBlock`; Model/C26 has the same definition as `C26.subchain` (it imports the
    model only), the two agree by `rfl` -/
def subchain (st : St) (h : Nat) : List Blk :=
  match rangeInMemory st st.root h with
  | .ok path => path.tail
  | _ => []

/-- a successful finalisation of the current root leaves the chain alone (its subchain is empty): hence the test
    `h ≠ sc.1.root` -/
def stepG (gh : Nat) (sc : St × List Blk) (o : Op) : St × List Blk :=
  match o with
  | .add b => ((addBlock sc.1 b).1, sc.2)
  | .fin h r s =>
    ((setFinalised gh sc.1 h r s).1,
      if (setFinalised gh sc.1 h r s).2 = .ok ∧ h ≠ sc.1.root then sc.2 ++ subchain sc.1 h else sc.2)

def runG (g : Blk) (ops : List Op) : St × List Blk := ops.foldl (stepG g.hash) (St.init g, [g])

theorem stepG_fst (gh : Nat) (sc : St × List Blk) (o : Op) : (stepG gh sc o).1 = step gh sc.1 o := by
  cases o <;> rfl

theorem runG_fst (g : Blk) (ops : List Op) : (runG g ops).1 = run g ops :=
  (List.foldl_hom Prod.fst fun sc o => (stepG_fst g.hash sc o).symm).symm

theorem Moved.subchain_eq {st st' : St} {h r s : Nat} {rb hn : Blk} {rest : List Blk}
    (m : Moved st h r s rb hn rest st') : subchain st h = rest := by
  unfold subchain rangeInMemory
  have hle : ¬ rb.number > hn.number := by
    have := (m.path.mem rb (List.mem_cons_self ..)).2; omega
  simp [m.headB, m.rootB, hle, m.walk]

/-- what the ghost chain is to the state: genesis up to the root, one block per number, closed under parents, every
    number answered by the number table.  It says nothing of the header table (see `OpOK`). -/
structure ChainInv (g : Blk) (st : St) (chain : List Blk) : Prop where
  genesis : g ∈ chain
  head : ∃ rb, findB st.tree st.root = some rb ∧ rb ∈ chain ∧ ∀ c ∈ chain, c.number ≤ rb.number
  num : ∀ c ∈ chain, lookupN st.dbNum c.number = some c.hash
  inj : ∀ c ∈ chain, ∀ c' ∈ chain, c.number = c'.number → c = c'
  closed : ∀ c ∈ chain, c = g ∨ ∃ p ∈ chain, p.hash = c.parent ∧ p.number + 1 = c.number

theorem ChainInv_init (g : Blk) : ChainInv g (St.init g) [g] where
  genesis := by simp
  head := ⟨g, by simp [St.init, findB_cons], by simp, by simp⟩
  num := by intro c hc; simp at hc; subst hc; simp [St.init, lookupN]
  inj := by intro c hc c' hc' _; simp at hc hc'; rw [hc, hc']
  closed := by intro c hc; simp at hc; exact .inl hc

/-- every old chain block lies at or below the old root, every path block strictly above it (`hlt`) -/
theorem ChainInv.moved {g : Blk} {st st' : St} {chain : List Blk} (inv : Inv g st) (ci : ChainInv g st chain)
    {h r s : Nat} {rb hn : Blk} {rest : List Blk} (hne : h ≠ st.root) (m : Moved st h r s rb hn rest st') :
    ChainInv g st' (chain ++ rest) := by
  have f := m.facts inv.tree hne
  obtain ⟨rb0, hrb0, hmem0, hmax0⟩ := ci.head
  cases Option.some.inj (m.rootB.symm.trans hrb0)
  have hlt : ∀ c ∈ chain, ∀ b ∈ rest, c.number < b.number :=
    fun c hc b hb => Nat.lt_of_le_of_lt (hmax0 c hc) (f.rootLt b hb)
  refine ⟨List.mem_append_left _ ci.genesis, ⟨hn, m.findRoot inv.tree, List.mem_append_right _ f.hnRest, ?headMax⟩, ?num, ?inj, ?closed⟩
  case headMax =>
    intro c hc
    rcases List.mem_append.mp hc with hc | hc
    · exact Nat.le_of_lt (hlt c hc hn f.hnRest)
    · exact (m.path.mem c (List.mem_cons_of_mem _ hc)).2
  case num =>
    intro c hc
    rcases List.mem_append.mp hc with hc | hc
    · rw [m.numOld c.number fun b hb => Nat.ne_of_gt (hlt c hc b hb)]
      exact ci.num c hc
    · exact m.numNew c hc
  case inj =>
    intro c hc c' hc' he
    rcases List.mem_append.mp hc with hc | hc <;> rcases List.mem_append.mp hc' with hc' | hc'
    · exact ci.inj c hc c' hc' he
    · exact absurd he (Nat.ne_of_lt (hlt c hc c' hc'))
    · exact absurd he (Nat.ne_of_gt (hlt c' hc' c hc))
    · exact inj_of_nodup_map (·.number) m.path.nodup_number (List.mem_cons_of_mem _ hc) (List.mem_cons_of_mem _ hc') he
  case closed =>
    intro c hc
    rcases List.mem_append.mp hc with hc | hc
    · rcases ci.closed c hc with h1 | ⟨p, hp, h1, h2⟩
      · exact .inl h1
      · exact .inr ⟨p, List.mem_append_left _ hp, h1, h2⟩
    · obtain ⟨y, hy, h1, h2⟩ := m.path.linked c hc
      refine .inr ⟨y, ?_, h1, h2⟩
      rcases List.mem_cons.mp hy with hy | hy
      · rw [hy]; exact List.mem_append_left _ hmem0
      · exact List.mem_append_right _ hy

theorem ChainInv_stepG {g : Blk} {sc : St × List Blk} (inv : Inv g sc.1) (ci : ChainInv g sc.1 sc.2) (o : Op) :
    ChainInv g (stepG g.hash sc o).1 (stepG g.hash sc o).2 := by
  obtain ⟨st, chain⟩ := sc
  cases o with
  | add b =>
    show ChainInv g (addBlock st b).1 chain
    rcases addBlock_cases st b with h | ⟨p, _, _, _, heq⟩
    · rw [h]; exact ci
    · rw [heq]
      obtain ⟨rb, hrb, hmem, hmax⟩ := ci.head
      exact ⟨ci.genesis, ⟨rb, findB_append_left hrb _, hmem, hmax⟩, ci.num, ci.inj, ci.closed⟩
  | fin h r s =>
    show ChainInv g (setFinalised g.hash st h r s).1
      (if (setFinalised g.hash st h r s).2 = .ok ∧ h ≠ st.root then chain ++ subchain st h else chain)
    rcases setFinalised_cases inv h r s with ⟨h1, h2⟩ | ⟨hr, _, h1⟩ | ⟨hne, hok, rb, hn, rest, m⟩
    · rw [if_neg fun hc => failed_ne_ok h2 hc.1, h1]; exact ci
    · rw [if_neg (fun hc => hc.2 hr), h1]
      exact ⟨ci.genesis, ci.head, ci.num, ci.inj, ci.closed⟩
    · rw [if_pos ⟨hok, hne⟩, m.subchain_eq]
      exact ci.moved inv hne m

theorem ChainInv_reachable (g : Blk) (ops : List Op) (hops : ∀ o ∈ ops, OpOK g o) :
    Inv g (runG g ops).1 ∧ ChainInv g (runG g ops).1 (runG g ops).2 :=
  foldl_inv (stepG g.hash) (fun _ sc => Inv g sc.1 ∧ ChainInv g sc.1 sc.2) (OpOK g)
    (fun _ sc o ho ih => ⟨by rw [stepG_fst]; exact Inv_step ih.1 o ho, ChainInv_stepG ih.1 ih.2 o⟩)
    ops [] (St.init g, [g]) hops ⟨Inv_init g, ChainInv_init g⟩

end Gossamer.C17
