import Gossamer.Lib.C28Spec
namespace Gossamer.C28
variable {S : Store}

/-- a block is `(header address, order)` and spans `[b.1, bend b)`: the header word, then the payload -/
def bend (b : Nat × Nat) : Nat := b.1 + 8 + osize b.2

def Disj (a b : Nat × Nat) : Prop := bend a ≤ b.1 ∨ bend b ≤ a.1

/-- state of the proof only (the book-keeping a guest could do itself, `live` and `freed`, is part of `Run`) -/
structure Ghost where
  /-- every block ever carved by `bump`: (header address, order) -/
  blocks : List (Nat × Nat)
  /-- for every order the header addresses on its free list, head first -/
  fl : Nat → List Nat

/-- the memory holds a free list that starts at raw link `h` and visits exactly `l`.
    `le64 b p < U32`: the occupied bit (bit 32) of the header word at `p` is clear; this is what makes
    `Deallocate` refuse a pointer whose block is on a free list (`C28_double_free`). -/
def Chain (b : S.σ) : Nat → List Nat → Prop
  | h, [] => h = NIL
  | h, p :: l => h = p ∧ p ≠ NIL ∧ le64 b p < U32 ∧ Chain b (le64 b p) l

/-- geometry: holds in every reachable state, poisoned or not.  `bump_lt` keeps every header address off
    `NIL` and every pointer below 2^32.  There is no `bumper ≤ m.size`: the heap base may lie beyond the
    initial memory, which grows only at the first `bump`; what is inside the memory is every carved block. -/
structure Geo (r : Run S) (g : Ghost) : Prop where
  base8 : r.s.base % 8 = 0
  bump8 : r.s.bumper % 8 = 0
  base_le : r.s.base ≤ r.s.bumper
  bump_lt : r.s.bumper < U32
  -- the last clause survives poisoning because no `Op` shrinks the memory
  blk : ∀ b ∈ g.blocks, b.1 % 8 = 0 ∧ r.s.base ≤ b.1 ∧ bend b ≤ r.s.bumper ∧ b.2 < 23 ∧ bend b ≤ r.m.size
  disj : ∀ b1 ∈ g.blocks, ∀ b2 ∈ g.blocks, b1 = b2 ∨ Disj b1 b2
  live_blk : ∀ e ∈ r.live, 8 ≤ e.1 ∧ (e.1 - 8, e.2) ∈ g.blocks
  live_nodup : r.live.Pairwise (fun a b => a.1 ≠ b.1)

/-- headers and free lists: holds while the allocator is not poisoned.  `fl_blk` is one inclusion: that
    every carved block which is not live is on a free list is not claimed. -/
structure Heap (r : Run S) (g : Ghost) : Prop where
  live_hdr : ∀ e ∈ r.live, le64 r.m.bytes (e.1 - 8) = OCC + e.2
  chain : ∀ o, o < 23 → Chain r.m.bytes (r.s.heads o) (g.fl o)
  fl_blk : ∀ o, o < 23 → ∀ h ∈ g.fl o, (h, o) ∈ g.blocks ∧ ∀ e ∈ r.live, e.1 ≠ h + 8
  fl_nodup : ∀ o, o < 23 → (g.fl o).Nodup
  -- needed by `C28_double_free` alone
  freed : ∀ p ∈ r.freed, 8 ≤ p ∧ ∃ o, o < 23 ∧ (p - 8) ∈ g.fl o

def Inv (r : Run S) (g : Ghost) : Prop := Geo r g ∧ (r.s.poisoned = false → Heap r g)

theorem blk_base {r : Run S} {g : Ghost} (hG : Geo r g) {b : Nat × Nat} (hb : b ∈ g.blocks) :
    r.s.base ≤ b.1 := (hG.blk b hb).2.1

theorem blk_bumper {r : Run S} {g : Ghost} (hG : Geo r g) {b : Nat × Nat} (hb : b ∈ g.blocks) :
    bend b ≤ r.s.bumper := (hG.blk b hb).2.2.1

theorem blk_order {r : Run S} {g : Ghost} (hG : Geo r g) {b : Nat × Nat} (hb : b ∈ g.blocks) :
    b.2 < 23 := (hG.blk b hb).2.2.2.1

theorem blk_size {r : Run S} {g : Ghost} (hG : Geo r g) {b : Nat × Nat} (hb : b ∈ g.blocks) :
    bend b ≤ r.m.size := (hG.blk b hb).2.2.2.2

theorem bend_ge16 (b : Nat × Nat) : b.1 + 16 ≤ bend b := by
  have := osize_ge8 b.2; unfold bend; omega

theorem bend_live {e : Nat × Nat} (e8 : 8 ≤ e.1) : bend (e.1 - 8, e.2) = e.1 + osize e.2 := by
  show e.1 - 8 + 8 + osize e.2 = _
  rw [Nat.sub_add_cancel e8]

theorem blk_below {r : Run S} {g : Ghost} (hG : Geo r g) {b : Nat × Nat} (hb : b ∈ g.blocks) :
    b.1 + 16 ≤ r.s.bumper :=
  Nat.le_trans (bend_ge16 b) (blk_bumper hG hb)

theorem blk_lt_nil {r : Run S} {g : Ghost} (hG : Geo r g) {b : Nat × Nat} (hb : b ∈ g.blocks) : b.1 < NIL := by
  have := blk_below hG hb
  have : r.s.bumper < 4294967296 := hG.bump_lt
  show b.1 < 4294967295
  omega

theorem blk_same_hdr {r : Run S} {g : Ghost} (hG : Geo r g) {b1 b2 : Nat × Nat}
    (h1 : b1 ∈ g.blocks) (h2 : b2 ∈ g.blocks) (h : b1.1 = b2.1) : b1 = b2 := by
  rcases hG.disj b1 h1 b2 h2 with h' | h'
  · exact h'
  · have := bend_ge16 b1; have := bend_ge16 b2; unfold Disj at h'; omega

theorem blk_sep {r : Run S} {g : Ghost} (hG : Geo r g) {b1 b2 : Nat × Nat}
    (h1 : b1 ∈ g.blocks) (h2 : b2 ∈ g.blocks) (h : b1.1 ≠ b2.1) : Disj b1 b2 := by
  rcases hG.disj b1 h1 b2 h2 with h' | h'
  · exact absurd (congrArg Prod.fst h') h
  · exact h'

theorem hdr_sep {r : Run S} {g : Ghost} (hG : Geo r g) {b c : Nat × Nat} (hb : b ∈ g.blocks)
    (hc : c ∈ g.blocks) (h : b.1 ≠ c.1) : b.1 + 8 ≤ c.1 ∨ c.1 + 8 ≤ b.1 := by
  have := blk_sep hG hb hc h
  have := bend_ge16 b
  have := bend_ge16 c
  unfold Disj at *
  omega

theorem Chain_put64 (hS : S.Lawful) {b : S.σ} {a : Nat} (v : Nat) {l : List Nat} :
    ∀ {hd}, (∀ h ∈ l, h + 8 ≤ a ∨ a + 8 ≤ h) → Chain b hd l → Chain (put64 b a v) hd l := by
  induction l with
  | nil => intro hd _ h; exact h
  | cons p l ih =>
    rintro hd hsep ⟨h1, h2, h3, h4⟩
    have e := le64_put64_other hS b a v p (hsep p (List.mem_cons_self ..))
    exact ⟨h1, h2, e ▸ h3, e ▸ ih (fun h hh => hsep h (List.mem_cons_of_mem _ hh)) h4⟩

theorem Chain_head {b : S.σ} {hd : Nat} {l : List Nat} (h : Chain b hd l) : hd = NIL ∨ hd ∈ l := by
  cases l with
  | nil => exact Or.inl h
  | cons p l => exact Or.inr (by rw [h.1]; exact List.mem_cons_self ..)

theorem Chain_mem_free {b : S.σ} {l : List Nat} : ∀ {hd : Nat}, Chain b hd l → ∀ h ∈ l, le64 b h < U32 := by
  induction l with
  | nil => intro _ _ h hh; cases hh
  | cons p l ih =>
    intro hd hc h hh
    obtain ⟨_, _, h3, h4⟩ := hc
    rcases List.mem_cons.mp hh with rfl | hh
    · exact h3
    · exact ih h4 h hh

theorem Chain_cons_of_ne_nil {b : S.σ} {hd : Nat} {l : List Nat} (h : Chain b hd l) (hne : hd ≠ NIL) :
    ∃ rest, l = hd :: rest ∧ le64 b hd < U32 ∧ Chain b (le64 b hd) rest := by
  cases l with
  | nil => exact absurd h hne
  | cons p l =>
    obtain ⟨h1, _, h3, h4⟩ := h
    subst h1
    exact ⟨l, rfl, h3, h4⟩

theorem eraseLive_sublist (p : Nat) (l : List (Nat × Nat)) : (eraseLive p l).Sublist l := by
  induction l with
  | nil => exact List.Sublist.refl _
  | cons x xs ih =>
    unfold eraseLive
    split
    · exact List.sublist_cons_self x xs
    · exact List.Sublist.cons_cons x ih

theorem ne_of_mem_eraseLive {p : Nat} {l : List (Nat × Nat)} (hn : l.Pairwise (fun a b => a.1 ≠ b.1))
    {e : Nat × Nat} (he : e ∈ eraseLive p l) : e.1 ≠ p := by
  induction l with
  | nil => cases he
  | cons x xs ih =>
    rw [List.pairwise_cons] at hn
    unfold eraseLive at he
    split at he
    · rename_i hx
      exact fun h => hn.1 e he (hx.trans h.symm)
    · rcases List.mem_cons.mp he with rfl | he
      · assumption
      · exact ih hn.2 he

theorem Geo_transfer {r r' : Run S} {g g' : Ghost} (hG : Geo r g) (hg : g'.blocks = g.blocks)
    (h1 : r'.s.base = r.s.base) (h2 : r'.s.bumper = r.s.bumper) (h3 : r.m.size ≤ r'.m.size)
    (h4 : ∀ e ∈ r'.live, 8 ≤ e.1 ∧ (e.1 - 8, e.2) ∈ g.blocks)
    (h5 : r'.live.Pairwise (fun a b => a.1 ≠ b.1)) : Geo r' g' := by
  refine ⟨h1 ▸ hG.base8, h2 ▸ hG.bump8, h1 ▸ h2 ▸ hG.base_le, h2 ▸ hG.bump_lt, ?_, hg ▸ hG.disj, hg ▸ h4, h5⟩
  intro b hb
  obtain ⟨al, lo, hi, od, sz⟩ := hG.blk b (hg ▸ hb)
  exact ⟨al, h1 ▸ lo, h2 ▸ hi, od, Nat.le_trans sz h3⟩

theorem Inv_fail {r : Run S} {g : Ghost} (hG : Geo r g) {s' : St} (b : S.σ)
    (h1 : s'.base = r.s.base) (h2 : s'.bumper = r.s.bumper) (hp : s'.poisoned = true) :
    Inv { r with s := s', m := { r.m with bytes := b } } g :=
  ⟨Geo_transfer hG rfl h1 h2 (Nat.le_refl _) hG.live_blk hG.live_nodup,
    fun h => Bool.noConfusion (hp.symm.trans h)⟩

end Gossamer.C28
