/-
C06: `fix` and the remove inspector on a handle tree that is consistent with the committed trie:
`removeAt` computes the image of `tRemove` (nothing, when the node disappears), keeps consistency,
and schedules for deletion only rows of positions the new tree no longer refers to.
-/
import Gossamer.Lib.TrieDBInsert
namespace Gossamer.C06
open Gossamer Gossamer.Trie

theorem abs_isNil {ver : Ver} {H : Bytes → Bytes} {T0 : Trie} {hd : Hd} {q : Nibs}
    (hok : Ok ver H T0 hd q) : (abs T0 hd q).isNil = hd.isNone := by
  cases hd with
  | none => rfl
  | persisted h => exact isNil_false_of_ne hok.1
  | empty c => exact hok.elim
  | leaf c pk dv => rfl
  | branch c pk dvo cs => rfl

theorem usedIdx_abs {ver : Ver} {H : Bytes → Bytes} {T0 : Trie} {cs : Nib → Hd} {q : Nibs}
    (hk : ∀ i, Ok ver H T0 (cs i) (q ++ [i])) :
    usedIdx cs = childIdx (fun i => abs T0 (cs i) (q ++ [i])) := by
  unfold usedIdx childIdx
  congr 1
  funext i
  rw [abs_isNil (hk i)]

/-- postcondition of `fix`: `InspPost` for a node that always changed (so without `same`);
    `removeFixed_post` reads it back as an `InspPost … true`, with the rows scheduled before `fix` ran -/
structure FixPost (ver : Ver) (H : Bytes → Bytes) (T0 : Trie) (pre : Nibs) (old : Hd) (target : Trie)
    (n : Hd) (news : List Pos) : Prop where
  ok : Ok ver H T0 n pre
  abs : abs T0 n pre = target
  cached : n.cached = none
  mem : n.isMem = true
  fresh : ∀ pos ∈ news, Below pre pos ∧ ¬ Needs n pre pos
  mono : ∀ pos, Needs n pre pos → Needs old pre pos
  valid : ∀ pos ∈ news, ValidPos ver H T0 pos

theorem afterDelete_eq_childDeath (n : Hd) (q : Nibs) (d : Death) : afterDelete n q d = childDeath n q d := by
  unfold afterDelete childDeath
  cases n.cached <;> rfl

theorem ownRow_spec {ver : Ver} {H : Bytes → Bytes} {T0 : Trie} {n : Hd} {q : Nibs} (hok : Ok ver H T0 n q)
    (hm : n.isMem = true) (d : Death) :
    ∃ news : List Pos, childDeath n q d = news.map (rowOf ver H T0) ++ d ∧
      ∀ pos ∈ news, pos = .node q ∧ ValidPos ver H T0 pos := by
  unfold childDeath
  cases hc : n.cached with
  | none => exact ⟨[], rfl, (fun _ h => nomatch h)⟩
  | some h =>
    obtain ⟨hh, _, _⟩ := ok_cached hok hc hm
    refine ⟨[.node q], by simp [rowOf, hh.2.1], fun pos hpos => ?_⟩
    rw [List.mem_singleton.mp hpos]
    exact ⟨rfl, validPos_of_hashAt hh⟩

theorem fixMerge_post {ver : Ver} {H : Bytes → Bytes} {T0 : Trie} {pre pk : Nibs} {i : Nib} {old stored : Hd}
    (hm : stored.isMem = true) (hoks : Ok ver H T0 stored (pre ++ pk ++ [i]))
    (hparent : ∀ pos, Needs stored (pre ++ pk ++ [i]) pos → Needs old pre pos) (d : Death) (news : List Pos)
    (hnews : ∀ pos ∈ news, pos = .node (pre ++ pk ++ [i]) ∧ ValidPos ver H T0 pos) :
    ∃ n, fixMerge pk i stored d = .ok (n, d) ∧
      FixPost ver H T0 pre old
        (match abs T0 stored (pre ++ pk ++ [i]) with
          | leaf cpk cv => leaf (pk ++ i :: cpk) cv
          | branch cpk cv ccs => branch (pk ++ i :: cpk) cv ccs
          | nil => nil) n news := by
  have hbelow : Below pre (.node (pre ++ pk ++ [i])) := prefix_child pre pk i
  cases stored with
  | none => cases hm
  | persisted _ => cases hm
  | empty _ => cases hm
  | leaf cc cpk cv =>
    refine ⟨_, rfl, ok_leaf_new (by rw [← path3]; exact hoks.1), by simp only [abs, path3], rfl, rfl,
      fun pos hpos => ?_, fun pos hn => ?_, fun pos h => (hnews pos h).2⟩
    · rw [(hnews pos hpos).1]
      exact ⟨hbelow, fun hn => nomatch (needs_leaf_new.mp hn).2⟩
    · exact hparent pos (Or.inr (by rw [path3]; exact needs_leaf_new.mp hn))
  | branch cc cpk cv ccs =>
    refine ⟨_, rfl, ok_branch_new (by rw [← path3]; exact hoks.1) (fun j => by rw [← path3]; exact hoks.2.1 j),
      by simp only [abs, path3], rfl, rfl, fun pos hpos => ?_, fun pos hn => ?_, fun pos h => (hnews pos h).2⟩
    · rw [(hnews pos hpos).1]
      refine ⟨hbelow, fun hn => ?_⟩
      rcases needs_branch_new.mp hn with ⟨_, h⟩ | ⟨j, hj⟩
      · cases h
      · exact below_child_ne_node (pk := cpk) (by rw [path3]; exact needs_below _ _ _ hj) rfl
    · exact hparent pos (Or.inr (by rw [path3]; exact needs_branch_new.mp hn))

/-- `hne`: the branch still has a value or a child; without either `fix` panics.  `c` only names the
    `old` node of the postcondition (the callers pass `none` and relate that node to the stored one
    through `hold` of `removeFixed_post`). -/
theorem fix_sim (e : Env) (T0 : Trie) (hl : Loads e T0) (c : Option Bytes) (pre pk : Nibs)
    (bv : Option DVal) (cs : Nib → Hd) (d : Death)
    (hvals : ∀ dv, bv = some dv → OkV e.ver e.H T0 (pre ++ pk) dv)
    (hkids : ∀ i, Ok e.ver e.H T0 (cs i) (pre ++ pk ++ [i]))
    (hne : (bv.map (absV T0 (pre ++ pk))).isSome = true ∨ ∃ i, abs T0 (cs i) (pre ++ pk ++ [i]) ≠ nil) :
    ∃ n news, fix e pre pk bv cs d = .ok (n, news.map (rowOf e.ver e.H T0) ++ d) ∧
      FixPost e.ver e.H T0 pre (.branch c pk bv cs)
        (handleDeletion pk (bv.map (absV T0 (pre ++ pk))) (fun i => abs T0 (cs i) (pre ++ pk ++ [i])) pk)
        n news := by
  unfold fix handleDeletion
  rw [usedIdx_abs hkids]
  have hself : FixPost e.ver e.H T0 pre (.branch c pk bv cs)
      (branch pk (bv.map (absV T0 (pre ++ pk))) (fun i => abs T0 (cs i) (pre ++ pk ++ [i])))
      (.branch none pk bv cs) [] :=
    ⟨ok_branch_new hvals hkids, rfl, rfl, rfl, (fun _ h => nomatch h),
      fun pos hn => Or.inr (needs_branch_new.mp hn), (fun _ h => nomatch h)⟩
  rcases childIdx_cases (fun i => abs T0 (cs i) (pre ++ pk ++ [i])) with h0 | ⟨i, h1⟩ | ⟨i, j, _, _, _, r, h2⟩
  · rw [h0]
    cases bv with
    | none =>
      rcases hne with h | ⟨i, hi⟩
      · cases h
      · exact absurd (childIdx_nil h0 i) hi
    | some dv =>
      refine ⟨_, [], rfl, ok_leaf_new (hvals dv rfl), by simp only [abs, Option.map_some, lcpLen_self, List.take_length],
        rfl, rfl, (fun _ h => nomatch h), fun pos hn => ?_, (fun _ h => nomatch h)⟩
      exact Or.inr (Or.inl (needs_leaf_new.mp hn))
  · rw [h1]
    cases bv with
    | some dv => exact ⟨_, [], rfl, hself⟩
    | none =>
      have hci : abs T0 (cs i) (pre ++ pk ++ [i]) ≠ nil := (childIdx_single h1 i).mpr rfl
      have hnn : (cs i).isNone = false := by rw [← abs_isNil (hkids i)]; exact isNil_false_of_ne hci
      obtain ⟨stored, hres, hm, hoks, habs, hmono, _⟩ :=
        resolve_sim e T0 hl (cs i) (pre ++ pk ++ [i]) (hkids i) hnn
      obtain ⟨news, hdn, hnews⟩ := ownRow_spec hoks hm d
      obtain ⟨n, hfm, hf⟩ := fixMerge_post (old := .branch c pk none cs) hm hoks
        (fun pos h => Or.inr (Or.inr ⟨i, hmono pos h⟩)) (news.map (rowOf e.ver e.H T0) ++ d) news hnews
      rw [habs] at hf
      simp only [Option.map_none, hres, hdn, hfm]
      refine ⟨n, news, rfl, ?_⟩
      cases hc : abs T0 (cs i) (pre ++ pk ++ [i]) with
      | nil => exact absurd hc hci
      | leaf cpk cv => rw [hc] at hf; exact hf
      | branch cpk cv ccs => rw [hc] at hf; exact hf
  · rw [h2]
    cases bv <;> exact ⟨_, [], rfl, hself⟩

/-- postcondition of `removeAt`: the node is gone (`none`) exactly when nothing is left below it -/
def RemPost (ver : Ver) (H : Bytes → Bytes) (T0 : Trie) (pre : Nibs) (hd : Hd) (target : Trie)
    (r : Option (Hd × Bool)) (news : List Pos) : Prop :=
  match r with
  | none => target = nil ∧ ∀ pos ∈ news, Below pre pos ∧ ValidPos ver H T0 pos
  | some (hd', ch) => target ≠ nil ∧ OpPost ver H T0 pre hd target ch hd' news

/-- `rec` does what `removeAt` should on keys shorter than `bound` (`RemPost` of `tRemove`); assumed of
    the recursive call (`removeNode_sim`), proved of `removeAt` for every fuel (`removeAt_sim`).  Unlike
    insert it needs the trie to be canonical: `fix` PANICS on a branch left without value and children,
    and a canonical branch never gets there (`canon_handleDeletion`; `hne` of `fix_sim`). -/
def RecRemove (ver : Ver) (H : Bytes → Bytes) (T0 : Trie) (bound : Nat)
    (rec : Hd → Nibs → Nibs → Death → Res (Option (Hd × Bool) × Death)) : Prop :=
  ∀ (hd : Hd) (q k : Nibs) (d0 : Death), k.length < bound → Ok ver H T0 hd q → hd.isNone = false →
    Canon (abs T0 hd q) →
    ∃ r news, rec hd q k d0 = .ok (r, news.map (rowOf ver H T0) ++ d0) ∧
      RemPost ver H T0 q hd (tRemove (abs T0 hd q) k) r news

theorem afterInspect_refl {stored : Hd} (hm : stored.isMem = true) (pre : Nibs) (d : Death) :
    afterInspect stored pre d false stored = (stored, false, d) := by
  cases stored with
  | leaf c pk dv => cases c <;> rfl
  | branch c pk dvo cs => cases c <;> rfl
  | none => cases hm
  | persisted _ => cases hm
  | empty _ => cases hm

theorem removeKeep_refl {ver : Ver} {H : Bytes → Bytes} {T0 : Trie} {pre : Nibs} {stored : Hd}
    (hok : Ok ver H T0 stored pre) (hm : stored.isMem = true) (d : Death) {target : Trie}
    (ht : target = abs T0 stored pre) :
    ∃ r news, removeKeep stored pre false stored d = .ok (r, news.map (rowOf ver H T0) ++ d) ∧
      RemPost ver H T0 pre stored target r news := by
  refine ⟨some (stored, false), [], by simp only [removeKeep, afterInspect_refl hm]; rfl, ?_⟩
  rw [ht]
  exact ⟨abs_ne_nil_of_mem T0 hm pre, hok, rfl, hm, (fun _ h => nomatch h), fun _ h => h,
    fun _ => ⟨rfl, fun h => ⟨h, rfl⟩⟩, (fun _ h => nomatch h)⟩

theorem removeKeep_post {ver : Ver} {H : Bytes → Bytes} {T0 : Trie} {pre : Nibs} {stored : Hd}
    (hok : Ok ver H T0 stored pre) (hm : stored.isMem = true) {target : Trie} {ch : Bool} {n : Hd}
    {newsI : List Pos} (hp : InspPost ver H T0 pre stored target ch n newsI) (hne : target ≠ nil)
    (d : Death) :
    ∃ r news, removeKeep stored pre ch n (newsI.map (rowOf ver H T0) ++ d) =
        .ok (r, news.map (rowOf ver H T0) ++ d) ∧
      RemPost ver H T0 pre stored target r news := by
  obtain ⟨hd', ch', news, he, hpost⟩ := wrap_post hok hm hp d
  exact ⟨some (hd', ch'), news, by simp only [removeKeep, he], hne, hpost⟩

/-- `replaceNode{fix(…)}`: the rows `extra` were scheduled before `fix` ran -/
theorem removeFixed_post {ver : Ver} {H : Bytes → Bytes} {T0 : Trie} {pre : Nibs} {stored old : Hd}
    (hok : Ok ver H T0 stored pre) (hm : stored.isMem = true) {target : Trie} {n : Hd}
    {fixNews extra : List Pos} (d : Death)
    (hf : FixPost ver H T0 pre old target n fixNews) (hne : target ≠ nil)
    (hold : ∀ pos, Needs old pre pos → Needs stored pre pos)
    (hextra : ∀ pos ∈ extra, (Below pre pos ∧ ¬ Needs old pre pos) ∧ ValidPos ver H T0 pos) :
    ∃ r news, removeFixed stored pre (.ok (n, fixNews.map (rowOf ver H T0) ++ (extra.map (rowOf ver H T0) ++ d))) =
        .ok (r, news.map (rowOf ver H T0) ++ d) ∧
      RemPost ver H T0 pre stored target r news := by
  have hp : InspPost ver H T0 pre stored target true n (fixNews ++ extra) := by
    refine ⟨hf.ok, hf.abs, hf.cached, hf.mem, ?_, fun pos h => hold pos (hf.mono pos h), (fun h => nomatch h), ?_⟩
    · intro pos hpos
      rcases List.mem_append.mp hpos with h | h
      · exact hf.fresh pos h
      · exact ⟨(hextra pos h).1.1, fun hn => (hextra pos h).1.2 (hf.mono pos hn)⟩
    · intro pos hpos
      rcases List.mem_append.mp hpos with h | h
      · exact hf.valid pos h
      · exact (hextra pos h).2
  have := removeKeep_post hok hm hp hne d
  rwa [List.map_append, List.append_assoc] at this

theorem removeNode_sim (e : Env) (T0 : Trie) (hl : Loads e T0)
    (rec : Hd → Nibs → Nibs → Death → Res (Option (Hd × Bool) × Death))
    (stored : Hd) (pre key : Nibs) (d : Death)
    (hm : stored.isMem = true) (hok : Ok e.ver e.H T0 stored pre) (hcan : Canon (abs T0 stored pre))
    (hrec : RecRemove e.ver e.H T0 key.length rec) :
    ∃ r news, removeNode e rec stored pre key d = .ok (r, news.map (rowOf e.ver e.H T0) ++ d) ∧
      RemPost e.ver e.H T0 pre stored (tRemove (abs T0 stored pre) key) r news := by
  cases stored with
  | none => cases hm
  | persisted _ => cases hm
  | empty _ => cases hm
  | leaf c pk lv =>
    have hvo : ∀ dv, some lv = some dv → OkV e.ver e.H T0 (pre ++ pk) dv := fun dv h => by cases h; exact hok.1
    simp only [removeNode, abs, tRemove]
    by_cases hk : pk = key
    · -- the leaf goes, with the row of its hashed value and its own row
      subst hk
      have hval : ∀ pos ∈ refNews (pre ++ pk) (some lv), Below pre pos ∧ ValidPos e.ver e.H T0 pos :=
        fun pos hpos => ⟨(mem_refNews hpos).1 ▸ List.prefix_append _ _, refNews_valid hvo pos hpos⟩
      simp only [if_true]
      rw [replaceOldValue_spec e.ver e.H T0 d _ _ hvo]
      obtain ⟨own, hdel, hown⟩ := ownRow_spec hok hm ((refNews (pre ++ pk) (some lv)).map (rowOf e.ver e.H T0) ++ d)
      refine ⟨none, own ++ refNews (pre ++ pk) (some lv),
        by rw [afterDelete_eq_childDeath, hdel, List.map_append, List.append_assoc], rfl,
        fun pos hpos => ?_⟩
      rcases List.mem_append.mp hpos with h | h
      · exact ⟨(hown pos h).1 ▸ List.prefix_refl _, (hown pos h).2⟩
      · exact hval pos h
    · simp only [hk, if_false]
      exact removeKeep_refl hok hm d rfl
  | branch c pk bv cs =>
    obtain ⟨hvals, hkids, hcl⟩ := hok
    have hok' : Ok e.ver e.H T0 (.branch c pk bv cs) pre := ⟨hvals, hkids, hcl⟩
    have hcs := hcan.1
    have hkeep : ∀ t, t = abs T0 (.branch c pk bv cs) pre →
        ∃ r news, removeKeep (.branch c pk bv cs) pre false (.branch c pk bv cs) d =
            .ok (r, news.map (rowOf e.ver e.H T0) ++ d) ∧
          RemPost e.ver e.H T0 pre (.branch c pk bv cs) t r news := fun t ht => removeKeep_refl hok' hm d ht
    simp only [removeNode, abs] at hkeep ⊢
    rw [lcpLen_eq]
    rcases key_cases pk key with rfl | ⟨idx, krest, rfl⟩ | hoff
    · -- the key of the branch itself
      rw [tRemove_self]
      simp only [lcpLen_self, and_self, if_true]
      cases bv with
      | none => exact hkeep _ rfl
      | some lv =>
        simp only [Option.isSome_some, if_true, Option.map_some, tDropValue]
        rw [replaceOldValue_spec e.ver e.H T0 d _ _ hvals]
        obtain ⟨n, fixNews, hfix, hf⟩ := fix_sim e T0 hl none pre key none cs
          ((refNews (pre ++ key) (some lv)).map (rowOf e.ver e.H T0) ++ d)
          (fun dv h => nomatch h) hkids (Or.inr (canon_branch_child hcan))
        rw [hfix]
        refine removeFixed_post hok' hm d hf
          (canon_handleDeletion key none _ key hcs (Or.inr (canon_branch_child hcan))).1
          (needs_value_mono rfl) (fun pos hpos => ?_)
        rw [(mem_refNews hpos).1]
        exact ⟨⟨List.prefix_append _ _, not_needs_value rfl⟩, (mem_refNews hpos).1 ▸ refNews_valid hvals pos hpos⟩
    · -- below child `idx`
      rw [tRemove_child]
      simp only [lcpLen_prefix, length_ne_append_cons, and_false, Nat.lt_irrefl, if_false, List.drop_left']
      rw [abs_isNil (hkids idx)]
      by_cases hnil : (cs idx).isNone = true
      · simp only [hnil, if_true]
        exact hkeep _ rfl
      · have hnil' : (cs idx).isNone = false := Bool.eq_false_iff.mpr hnil
        obtain ⟨r, newsC, hrc, hpc⟩ := hrec (cs idx) (pre ++ pk ++ [idx]) krest d
          (by rw [List.length_append]; exact Nat.lt_add_left _ (Nat.lt_succ_self _)) (hkids idx) hnil' (hcs idx)
        simp only [hnil', Bool.false_eq_true, if_false, hrc]
        cases r with
        | some p =>
          obtain ⟨c', ch⟩ := p
          obtain ⟨hcne, hpc⟩ := hpc
          simp only [isNil_false_of_ne hcne, Bool.false_eq_true, if_false]
          exact removeKeep_post hok' hm (inspPost_setKid hvals hkids hpc) (fun h => nomatch h) d
        | none =>
          -- the child is gone: `fix` on the branch without it
          obtain ⟨hcnil, hbel⟩ := hpc
          simp only [hcnil, Trie.isNil, if_true]
          have habs : (fun i => abs T0 (Hd.setKid cs idx Hd.none i) (pre ++ pk ++ [i])) =
              setChild (fun i => abs T0 (cs i) (pre ++ pk ++ [i])) idx nil := abs_setKid T0 cs _ idx Hd.none
          have hrest := canon_branch_after_set hcan idx nil
          obtain ⟨n, fixNews, hfix, hf⟩ := fix_sim e T0 hl none pre pk bv (Hd.setKid cs idx Hd.none)
            (newsC.map (rowOf e.ver e.H T0) ++ d) hvals (ok_setKid hkids trivial)
            (hrest.imp id fun ⟨i, hi⟩ => ⟨i, fun h => hi ((congrFun habs i).symm.trans h)⟩)
          rw [hfix]
          rw [habs] at hf
          refine removeFixed_post hok' hm d hf
            (canon_handleDeletion pk _ _ pk (canon_setChild hcs idx (c := nil) trivial) hrest).1
            (needs_kid_mono fun _ h => h.elim)
            (fun pos hpos => ⟨⟨below_child (hbel pos hpos).1, not_needs_kid (hbel pos hpos).1 id⟩, (hbel pos hpos).2⟩)
    · -- the key leaves the partial key
      have hlt := lcpLen_lt_of_off hoff
      have hc1 : ∀ p, ¬ (Trie.lcpLen pk key = pk.length ∧ p) := fun p h => Nat.lt_irrefl _ (h.1 ▸ hlt)
      rw [tRemove_off _ _ hoff]
      simp only [hc1, hlt, if_false, if_true]
      exact hkeep _ rfl

theorem removeAt_sim (e : Env) (T0 : Trie) (hl : Loads e T0) :
    ∀ fuel, RecRemove e.ver e.H T0 fuel (removeAt e fuel) := by
  intro fuel
  induction fuel with
  | zero => intro hd q k d0 hk; cases hk
  | succ f ih =>
    intro hd q k d0 hk hok hn hcan
    obtain ⟨stored, hres, hm, hoks, habs, hmono, hnf⟩ := resolve_sim e T0 hl hd q hok hn
    obtain ⟨r, news, heq, hp⟩ := removeNode_sim e T0 hl (removeAt e f) stored q k d0 hm hoks
      (habs ▸ hcan) (fun hd' q' k' d' hk' => ih hd' q' k' d' (Nat.lt_of_lt_of_le hk' (Nat.le_of_lt_succ hk)))
    refine ⟨r, news, by simp only [removeAt, hres, heq], ?_⟩
    rw [habs] at hp
    cases r with
    | none => exact hp
    | some p => exact ⟨hp.1, opPost_resolved hmono hnf habs hp.2⟩

end Gossamer.C06
