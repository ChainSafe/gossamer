/-
Runs of the harness language of `Gossamer.Model.C38`: every reachable state is represented exactly
(`Good`), and an op outside the known-finding regions (`opSafe`) has the same observable from the Go
trie as from the map.  The same pattern for C02's run is `Lib/C02Run`; the two runs are different fixed
functions, so the induction is written per run.
-/
import Gossamer.Lib.C38Listing
namespace Gossamer.C38
open Gossamer Gossamer.Trie

/-- invariant of every state a run reaches; `len` is carried because the client loop is given
    `puts + 2` calls -/
structure Good (s : St) : Prop where
  rep : Rep s.t s.es
  len : s.es.length ≤ s.puts
  hist : ∀ st : Trie × Entries, st ∈ s.hist → Rep st.1 st.2 ∧ st.2.length ≤ s.puts
  last : s.dirty = false → s.hist.getLast? = some (s.t, s.es)

theorem good_init : Good St.init where
  rep := Rep.empty
  len := Nat.le_refl _
  hist := by
    intro st h
    simp only [St.init, List.mem_singleton] at h
    subst h
    exact ⟨Rep.empty, Nat.le_refl _⟩
  last := fun _ => rfl

theorem good_commit {s : St} (h : Good s) : Good s.commit := by
  unfold St.commit
  split
  · refine ⟨h.rep, h.len, ?_, fun _ => by simp⟩
    intro st hst
    rcases List.mem_append.mp hst with hst | hst
    · exact h.hist st hst
    · simp only [List.mem_singleton] at hst; subst hst; exact ⟨h.rep, h.len⟩
  · exact h

theorem good_apply {s : St} (h : Good s) (op : Op) : Good (s.apply op) := by
  cases op with
  | put k v =>
    refine ⟨h.rep.put k v, ?_, ?_, fun hd => by simp [St.apply] at hd⟩
    · have := OMap.length_upsert_le k v s.es
      have := h.len
      simp only [St.apply]; omega
    · intro st hst
      have := h.hist st hst
      exact ⟨this.1, by simp only [St.apply]; omega⟩
  | del k =>
    simp only [St.apply]
    split
    · rename_i hk
      obtain ⟨v, hv⟩ := Option.isSome_iff_exists.mp hk
      refine ⟨h.rep.delete k (h.rep.safe_of_present hv), ?_, h.hist, fun hd => by simp at hd⟩
      have : (OMap.erase k s.es).length ≤ s.es.length := List.length_filter_le _ _
      have := h.len
      show (OMap.erase k s.es).length ≤ s.puts
      omega
    · exact h
  | page _ _ _ => exact good_commit h
  | loop _ _ => exact good_commit h
  | pairs _ => exact good_commit h
  | «at» _ _ => exact h
  | bad => exact h

theorem best_eq {s : St} (h : Good s) : s.best = (s.t, s.es) := by
  unfold St.best St.commit
  split
  · simp
  · rename_i hd
    rw [h.last (by simpa using hd)]; rfl

def finalSt (ops : List Op) : St := ops.foldl St.apply St.init

/-- every state the harness language can build is represented exactly -/
theorem C38_state_rep (ops : List Op) : Good (finalSt ops) :=
  foldl_pres Good St.apply (fun _ op h => good_apply h op) ops good_init

/-- the op lies outside of both known-finding regions (`opSafe_iff_no_tag`: this is `kfTag addr s op = ""`) -/
def opSafe (addr : Addr) (s : St) : Op → Bool
  | .at i q =>
    match s.hist[i]?, listedPrefix q with
    | some st, some hp => !trimRegion hp st.2
    | _, _ => true
  | op =>
    match listedPrefix op with
    | none => true
    | some hp => !(op.isPaged && addr == .blk) && !trimRegion hp s.best.2

theorem opSafe_iff_no_tag (addr : Addr) (s : St) (op : Op) :
    opSafe addr s op = true ↔ kfTag addr s op = "" := by
  cases op with
  | «at» i q =>
    simp only [opSafe, kfTag]
    cases s.hist[i]? with
    | none => simp
    | some st =>
      cases listedPrefix q with
      | none => simp
      | some hp => cases ht : trimRegion hp st.2 <;> simp [ht]
  | page p q a =>
    simp only [opSafe, kfTag]
    cases listedPrefix (.page p q a) with
    | none => simp
    | some hp => cases addr <;> cases ht : trimRegion hp s.best.2 <;> simp [ht, Op.isPaged] <;> decide
  | loop p q =>
    simp only [opSafe, kfTag]
    cases listedPrefix (.loop p q) with
    | none => simp
    | some hp => cases addr <;> cases ht : trimRegion hp s.best.2 <;> simp [ht, Op.isPaged] <;> decide
  | pairs p =>
    simp only [opSafe, kfTag]
    cases listedPrefix (.pairs p) with
    | none => simp
    | some hp => cases ht : trimRegion hp s.best.2 <;> simp [ht, Op.isPaged]
  | put _ _ => simp [opSafe, kfTag, listedPrefix]
  | del _ => simp [opSafe, kfTag, listedPrefix]
  | bad => simp [opSafe, kfTag, listedPrefix]

theorem observe_agree {t : Trie} {es : Entries} (h : Rep t es) (b1 b2 : Bool) (fuel : Nat) (op : Op)
    (hsafe : ∀ hp, listedPrefix op = some hp → trimRegion hp es = false) :
    observe (trieStore t) b1 b2 fuel op = observe (mapStore es) b1 b2 fuel op := by
  cases op with
  | put _ _ => rfl
  | del _ => rfl
  | bad => rfl
  | «at» _ _ => rfl
  | page p q a =>
    simp only [observe]
    rw [paged_agree h b1 p hsafe]
  | loop p q =>
    simp only [observe]
    rw [paged_agree h b1 p hsafe]
  | pairs p =>
    simp only [observe]
    rw [pairs_agree h b2 p fun p' hp' e he => by subst e; exact hsafe hp' he]

/-- `b`, `b'`: whether the block field of a `GetKeysPaged` request resolves to a known root -/
theorem observe_flag (S : Store) (b b' b2 : Bool) (fuel : Nat) (op : Op)
    (h : op.isPaged = false ∨ listedPrefix op = none) :
    observe S b b2 fuel op = observe S b' b2 fuel op := by
  cases op with
  | put _ _ => rfl
  | del _ => rfl
  | bad => rfl
  | «at» _ _ => rfl
  | pairs _ => rfl
  | page p q a =>
    rcases h with h | h
    · simp [Op.isPaged] at h
    · simp only [observe, getKeysPaged_bad _ _ _ h]
  | loop p q =>
    rcases h with h | h
    · simp [Op.isPaged] at h
    · simp only [observe, getKeysPaged_bad _ _ _ h]

theorem step_refines {s : St} (h : Good s) (addr : Addr) (op : Op)
    (hs : opSafe addr s op = true) : stepModel addr s op = stepSpec addr s op := by
  have hb := best_eq h
  -- the hypothesis is the second arm of `opSafe`, what `opSafe addr s op'` unfolds to for an op other than `at`
  have key : ∀ op' : Op,
      (match listedPrefix op' with
        | none => true
        | some hp => !(op'.isPaged && addr == .blk) && !trimRegion hp s.best.2) = true →
      observe (trieStore s.best.1) (addr != .blk) (addr != .root) (s.puts + 2) op' =
        observe (mapStore s.best.2) true (addr != .root) (s.puts + 2) op' := by
    intro op' hs'
    rw [hb] at hs' ⊢
    cases hl : listedPrefix op' with
    | none =>
      rw [observe_flag _ (addr != .blk) true _ _ _ (Or.inr hl)]
      exact observe_agree h.rep _ _ _ _ (fun hp e => by rw [hl] at e; cases e)
    | some hp =>
      rw [hl] at hs'
      simp only [Bool.and_eq_true, Bool.not_eq_true', Bool.and_eq_false_iff] at hs'
      have hreg := hs'.2
      have hflag : observe (trieStore s.t) (addr != .blk) (addr != .root) (s.puts + 2) op' =
          observe (trieStore s.t) true (addr != .root) (s.puts + 2) op' := by
        rcases hs'.1 with hp' | ha
        · exact observe_flag _ _ _ _ _ _ (Or.inl hp')
        · have : (addr != .blk) = true := by cases addr <;> simp_all
          rw [this]
      rw [hflag]
      exact observe_agree h.rep _ _ _ _ (fun hp2 e => by rw [hl] at e; cases e; exact hreg)
  cases op with
  | «at» i q =>
    simp only [opSafe] at hs
    simp only [stepModel, stepSpec]
    split
    · cases hst : s.hist[i]? with
      | none => rfl
      | some st =>
        simp only
        have g := h.hist st (List.mem_of_getElem? hst)
        apply observe_agree g.1
        intro hp e
        rw [hst, e] at hs
        simpa using hs
    · rfl
  | put _ _ => rfl
  | del _ => rfl
  | bad => rfl
  | page p q a => exact key (.page p q a) hs
  | loop p q => exact key (.loop p q) hs
  | pairs p => exact key (.pairs p) hs

def safeFrom (addr : Addr) (s : St) : List Op → Bool
  | [] => true
  | op :: r => opSafe addr s op && safeFrom addr (s.apply op) r

/-- from any `Good` state: `runFrom` threads `St.apply` itself, so `Good` is carried by `good_apply` and
    the run does not pass through `finalSt` -/
theorem refines_from (addr : Addr) (ops : List Op) : ∀ s, Good s → safeFrom addr s ops = true →
    runFrom (stepModel addr) s ops = runFrom (stepSpec addr) s ops := by
  induction ops with
  | nil => intro s _ _; rfl
  | cons op r ih =>
    intro s h hs
    simp only [safeFrom, Bool.and_eq_true] at hs
    simp only [runFrom, step_refines h addr op hs.1, ih _ (good_apply h op) hs.2]

end Gossamer.C38
