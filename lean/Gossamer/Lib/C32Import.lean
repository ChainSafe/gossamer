/-
The importer on a list of blocks whose parents are known or precede them (`ReadyL`), and the second pass of
`Process`, which produces such a list.
-/
import Gossamer.Lib.C32Frags
namespace Gossamer.C32

def Ev.execId : Ev → Option Nat
  | .exec b _ => some b.id
  | _ => none

/-- `false` exactly for a block handed to the importer, or an execution attempted, while the parent
    was unknown -/
def Ev.flagOk : Ev → Bool
  | .exec _ pk => pk
  | .handed _ pk => pk
  | _ => true

def execIds (evs : List Ev) : List Nat := evs.filterMap Ev.execId

theorem execIds_append (a b : List Ev) : execIds (a ++ b) = execIds a ++ execIds b := by
  simp [execIds, List.filterMap_append]

/-- every block is good and its parent is in `K` or is a block before it in the list -/
def ReadyL : List Nat → List BD → Prop
  | _, [] => True
  | K, b :: rest => GoodBlock b ∧ b.parent ∈ K ∧ ReadyL (b.id :: K) rest

theorem readyL_mono {l : List BD} {K K' : List Nat} (hk : ∀ x ∈ K, x ∈ K') (h : ReadyL K l) :
    ReadyL K' l := by
  induction l generalizing K K' with
  | nil => trivial
  | cons b rest ih =>
    exact ⟨h.1, hk _ h.2.1, ih (List.forall_mem_cons.mpr
      ⟨List.mem_cons_self, fun x hx => List.mem_cons_of_mem _ (hk x hx)⟩) h.2.2⟩

theorem readyL_append {a b : List BD} {K : List Nat} (ha : ReadyL K a) (hb : ReadyL K b) :
    ReadyL K (a ++ b) := by
  induction a generalizing K with
  | nil => exact hb
  | cons x a ih =>
    exact ⟨ha.1, ha.2.1, ih ha.2.2 (readyL_mono (fun _ hy => List.mem_cons_of_mem _ hy) hb)⟩

theorem readyL_of_chain {f : List BD} {K : List Nat} (hc : isChain f = true)
    (hg : ∀ b ∈ f, GoodBlock b) (hh : ∀ h, f.head? = some h → h.parent ∈ K) : ReadyL K f := by
  induction f generalizing K with
  | nil => trivial
  | cons b rest ih =>
    obtain ⟨hgb, hg⟩ := List.forall_mem_cons.mp hg
    refine ⟨hgb, hh b rfl, ih (isChain_tail hc) hg fun c hhd => ?_⟩
    cases rest with
    | nil => cases hhd
    | cons c' rest =>
      cases hhd
      have hp := ((isChain_cons_cons b c rest).mp hc).1
      rw [← hgb.1, ← beq_iff_eq.mp (Bool.and_eq_true_iff.mp hp).2]
      exact List.mem_cons_self

theorem readyL_of_frag {f : List BD} {K : List Nat} (hg : GoodFrag f)
    (hk : headParentKnown K f = true) : ReadyL K f := by
  refine readyL_of_chain hg.chain hg.good fun h hh => ?_
  unfold headParentKnown at hk
  rw [hh] at hk
  exact List.contains_iff_mem.mp hk

theorem readyL_flatten {K : List Nat} {l : List (List BD)}
    (h : ∀ f ∈ l, GoodFrag f ∧ headParentKnown K f = true) : ReadyL K l.flatten := by
  induction l with
  | nil => trivial
  | cons f fs ih =>
    obtain ⟨hf, hfs⟩ := List.forall_mem_cons.mp h
    rw [List.flatten_cons]
    exact readyL_append (readyL_of_frag hf.1 hf.2) (ih hfs)

/-- `evs` is a stretch of importer events that leads from the known set `K` to `K'`.  `K`, `K'` are any lists, not the
    known set of a state, so that stretches of several calls compose (`EvOk.trans`). -/
structure EvOk (K K' : List Nat) (evs : List Ev) : Prop where
  mono : ∀ x ∈ K, x ∈ K'
  flags : ∀ e ∈ evs, e.flagOk = true
  fresh : ∀ x ∈ execIds evs, x ∉ K ∧ x ∈ K'
  nodup : (execIds evs).Nodup

theorem EvOk.nil {K K' : List Nat} (h : ∀ x ∈ K, x ∈ K') : EvOk K K' [] :=
  ⟨h, List.forall_mem_nil _, List.forall_mem_nil _, List.nodup_nil⟩

theorem EvOk.trans {K K' K'' : List Nat} {a b : List Ev} (h1 : EvOk K K' a) (h2 : EvOk K' K'' b) :
    EvOk K K'' (a ++ b) := by
  refine ⟨fun x hx => h2.mono x (h1.mono x hx), List.forall_mem_append.mpr ⟨h1.flags, h2.flags⟩,
    ?_, ?_⟩
  · rw [execIds_append]
    exact List.forall_mem_append.mpr
      ⟨fun x h => ⟨(h1.fresh x h).1, h2.mono x (h1.fresh x h).2⟩,
       fun x h => ⟨fun hc => (h2.fresh x h).1 (h1.mono x hc), (h2.fresh x h).2⟩⟩
  · rw [execIds_append]
    refine List.nodup_append.mpr ⟨h1.nodup, h2.nodup, ?_⟩
    intro x hx y hy hxy
    subst hxy
    exact (h2.fresh x hy).1 (h1.fresh x hx).2

/-- what a successful import of a list of blocks guarantees -/
structure ImpOk (st : St) (res : St × List Ev × Outcome) : Prop where
  ok : res.2.2 = .ok
  inc : res.1.incomplete = st.incomplete
  dj : res.1.disjoint = st.disjoint
  evs : EvOk st.known res.1.known res.2.1

theorem importBlock_known {st : St} {b : BD} (hk : st.known.contains b.stated = true) :
    importBlock st b = (st, [.handed b (st.known.contains b.parent)], .ok) := by
  unfold importBlock
  rw [if_pos hk]

theorem importBlock_new {st : St} {b : BD} (hk : st.known.contains b.stated = false)
    (hb : b.hasBody = true) (hp : st.known.contains b.parent = true) :
    importBlock st b =
      ({ st with known := b.id :: st.known, fin := if b.just then max st.fin b.num else st.fin },
        .handed b true :: .exec b true :: (if b.just then [.fin b] else []), .ok) := by
  unfold importBlock
  rw [hk, hb, hp]
  cases b.just
  · rfl
  · simp only [if_true, List.contains_cons, beq_self_eq_true, Bool.true_or]
    rfl

theorem importBlock_orphan {st : St} {b : BD} (hk : st.known.contains b.stated = false)
    (hb : b.hasBody = true) (hp : st.known.contains b.parent = false) :
    importBlock st b = (st, [.handed b false, .exec b false], .errParent) := by
  unfold importBlock
  rw [hk, hb, hp]
  rfl

theorem importBlock_noBody {st : St} {b : BD} (hk : st.known.contains b.stated = false)
    (hb : b.hasBody = false) :
    importBlock st b =
      if b.just then
        if st.known.contains b.id then
          ({ st with fin := max st.fin b.num }, [.handed b (st.known.contains b.parent), .fin b], .ok)
        else (st, [.handed b (st.known.contains b.parent)], .errFin)
      else (st, [.handed b (st.known.contains b.parent)], .ok) := by
  unfold importBlock
  rw [hk, hb]
  rfl

theorem importBlock_events (st : St) (b : BD) : ∀ e ∈ (importBlock st b).2.1,
    e = .handed b (st.known.contains b.parent) ∨
    (e = .exec b (st.known.contains b.parent) ∧ st.known.contains b.stated = false) ∨
    e = .fin b := by
  cases hk : st.known.contains b.stated
  · cases hb : b.hasBody
    · rw [importBlock_noBody hk hb]
      cases b.just
      · exact List.forall_mem_singleton.mpr (.inl rfl)
      · cases st.known.contains b.id
        · exact List.forall_mem_singleton.mpr (.inl rfl)
        · exact List.forall_mem_cons.mpr ⟨.inl rfl, List.forall_mem_singleton.mpr (.inr (.inr rfl))⟩
    · cases hp : st.known.contains b.parent
      · rw [importBlock_orphan hk hb hp]
        exact List.forall_mem_cons.mpr
          ⟨.inl rfl, List.forall_mem_singleton.mpr (.inr (.inl ⟨rfl, rfl⟩))⟩
      · rw [importBlock_new hk hb hp]
        refine List.forall_mem_cons.mpr
          ⟨.inl rfl, List.forall_mem_cons.mpr ⟨.inr (.inl ⟨rfl, rfl⟩), ?_⟩⟩
        cases b.just
        · exact List.forall_mem_nil _
        · exact List.forall_mem_singleton.mpr (.inr (.inr rfl))
  · rw [importBlock_known hk]
    exact List.forall_mem_singleton.mpr (.inl rfl)

theorem importBlock_ok {st : St} {b : BD} (hg : GoodBlock b) (hp : b.parent ∈ st.known) :
    ImpOk st (importBlock st b) ∧ b.id ∈ (importBlock st b).1.known := by
  have hpk : st.known.contains b.parent = true := List.contains_iff_mem.mpr hp
  cases hk : st.known.contains b.stated
  · rw [importBlock_new hk hg.2 hpk]
    have hnk : b.id ∉ st.known := fun h => by
      rw [← hg.1, ← List.contains_iff_mem, hk] at h
      cases h
    have htl : execIds (if b.just then [.fin b] else []) = [] ∧
        ∀ e ∈ (if b.just then [Ev.fin b] else []), e.flagOk = true := by
      cases b.just
      · exact ⟨rfl, List.forall_mem_nil _⟩
      · exact ⟨rfl, List.forall_mem_singleton.mpr rfl⟩
    refine ⟨{ ok := rfl, inc := rfl, dj := rfl, evs := {
      mono := fun x hx => List.mem_cons_of_mem _ hx
      flags := List.forall_mem_cons.mpr ⟨rfl, List.forall_mem_cons.mpr ⟨rfl, htl.2⟩⟩
      fresh := ?fresh
      nodup := ?nodup } }, List.mem_cons_self⟩
    case fresh =>
      show ∀ x ∈ b.id :: execIds _, _
      rw [htl.1]
      exact List.forall_mem_singleton.mpr ⟨hnk, List.mem_cons_self⟩
    case nodup =>
      show (b.id :: execIds _).Nodup
      rw [htl.1]
      exact List.nodup_cons.mpr ⟨List.not_mem_nil, List.nodup_nil⟩
  · rw [importBlock_known hk, hpk]
    exact ⟨{ ok := rfl, inc := rfl, dj := rfl, evs := {
      mono := fun _ h => h
      flags := List.forall_mem_singleton.mpr rfl
      fresh := List.forall_mem_nil _
      nodup := List.nodup_nil } }, hg.1 ▸ List.contains_iff_mem.mp hk⟩

theorem importAll_ok {l : List BD} {st : St} {K : List Nat} (hr : ReadyL K l)
    (hk : ∀ x ∈ K, x ∈ st.known) : ImpOk st (importAll st l) := by
  induction l generalizing st K with
  | nil => exact ⟨rfl, rfl, rfl, EvOk.nil fun _ h => h⟩
  | cons b rest ih =>
    obtain ⟨hg, hp, hrest⟩ := hr
    obtain ⟨h1, hid⟩ := importBlock_ok hg (hk _ hp)
    unfold importAll
    generalize importBlock st b = r1 at h1 hid
    obtain ⟨st1, ev, o⟩ := r1
    obtain rfl : o = .ok := h1.ok
    have h2 := ih (st := st1) hrest
      (List.forall_mem_cons.mpr ⟨hid, fun x hx => h1.evs.mono x (hk x hx)⟩)
    exact ⟨h2.ok, h2.inc.trans h1.inc, h2.dj.trans h1.dj, h1.evs.trans h2.evs⟩

theorem second_spec {known : List Nat} {fin : Nat} {disj : List (List BD)}
    (h : ∀ f ∈ disj, GoodFrag f) :
    ReadyL known (second known fin disj).next ∧ ∀ f ∈ (second known fin disj).stored, GoodFrag f := by
  induction disj with
  | nil => exact ⟨trivial, List.forall_mem_nil _⟩
  | cons frag rest ih =>
    obtain ⟨hfrag, hrest⟩ := List.forall_mem_cons.mp h
    replace ih := ih hrest
    have hgood := goodFrag_of_suffix hfrag (validUnder_suffix fin frag)
    unfold second
    generalize validUnder fin frag = vb at hgood ⊢
    cases vb with
    | nil => exact ih
    | cons hd tl =>
      replace hgood := hgood (List.cons_ne_nil _ _)
      dsimp only
      by_cases hk : known.contains hd.parent = true
      · rw [if_pos hk]
        exact ⟨readyL_append (readyL_of_frag hgood hk) ih.1, ih.2⟩
      · rw [if_neg hk]
        by_cases hf : hd.num - 1 ≤ fin
        · rw [if_pos hf]
          exact ih
        · rw [if_neg hf]
          exact ⟨ih.1, List.forall_mem_cons.mpr ⟨hgood, ih.2⟩⟩

end Gossamer.C32
