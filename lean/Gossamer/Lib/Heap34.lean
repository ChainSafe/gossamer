/-
Go's container/heap (`up`, `down`, `Push`, `Pop`, `Remove`) as transcribed in Model.C34.
Sift-up / sift-down restore the heap order from the usual one-hole invariants (`UpInv`, `DownInv`) and are sequences
of in-range swaps, so they keep whatever such swaps keep.  The specification sees of a slot its `key` (the item
without its `index`); each of the three operations on a well-formed heap gives heap order again, exact
back-pointers, and exactly the items that should be there.
-/
import Gossamer.Model.C34
namespace Gossamer.C34

theorem less_iff (a b : Item) :
    less a b = true ↔ (a.priority > b.priority ∨ (a.priority = b.priority ∧ a.order < b.order)) := by
  unfold less
  by_cases h : a.priority = b.priority
  · simp [h]
  · simp only [h, if_false, decide_eq_true_eq]
    constructor
    · intro h1; exact Or.inl h1
    · rintro (h1 | ⟨h1, _⟩)
      · exact h1
      · exact h1.elim

theorem less_false_iff (a b : Item) :
    less a b = false ↔ (a.priority < b.priority ∨ (a.priority = b.priority ∧ b.order ≤ a.order)) := by
  rw [← Bool.not_eq_true, less_iff]; omega

/-- `le a b`: `b` is not served before `a` (`!Less(b, a)`) -/
abbrev le (a b : Item) : Prop := less b a = false

theorem le_iff (a b : Item) :
    le a b ↔ (a.priority > b.priority ∨ (a.priority = b.priority ∧ a.order ≤ b.order)) := by
  unfold le; rw [less_false_iff]; omega

theorem le_refl (a : Item) : le a a := by rw [le_iff]; omega

theorem le_trans {a b c : Item} (h1 : le a b) (h2 : le b c) : le a c := by
  rw [le_iff] at *; omega

theorem le_of_less {a b : Item} (h : less a b = true) : le a b := by
  rw [le_iff]; rw [less_iff] at h; omega

theorem le_total (a b : Item) : le a b ∨ le b a := by
  rw [le_iff, le_iff]; omega

@[simp] theorem less_idx_left (x y : Item) (v : Int) : less { x with index := v } y = less x y := rfl
@[simp] theorem less_idx_right (x y : Item) (v : Int) : less x { y with index := v } = less x y := rfl

@[simp] theorem swapA_get (a : Arr) (i j k : Nat) :
    (swapA a i j).get k =
      if k = j then { a.get i with index := (j : Int) }
      else if k = i then { a.get j with index := (i : Int) } else a.get k := rfl

theorem swapA_get_j (a : Arr) (i j : Nat) : (swapA a i j).get j = { a.get i with index := (j : Int) } := by
  simp

theorem swapA_get_i (a : Arr) {i j : Nat} (h : i ≠ j) :
    (swapA a i j).get i = { a.get j with index := (i : Int) } := by
  simp [h]

theorem swapA_get_other (a : Arr) {i j k : Nat} (h1 : k ≠ i) (h2 : k ≠ j) : (swapA a i j).get k = a.get k := by
  simp [h1, h2]

/-- where the occupant of slot `x` after `Swap(i, j)` came from -/
def sw (i j x : Nat) : Nat := if x = j then i else if x = i then j else x

theorem sw_j (i j : Nat) : sw i j j = i := by simp [sw]
theorem sw_i (i j : Nat) : sw i j i = j := by
  unfold sw; by_cases h : i = j <;> simp [h]
theorem sw_other {i j x : Nat} (h1 : x ≠ i) (h2 : x ≠ j) : sw i j x = x := by simp [sw, h1, h2]

theorem sw_lt {i j k m : Nat} (hi : i < m) (hj : j < m) (hk : k < m) : sw i j k < m := by
  unfold sw; split
  · exact hi
  · split
    · exact hj
    · exact hk

theorem sw_sw (i j k : Nat) : sw i j (sw i j k) = k := by
  unfold sw
  by_cases h1 : k = j
  · by_cases h2 : i = j <;> simp [h1, h2]
  · by_cases h2 : k = i <;> simp [h1, h2]

/-- After `Swap(i, n)` and cutting slot `n`, a slot below `n` holds what was in a slot up to `n` other than `i`, and
    conversely (`sw_drop_lt`): the two directions of `mem_drop`. -/
theorem sw_drop {n k : Nat} (i : Nat) (hk : k < n) : sw i n k ≤ n ∧ sw i n k ≠ i := by
  unfold sw
  rw [if_neg (Nat.ne_of_lt hk)]
  split <;> omega

theorem sw_drop_lt {i n k : Nat} (hi : i ≤ n) (hk : k ≤ n) (hne : k ≠ i) : sw i n k < n := by
  unfold sw
  rw [if_neg hne]
  split <;> omega

theorem swapA_get_sw (a : Arr) (i j p : Nat) :
    ∃ v, (swapA a i j).get p = { a.get (sw i j p) with index := v } := by
  by_cases h1 : p = j
  · exact ⟨j, by rw [swapA_get, sw, if_pos h1, if_pos h1]⟩
  · by_cases h2 : p = i
    · exact ⟨i, by rw [swapA_get, sw, if_neg h1, if_neg h1, if_pos h2, if_pos h2]⟩
    · exact ⟨(a.get p).index, by rw [swapA_get, sw, if_neg h1, if_neg h1, if_neg h2, if_neg h2]⟩

theorem le_swap (a : Arr) (i j p k : Nat) :
    le ((swapA a i j).get p) ((swapA a i j).get k) ↔ le (a.get (sw i j p)) (a.get (sw i j k)) := by
  obtain ⟨v, hp⟩ := swapA_get_sw a i j p
  obtain ⟨w, hk⟩ := swapA_get_sw a i j k
  rw [hp, hk]
  rfl

theorem par_lt {k : Nat} (h : 0 < k) : par k < k := by unfold par; omega
theorem par_eq_self {j : Nat} (h : par j = j) : j = 0 := by unfold par at h; omega
theorem par_child {k i : Nat} (hk : 0 < k) : par k = i ↔ (k = 2 * i + 1 ∨ k = 2 * i + 1 + 1) := by
  unfold par; omega

/-- heap order on the first `n` slots -/
def Ord (a : Arr) (n : Nat) : Prop := ∀ k, 0 < k → k < n → le (a.get (par k)) (a.get k)

theorem root_min {a : Arr} {n : Nat} (h : Ord a n) : ∀ k, k < n → le (a.get 0) (a.get k) := by
  intro k
  induction k using Nat.strongRecOn with
  | _ k ih =>
    intro hk
    by_cases h0 : k = 0
    · subst h0; exact le_refl _
    · have hp := par_lt (Nat.pos_of_ne_zero h0)
      exact le_trans (ih (par k) hp (by omega)) (h k (Nat.pos_of_ne_zero h0) hk)

theorem up_succ (a : Arr) (fuel j : Nat) : up a (fuel + 1) j =
    if par j = j ∨ less (a.get j) (a.get (par j)) = false then a else up (swapA a (par j) j) fuel (par j) := rfl

/-- induction principle of `up`: what every swap of the loop keeps holds where the loop stops, and with enough
    fuel it stops at the root or below a parent that is not served after it -/
theorem up_induct (Q : Arr → Nat → Prop)
    (hswap : ∀ a j, Q a j → 0 < j → less (a.get j) (a.get (par j)) = true → Q (swapA a (par j) j) (par j)) :
    ∀ (fuel j : Nat) (a : Arr), Q a j →
      ∃ j', Q (up a fuel j) j' ∧ (j ≤ fuel → j' = 0 ∨ le ((up a fuel j).get (par j')) ((up a fuel j).get j')) := by
  intro fuel
  induction fuel with
  | zero => exact fun j a h => ⟨j, h, fun hj => Or.inl (by omega)⟩
  | succ fuel ih =>
    intro j a h
    rw [up_succ]
    split
    · rename_i hstop
      exact ⟨j, h, fun _ => hstop.imp par_eq_self id⟩
    · rename_i hgo
      have hj0 : 0 < j := Nat.pos_of_ne_zero (fun h0 => hgo (Or.inl (by rw [h0]; rfl)))
      have hlt : less (a.get j) (a.get (par j)) = true := by
        cases hl : less (a.get j) (a.get (par j))
        · exact absurd (Or.inr hl) hgo
        · rfl
      obtain ⟨j', hQ, hst⟩ := ih (par j) _ (hswap a j h hj0 hlt)
      exact ⟨j', hQ, fun hj => hst (by have := par_lt hj0; omega)⟩

/-- heap order except at the edge into `j`; the children of `j` already respect `j`'s parent -/
structure UpInv (a : Arr) (n j : Nat) : Prop where
  edges : ∀ k, 0 < k → k < n → k ≠ j → le (a.get (par k)) (a.get k)
  below : ∀ k, 0 < k → k < n → par k = j → 0 < j → le (a.get (par j)) (a.get k)

theorem upInv_swap {a : Arr} {n j : Nat} (hI : UpInv a n j) (hjn : j < n) (hj0 : 0 < j)
    (hlt : less (a.get j) (a.get (par j)) = true) : UpInv (swapA a (par j) j) n (par j) := by
  have hpj : par j < j := par_lt hj0
  have hji : le (a.get j) (a.get (par j)) := le_of_less hlt
  constructor
  · intro k hk0 hkn hki
    rw [le_swap]
    by_cases hkj : k = j
    · -- edge par j → j : now (old j) above (old par j)
      subst hkj
      rw [sw_j, sw_i]
      exact hji
    · rw [sw_other hki hkj]
      by_cases hpk : par k = j
      · -- k is a child of j: its new parent is old (par j)
        rw [hpk, sw_j]
        exact hI.below k hk0 hkn hpk hj0
      · by_cases hpk2 : par k = par j
        · -- k is the sibling of j: its new parent is old j
          rw [hpk2, sw_i]
          exact le_trans hji (hpk2 ▸ hI.edges k hk0 hkn hkj)
        · rw [sw_other hpk2 hpk]
          exact hI.edges k hk0 hkn hkj
  · intro k hk0 hkn hpk hi0
    rw [le_swap]
    have hppj : par (par j) < par j := par_lt hi0
    have hki : k ≠ par j := Nat.ne_of_gt (hpk ▸ par_lt hk0)
    rw [sw_other (Nat.ne_of_lt hppj) (Nat.ne_of_lt (Nat.lt_trans hppj hpj))]
    have ha := hI.edges (par j) hi0 (Nat.lt_trans hpj hjn) (Nat.ne_of_lt hpj)
    by_cases hkj : k = j
    · rw [hkj, sw_j]
      exact ha
    · rw [sw_other hki hkj]
      exact le_trans ha (hpk ▸ hI.edges k hk0 hkn hkj)

theorem up_ord (n : Nat) (fuel j : Nat) (a : Arr) (hj : j ≤ fuel) (hjn : j < n) (hI : UpInv a n j) :
    Ord (up a fuel j) n := by
  obtain ⟨j', ⟨hI', _⟩, hst⟩ := up_induct (fun a j => UpInv a n j ∧ j < n)
    (fun a j h hj0 hlt => ⟨upInv_swap h.1 h.2 hj0 hlt, by have := par_lt hj0; omega⟩) fuel j a ⟨hI, hjn⟩
  intro k hk0 hkn
  by_cases hkj : k = j'
  · rcases hst hj with h | h
    · omega
    · exact hkj ▸ h
  · exact hI'.edges k hk0 hkn hkj

theorem up_pres (P : Arr → Prop) (n : Nat)
    (hP : ∀ a i j, i < n → j < n → P a → P (swapA a i j)) (fuel j : Nat) (a : Arr) (hj : j < n)
    (h : P a) : P (up a fuel j) := by
  obtain ⟨_, ⟨h', _⟩, _⟩ := up_induct (fun a j => P a ∧ j < n)
    (fun a j h hj0 _ => by
      have := par_lt hj0
      exact ⟨hP a (par j) j (by omega) h.2 h.1, by omega⟩) fuel j a ⟨h, hj⟩
  exact h'

/-- the child of `i` that `down` compares with `i`: the one served first -/
def child (a : Arr) (n i : Nat) : Nat :=
  if 2 * i + 1 + 1 < n ∧ less (a.get (2 * i + 1 + 1)) (a.get (2 * i + 1)) = true then 2 * i + 1 + 1
  else 2 * i + 1

theorem down_succ (a : Arr) (n fuel i : Nat) : down a n (fuel + 1) i =
    if 2 * i + 1 ≥ n then (a, i)
    else if less (a.get (child a n i)) (a.get i) = false then (a, i)
    else down (swapA a i (child a n i)) n fuel (child a n i) := rfl

theorem child_cases (a : Arr) (n i : Nat) : child a n i = 2 * i + 1 ∨ child a n i = 2 * i + 1 + 1 := by
  unfold child; split
  · exact Or.inr rfl
  · exact Or.inl rfl

theorem lt_child (a : Arr) (n i : Nat) : i < child a n i := by
  have := child_cases a n i; omega

theorem child_lt {a : Arr} {n i : Nat} (h : 2 * i + 1 < n) : child a n i < n := by
  unfold child; split
  · rename_i hc; exact hc.1
  · exact h

theorem par_child_eq (a : Arr) (n i : Nat) : par (child a n i) = i :=
  (par_child (Nat.lt_of_le_of_lt (Nat.zero_le i) (lt_child a n i))).mpr (child_cases a n i)

theorem child_min (a : Arr) {n i k : Nat} (hk0 : 0 < k) (hkn : k < n) (hpk : par k = i) :
    le (a.get (child a n i)) (a.get k) := by
  unfold child
  split
  · rename_i hc
    rcases (par_child hk0).mp hpk with rfl | rfl
    · exact le_of_less hc.2
    · exact le_refl _
  · rename_i hc
    rcases (par_child hk0).mp hpk with rfl | rfl
    · exact le_refl _
    · exact Bool.eq_false_iff.mpr fun h => hc ⟨hkn, h⟩

def Stops (a : Arr) (n i : Nat) : Prop := 2 * i + 1 ≥ n ∨ less (a.get (child a n i)) (a.get i) = false

/-- induction principle of `down`, as `up_induct`; with enough fuel the loop stops for the reason `Stops` -/
theorem down_induct (n : Nat) (Q : Arr → Nat → Prop)
    (hswap : ∀ a i, Q a i → 2 * i + 1 < n → less (a.get (child a n i)) (a.get i) = true →
      Q (swapA a i (child a n i)) (child a n i)) :
    ∀ (fuel i : Nat) (a : Arr), Q a i →
      Q (down a n fuel i).1 (down a n fuel i).2 ∧
      (n ≤ fuel + i → Stops (down a n fuel i).1 n (down a n fuel i).2) := by
  intro fuel
  induction fuel with
  | zero => exact fun i a h => ⟨h, fun hf => Or.inl (by show 2 * i + 1 ≥ n; omega)⟩
  | succ fuel ih =>
    intro i a h
    rw [down_succ]
    split
    · rename_i hleaf; exact ⟨h, fun _ => Or.inl hleaf⟩
    · split
      · rename_i hstop; exact ⟨h, fun _ => Or.inr hstop⟩
      · rename_i hleaf hgo
        have := ih (child a n i) _ (hswap a i h (Nat.lt_of_not_ge hleaf) (by simpa using hgo))
        exact ⟨this.1, fun hf => this.2 (by have := lt_child a n i; omega)⟩

/-- sift-down invariant: every edge is fine except the edges below `i` and, as long as nothing
    has moved (`i = i0`), the edge into `i0`; the children of `i` respect `i`'s parent -/
structure DownInv (a : Arr) (n i0 i : Nat) : Prop where
  pos : i0 ≤ i
  edges : ∀ k, 0 < k → k < n → par k ≠ i → (k = i0 → i ≠ i0) → le (a.get (par k)) (a.get k)
  below : ∀ k, 0 < k → k < n → par k = i → 0 < i → le (a.get (par i)) (a.get k)

theorem downInv_swap {a : Arr} {n i0 i : Nat} (hI : DownInv a n i0 i) (hleaf : 2 * i + 1 < n)
    (hlt : less (a.get (child a n i)) (a.get i) = true) :
    DownInv (swapA a i (child a n i)) n i0 (child a n i) := by
  obtain ⟨hi0, h1, h2⟩ := hI
  have hjmin := fun k => child_min a (n := n) (i := i) (k := k)
  have hpj := par_child_eq a n i
  have hjn := child_lt (a := a) hleaf
  have hij := lt_child a n i
  generalize child a n i = j at *
  have hj0 : 0 < j := Nat.lt_of_le_of_lt (Nat.zero_le i) hij
  refine ⟨Nat.le_trans hi0 (Nat.le_of_lt hij), ?_, ?_⟩
  · intro k hk0 hkn hpk _
    have hpkk := par_lt hk0
    rw [le_swap]
    by_cases hki : k = i
    · -- the edge into i (exists when 0 < i): new occupant is old j
      subst hki
      rw [sw_other (Nat.ne_of_lt hpkk) (Nat.ne_of_lt (Nat.lt_trans hpkk hij)), sw_i]
      exact h2 j hj0 hjn hpj hk0
    · by_cases hkj : k = j
      · rw [hkj, sw_j, hpj, sw_i]
        exact le_of_less hlt
      · rw [sw_other hki hkj]
        by_cases hpki : par k = i
        · rw [hpki, sw_i]
          exact hjmin k hk0 hkn hpki
        · rw [sw_other hpki hpk]
          exact h1 k hk0 hkn hpki (fun hk0' hii => hki (hk0'.trans hii.symm))
  · intro k hk0 hkn hpk hj0
    have hjk : j < k := hpk ▸ par_lt hk0
    rw [le_swap, hpj, sw_i, sw_other (Nat.ne_of_gt (Nat.lt_trans hij hjk)) (Nat.ne_of_gt hjk)]
    exact hpk ▸ h1 k hk0 hkn (hpk ▸ Nat.ne_of_gt hij)
      (fun hk0' => absurd (hk0' ▸ Nat.lt_trans hij hjk) (Nat.not_lt_of_le hi0))

theorem downInv_stop {a : Arr} {n i0 i : Nat} (hI : DownInv a n i0 i) (hs : Stops a n i)
    {k : Nat} (hk0 : 0 < k) (hkn : k < n) (hki0 : k = i0 → i ≠ i0) : le (a.get (par k)) (a.get k) := by
  by_cases hpk : par k = i
  · have hkc := (par_child hk0).mp hpk
    rcases hs with hs | hs
    · omega
    · rw [hpk]
      exact le_trans hs (child_min a hk0 hkn hpk)
  · exact hI.edges k hk0 hkn hpk hki0

/-- sift-down from the one-hole invariant, started at `i0`: every edge is in order except, if nothing moved, the
    edge into `i0` (its parent was never compared).  The other two parts are for `heap.Remove`'s `if !down then up`:
    a final position `i0` means the array is untouched, so sift-up may start from the invariant `down` began with. -/
theorem down_ord (n i0 : Nat) (fuel i : Nat) (a : Arr) (hf : n ≤ fuel + i) (hI : DownInv a n i0 i) :
    (∀ k, 0 < k → k < n → (k = i0 → (down a n fuel i).2 ≠ i0) →
        le ((down a n fuel i).1.get (par k)) ((down a n fuel i).1.get k)) ∧
    ((down a n fuel i).2 = i0 → (down a n fuel i).1 = a) ∧ i ≤ (down a n fuel i).2 := by
  -- a swap moves the position strictly below `i`, hence away from `i0`
  obtain ⟨⟨hI', hsame, hle⟩, hst⟩ := down_induct n
    (fun a' i' => DownInv a' n i0 i' ∧ (i' = i0 → a' = a) ∧ i ≤ i')
    (fun a' i' h hleaf hlt => by
      have hlt' := lt_child a' n i'
      have hi0 := hI.pos
      have hle := h.2.2
      exact ⟨downInv_swap h.1 hleaf hlt, fun he => by omega, by omega⟩)
    fuel i a ⟨hI, fun _ => rfl, Nat.le_refl _⟩
  exact ⟨fun k hk0 hkn hki0 => downInv_stop hI' (hst hf) hk0 hkn hki0, hsame, hle⟩

theorem down_pres (P : Arr → Prop) (n : Nat)
    (hP : ∀ a i j, i < n → j < n → P a → P (swapA a i j)) (fuel i : Nat) (a : Arr) (h : P a) :
    P (down a n fuel i).1 :=
  (down_induct n (fun a _ => P a)
    (fun a i h hleaf _ => hP a i _ (by omega) (child_lt hleaf) h) fuel i a h).1

/-- what the spec knows of an item -/
def key (it : Item) : SItem := { hash := it.hash, priority := it.priority, order := it.order }

theorem before_key (a b : Item) : (key a).before (key b) = less a b := rfl

@[simp] theorem key_idx (x : Item) (v : Int) : key { x with index := v } = key x := rfl

theorem item_ext {a b : Item} (hk : key a = key b) (hi : a.index = b.index) : a = b := by
  cases a; cases b; cases hk; cases hi; rfl

def IdxOK (a : Arr) (m : Nat) : Prop := ∀ k, k < m → (a.get k).index = (k : Int)
def Mem (a : Arr) (m : Nat) (x : SItem) : Prop := ∃ k, k < m ∧ key (a.get k) = x
/-- `order`, the insertion number, is the model's item pointer -/
def Inj (a : Arr) (m : Nat) : Prop :=
  ∀ k1 k2, k1 < m → k2 < m → (a.get k1).order = (a.get k2).order → k1 = k2

theorem key_swap (a : Arr) (i j k : Nat) : key ((swapA a i j).get k) = key (a.get (sw i j k)) := by
  obtain ⟨v, h⟩ := swapA_get_sw a i j k
  rw [h]
  rfl

theorem idx_swap {a : Arr} {m i j : Nat} (h : IdxOK a m) : IdxOK (swapA a i j) m := by
  intro k hk
  rw [swapA_get]
  split
  · rename_i h1; rw [h1]
  · split
    · rename_i h2; rw [h2]
    · exact h k hk

theorem mem_swap {a : Arr} {m i j : Nat} (hi : i < m) (hj : j < m) (x : SItem) :
    Mem (swapA a i j) m x ↔ Mem a m x := by
  constructor
  · rintro ⟨k, hk, hx⟩
    exact ⟨sw i j k, sw_lt hi hj hk, by rw [← key_swap]; exact hx⟩
  · rintro ⟨k, hk, hx⟩
    exact ⟨sw i j k, sw_lt hi hj hk, by rw [key_swap, sw_sw]; exact hx⟩

theorem inj_swap {a : Arr} {m i j : Nat} (hi : i < m) (hj : j < m) (h : Inj a m) :
    Inj (swapA a i j) m := by
  intro k1 k2 h1 h2 ho
  have ho' : (key (a.get (sw i j k1))).order = (key (a.get (sw i j k2))).order := by
    rw [← key_swap, ← key_swap]; exact ho
  have h3 := congrArg (sw i j) (h _ _ (sw_lt hi hj h1) (sw_lt hi hj h2) ho')
  rwa [sw_sw, sw_sw] at h3

theorem idx_mono {a : Arr} {m n : Nat} (hmn : n ≤ m) (h : IdxOK a m) : IdxOK a n :=
  fun k hk => h k (by omega)
theorem inj_mono {a : Arr} {m n : Nat} (hmn : n ≤ m) (h : Inj a m) : Inj a n :=
  fun k1 k2 h1 h2 => h k1 k2 (by omega) (by omega)
theorem ord_mono {a : Arr} {m n : Nat} (hmn : n ≤ m) (h : Ord a m) : Ord a n :=
  fun k h0 hk => h k h0 (by omega)

theorem mem_drop {a b : Arr} {n i : Nat} (hi : i ≤ n) (hinj : Inj a (n + 1))
    (hb : ∀ k, k < n → key (b.get k) = key (a.get (sw i n k))) (y : SItem) :
    Mem b n y ↔ (Mem a (n + 1) y ∧ y ≠ key (a.get i)) := by
  constructor
  · rintro ⟨k, hk, hy⟩
    rw [hb k hk] at hy
    obtain ⟨hle, hne⟩ := sw_drop i hk
    refine ⟨⟨sw i n k, by omega, hy⟩, fun he => hne ?_⟩
    -- distinct slots hold distinct keys
    exact hinj _ _ (by omega) (by omega) (congrArg SItem.order (hy.trans he))
  · rintro ⟨⟨k', hk', hy⟩, hne⟩
    have hlt := sw_drop_lt hi (Nat.le_of_lt_succ hk') (fun h => hne (h ▸ hy.symm))
    exact ⟨sw i n k', hlt, by rw [hb _ hlt, sw_sw]; exact hy⟩

structure WF (a : Arr) (m : Nat) : Prop where
  ord : Ord a m
  idx : IdxOK a m
  inj : Inj a m

/-- the part of well-formedness that every in-range swap keeps; `Q`: the items the first `m` slots hold -/
structure Content (m : Nat) (Q : SItem → Prop) (c : Arr) : Prop where
  idx : IdxOK c m
  inj : Inj c m
  mem : ∀ y, Mem c m y ↔ Q y

theorem Content.wf {m : Nat} {Q : SItem → Prop} {c : Arr} (h : Content m Q c) (ho : Ord c m) : WF c m :=
  ⟨ho, h.idx, h.inj⟩

theorem content_swap {m : Nat} {Q : SItem → Prop} (c : Arr) (i j : Nat) (hi : i < m) (hj : j < m)
    (h : Content m Q c) : Content m Q (swapA c i j) :=
  ⟨idx_swap h.idx, inj_swap hi hj h.inj, fun y => (mem_swap hi hj y).trans (h.mem y)⟩

/-- what is left below `n` once slot `i` of a heap of `n+1` slots has been taken out -/
abbrev Dropped (a : Arr) (n i : Nat) : Arr → Prop :=
  Content n (fun y => Mem a (n + 1) y ∧ y ≠ key (a.get i))

theorem dropped_init {a : Arr} {n i : Nat} (hw : WF a (n + 1)) (hi : i ≤ n) :
    Dropped a n i (swapA a i n) :=
  ⟨idx_mono (Nat.le_succ n) (idx_swap hw.idx),
    inj_mono (Nat.le_succ n) (inj_swap (by omega) (by omega) hw.inj),
    mem_drop hi hw.inj (fun k _ => key_swap a i n k)⟩

theorem dropped_last {a : Arr} {n : Nat} (hw : WF a (n + 1)) : Dropped a n n a :=
  ⟨idx_mono (Nat.le_succ n) hw.idx, inj_mono (Nat.le_succ n) hw.inj,
    mem_drop (Nat.le_refl n) hw.inj (fun k hk => by rw [sw_other (by omega) (by omega)])⟩

theorem downInv_init {a : Arr} {n i : Nat} (ho : Ord a (n + 1)) (hi : i ≤ n) :
    DownInv (swapA a i n) n i i := by
  refine ⟨Nat.le_refl i, ?_, ?_⟩
  · intro k hk0 hkn hpk hki
    rw [le_swap, sw_other hpk (Nat.ne_of_lt (Nat.lt_trans (par_lt hk0) hkn)),
      sw_other (fun h => hki h rfl) (Nat.ne_of_lt hkn)]
    exact ho k hk0 (Nat.lt_succ_of_lt hkn)
  · intro k hk0 hkn hpk hi0
    have hik : i < k := hpk ▸ par_lt hk0
    have hpii := par_lt hi0
    rw [le_swap, sw_other (Nat.ne_of_lt hpii) (Nat.ne_of_lt (Nat.lt_of_lt_of_le hpii hi)),
      sw_other (Nat.ne_of_gt hik) (Nat.ne_of_lt hkn)]
    exact le_trans (ho i hi0 (Nat.lt_succ_of_le hi)) (hpk ▸ ho k hk0 (Nat.lt_succ_of_lt hkn))

/-- `heap.Pop` returns the root (with `index = -1`) and leaves a heap, one shorter, of the other slots' items -/
theorem heapPop_spec {q : PQ} (hw : WF q.arr q.len) (hne : q.len ≠ 0) :
    (heapPop q).1 = { q.arr.get 0 with index := -1 } ∧ (heapPop q).2.len + 1 = q.len ∧
    Ord (heapPop q).2.arr (heapPop q).2.len ∧ Dropped q.arr (heapPop q).2.len 0 (heapPop q).2.arr := by
  obtain ⟨a, len⟩ := q
  obtain ⟨n, rfl⟩ : ∃ n, len = n + 1 := ⟨len - 1, by have : len ≠ 0 := hne; omega⟩
  show { (down (swapA a 0 n) n n 0).1.get n with index := -1 } = _ ∧ n + 1 = n + 1 ∧
    Ord (down (swapA a 0 n) n n 0).1 n ∧ Dropped a n 0 (down (swapA a 0 n) n n 0).1
  refine ⟨?_, rfl, ?_, ?_⟩
  · -- slot `n` is out of reach of `down`, it still holds the old root
    have hfr := down_pres (fun c => c.get n = (swapA a 0 n).get n) n
      (fun c i j hi hj h => by
        show (swapA c i j).get n = _
        rw [swapA_get_other c (by omega) (by omega)]; exact h) n 0 (swapA a 0 n) rfl
    rw [hfr, swapA_get_j]
  · intro k hk0 hkn
    exact (down_ord n 0 n 0 (swapA a 0 n) (by omega) (downInv_init hw.ord (Nat.zero_le n))).1 k hk0 hkn
      (fun h => by omega)
  · exact down_pres (Dropped a n 0) n content_swap n 0 _
      (dropped_init hw (Nat.zero_le n))

/-- `heap.Remove(i)` leaves a heap, one shorter, of the items of the slots other than `i` -/
theorem heapRemove_spec {q : PQ} (hw : WF q.arr q.len) {i : Nat} (hi : i < q.len) :
    (heapRemove q i).2.len + 1 = q.len ∧ Ord (heapRemove q i).2.arr (heapRemove q i).2.len ∧
    Dropped q.arr (heapRemove q i).2.len i (heapRemove q i).2.arr := by
  obtain ⟨a, len⟩ := q
  obtain ⟨n, rfl⟩ : ∃ n, len = n + 1 := ⟨len - 1, by have : i < len := hi; omega⟩
  have hi : i ≤ n := Nat.le_of_lt_succ hi
  refine ⟨rfl, ?_⟩
  simp only [heapRemove, Nat.add_sub_cancel]
  by_cases hni : n = i
  · subst hni
    rw [if_neg (fun h => h rfl)]
    exact ⟨ord_mono (Nat.le_succ n) hw.ord, dropped_last hw⟩
  · have hin : i < n := by omega
    rw [if_pos hni]
    have hI := downInv_init hw.ord hi
    have hd := down_ord n i n i (swapA a i n) (by omega) hI
    have hdrop : Dropped a n i (down (swapA a i n) n n i).1 :=
      down_pres (Dropped a n i) n content_swap n i _
        (dropped_init hw hi)
    by_cases hmoved : (down (swapA a i n) n n i).2 > i
    · rw [if_pos hmoved]
      exact ⟨fun k hk0 hkn => hd.1 k hk0 hkn (fun _ => by omega), hdrop⟩
    · -- `down` left everything in place: the new occupant of `i` may have to go up instead
      rw [if_neg hmoved]
      have hsame := hd.2.1 (by have := hd.2.2; omega)
      refine ⟨?_, up_pres (Dropped a n i) n content_swap i i _ hin hdrop⟩
      apply up_ord n i i _ (Nat.le_refl i) hin
      rw [hsame]
      exact ⟨fun k hk0 hkn hki => hsame ▸ hd.1 k hk0 hkn (fun h => absurd h hki), hI.below⟩

theorem setSlot_get (a : Arr) (n : Nat) (it : Item) (k : Nat) :
    (setSlot a n it).get k = if k = n then it else a.get k := rfl

theorem upInv_append {a : Arr} {n : Nat} (ho : Ord a n) (it : Item) : UpInv (setSlot a n it) (n + 1) n := by
  refine ⟨?_, fun k hk0 hkn hpk _ => absurd (hpk ▸ par_lt hk0) (Nat.not_lt_of_le (Nat.le_of_lt_succ hkn))⟩
  intro k hk0 hkn hkne
  have hk : k < n := Nat.lt_of_le_of_ne (Nat.le_of_lt_succ hkn) hkne
  rw [setSlot_get, setSlot_get, if_neg hkne, if_neg (Nat.ne_of_lt (Nat.lt_trans (par_lt hk0) hk))]
  exact ho k hk0 hk

theorem content_append {a : Arr} {n : Nat} {Q : SItem → Prop} (hc : Content n Q a) (it : Item)
    (hfresh : ∀ k, k < n → (a.get k).order ≠ it.order) :
    Content (n + 1) (fun y => y = key it ∨ Q y) (setSlot a n { it with index := (n : Int) }) := by
  have hlt : ∀ {k}, k < n + 1 → k ≠ n → k < n := fun h hne => Nat.lt_of_le_of_ne (Nat.le_of_lt_succ h) hne
  refine ⟨?_, ?_, ?_⟩
  · intro k hk
    rw [setSlot_get]
    split
    · rename_i hkn; rw [hkn]
    · rename_i hkn; exact hc.idx k (hlt hk hkn)
  · intro k1 k2 h1 h2 ho
    rw [setSlot_get, setSlot_get] at ho
    by_cases hk1 : k1 = n <;> by_cases hk2 : k2 = n
    · rw [hk1, hk2]
    · rw [if_pos hk1, if_neg hk2] at ho
      exact absurd ho.symm (hfresh k2 (hlt h2 hk2))
    · rw [if_neg hk1, if_pos hk2] at ho
      exact absurd ho (hfresh k1 (hlt h1 hk1))
    · rw [if_neg hk1, if_neg hk2] at ho
      exact hc.inj k1 k2 (hlt h1 hk1) (hlt h2 hk2) ho
  · intro y
    show _ ↔ y = key it ∨ Q y
    rw [← hc.mem y]
    constructor
    · rintro ⟨k, hk, hy⟩
      rw [setSlot_get] at hy
      by_cases hkn : k = n
      · rw [if_pos hkn] at hy; exact Or.inl hy.symm
      · rw [if_neg hkn] at hy; exact Or.inr ⟨k, hlt hk hkn, hy⟩
    · rintro (h | ⟨k, hk, hy⟩)
      · exact ⟨n, Nat.lt_succ_self n, by rw [setSlot_get, if_pos rfl, h]; rfl⟩
      · exact ⟨k, Nat.lt_succ_of_lt hk, by rw [setSlot_get, if_neg (Nat.ne_of_lt hk)]; exact hy⟩

/-- `heap.Push` of an item whose `order` is not in the heap: append a leaf, sift it up -/
theorem heapPush_spec {q : PQ} (hw : WF q.arr q.len) (it : Item)
    (hfresh : ∀ k, k < q.len → (q.arr.get k).order ≠ it.order) :
    Ord (heapPush q it).arr (q.len + 1) ∧
    Content (q.len + 1) (fun y => y = key it ∨ Mem q.arr q.len y) (heapPush q it).arr :=
  ⟨up_ord (q.len + 1) q.len q.len _ (Nat.le_refl _) (Nat.lt_succ_self _) (upInv_append hw.ord _),
    up_pres _ (q.len + 1) content_swap q.len q.len _ (Nat.lt_succ_self _)
      (content_append ⟨hw.idx, hw.inj, fun _ => Iff.rfl⟩ it hfresh)⟩

end Gossamer.C34
