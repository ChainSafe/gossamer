/-
C26 — where map entries and persisted definitions come from, over all histories: `Src ops st` (every entry of the maps
was announced in `ops`, every persisted definition was stored explicitly or copied from a finalised block's
announcement), stated once per kind of data over `Stores`; `Sub` / `SubS` for the operations that only rearrange what is
held.  It is also where the invariant `WF` of Lib/C26Core is carried along a history, together with `Src`: `WF_init`,
`step_inv`, `reachable_wf_src` (under `OpOK`, defined here).
-/
import Gossamer.Lib.C26Answer
namespace Gossamer.C26
open Gossamer.C17 (Blk findB)

/-- assumptions on a history: imported headers are named by their hash in the universe, none hashes to
    `common.EmptyHash`, genesis is not imported a second time -/
def OpOK (u : Univ) : Op → Prop
  | .add h => (u.blk h).hash = h ∧ h ≠ 0 ∧ h ≠ genesis.hash
  | _ => True

theorem WF_congr {u : Univ} {st st' : St} (w : WF u st) (h : st'.bs = st.bs) : WF u st' :=
  ⟨h ▸ w.inv, h ▸ w.db, w.ugen⟩

theorem WF_init (u : Univ) (hu : u.blk genesis.hash = genesis) (l : Nat) : WF u (St.init l) :=
  ⟨C17.Inv_init genesis, DbInv_init u.blk genesis hu (by decide), hu⟩

/-- a persisted definition `d` was stored explicitly (`SetEpochDataRaw`/`StoreConfigData`) or copied by
    `Finalize…` from the announcement of a block that is in the header table (a finalised block) -/
def DOK (ann : Nat → Nat → Op) (dbop : Nat → Nat → Op) (ops : List Op) (bs : C17.St) (d : Nat) : Prop :=
  (∃ e, dbop e d ∈ ops) ∨ ∃ h, ann h d ∈ ops ∧ (findB bs.dbHdr h).isSome

structure Stores where
  next : EpochMap
  disk : EpochMap
  db : List (Nat × Nat)

def St.epochS (st : St) : Stores := ⟨st.nextEpoch, st.diskEpoch, st.dbEpoch⟩
def St.configS (st : St) : Stores := ⟨st.nextConfig, st.diskConfig, st.dbConfig⟩

structure SrcS (ann dbop : Nat → Nat → Op) (ops : List Op) (bs : C17.St) (s : Stores) : Prop where
  ent : ∀ x, EntryIn s.next x ∨ EntryIn s.disk x → ann x.1 x.2 ∈ ops
  db : ∀ p ∈ s.db, DOK ann dbop ops bs p.2

structure Src (ops : List Op) (st : St) : Prop where
  e : SrcS .ann .dbe ops st.bs st.epochS
  c : SrcS .cfg .dbc ops st.bs st.configS

/-- `t` only rearranges what `s` holds: everything in `t` is in `s`.  The SECOND argument is the later, smaller state. -/
structure SubS (s t : Stores) : Prop where
  ent : ∀ x, EntryIn t.next x ∨ EntryIn t.disk x → EntryIn s.next x ∨ EntryIn s.disk x
  db : ∀ p ∈ t.db, ∃ q ∈ s.db, q.2 = p.2

theorem SubS.refl (s : Stores) : SubS s s := ⟨fun _ h => h, fun p hp => ⟨p, hp, rfl⟩⟩

theorem SubS.trans {a b c : Stores} (h1 : SubS a b) (h2 : SubS b c) : SubS a c :=
  ⟨fun x h => h1.ent x (h2.ent x h), fun p hp => by
    obtain ⟨q, hq, e⟩ := h2.db p hp
    obtain ⟨r, hr, e'⟩ := h1.db q hq
    exact ⟨r, hr, e'.trans e⟩⟩

theorem SubS.next {s : Stores} {m : EpochMap} (h : ∀ x, EntryIn m x → EntryIn s.next x) :
    SubS s ⟨m, s.disk, s.db⟩ :=
  ⟨fun x hx => hx.imp_left (h x), fun p hp => ⟨p, hp, rfl⟩⟩

/-- `NewEpochState`: the in-memory map is read back from its copy on disk -/
theorem SubS.restart (s : Stores) : SubS s ⟨s.disk, s.disk, s.db⟩ :=
  ⟨fun _ hx => .inr (hx.elim id id), fun p hp => ⟨p, hp, rfl⟩⟩

theorem SubS.moved {s : Stores} {db' : List (Nat × Nat)} {old new d : Nat}
    (h : dbMove s.db old new = some (db', d)) : SubS s ⟨s.next, s.disk, db'⟩ := by
  refine ⟨fun _ h => h, fun p hp => ?_⟩
  unfold dbMove at h
  cases hl : lookup s.db old with
  | none => simp [hl] at h
  | some v =>
    simp only [hl, Option.some.injEq, Prod.mk.injEq] at h
    rw [← h.1] at hp
    rcases mem_insert hp with h2 | h2
    · exact ⟨(old, v), lookup_mem hl, by rw [h2]⟩
    · exact ⟨p, mem_erase h2, rfl⟩

/-- `SubS` for both kinds of data over the same block state; `st'` is the later state -/
structure Sub (st st' : St) : Prop where
  bs : st'.bs = st.bs
  e : SubS st.epochS st'.epochS
  c : SubS st.configS st'.configS

theorem Sub.refl (st : St) : Sub st st := ⟨rfl, .refl _, .refl _⟩

theorem Sub.trans {a b c : St} (h1 : Sub a b) (h2 : Sub b c) : Sub a c :=
  ⟨h2.bs.trans h1.bs, h1.e.trans h2.e, h1.c.trans h2.c⟩

theorem getSkippedEpochData_sub (st : St) (s c : Nat) (hdr : Blk) : Sub st (getSkippedEpochData st s c hdr).1 := by
  unfold getSkippedEpochData
  split
  · exact .refl st
  · split
    · rename_i hm
      exact ⟨rfl, .moved hm, .refl _⟩
    · exact ⟨rfl, .next retrieveAndUpdate_entries, .refl _⟩

theorem getSkippedConfig_sub (st : St) (s c : Nat) (hdr : Blk) : Sub st (getSkippedConfig st s c hdr).1 := by
  unfold getSkippedConfig
  split
  · exact .refl st
  · split
    · rename_i hm
      exact ⟨rfl, .refl _, .moved hm⟩
    · have key : Sub st { st with nextConfig := (retrieveAndUpdate st st.nextConfig s c hdr).1 } :=
        ⟨rfl, .refl _, .next retrieveAndUpdate_entries⟩
      simp only []
      split <;> exact key

theorem updateSkippedEpoch_sub (st : St) (s c : Nat) (hdr : Blk) : Sub st (updateSkippedEpoch st s c hdr).1 := by
  unfold updateSkippedEpoch
  split
  · rename_i p hm
    exact ⟨rfl, .moved (d := p.2) hm, .refl _⟩
  · exact ⟨rfl, .next retrieveAndUpdate_entries, .refl _⟩

theorem updateSkippedConfig_sub (st : St) (s c : Nat) (hdr : Blk) : Sub st (updateSkippedConfig st s c hdr).1 := by
  unfold updateSkippedConfig
  split
  · rename_i p hm
    exact ⟨rfl, .refl _, .moved (d := p.2) hm⟩
  · exact ⟨rfl, .refl _, .next retrieveAndUpdate_entries⟩

theorem updateSkipped_sub (st : St) (s c : Nat) (hdr : Blk) : Sub st (updateSkipped st s c hdr).1 := by
  unfold updateSkipped
  split
  · exact .refl st
  · split
    · exact (updateSkippedEpoch_sub st s c hdr).trans (updateSkippedConfig_sub _ s c hdr)
    · exact updateSkippedEpoch_sub st s c hdr

section
variable {ann dbop : Nat → Nat → Op} {ops : List Op} {bs : C17.St} {s : Stores}

theorem SrcS.sub {t : Stores} (h : SrcS ann dbop ops bs s) (hs : SubS s t) : SrcS ann dbop ops bs t :=
  ⟨fun x hx => h.ent x (hs.ent x hx), fun p hp => by
    obtain ⟨q, hq, e⟩ := hs.db p hp
    exact e ▸ h.db q hq⟩

theorem SrcS.mono {bs' : C17.St} {o : Op}
    (hm : ∀ h, (findB bs.dbHdr h).isSome → (findB bs'.dbHdr h).isSome) (h : SrcS ann dbop ops bs s) :
    SrcS ann dbop (ops ++ [o]) bs' s := by
  refine ⟨fun x hx => List.mem_append_left _ (h.ent x hx), fun p hp => ?_⟩
  rcases h.db p hp with ⟨e, he⟩ | ⟨x, hx, hs⟩
  · exact .inl ⟨e, List.mem_append_left _ he⟩
  · exact .inr ⟨x, List.mem_append_left _ hx, hm x hs⟩

theorem SrcS.announce {n hash d : Nat}
    (h : SrcS ann dbop ops bs s) (ho : ann hash d ∈ ops) :
    SrcS ann dbop ops bs ⟨store s.next n hash d, store s.disk n hash d, s.db⟩ := by
  refine ⟨fun x hx => ?_, h.db⟩
  have : x = (hash, d) ∨ EntryIn s.next x ∨ EntryIn s.disk x := by
    rcases hx with hx | hx
    · exact (entryIn_store hx).imp_right .inl
    · exact (entryIn_store hx).imp_right .inr
  rcases this with rfl | h1
  · exact ho
  · exact h.ent x h1

theorem SrcS.persist {e d : Nat}
    (h : SrcS ann dbop ops bs s) (ho : dbop e d ∈ ops) : SrcS ann dbop ops bs ⟨s.next, s.disk, insert s.db e d⟩ := by
  refine ⟨h.ent, fun p hp => ?_⟩
  rcases mem_insert hp with rfl | h1
  · exact .inl ⟨e, ho⟩
  · exact h.db p h1

theorem entryIn_filter {m : EpochMap} {p : Nat × Entries → Bool} {x : Nat × Nat} (h : EntryIn (m.filter p) x) :
    EntryIn m x := by
  obtain ⟨q, hq, hx⟩ := h
  exact ⟨q, (List.mem_filter.mp hq).1, hx⟩

theorem SrcS.finalize {n : Nat}
    {entries : Entries} {x : Nat × Nat} (h : SrcS ann dbop ops bs s) (hl : lookup s.next n = some entries)
    (hx : x ∈ entries) (hdb : (findB bs.dbHdr x.1).isSome) :
    SrcS ann dbop ops bs ⟨dropUpTo s.next n, dropDisk s.disk s.next n, insert s.db n x.2⟩ := by
  refine ⟨fun y hy => h.ent y (hy.imp entryIn_filter entryIn_filter), fun p hp => ?_⟩
  rcases mem_insert hp with rfl | h1
  · exact .inr ⟨x.1, h.ent x (.inl (entryIn_of_lookup hl hx)), hdb⟩
  · exact h.db p h1

end

theorem Src_sub {ops : List Op} {st st' : St} (hs : Sub st st') (h : Src ops st) : Src ops st' :=
  ⟨hs.bs ▸ h.e.sub hs.e, hs.bs ▸ h.c.sub hs.c⟩

theorem finalizeEpoch_ind {u : Univ} {st : St} {hdr : Blk} {P : St → Prop} (h0 : P st)
    (h1 : ∀ n entries x, lookup st.nextEpoch n = some entries → x ∈ persisted st entries →
      P { st with dbEpoch := insert st.dbEpoch n x.2, nextEpoch := dropUpTo st.nextEpoch n,
                  diskEpoch := dropDisk st.diskEpoch st.nextEpoch n }) :
    P (finalizeEpoch u st hdr).1 := by
  unfold finalizeEpoch
  split
  · exact h0
  · split
    · exact h0
    · simp only []
      split
      · exact h0
      · split
        · exact h0
        · rename_i entries hl
          split
          · exact h0
          · rename_i x hper
            exact h1 _ entries x hl (by rw [hper]; exact List.mem_cons_self ..)
          · exact h0

theorem finalizeConfig_ind {u : Univ} {st : St} {hdr : Blk} {P : St → Prop} (h0 : P st)
    (h1 : ∀ n entries x, lookup st.nextConfig n = some entries → x ∈ persisted st entries →
      P { st with dbConfig := insert st.dbConfig n x.2, nextConfig := dropUpTo st.nextConfig n,
                  diskConfig := dropDisk st.diskConfig st.nextConfig n }) :
    P (finalizeConfig u st hdr).1 := by
  unfold finalizeConfig
  split
  · exact h0
  · split
    · exact h0
    · simp only []
      split
      · exact h0
      · split
        · exact h0
        · rename_i entries hl
          split
          · exact h0
          · rename_i x hper
            exact h1 _ entries x hl (by rw [hper]; exact List.mem_cons_self ..)
          · exact h0

theorem finalizeEpoch_inv {u : Univ} {ops : List Op} {st : St} (hdr : Blk) (h : WF u st ∧ Src ops st) :
    WF u (finalizeEpoch u st hdr).1 ∧ Src ops (finalizeEpoch u st hdr).1 :=
  finalizeEpoch_ind (P := fun s => WF u s ∧ Src ops s) h fun _ _ _ hl hx =>
    ⟨WF_congr h.1 rfl, h.2.e.finalize hl (List.mem_filter.mp hx).1 (List.mem_filter.mp hx).2, h.2.c⟩

theorem finalizeConfig_inv {u : Univ} {ops : List Op} {st : St} (hdr : Blk) (h : WF u st ∧ Src ops st) :
    WF u (finalizeConfig u st hdr).1 ∧ Src ops (finalizeConfig u st hdr).1 :=
  finalizeConfig_ind (P := fun s => WF u s ∧ Src ops s) h fun _ _ _ hl hx =>
    ⟨WF_congr h.1 rfl, h.2.e, h.2.c.finalize hl (List.mem_filter.mp hx).1 (List.mem_filter.mp hx).2⟩

theorem SrcS.empty (ann dbop : Nat → Nat → Op) (bs : C17.St) : SrcS ann dbop [] bs ⟨[], [], []⟩ :=
  ⟨fun x hx => (by rcases hx with ⟨p, hp, _⟩ | ⟨p, hp, _⟩ <;> cases hp), fun p hp => nomatch hp⟩

theorem Src_init (l : Nat) : Src [] (St.init l) := ⟨.empty .., .empty ..⟩

theorem step_inv {u : Univ} {ops : List Op} {st : St} (w : WF u st) (h : Src ops st) (o : Op) (ho : OpOK u o) :
    WF u (step u st o).1 ∧ Src (ops ++ [o]) (step u st o).1 := by
  have base : Src (ops ++ [o]) st := ⟨h.e.mono fun _ h => h, h.c.mono fun _ h => h⟩
  have last : o ∈ ops ++ [o] := List.mem_append_right _ (.head _)
  have sub : ∀ {st'}, Sub st st' → WF u st' ∧ Src (ops ++ [o]) st' := fun s => ⟨WF_congr w s.bs, Src_sub s base⟩
  cases o with
  | add hh =>
    exact ⟨⟨C17.Inv_add w.inv _ (by rw [ho.1]; exact ho.2.2), DbInv_add w.inv w.db hh ho.1 ho.2.1, w.ugen⟩,
      h.e.mono (dbHdr_mono_add st.bs _), h.c.mono (dbHdr_mono_add st.bs _)⟩
  | ann hh d =>
    simp only [step]
    split
    · exact ⟨WF_congr w rfl, base.e.announce last, base.c⟩
    · exact ⟨w, base⟩
  | cfg hh d =>
    simp only [step]
    split
    · exact ⟨WF_congr w rfl, base.e, base.c.announce last⟩
    · exact ⟨w, base⟩
  | dbe e d => exact ⟨WF_congr w rfl, base.e.persist last, base.c⟩
  | dbc e d => exact ⟨WF_congr w rfl, base.e, base.c.persist last⟩
  | restart => exact sub ⟨rfl, .restart _, .restart _⟩
  | fin hh r =>
    simp only [step]
    -- after SetFinalisedHash: the header table has grown, nothing else of interest changed
    have mid : ∀ fsn', WF u { st with bs := (C17.setFinalised genesis.hash st.bs hh r 0).1, fsn := fsn' } ∧
        Src (ops ++ [Op.fin hh r]) { st with bs := (C17.setFinalised genesis.hash st.bs hh r 0).1, fsn := fsn' } :=
      fun _ => ⟨⟨C17.Inv_fin w.inv hh r 0, DbInv_fin w.inv w.db hh r 0, w.ugen⟩,
        h.e.mono (dbHdr_mono_fin w.inv hh r 0), h.c.mono (dbHdr_mono_fin w.inv hh r 0)⟩
    split
    · exact finalizeConfig_inv _ (finalizeEpoch_inv _ (mid _))
    · exact ⟨WF_congr (mid st.fsn).1 rfl, (mid st.fsn).2.e, (mid st.fsn).2.c⟩
  | skipE hh s c =>
    simp only [step]
    split
    · exact ⟨w, base⟩
    · exact sub (getSkippedEpochData_sub st s c _)
  | skipC hh s c =>
    simp only [step]
    split
    · exact ⟨w, base⟩
    · exact sub (getSkippedConfig_sub st s c _)
  | upd hh s c =>
    simp only [step]
    split
    · exact ⟨w, base⟩
    · exact sub (updateSkipped_sub st s c _)

theorem reachable_wf_src (u : Univ) (hu : u.blk genesis.hash = genesis) (l : Nat) (ops : List Op)
    (hops : ∀ o ∈ ops, OpOK u o) : WF u (run u l ops) ∧ Src ops (run u l ops) :=
  foldl_inv (fun s o => (step u s o).1) (fun pre s => WF u s ∧ Src pre s) (OpOK u)
    (fun _ _ o ho ih => step_inv ih.1 ih.2 o ho) ops [] (St.init l) hops ⟨WF_init u hu l, Src_init l⟩

theorem Src_reachable (u : Univ) (hu : u.blk genesis.hash = genesis) (l : Nat) (ops : List Op)
    (hops : ∀ o ∈ ops, OpOK u o) : Src ops (run u l ops) := (reachable_wf_src u hu l ops hops).2

end Gossamer.C26
