/-
C33: the length-prefixed framing of dot/network streams — `ReadLEB128ToUint64` and `readStream`
(dot/network/utils.go), AFTER the two C33 `fix:` commits (maximum checked before the buffer is
grown; the body read stops at the end of the message).  The stream is a byte list handed out by
`Read` in pieces of at most `chunk` bytes (any libp2p stream may return short reads).

`readStreamOld` keeps the behaviour before the fixes for the counterexample theorems.
-/
import Gossamer.Lib.C33WireLemmas
namespace Gossamer.C33
open Gossamer Gossamer.Proto

inductive LebRes
  | ok (n read : Nat) (rest : Bytes)
  | eof (read : Nat)                 -- `r.Read` returned io.EOF
  | invalid (read : Nat)             -- ErrInvalidLEB128EncodedData: a tenth continuation byte
deriving Repr, DecidableEq

/-- the loop of `ReadLEB128ToUint64`: `k` = the remaining `maxSize`, `acc` the value so far (exact;
    Go ORs `uint64(0x7f&b) << shift` into a uint64, the groups are disjoint, so the result is the
    sum modulo 2^64), `i` = shift / 7 -/
def lebLoop : Nat → Nat → Nat → Nat → Bytes → LebRes
  | 0, _, _, read, _ => .invalid read
  | _ + 1, _, _, read, [] => .eof read
  | k + 1, acc, i, read, b :: r =>
    if b.toNat < 128 then .ok ((acc + b.toNat % 128 * 128 ^ i) % 18446744073709551616) (read + 1) r
    else if k = 0 then .invalid (read + 1)
    else lebLoop k (acc + b.toNat % 128 * 128 ^ i) (i + 1) (read + 1) r

/-- `ReadLEB128ToUint64` -/
def readLEB (s : Bytes) : LebRes := lebLoop 10 0 0 0 s

inductive StreamErr
  | eof | leb | max | short
deriving Repr, DecidableEq

/-- `tot`, `err`: what `readStream` returns; `msg` = `buf[:tot]` when there is no error; `bufLen` = the
    length of the pooled buffer afterwards; `panic` = `make` was reached with a negative size -/
structure StreamRes where
  tot : Nat
  err : Option StreamErr
  msg : Bytes
  bufLen : Nat
  rest : Bytes
  panic : Bool := false
deriving Repr, DecidableEq

/-- the body loop `for tot < int(length) { n, err := stream.Read(buf[tot:limit]) … }`: `need` bytes
    are still missing, `room` is what `buf[tot:limit]` can take; returns the bytes read, the rest
    of the stream, whether `Read` hit EOF -/
def readBody : Nat → Nat → Nat → Nat → Bytes → Bytes → Bytes × Bytes × Bool
  | 0, _, _, _, got, s => (got, s, false)
  | f + 1, chunk, need, room, got, s =>
    if need = 0 then (got, s, false)
    else if s = [] then (got, s, true)
    else
      let n := min (max chunk 1) (min room s.length)
      readBody f chunk (need - n) (room - n) (got ++ s.take n) (s.drop n)

/-- `readStream(stream, &buf, maxSize)` with `len(buf) = bufLen` -/
def readStream (maxSize bufLen chunk : Nat) (s : Bytes) : StreamRes :=
  match readLEB s with
  | .eof read => ⟨read, some .eof, [], bufLen, [], false⟩
  | .invalid read => ⟨read, some .leb, [], bufLen, s.drop read, false⟩
  | .ok length _ rest =>
    if length = 0 then ⟨0, none, [], bufLen, rest, false⟩
    else if length > maxSize then ⟨0, some .max, [], bufLen, rest, false⟩
    else if length > bufLen ∧ 9223372036854775808 ≤ length then
      ⟨0, none, [], bufLen, rest, true⟩                 -- `make([]byte, int(length)-len(buf))`, negative
    else
      let bufLen' := max bufLen length
      -- `stream.Read(buf[tot:length])`
      let (got, rest', eof) := readBody length chunk length length [] rest
      if eof then ⟨got.length, some .eof, [], bufLen', rest', false⟩
      else if got.length ≠ length then ⟨got.length, some .short, [], bufLen', rest', false⟩
      else ⟨got.length, none, got, bufLen', rest', false⟩

/-- before the fixes: the buffer grows before the maximum is checked, and the body is read into
    the whole buffer `buf[tot:]` -/
def readStreamOld (maxSize bufLen chunk : Nat) (s : Bytes) : StreamRes :=
  match readLEB s with
  | .eof read => ⟨read, some .eof, [], bufLen, [], false⟩
  | .invalid read => ⟨read, some .leb, [], bufLen, s.drop read, false⟩
  | .ok length _ rest =>
    if length = 0 then ⟨0, none, [], bufLen, rest, false⟩
    else if length > bufLen ∧ 9223372036854775808 ≤ length then ⟨0, none, [], bufLen, rest, true⟩
    else
      let bufLen' := max bufLen length
      if length > maxSize then ⟨0, some .max, [], bufLen', rest, false⟩
      else
        let (got, rest', eof) := readBody length chunk length bufLen' [] rest
        if eof then ⟨got.length, some .eof, [], bufLen', rest', false⟩
        else if got.length ≠ length then ⟨got.length, some .short, [], bufLen', rest', false⟩
        else ⟨got.length, none, got, bufLen', rest', false⟩

theorem lebLoop_of_uvar : ∀ (k : Nat) (bs : Bytes) (acc i read n : Nat) (r : Bytes),
    uvar k bs = some (n, r) →
    ∃ rd, lebLoop k acc i read bs = .ok ((acc + n * 128 ^ i) % 18446744073709551616) rd r := by
  intro k
  induction k with
  | zero => intro bs acc i read n r h; cases h
  | succ k ih =>
    intro bs acc i read n r h
    cases bs with
    | nil => cases h
    | cons b rest =>
      rw [uvar] at h
      split at h
      · rename_i hb
        cases h
        exact ⟨read + 1, by rw [lebLoop, if_pos hb, Nat.mod_eq_of_lt hb]⟩
      · rename_i hb
        split at h
        · cases h
        · rename_i n' _ hu
          cases h
          have hk : k ≠ 0 := by rintro rfl; cases hu
          obtain ⟨rd, hrd⟩ := ih rest (acc + b.toNat % 128 * 128 ^ i) (i + 1) (read + 1) n' r hu
          -- acc + b%128 * 128^i + n' * 128^(i+1) = acc + (b - 128 + 128 * n') * 128^i
          have hd : b.toNat % 128 = b.toNat - 128 := by
            rw [Nat.mod_eq_sub_mod (Nat.not_lt.1 hb), Nat.mod_eq_of_lt (by have := b.toNat_lt; omega)]
          exact ⟨rd, by
            rw [lebLoop, if_neg hb, if_neg hk, hrd, hd, Nat.pow_succ, Nat.add_mul, Nat.add_assoc,
              Nat.mul_comm (128 ^ i) 128, ← Nat.mul_assoc, Nat.mul_comm n' 128]⟩

/-- `Uint64ToLEB128` is `Proto.varint` -/
theorem readLEB_varint (n : Nat) (r : Bytes) (h : n < 18446744073709551616) :
    ∃ rd, readLEB (varint n ++ r) = .ok n rd r := by
  obtain ⟨rd, hrd⟩ := lebLoop_of_uvar 10 _ 0 0 0 n r (uvar_varint n 9 r (Nat.lt_of_lt_of_le h pow128_10))
  exact ⟨rd, by rw [readLEB, hrd]; simp [Nat.mod_eq_of_lt h]⟩

/-- fuel `|m|` suffices: every `Read` takes at least one byte (`max chunk 1`) -/
theorem readBody_frame (f : Nat) : ∀ (chunk : Nat) (m got rest : Bytes), m.length ≤ f →
    readBody f chunk m.length m.length got (m ++ rest) = (got ++ m, rest, false) := by
  induction f with
  | zero =>
    intro chunk m got rest h
    cases List.length_eq_zero_iff.1 (Nat.le_zero.1 h)
    rw [readBody, List.append_nil, List.nil_append]
  | succ f ih =>
    intro chunk m got rest h
    rw [readBody]
    by_cases h0 : m.length = 0
    · cases List.length_eq_zero_iff.1 h0
      rw [if_pos h0, List.append_nil, List.nil_append]
    · have hpos : 0 < m.length := Nat.pos_of_ne_zero h0
      -- one `Read` takes a piece `n` of the message: 1 ≤ n ≤ |m|
      have hn : min (max chunk 1) (min m.length (m ++ rest).length) = min (max chunk 1) m.length := by
        rw [List.length_append, Nat.min_eq_left (Nat.le_add_right ..)]
      rw [if_neg h0, if_neg fun e => h0 (List.length_eq_zero_iff.2 (List.append_eq_nil_iff.1 e).1)]
      simp only [hn]
      generalize hn' : min (max chunk 1) m.length = n
      have hle : n ≤ m.length := hn' ▸ Nat.min_le_right ..
      have hge : 1 ≤ n := hn' ▸ Nat.le_min.2 ⟨Nat.le_max_right .., hpos⟩
      have hl : (m.drop n).length = m.length - n := List.length_drop
      rw [List.take_append_of_le_length hle, List.drop_append_of_le_length hle, ← hl,
        ih chunk (m.drop n) _ rest (by rw [hl]; omega), List.append_assoc, List.take_append_drop]

theorem readStream_spec (maxSize bufLen chunk : Nat) (s : Bytes) :
    ((readStream maxSize bufLen chunk s).panic = true → 9223372036854775808 ≤ maxSize) ∧
    (readStream maxSize bufLen chunk s).bufLen ≤ max bufLen maxSize := by
  unfold readStream
  cases readLEB s with
  | eof rd => exact ⟨nofun, Nat.le_max_left ..⟩
  | invalid rd => exact ⟨nofun, Nat.le_max_left ..⟩
  | ok length rd rest =>
    simp only
    by_cases h0 : length = 0
    · rw [if_pos h0]; exact ⟨nofun, Nat.le_max_left ..⟩
    rw [if_neg h0]
    by_cases h1 : length > maxSize
    · rw [if_pos h1]; exact ⟨nofun, Nat.le_max_left ..⟩
    rw [if_neg h1]
    by_cases h2 : length > bufLen ∧ 9223372036854775808 ≤ length
    · rw [if_pos h2]; exact ⟨fun _ => by omega, Nat.le_max_left ..⟩
    rw [if_neg h2]
    rcases readBody length chunk length length [] rest with ⟨got, rest', eof⟩
    have hb : max bufLen length ≤ max bufLen maxSize := by omega
    cases eof
    · simp only [Bool.false_eq_true, if_false]
      by_cases h3 : got.length ≠ length
      · rw [if_pos h3]; exact ⟨nofun, hb⟩
      · rw [if_neg h3]; exact ⟨nofun, hb⟩
    · exact ⟨nofun, hb⟩

/-- **no panic**: with a maximum below 2^63 (the protocol maxima are 1 MiB and 16 MiB) no length
    prefix makes `readStream` reach `make` with a negative size -/
theorem C33_stream_no_panic (maxSize bufLen chunk : Nat) (s : Bytes) (hM : maxSize < 9223372036854775808) :
    (readStream maxSize bufLen chunk s).panic = false :=
  Bool.eq_false_iff.2 fun h => Nat.not_le.2 hM ((readStream_spec maxSize bufLen chunk s).1 h)

/-- **framing**: a message of at most `maxSize` bytes sent as `LEB128(len) ++ msg` is returned
    exactly, and the bytes after it stay in the stream — whatever the pieces `Read` hands out -/
theorem C33_stream_frame (maxSize bufLen chunk : Nat) (m rest : Bytes) (hm : m ≠ [])
    (hM : m.length ≤ maxSize) (h63 : maxSize < 9223372036854775808) :
    readStream maxSize bufLen chunk (varint m.length ++ (m ++ rest))
      = ⟨m.length, none, m, max bufLen m.length, rest, false⟩ := by
  obtain ⟨rd, hrd⟩ := readLEB_varint m.length (m ++ rest) (by omega)
  have hpos : 0 < m.length := List.length_pos_iff.2 hm
  unfold readStream
  rw [hrd]
  have h0 : ¬ (m.length = 0) := by omega
  have h1 : ¬ (m.length > maxSize) := by omega
  have h2 : ¬ (m.length > bufLen ∧ 9223372036854775808 ≤ m.length) := by omega
  simp only [h0, h1, h2, if_false, readBody_frame m.length chunk m [] rest (Nat.le_refl _),
    List.nil_append, Bool.false_eq_true, ne_eq, not_true_eq_false]

/-- **memory**: the pooled buffer never grows beyond the protocol maximum -/
theorem C33_stream_buffer (maxSize bufLen chunk : Nat) (s : Bytes) :
    (readStream maxSize bufLen chunk s).bufLen ≤ max bufLen maxSize :=
  (readStream_spec maxSize bufLen chunk s).2

/-- a ten-byte prefix announcing 2^63 bytes: `make` panics before the fixes, the length is refused
    after them -/
theorem C33_stream_old_panics :
    (readStreamOld 100 16 4 [0x80, 0x80, 0x80, 0x80, 0x80, 0x80, 0x80, 0x80, 0x80, 0x01]).panic = true ∧
    (readStream 100 16 4 [0x80, 0x80, 0x80, 0x80, 0x80, 0x80, 0x80, 0x80, 0x80, 0x01]).err = some .max := by
  refine ⟨by decide, by decide⟩

/-- a refused length (1 MiB against a maximum of 100 bytes): before the fixes it still grows the
    pooled buffer, after them the buffer keeps its size -/
theorem C33_stream_old_alloc :
    (readStreamOld 100 16 4 [0x80, 0x80, 0x40]).bufLen = 1048576 ∧
    (readStream 100 16 4 [0x80, 0x80, 0x40]).bufLen = 16 := by
  refine ⟨by decide, by decide⟩

/-- two messages that have both arrived: before the fixes the first read swallows the second (and
    fails as short), after them each is returned alone -/
theorem C33_stream_old_merges :
    (readStreamOld 100 16 8 [2, 0xaa, 0xbb, 2, 0xcc, 0xdd]).err = some .short ∧
    readStream 100 16 8 [2, 0xaa, 0xbb, 2, 0xcc, 0xdd] = ⟨2, none, [0xaa, 0xbb], 16, [2, 0xcc, 0xdd], false⟩ := by
  refine ⟨by decide, by decide⟩

end Gossamer.C33
