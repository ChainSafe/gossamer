/-
C34, the refinement: the transcription of `PriorityQueue` (heap slots, `txs` map, `currOrder`) against the list of
queued transactions sorted by (priority desc, insertion number asc).  The relation `Rel` contains the heap
invariant; every operation keeps it and returns what the list returns.  From it: the ledger of accepted / yielded /
removed hashes stays balanced, and a hash that is not queued is never yielded, on the queue and through
`TransactionState`.
-/
import Gossamer.Lib.Heap34
import Gossamer.Lib.AList
namespace Gossamer.C34

/-- a queued item as the heap compares it -/
def SItem.item (x : SItem) : Item := { hash := x.hash, priority := x.priority, order := x.order, index := 0 }

theorem before_iff (x y : SItem) :
    x.before y = true ↔ (x.priority > y.priority ∨ (x.priority = y.priority ∧ x.order < y.order)) :=
  less_iff x.item y.item

theorem before_false_iff (x y : SItem) :
    x.before y = false ↔ (x.priority < y.priority ∨ (x.priority = y.priority ∧ y.order ≤ x.order)) :=
  less_false_iff x.item y.item

theorem before_irrefl (x : SItem) : x.before x = false := by rw [before_false_iff]; omega

theorem before_trans {x y z : SItem} (h1 : x.before y = true) (h2 : y.before z = true) :
    x.before z = true := by
  rw [before_iff] at *; omega

theorem before_total {x y : SItem} (h : x.before y = false) (hne : x.order ≠ y.order) :
    y.before x = true := by
  rw [before_false_iff] at h; rw [before_iff]; omega

theorem perm_insertSorted (x : SItem) (l : List SItem) : (insertSorted x l).Perm (x :: l) := by
  induction l with
  | nil => exact List.Perm.refl _
  | cons y ys ih =>
    unfold insertSorted
    split
    · exact List.Perm.refl _
    · exact (List.Perm.cons y ih).trans (List.Perm.swap x y ys)

theorem mem_insertSorted (x y : SItem) (l : List SItem) : y ∈ insertSorted x l ↔ (y = x ∨ y ∈ l) := by
  rw [(perm_insertSorted x l).mem_iff, List.mem_cons]

theorem sorted_insertSorted (x : SItem) (l : List SItem)
    (hs : l.Pairwise (fun a b => a.before b = true)) (hne : ∀ y ∈ l, x.order ≠ y.order) :
    (insertSorted x l).Pairwise (fun a b => a.before b = true) := by
  induction l with
  | nil => simp [insertSorted]
  | cons z zs ih =>
    rw [List.pairwise_cons] at hs
    unfold insertSorted
    split
    · rename_i hb
      rw [List.pairwise_cons]
      refine ⟨?_, List.pairwise_cons.mpr hs⟩
      intro a ha
      rcases List.mem_cons.mp ha with rfl | ha'
      · exact hb
      · exact before_trans hb (hs.1 a ha')
    · rename_i hb
      have hb' : x.before z = false := by simpa using hb
      rw [List.pairwise_cons]
      refine ⟨?_, ih hs.2 (fun y hy => hne y (List.mem_cons_of_mem _ hy))⟩
      intro a ha
      rcases (mem_insertSorted x a zs).mp ha with rfl | ha'
      · exact before_total hb' (hne z (List.mem_cons_self))
      · exact hs.1 a ha'

theorem sorted_nodup {l : List SItem} (hs : l.Pairwise (fun a b => a.before b = true)) : l.Nodup := by
  apply List.Pairwise.imp _ hs
  intro a b hab heq
  subst heq
  rw [before_irrefl] at hab
  cases hab

theorem lookup_filter_ne (m : List (Nat × Nat)) (k k2 : Nat) :
    (m.filter (·.1 != k2)).lookup k = if k = k2 then none else m.lookup k :=
  AList.lookup_erase k2 m k

/-- `next`/`fresh`: insertion numbers are below the counter, so a new one is new; `hashInj`: one item per hash, which
    makes "drop this hash" the removal of one item; `txs`: the map sends a hash to its item's insertion number, the
    model's stand-in for the `*Item` pointer. -/
structure Rel (s : State) (t : Spec) : Prop where
  wf : WF s.pq.arr s.pq.len
  next : t.next = s.currOrder
  sorted : t.items.Pairwise (fun x y => x.before y = true)
  mem : ∀ x, x ∈ t.items ↔ Mem s.pq.arr s.pq.len x
  len : t.items.length = s.pq.len
  fresh : ∀ x ∈ t.items, x.order < t.next
  hashInj : ∀ x ∈ t.items, ∀ y ∈ t.items, x.hash = y.hash → x = y
  txs : ∀ h o, s.txs.lookup h = some o ↔ ∃ x ∈ t.items, x.hash = h ∧ x.order = o

theorem rel_init : Rel State.init Spec.init :=
  ⟨⟨fun k _ hk => absurd hk (Nat.not_lt_zero k), fun k hk => absurd hk (Nat.not_lt_zero k),
      fun k _ hk => absurd hk (Nat.not_lt_zero k)⟩,
    rfl, List.Pairwise.nil, fun _ => ⟨fun h => (nomatch h), fun ⟨k, hk, _⟩ => absurd hk (Nat.not_lt_zero k)⟩,
    rfl, fun _ hx => (nomatch hx), fun _ hx => (nomatch hx),
    fun _ _ => ⟨fun h => (nomatch h), fun ⟨_, hx, _⟩ => (nomatch hx)⟩⟩

theorem Rel.slot {s : State} {t : Spec} (hR : Rel s t) {k : Nat} (hk : k < s.pq.len) :
    key (s.pq.arr.get k) ∈ t.items :=
  (hR.mem _).mpr ⟨k, hk, rfl⟩

theorem Rel.exists_slot {s : State} {t : Spec} (hR : Rel s t) (P : SItem → Prop) :
    (∃ x ∈ t.items, P x) ↔ ∃ k, k < s.pq.len ∧ P (key (s.pq.arr.get k)) :=
  ⟨fun ⟨x, hx, hp⟩ => let ⟨k, hk, e⟩ := (hR.mem x).mp hx; ⟨k, hk, e ▸ hp⟩,
    fun ⟨_, hk, hp⟩ => ⟨_, hR.slot hk, hp⟩⟩

theorem Rel.slot_hash_inj {s : State} {t : Spec} (hR : Rel s t) {k1 k2 : Nat} (h1 : k1 < s.pq.len)
    (h2 : k2 < s.pq.len) (heq : (s.pq.arr.get k1).hash = (s.pq.arr.get k2).hash) : k1 = k2 :=
  hR.wf.inj k1 k2 h1 h2 (congrArg SItem.order (hR.hashInj _ (hR.slot h1) _ (hR.slot h2) heq))

theorem any_hash_iff {s : State} {t : Spec} (hR : Rel s t) (h : Nat) :
    t.items.any (·.hash == h) = (s.txs.lookup h).isSome := by
  rw [Bool.eq_iff_iff, List.any_eq_true, Option.isSome_iff_exists]
  simp only [hR.txs, beq_iff_eq]
  exact ⟨fun ⟨x, hx, e⟩ => ⟨_, x, hx, e, rfl⟩, fun ⟨_, x, hx, e, _⟩ => ⟨x, hx, e⟩⟩

theorem Rel.absent {s : State} {t : Spec} (hR : Rel s t) {h : Nat} (hno : ∀ x ∈ t.items, x.hash ≠ h) :
    (¬ ∃ k, k < s.pq.len ∧ (s.pq.arr.get k).hash = h) ∧ s.txs.lookup h = none := by
  constructor
  · rintro ⟨k, hk, hkh⟩
    exact hno _ (hR.slot hk) hkh
  · exact Option.eq_none_iff_forall_ne_some.mpr fun o hl =>
      let ⟨x, hx, hxh, _⟩ := (hR.txs h o).mp hl
      hno x hx hxh

theorem root_is_head {s : State} {t : Spec} (hR : Rel s t) {x : SItem} {r : List SItem}
    (hit : t.items = x :: r) : key (s.pq.arr.get 0) = x := by
  have hlen : 0 < s.pq.len := by rw [← hR.len, hit]; exact Nat.succ_pos _
  have hs := hR.sorted
  rw [hit, List.pairwise_cons] at hs
  rcases List.mem_cons.mp (hit ▸ hR.slot hlen) with h | h
  · exact h
  · -- otherwise `x` sits in some slot `k` and is served before the root
    obtain ⟨k, hk, hkx⟩ := (hR.mem x).mp (hit ▸ List.mem_cons_self)
    have hle : (key (s.pq.arr.get k)).before (key (s.pq.arr.get 0)) = false := by
      rw [before_key]; exact root_min hR.wf.ord k hk
    rw [hkx, hs.1 _ h] at hle
    cases hle

theorem Rel.filter_hash {s : State} {t : Spec} (hR : Rel s t) {x : SItem} (hx : x ∈ t.items) :
    t.items.filter (·.hash != x.hash) = t.items.erase x := by
  rw [(sorted_nodup hR.sorted).erase_eq_filter]
  refine List.filter_congr fun y hy => ?_
  rw [Bool.eq_iff_iff, bne_iff_ne, bne_iff_ne]
  exact not_congr ⟨hR.hashInj y hy x hx, congrArg SItem.hash⟩

theorem filter_hash_absent {l : List SItem} {h : Nat} (ha : l.any (·.hash == h) = false) :
    l.filter (·.hash != h) = l :=
  List.filter_eq_self.mpr (fun a haa => by simpa using List.any_eq_false.mp ha a haa)

theorem rel_remove_slot {s : State} {t : Spec} (hR : Rel s t) {i : Nat} (hi : i < s.pq.len) (q' : PQ)
    (hlen : q'.len + 1 = s.pq.len) (hord : Ord q'.arr q'.len) (hdrop : Dropped s.pq.arr q'.len i q'.arr) :
    Rel { s with pq := q', txs := s.txs.filter (·.1 != (s.pq.arr.get i).hash) }
        { items := t.items.filter (·.hash != (s.pq.arr.get i).hash), next := t.next } := by
  have hx : key (s.pq.arr.get i) ∈ t.items := hR.slot hi
  have hmem := fun y => (sorted_nodup hR.sorted).mem_erase_iff (a := y) (b := key (s.pq.arr.get i))
  show Rel _ { items := t.items.filter (·.hash != (key (s.pq.arr.get i)).hash), next := t.next }
  rw [hR.filter_hash hx]
  refine ⟨hdrop.wf hord, hR.next, hR.sorted.sublist List.erase_sublist, ?_, ?_,
    fun y hy => hR.fresh y (List.mem_of_mem_erase hy),
    fun y hy z hz => hR.hashInj y (List.mem_of_mem_erase hy) z (List.mem_of_mem_erase hz), ?_⟩
  · intro y
    rw [hmem, hdrop.mem y, hR.mem y, hlen, and_comm]
  · show (t.items.erase _).length = q'.len
    rw [List.length_erase_of_mem hx, hR.len, ← hlen, Nat.add_sub_cancel]
  · intro h o
    show (s.txs.filter _).lookup h = some o ↔ _
    rw [lookup_filter_ne]
    by_cases hh : h = (s.pq.arr.get i).hash
    · rw [if_pos hh]
      exact ⟨fun hc => (nomatch hc), fun ⟨y, hy, hyh, _⟩ =>
        absurd (hR.hashInj y ((hmem y).mp hy).2 _ hx (hyh.trans hh)) ((hmem y).mp hy).1⟩
    · rw [if_neg hh, hR.txs h o]
      exact ⟨fun ⟨y, hy, hyh, hyo⟩ => ⟨y, (hmem y).mpr ⟨fun he => hh (by rw [← hyh, he]; rfl), hy⟩, hyh, hyo⟩,
        fun ⟨y, hy, hyh, hyo⟩ => ⟨y, List.mem_of_mem_erase hy, hyh, hyo⟩⟩

/-- `Pending` returns the same transactions in heap order on one side and in service order on the other -/
def OutRel : Out → Out → Prop
  | .list a, .list b => a.Perm b
  | x, y => x = y

theorem OutRel.of_eq {a b : Out} (h : a = b) : OutRel a b := by
  subst h
  cases a <;> simp [OutRel]

theorem push_dup {s : State} {h o : Nat} (hl : s.txs.lookup h = some o) (p : Nat) : push s h p = (.dup, s) := by
  unfold push; rw [hl]

theorem push_new {s : State} {h : Nat} (hl : s.txs.lookup h = none) (p : Nat) :
    push s h p = (.ok, { pq := heapPush s.pq ⟨h, p, s.currOrder, 0⟩, currOrder := s.currOrder + 1,
                         txs := (h, s.currOrder) :: s.txs }) := by
  unfold push; rw [hl]

theorem push_rel {s : State} {t : Spec} (hR : Rel s t) (h p : Nat) :
    (push s h p).1 = (sstep t (.push h p)).1 ∧ Rel (push s h p).2 (sstep t (.push h p)).2 := by
  have hany := any_hash_iff hR h
  simp only [sstep]
  cases hl : s.txs.lookup h with
  | some o =>
    rw [hl, Option.isSome_some] at hany
    rw [push_dup hl, if_pos hany]
    exact ⟨rfl, hR⟩
  | none =>
    rw [hl, Option.isSome_none] at hany
    rw [push_new hl, if_neg (by rw [hany]; simp)]
    refine ⟨rfl, ?_⟩
    have hnext := hR.next
    let x0 : SItem := { hash := h, priority := p, order := t.next }
    let it : Item := { hash := h, priority := p, order := s.currOrder, index := 0 }
    have hkey : key it = x0 := congrArg (SItem.mk h p) hnext.symm
    have hfresh : ∀ k, k < s.pq.len → (s.pq.arr.get k).order ≠ it.order := fun k hk he =>
      absurd (he.trans hnext.symm) (Nat.ne_of_lt (hR.fresh _ (hR.slot hk)))
    obtain ⟨hord', hcont'⟩ := heapPush_spec hR.wf it hfresh
    have hnoh : ∀ y ∈ t.items, y.hash ≠ h := fun y hy hyh =>
      List.any_eq_false.mp hany y hy (by simp [hyh])
    have hmem := mem_insertSorted x0
    refine ⟨hcont'.wf hord', congrArg (· + 1) hnext, ?_, ?_, ?_, ?_, ?_, ?_⟩
    · exact sorted_insertSorted _ _ hR.sorted (fun y hy => Nat.ne_of_gt (hR.fresh y hy))
    · intro y
      show y ∈ insertSorted x0 t.items ↔ Mem (heapPush s.pq it).arr (s.pq.len + 1) y
      rw [hmem, hcont'.mem y, hkey, hR.mem y]
    · exact (perm_insertSorted x0 t.items).length_eq.trans (congrArg (· + 1) hR.len)
    · intro y hy
      rcases (hmem y _).mp hy with rfl | hy'
      · exact Nat.lt_succ_self _
      · exact Nat.lt_succ_of_lt (hR.fresh y hy')
    · intro y hy z hz hyz
      rcases (hmem y _).mp hy with rfl | hy' <;> rcases (hmem z _).mp hz with rfl | hz'
      · rfl
      · exact absurd hyz.symm (hnoh z hz')
      · exact absurd hyz (hnoh y hy')
      · exact hR.hashInj y hy' z hz' hyz
    · intro h' o
      show List.lookup h' ((h, s.currOrder) :: s.txs) = some o ↔ _
      simp only [mem_insertSorted, or_and_right, exists_or, exists_eq_left]
      rw [AList.lookup_cons_pair, ← hR.txs h' o]
      by_cases hh : h' = h
      · -- the new entry: no old item has hash `h`, so the old map has no entry for it
        subst hh
        rw [if_pos rfl, (hR.absent hnoh).2]
        exact ⟨fun e => Or.inl ⟨rfl, hnext.trans (Option.some.inj e)⟩,
          fun e => e.elim (fun e => congrArg some (hnext.symm.trans e.2)) nofun⟩
      · rw [if_neg hh]
        exact ⟨Or.inr, fun e => e.resolve_left fun e => hh e.1.symm⟩

theorem pop_empty {s : State} (h : s.pq.len = 0) : pop s = (.none, s) := by
  unfold pop
  rw [if_pos h]

theorem pop_eq {s : State} (hne : s.pq.len ≠ 0) :
    pop s = (.tx (heapPop s.pq).1.hash,
      { s with pq := (heapPop s.pq).2, txs := s.txs.filter (·.1 != (heapPop s.pq).1.hash) }) := by
  unfold pop
  rw [if_neg hne]

theorem pop_slot {s : State} {t : Spec} (hR : Rel s t) (hne : s.pq.len ≠ 0) :
    (pop s).1 = .tx (s.pq.arr.get 0).hash ∧
    Rel (pop s).2 { items := t.items.filter (·.hash != (s.pq.arr.get 0).hash), next := t.next } := by
  obtain ⟨hhash, hl, hord, hdrop⟩ := heapPop_spec hR.wf hne
  rw [pop_eq hne, hhash]
  exact ⟨rfl, rel_remove_slot hR (Nat.pos_of_ne_zero hne) _ hl hord hdrop⟩

theorem pop_rel {s : State} {t : Spec} (hR : Rel s t) :
    (pop s).1 = (sstep t .pop).1 ∧ Rel (pop s).2 (sstep t .pop).2 := by
  have hlen := hR.len
  cases hit : t.items with
  | nil =>
    rw [hit] at hlen
    rw [pop_empty hlen.symm]
    simp only [sstep, hit]
    exact ⟨trivial, hR⟩
  | cons x r =>
    rw [hit] at hlen
    have hne : s.pq.len ≠ 0 := by rw [← hlen]; exact Nat.succ_ne_zero _
    have hxh : (s.pq.arr.get 0).hash = x.hash := by rw [← root_is_head hR hit]; rfl
    have := pop_slot hR hne
    rw [hxh, hR.filter_hash (hit ▸ List.mem_cons_self), hit, List.erase_cons_head] at this
    simp only [sstep, hit]
    exact this

theorem sstep_peek (t : Spec) : (sstep t .peek).2 = t := by
  simp only [sstep]
  split <;> rfl

theorem peek_rel {s : State} {t : Spec} (hR : Rel s t) : peek s = (sstep t .peek).1 := by
  have hlen := hR.len
  unfold peek
  cases hit : t.items with
  | nil =>
    rw [hit] at hlen
    have hl0 : s.pq.len = 0 := hlen.symm
    rw [if_pos hl0]
    simp only [sstep, hit]
  | cons x r =>
    rw [hit] at hlen
    rw [if_neg (by rw [← hlen]; exact Nat.succ_ne_zero _)]
    simp only [sstep, hit]
    rw [← root_is_head hR hit]; rfl

theorem deref_eq {q : PQ} (hidx : IdxOK q.arr q.len) (hinj : Inj q.arr q.len) {k0 : Nat}
    (hk : k0 < q.len) : derefIndex q (q.arr.get k0).order = (k0 : Int) := by
  unfold derefIndex PQ.toList
  cases hf : ((List.range q.len).map q.arr.get).find? (·.order == (q.arr.get k0).order) with
  | none =>
    exfalso
    rw [List.find?_eq_none] at hf
    exact hf (q.arr.get k0) (List.mem_map.mpr ⟨k0, List.mem_range.mpr hk, rfl⟩) (by simp)
  | some it =>
    have h1 := List.find?_some hf
    have h2 := List.mem_of_find?_eq_some hf
    obtain ⟨k, hkr, hke⟩ := List.mem_map.mp h2
    have hkl : k < q.len := List.mem_range.mp hkr
    subst hke
    have : k = k0 := hinj k k0 hkl hk (by simpa using h1)
    subst this
    exact hidx k hkl

theorem remove_rel {s : State} {t : Spec} (hR : Rel s t) (h : Nat) :
    (removeExtrinsic s h).1 = .ok ∧ Rel (removeExtrinsic s h).2 (sstep t (.remove h)).2 := by
  unfold removeExtrinsic
  simp only [sstep]
  cases hl : s.txs.lookup h with
  | none =>
    have hany := any_hash_iff hR h
    rw [hl] at hany
    rw [filter_hash_absent hany]
    exact ⟨rfl, hR⟩
  | some o =>
    obtain ⟨k0, hk0, hkh, hko⟩ := (hR.exists_slot _).mp ((hR.txs h o).mp hl)
    -- the pointer stored under `h` leads to the slot that holds `h`
    have hderef : derefIndex s.pq o = (k0 : Int) := hko ▸ deref_eq hR.wf.idx hR.wf.inj hk0
    simp only [hderef]
    rw [if_neg (by omega), Int.toNat_natCast]
    obtain ⟨hlen, hord, hdrop⟩ := heapRemove_spec hR.wf hk0
    exact ⟨rfl, hkh ▸ rel_remove_slot hR hk0 _ hlen hord hdrop⟩

theorem sstep_remove_absent (t : Spec) (h : Nat) : ∀ x ∈ (sstep t (.remove h)).2.items, x.hash ≠ h :=
  fun x hx => by simpa using (List.mem_filter.mp hx).2

theorem pending_rel {s : State} {t : Spec} (hR : Rel s t) :
    (s.pq.toList.map (·.hash)).Perm (t.items.map (·.hash)) := by
  rw [List.perm_ext_iff_of_nodup]
  · intro h
    simp only [PQ.toList, List.map_map, List.mem_map, List.mem_range, Function.comp]
    exact (hR.exists_slot (·.hash = h)).symm
  · simp only [PQ.toList, List.map_map]
    rw [List.nodup_iff_pairwise_ne, List.pairwise_map]
    apply List.Pairwise.imp_of_mem _ List.nodup_range
    intro k1 k2 h1 h2 hne heq
    exact hne (hR.slot_hash_inj (List.mem_range.mp h1) (List.mem_range.mp h2) heq)
  · rw [List.nodup_iff_pairwise_ne, List.pairwise_map]
    apply List.Pairwise.imp_of_mem _ (sorted_nodup hR.sorted)
    intro a b ha hb hne heq
    exact hne (hR.hashInj a ha b hb heq)

theorem step_rel {s : State} {t : Spec} (hR : Rel s t) (op : Op) :
    OutRel (step s op).1 (sstep t op).1 ∧ Rel (step s op).2 (sstep t op).2 := by
  cases op with
  | push h p => exact ⟨OutRel.of_eq (push_rel hR h p).1, (push_rel hR h p).2⟩
  | pop => exact ⟨OutRel.of_eq (pop_rel hR).1, (pop_rel hR).2⟩
  | peek => exact ⟨OutRel.of_eq (peek_rel hR), (sstep_peek t).symm ▸ hR⟩
  | remove h => exact ⟨OutRel.of_eq (remove_rel hR h).1, (remove_rel hR h).2⟩
  | exist h => exact ⟨OutRel.of_eq (congrArg Out.bool (any_hash_iff hR h).symm), hR⟩
  | pending => exact ⟨pending_rel hR, hR⟩
  | len => exact ⟨OutRel.of_eq (congrArg Out.num hR.len.symm), hR⟩

def OutsRel : List Out → List Out → Prop
  | [], [] => True
  | a :: as, b :: bs => OutRel a b ∧ OutsRel as bs
  | _, _ => False

theorem run_rel (ops : List Op) : ∀ {s : State} {t : Spec}, Rel s t →
    OutsRel (run s ops).1 (srun t ops).1 ∧ Rel (run s ops).2 (srun t ops).2 := by
  induction ops with
  | nil => intro s t hR; exact ⟨trivial, hR⟩
  | cons op ops ih =>
    intro s t hR
    have h := step_rel hR op
    have ih' := ih h.2
    exact ⟨⟨h.1, ih'.1⟩, ih'.2⟩

/-- Conservation (`C34_conservation`): what Push accepted, what Pop yielded and what RemoveExtrinsic took out, kept
    beside a run of the model; `Bal` says nothing is lost or doubled. -/
structure Ledger where
  pushed : List Nat     -- hashes accepted by Push (result ok)
  yielded : List Nat    -- hashes returned by Pop / PopWithTimer
  removed : List Nat    -- hashes taken out by RemoveExtrinsic (only when they were queued)

/-- `present`: for a RemoveExtrinsic, whether the hash was queued before the call -/
def ledgerStep (present : Bool) (op : Op) (out : Out) (l : Ledger) : Ledger :=
  match op, out with
  | .push h _, .ok => { l with pushed := h :: l.pushed }
  | .pop, .tx h => { l with yielded := h :: l.yielded }
  | .remove h, _ => if present then { l with removed := h :: l.removed } else l
  | _, _ => l

/-- 0 for the operations that name no hash: `ledger` looks it up in `txs` for every operation, and `ledgerStep`
    reads the answer for `.remove` alone -/
def Op.hash : Op → Nat
  | .push h _ => h | .remove h => h | .exist h => h | _ => 0

def ledger (s : State) : List Op → Ledger → Ledger
  | [], l => l
  | op :: ops, l =>
    let o := step s op
    ledger o.2 ops (ledgerStep (s.txs.lookup op.hash).isSome op o.1 l)

def Bal (t : Spec) (l : Ledger) : Prop :=
  l.pushed.Perm (t.items.map (·.hash) ++ (l.yielded ++ l.removed))

theorem bal_step {s : State} {t : Spec} (hR : Rel s t) {l : Ledger} (hB : Bal t l) (op : Op) :
    Bal (sstep t op).2 (ledgerStep (s.txs.lookup op.hash).isSome op (step s op).1 l) := by
  cases op with
  | push h p =>
    have ho : (step s (.push h p)).1 = (sstep t (.push h p)).1 := (push_rel hR h p).1
    rw [ho]
    simp only [sstep]
    split
    · exact hB
    · show List.Perm (h :: l.pushed) _
      have h1 := (perm_insertSorted { hash := h, priority := p, order := t.next } t.items).map (·.hash)
      exact (List.Perm.cons h hB).trans ((List.Perm.append_right _ h1).symm)
  | pop =>
    have ho : (step s .pop).1 = (sstep t .pop).1 := (pop_rel hR).1
    rw [ho]
    cases hit : t.items with
    | nil =>
      have hs : sstep t .pop = (.none, t) := by simp only [sstep, hit]
      rw [hs]; exact hB
    | cons x r =>
      have hs : sstep t .pop = (.tx x.hash, { t with items := r }) := by simp only [sstep, hit]
      rw [hs]
      show List.Perm l.pushed (r.map (·.hash) ++ (x.hash :: (l.yielded ++ l.removed)))
      have hB' : l.pushed.Perm (x.hash :: (r.map (·.hash) ++ (l.yielded ++ l.removed))) := by
        unfold Bal at hB; rw [hit] at hB; simpa using hB
      exact hB'.trans (List.perm_middle (a := x.hash) (l₁ := r.map (·.hash))
        (l₂ := l.yielded ++ l.removed)).symm
  | remove h =>
    show Bal { t with items := t.items.filter (·.hash != h) }
      (if (s.txs.lookup h).isSome then { l with removed := h :: l.removed } else l)
    rw [← any_hash_iff hR h]
    cases ha : t.items.any (·.hash == h) with
    | false =>
      rw [if_neg Bool.false_ne_true]
      unfold Bal; rw [filter_hash_absent ha]; exact hB
    | true =>
      obtain ⟨x, hx, hxh⟩ := List.any_eq_true.mp ha
      obtain rfl : x.hash = h := by simpa using hxh
      -- the queued item with that hash moves from the queue to `removed`
      have hp := (List.perm_cons_erase hx).map (·.hash)
      rw [if_pos rfl]
      show List.Perm l.pushed ((t.items.filter (·.hash != x.hash)).map (·.hash) ++ (l.yielded ++ x.hash :: l.removed))
      rw [hR.filter_hash hx]
      refine (hB.trans (hp.append_right _)).trans ?_
      rw [← List.append_assoc, ← List.append_assoc]
      exact List.perm_middle.symm
  | peek =>
    rw [sstep_peek]
    show Bal t (ledgerStep _ .peek (peek s) l)
    cases peek s <;> exact hB
  | exist h => exact hB
  | pending => exact hB
  | len => exact hB

theorem bal_run (ops : List Op) : ∀ {s : State} {t : Spec} {l : Ledger}, Rel s t → Bal t l →
    Bal (srun t ops).2 (ledger s ops l) := by
  induction ops with
  | nil => intro s t l _ hB; exact hB
  | cons op ops ih =>
    intro s t l hR hB
    exact ih (step_rel hR op).2 (bal_step hR hB op)

theorem sstep_absent {t : Spec} {h : Nat} (hno : ∀ x ∈ t.items, x.hash ≠ h) (op : Op)
    (hop : ∀ p, op ≠ .push h p) :
    (∀ x ∈ (sstep t op).2.items, x.hash ≠ h) ∧ (sstep t op).1 ≠ .tx h := by
  cases op with
  | push h' p =>
    simp only [sstep]
    split
    · exact ⟨hno, nofun⟩
    · refine ⟨fun x hx => ?_, nofun⟩
      rcases (mem_insertSorted _ x _).mp hx with rfl | hx'
      · exact fun e => hop p (by rw [← e])
      · exact hno x hx'
  | pop =>
    simp only [sstep]
    cases hit : t.items with
    | nil => exact ⟨hno, nofun⟩
    | cons y r =>
      exact ⟨fun x hx => hno x (hit ▸ List.mem_cons_of_mem _ hx),
        fun he => hno y (hit ▸ List.mem_cons_self) (Out.tx.inj he)⟩
  | peek =>
    simp only [sstep]
    cases hit : t.items with
    | nil => exact ⟨hno, nofun⟩
    | cons y r => exact ⟨hno, fun he => hno y (hit ▸ List.mem_cons_self) (Out.tx.inj he)⟩
  | remove h' => exact ⟨fun x hx => hno x (List.mem_filter.mp hx).1, nofun⟩
  | exist h' => exact ⟨hno, nofun⟩
  | pending => exact ⟨hno, nofun⟩
  | len => exact ⟨hno, nofun⟩

/-- the queue is a reachable one (related to some list) that does not hold the hash `h` -/
def QAbsent (h : Nat) (q : State) : Prop := ∃ t, Rel q t ∧ ∀ x ∈ t.items, x.hash ≠ h

theorem step_absent {h : Nat} {s : State} (ha : QAbsent h s) (op : Op) (hop : ∀ p, op ≠ .push h p) :
    QAbsent h (step s op).2 ∧ (step s op).1 ≠ .tx h := by
  obtain ⟨t, hR, hno⟩ := ha
  have hs := sstep_absent hno op hop
  refine ⟨⟨_, (step_rel hR op).2, hs.1⟩, fun he => hs.2 ?_⟩
  have := (step_rel hR op).1
  rw [he] at this
  exact this.symm

theorem lookup_poolDel (m : List (Nat × Nat)) (h : Nat) : (poolDel m h).lookup h = none := by
  unfold poolDel
  rw [lookup_filter_ne, if_pos rfl]

theorem tsStep_absent {h : Nat} {ts : TS} (ha : QAbsent h ts.q) (op : TSOp)
    (hop : ∀ p, op ≠ .push h p) :
    QAbsent h (tsStep ts op).2.q ∧ (tsStep ts op).1 ≠ .tx h := by
  cases op with
  | rm h' => exact step_absent ha (.remove h') nofun
  | push h' p => exact step_absent ha (.push h' p) (fun p' e => hop p' (by cases e; rfl))
  | pop => exact step_absent ha .pop nofun
  | peek => exact step_absent ha .peek nofun
  | _ => exact ⟨ha, nofun⟩

theorem tsRun_absent {h : Nat} (ops : List TSOp) (hno : ∀ p, TSOp.push h p ∉ ops) :
    ∀ {ts : TS}, QAbsent h ts.q → Out.tx h ∉ (tsRun ts ops).1 := by
  induction ops with
  | nil => intro ts _ hm; simp [tsRun] at hm
  | cons op ops ih =>
    intro ts ha hm
    have hs := tsStep_absent ha op (fun p e => hno p (by rw [e]; exact List.mem_cons_self))
    simp only [tsRun, List.mem_cons] at hm
    rcases hm with hm | hm
    · exact hs.2 hm.symm
    · exact ih (fun p hp => hno p (List.mem_cons_of_mem _ hp)) hs.1 hm

theorem tsRun_rel (ops : List TSOp) : ∀ {ts : TS}, (∃ t, Rel ts.q t) → ∃ t, Rel (tsRun ts ops).2.q t := by
  induction ops with
  | nil => intro ts h; exact h
  | cons op ops ih =>
    intro ts ⟨t, hR⟩
    apply ih
    cases op with
    | rm h => exact ⟨_, (remove_rel hR h).2⟩
    | push h p => exact ⟨_, (push_rel hR h p).2⟩
    | pop => exact ⟨_, (pop_rel hR).2⟩
    | _ => exact ⟨t, hR⟩

end Gossamer.C34
