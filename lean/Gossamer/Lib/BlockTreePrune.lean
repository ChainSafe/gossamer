import Gossamer.Lib.BlockTreeSpecLemmas

namespace Gossamer.BlockTree

theorem pruneF_sublist (fin : Node) : ∀ f, (pruneF fin f).Sublist (descF f) := by
  intro f
  induction f using forest_ind with
  | nil => simp [pruneF, descF]
  | cons i cs rest ih1 ih2 =>
    simp only [pruneF, descF]
    split
    · simp only [List.nil_append]
      exact (ih2.trans (List.sublist_append_right _ _)).trans (List.sublist_cons_self _ _)
    · split
      · simp only [List.nil_append]
        exact (List.Sublist.append ih1 ih2).trans (List.sublist_cons_self _ _)
      · simp only [List.cons_append, List.nil_append]
        exact (List.Sublist.append ih1 ih2).cons_cons _

/-- what `fin ∈ subsF f` gives under unique hashes (`closedIn_of_subs`); unlike `fin ∈ subsF f` it passes
    to the children and to the rest of a forest, so the induction of `mem_pruneF_subs` runs on it. -/
def ClosedIn (fin : Node) (f : Forest) : Prop :=
  ∀ na ∈ subsF f, na.info.hash ∈ descF [fin] → ∀ x ∈ descF [na], x ∈ descF [fin]

theorem closedIn_of_subs {f : Forest} (hd : (descF f).Nodup) {fin : Node} (hf : fin ∈ subsF f) :
    ClosedIn fin f := by
  intro na hna hh x hx
  obtain ⟨m, hm, hmh⟩ := mem_descF_iff_subs.1 hh
  obtain rfl : m = na := subs_unique hd (subs_trans hf hm) hna hmh
  exact (subs_sublist hm).subset hx

theorem pruneF_cons (fin : Node) (i : Info) (cs rest : Forest) : pruneF fin (.mk i cs :: rest) =
    (if i.hash ∈ descF [fin] then []
      else (if fin.info.hash ∈ descF [.mk i cs] then [] else [i.hash]) ++ pruneF fin cs) ++ pruneF fin rest := by
  rw [pruneF]
  simp only [occF_iff]

theorem mem_pruneF_subs {fin : Node} {x : Hash} : ∀ f, ClosedIn fin f →
    (x ∈ pruneF fin f ↔ ∃ n ∈ subsF f, n.info.hash = x ∧ x ∉ descF [fin] ∧ fin.info.hash ∉ descF [n]) := by
  intro f
  induction f using forest_ind with
  | nil => simp [pruneF, subsF]
  | cons i cs rest ih1 ih2 =>
    intro hc
    have i1 := ih1 (fun na hna => hc na (by rw [subsF]; exact .tail _ (List.mem_append_left _ hna)))
    have i2 := ih2 (fun na hna => hc na (by rw [subsF]; exact .tail _ (List.mem_append_right _ hna)))
    have hself := hc (.mk i cs) (by rw [subsF]; exact .head _)
    rw [pruneF_cons, List.mem_append, i2, exists_subsF_cons]
    by_cases hin : i.hash ∈ descF [fin]
    · -- the whole subtree of `i` lies in `fin`
      rw [if_pos hin]
      constructor
      · rintro (h | h)
        · cases h
        · exact .inr (.inr h)
      · rintro (⟨rfl, hx, _⟩ | ⟨n, hn, rfl, hx, _⟩ | h)
        · exact absurd hin hx
        · exact absurd (hself hin _ (by rw [descF_single]; exact .tail _ (subs_hash_mem hn))) hx
        · exact .inr h
    · rw [if_neg hin, List.mem_append, i1, or_assoc]
      refine or_congr_left ?_
      by_cases hfi : fin.info.hash ∈ descF [Node.mk i cs]
      · rw [if_pos hfi]
        exact ⟨fun h => (List.not_mem_nil h).elim, fun h => absurd hfi h.2.2⟩
      · rw [if_neg hfi, List.mem_singleton]
        exact ⟨fun h => ⟨h.symm, h ▸ hin, hfi⟩, fun h => h.1.symm⟩

theorem mem_pruneF {fin : Node} {x : Hash} {f : Forest} (hd : (descF f).Nodup) (hf : fin ∈ subsF f) :
    x ∈ pruneF fin f ↔ x ∈ descF f ∧ x ∉ descF [fin] ∧
      ¬ InSubtree f x fin.info.hash := by
  rw [mem_pruneF_subs f (closedIn_of_subs hd hf)]
  constructor
  · rintro ⟨n, hn, rfl, hx, hfi⟩
    exact ⟨subs_hash_mem hn, hx, fun h => hfi ((inSubtree_of_find (findF_of_mem hd hn)).1 h)⟩
  · rintro ⟨h1, hx, h3⟩
    obtain ⟨n, hn, rfl⟩ := mem_descF_iff_subs.1 h1
    exact ⟨n, hn, rfl, hx, fun h => h3 ((inSubtree_of_find (findF_of_mem hd hn)).2 h)⟩

end Gossamer.BlockTree
