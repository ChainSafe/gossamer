/-
C17 — `Inv` holds at the start and is kept by `AddBlock` and `SetFinalisedHash`, hence by one `step` of a history
under `OpOK`, the only assumption on histories (`Inv_step`).
-/
import Gossamer.Lib.C17Inv
namespace Gossamer.C17

theorem Inv_init (g : Blk) : Inv g (St.init g) where
  tree := by
    refine ⟨?_, ?_, ?_⟩
    · intro b hb
      simp only [St.init, List.mem_singleton] at hb
      subst hb
      simp [St.init, findB_cons]
    · simp [St.init, findB_cons]
    · intro b hb hr
      simp only [St.init, List.mem_singleton] at hb
      subst hb
      exact absurd rfl hr
  rootDb := by
    intro rb h
    simp only [St.init, findB_cons, if_true, Option.some.injEq] at h
    subst h
    simp [St.init, findB_cons]
  rootUnfin := rfl
  treeUnfin := by
    intro b hb hr
    simp only [St.init, List.mem_singleton] at hb
    subst hb
    exact absurd rfl hr
  unfinTree := by intro b hb; simp [St.init] at hb
  noGenesis := by
    intro b hb hr
    simp only [St.init, List.mem_singleton] at hb
    subst hb
    exact absurd rfl hr

theorem addBlock_cases (st : St) (b : Blk) :
    (addBlock st b).1 = st ∨
    ∃ p, findB st.tree b.parent = some p ∧ findB st.tree b.hash = none ∧ p.number + 1 = b.number ∧
      addBlock st b =
        ({ st with tree := st.tree ++ [b], unfin := storeB st.unfin b, tries := softSet st.tries b.sroot }, .ok) := by
  unfold addBlock
  cases hp : findB st.tree b.parent with
  | none => exact .inl rfl
  | some p =>
    simp only
    cases hh : findB st.tree b.hash with
    | some x => simp
    | none =>
      simp only [Option.isSome_none, Bool.false_eq_true, if_false]
      by_cases hn : p.number + 1 ≠ b.number
      · simp [hn]
      · simp only [hn, if_false]
        exact .inr ⟨p, by simp, by simp, by omega, trivial⟩

theorem Inv_add {g : Blk} {st : St} (inv : Inv g st) (b : Blk) (hbg : b.hash ≠ g.hash) :
    Inv g (addBlock st b).1 := by
  rcases addBlock_cases st b with h | ⟨p, hp, hh, hn, heq⟩
  · rw [h]; exact inv
  · rw [heq]
    have hroot : st.root ≠ b.hash := (inv.tree.ne_root hh).symm
    have hold : ∀ x ∈ st.tree, x.hash ≠ b.hash := findB_eq_none.mp hh
    obtain ⟨r, hr⟩ := Option.isSome_iff_exists.mp inv.tree.rootIn
    refine ⟨⟨?uniq, ?rootIn, ?parent⟩, ?rootDb, ?rootUnfin, ?treeUnfin, ?unfinTree, ?noGenesis⟩
    case uniq =>
      intro x hx
      rcases List.mem_append.mp hx with hx | hx
      · exact findB_append_left (inv.tree.uniq x hx) _
      · cases List.mem_singleton.mp hx
        exact (findB_concat hh b).trans (if_pos rfl)
    case rootIn =>
      exact (congrArg Option.isSome (findB_append_left hr _)).trans rfl
    case parent =>
      intro x hx hr
      rcases List.mem_append.mp hx with hx | hx
      · obtain ⟨q, hq, hqn⟩ := inv.tree.parent x hx hr
        exact ⟨q, findB_append_left hq _, hqn⟩
      · cases List.mem_singleton.mp hx
        exact ⟨p, findB_append_left hp _, hn⟩
    case rootDb =>
      intro rb hrb
      cases (findB_append_left hr [b]).symm.trans hrb
      exact inv.rootDb r hr
    case rootUnfin =>
      show findB (storeB st.unfin b) st.root = none
      rw [findB_storeB]; simp [hroot, inv.rootUnfin]
    case treeUnfin =>
      intro x hx hr
      show findB (storeB st.unfin b) x.hash = some x
      rw [findB_storeB]
      rcases List.mem_append.mp hx with hx | hx
      · simp [hold x hx, inv.treeUnfin x hx hr]
      · simp only [List.mem_singleton] at hx
        subst hx; simp
    case unfinTree =>
      intro y hy
      have hy' : y ∈ storeB st.unfin b := hy
      show y ∈ st.tree ++ [b] ∧ y.hash ≠ st.root
      rcases mem_storeB.mp hy' with ⟨h1, _⟩ | h1
      · exact ⟨List.mem_append_left _ (inv.unfinTree y h1).1, (inv.unfinTree y h1).2⟩
      · subst h1; exact ⟨by simp, Ne.symm hroot⟩
    case noGenesis =>
      intro x hx hr
      rcases List.mem_append.mp hx with hx | hx
      · exact inv.noGenesis x hx hr
      · simp only [List.mem_singleton] at hx
        subst hx; exact hbg

theorem Inv_moved {g : Blk} {st st' : St} (inv : Inv g st) {h r s : Nat} {rb hn : Blk} {rest : List Blk}
    (m : Moved st h r s rb hn rest st') (hne : h ≠ st.root) : Inv g st' := by
  have f := m.facts inv.tree hne
  have hrootFind := m.findRoot inv.tree
  have hInRest : h ∈ rest.map (·.hash) := List.mem_map.mpr ⟨hn, f.hnRest, f.hnh⟩
  refine ⟨⟨?uniq, ?rootIn, ?parent⟩, ?rootDb, ?rootUnfin, ?treeUnfin, ?unfinTree, ?noGenesis⟩
  case uniq =>
    rw [m.tree]; exact inv.tree.uniq.filter _
  case rootIn =>
    rw [hrootFind]; rfl
  case parent =>
    intro b hb hbr
    rw [m.tree] at hb
    rw [m.root, ← f.hnh] at hbr
    obtain ⟨p, hfp, hpn, hpk⟩ := kept_parent inv.tree hb hbr
    refine ⟨p, ?_, hpn⟩
    rw [m.tree, ← findB_hash hfp]
    exact inv.tree.uniq.filter _ p hpk
  case rootDb =>
    intro rb' hrb'
    rw [hrootFind] at hrb'
    cases hrb'
    rw [m.root, ← f.hnh]
    exact m.dbNew hn f.hnRest
  case rootUnfin =>
    rw [m.root, m.unfinFind h]
    simp [hInRest]
  case treeUnfin =>
    intro b hb hbr
    rw [m.tree] at hb
    rw [m.root] at hbr
    exact m.stays inv hne (mem_kept.mp hb).1 (mem_kept.mp hb).2 hbr
  case unfinTree =>
    intro y hy
    obtain ⟨⟨hyu, hyr⟩, _⟩ := (m.unfinMem y).mp hy
    have hyt := (inv.unfinTree y hyu).1
    -- still in the map, so at or below the new head
    have hup : hn.hash ∈ up st y := Decidable.by_contra fun hk => findB_eq_none.mp (m.gone inv hne hyt hk).1 y hy rfl
    refine ⟨?_, ?_⟩
    · rw [m.tree]; exact mem_kept.mpr ⟨hyt, hup⟩
    · rw [m.root]; intro he; exact hyr (he ▸ hInRest)
  case noGenesis =>
    intro b hb hbr
    rw [m.tree] at hb
    rw [m.root, ← f.hnh] at hbr
    exact inv.noGenesis b (mem_kept.mp hb).1 (kept_ne_root (mem_kept.mp hb).2 hbr)

theorem Inv_fin {g : Blk} {st : St} (inv : Inv g st) (h r s : Nat) : Inv g (setFinalised g.hash st h r s).1 := by
  rcases setFinalised_cases inv h r s with ⟨h1, _⟩ | ⟨_, _, h1⟩ | ⟨hne, _, rb, hn, rest, m⟩
  · rw [h1]; exact inv
  · -- only the round keys changed, which the invariant does not look at
    rw [h1]
    exact ⟨⟨inv.tree.uniq, inv.tree.rootIn, inv.tree.parent⟩, inv.rootDb, inv.rootUnfin, inv.treeUnfin, inv.unfinTree,
      inv.noGenesis⟩
  · exact Inv_moved inv m hne

/-- the only assumption on a history: the genesis block is not imported a second time (in Go its parent,
    the zero hash, is never in the tree, so `AddBlock` rejects it).  Nothing says that a hash determines its header: a
    block carrying the hash of a FINALISED ancestor (gone from the tree) is admitted, and finalising it overwrites that
    ancestor's record in the header table.  The theorems of C17 go by number and are unaffected; "every block of the
    finalised chain is answered by `GetHeader` with its own record" holds only under C26's universe (`C26.DbInv`). -/
def OpOK (g : Blk) : Op → Prop
  | .add b => b.hash ≠ g.hash
  | .fin _ _ _ => True

theorem Inv_step {g : Blk} {st : St} (inv : Inv g st) (o : Op) (ho : OpOK g o) : Inv g (step g.hash st o) := by
  cases o with
  | add b => exact Inv_add inv b ho
  | fin h r s => exact Inv_fin inv h r s

end Gossamer.C17
