/-
C05: the driver runs `Generate` on a trie whose node encodings are computed once (`annot`,
`generateE`).  It is the same function as the `generate` of the theorems.
-/
import Gossamer.Model.C05
import Gossamer.Lib.TrieProofBridge
namespace Gossamer.C05
open Gossamer

theorem annot_isNil (ver : Ver) (H : Bytes → Bytes) (t : Trie) : (annot ver H t).isNil = t.isNil := by
  cases t <;> rfl

theorem annot_enc (ver : Ver) (H : Bytes → Bytes) : ∀ t : Trie, (annot ver H t).enc = encodeNode ver H t := by
  intro t
  induction t with
  | nil => rfl
  | leaf pk v => rfl
  | branch pk v cs ih =>
    show encBranch ver H pk v (bitmap cs) ((List.finRange 16).map fun i => annot ver H (cs i)) = _
    cases v <;> simp only [encBranch, encodeNode, List.flatMap_map, annot_isNil, ih]

theorem walkKid_eq (ver : Ver) : ∀ (l : List ETrie) (n : Nat) (key : Nibs),
    walkKid ver l n key = walkE ver false (l.getD n .nil) key
  | [], _, _ => by rw [walkKid, List.getD_nil, walkE]
  | _ :: _, 0, _ => by rw [walkKid, List.getD_cons_zero]
  | _ :: cs, n + 1, key => by rw [walkKid, List.getD_cons_succ, walkKid_eq ver cs n key]

theorem walkE_annot (ver : Ver) (H : Bytes → Bytes) :
    ∀ (t : Trie) (isRoot : Bool) (key : Nibs), walkE ver isRoot (annot ver H t) key = walk ver H isRoot t key := by
  intro t
  induction t with
  | nil => intro isRoot key; rw [annot, walkE, walk]
  | leaf pk v => intro isRoot key; rw [annot, walkE, walk]
  | branch pk v cs ih =>
    intro isRoot key
    have henc : encBranch ver H pk v (bitmap cs) ((List.finRange 16).map fun i => annot ver H (cs i)) =
        encodeNode ver H (.branch pk v cs) := annot_enc ver H (.branch pk v cs)
    rw [annot, walkE, walk, henc]
    cases key.drop (Trie.lcpLen pk key) with
    | nil => rfl
    | cons i rest =>
      dsimp only
      rw [walkKid_eq, getD_finRange_map, ih i false rest]

theorem generateFromE_annot (ver : Ver) (H : Bytes → Bytes) (t : Trie) :
    ∀ (ks : List Bytes) (st : List Bytes × List Bytes),
      generateFromE ver H (annot ver H t) st ks = generateFrom ver H t st ks := by
  intro ks
  induction ks with
  | nil => intro st; rfl
  | cons k ks ih =>
    intro st
    simp only [generateFromE, generateFrom, walkE_annot]
    cases walk ver H true t (Trie.keyLEToNibbles k) with
    | none => rfl
    | some ns => exact ih _

end Gossamer.C05
