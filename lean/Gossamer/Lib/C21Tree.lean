/-
The order and depth facts of C21's block tree are used as `(Tree.upChain hw).trans`, `.depth_le`, `.depth_inj`, …:
`t.depth b` is `Up.depth t.chain b` by definition (both are `(t.chain b).length - 1`), so the depth lemmas apply as they
stand; only `rw`/`▸` need the statement spelt with `t.depth`.
-/
import Gossamer.Model.C21
import Gossamer.Lib.UpChain
namespace Gossamer.C21

theorem Tree.parent_lt {t : Tree} (hw : t.WF) {b : Nat} (hb : 0 < b) : t.parent b < b := Up.getD_lt hw.2 hb

theorem Tree.upChain {t : Tree} (hw : t.WF) : Up.Chain t.parent t.chain :=
  Up.Chain.ofFuel (F := chainUp t) (fun _ => Tree.parent_lt hw) (fun _ => rfl) (fun _ _ => rfl)

theorem Tree.chain_zero (t : Tree) : t.chain 0 = [0] := rfl

theorem Tree.chain_pos {t : Tree} (hw : t.WF) {b : Nat} (hb : 0 < b) :
    t.chain b = b :: t.chain (t.parent b) := (Tree.upChain hw).pos b hb

theorem Tree.mem_chain_self (t : Tree) (b : Nat) : b ∈ t.chain b := by
  unfold Tree.chain
  cases b <;> simp [chainUp]

theorem Tree.le_iff {t : Tree} {a b : Nat} : t.le a b = true ↔ a ∈ t.chain b := by
  simp [Tree.le]

theorem Tree.le_refl (t : Tree) (b : Nat) : t.le b b = true := Tree.le_iff.2 (t.mem_chain_self b)

theorem Tree.comparable {t : Tree} (h : t.WF) {a b c : Nat} (ha : a ∈ t.chain c) (hb : b ∈ t.chain c) :
    a ∈ t.chain b ∨ b ∈ t.chain a := (Tree.upChain h).comparable ha hb

theorem lca_known {t : Tree} {a b p : Nat} (hl : lca t a b = some p) : a < t.size ∧ b < t.size := by
  unfold lca at hl
  by_cases h : a < t.size ∧ b < t.size
  · exact h
  · rw [if_neg h] at hl; cases hl

structure IsLca (t : Tree) (a b p : Nat) : Prop where
  left : p ∈ t.chain a
  right : p ∈ t.chain b
  below : ∀ q, q ∈ t.chain a → q ∈ t.chain b → q ∈ t.chain p

theorem lca_isLca {t : Tree} (hw : t.WF) {a b p : Nat} (hl : lca t a b = some p) : IsLca t a b p := by
  have hk := lca_known hl
  rw [lca, if_pos hk] at hl
  obtain ⟨h1, h2, h3⟩ := (Tree.upChain hw).find (fun x => t.le x b) hl
  exact ⟨h1, Tree.le_iff.1 h2, fun q hqa hqb => h3 q hqa (Tree.le_iff.2 hqb)⟩

theorem lca_lt {t : Tree} (hw : t.WF) {a b p : Nat} (hl : lca t a b = some p) : p < t.size :=
  Nat.lt_of_le_of_lt ((Tree.upChain hw).mem_le (lca_isLca hw hl).left) (lca_known hl).1

theorem lca_exists {t : Tree} (hw : t.WF) (a b : Nat) (ha : a < t.size) (hb : b < t.size) :
    ∃ p, lca t a b = some p ∧ IsLca t a b p := by
  cases hl : lca t a b with
  | some p => exact ⟨p, rfl, lca_isLca hw hl⟩
  | none =>
    -- the root is a common ancestor, so the search finds one
    rw [lca, if_pos ⟨ha, hb⟩, List.find?_eq_none] at hl
    exact absurd (Tree.le_iff.2 ((Tree.upChain hw).zero_mem b)) (hl 0 ((Tree.upChain hw).zero_mem a))

/-- the condition of the early `return` of `getPossibleSelectedAncestors` -/
theorem lca_eq_right_iff {t : Tree} (h : t.WF) {v c : Nat} (hv : v < t.size) (hc : c < t.size) :
    lca t v c = some c ↔ c ∈ t.chain v := by
  constructor
  · intro hl; exact (lca_isLca h hl).left
  · intro hcv
    obtain ⟨p, hl, _, hpc, hq⟩ := lca_exists h v c hv hc
    have : c ∈ t.chain p := hq c hcv (t.mem_chain_self c)
    rw [hl, (Tree.upChain h).antisymm hpc this]

theorem lca_eq_left {t : Tree} (hw : t.WF) {a b : Nat} (ha : a < t.size) (hb : b < t.size)
    (hab : a ∈ t.chain b) : lca t a b = some a := by
  obtain ⟨p, hl, hpa, _, hq⟩ := lca_exists hw a b ha hb
  rw [hl, (Tree.upChain hw).antisymm hpa (hq a (t.mem_chain_self a) hab)]

theorem lca_mono {t : Tree} (hw : t.WF) {a b p x y : Nat} (hab : a ∈ t.chain b)
    (hx : lca t a p = some x) (hy : lca t b p = some y) : x ∈ t.chain y :=
  (lca_isLca hw hy).below x ((Tree.upChain hw).trans (lca_isLca hw hx).left hab) (lca_isLca hw hx).right

theorem lca_of_split {t : Tree} (hw : t.WF) {x y G c : Nat} (hx : x < t.size) (hy : y < t.size)
    (hc0 : 0 < c) (hcp : t.parent c = G) (hcx : c ∈ t.chain x) (hGy : G ∈ t.chain y) (hcy : c ∉ t.chain y) :
    lca t y x = some G := by
  obtain ⟨p, hl, hpy, hpx, hq⟩ := lca_exists hw y x hy hx
  have H := Tree.upChain hw
  have hGc : G ∈ t.chain c := hcp ▸ H.parent_mem hc0
  have hGp : G ∈ t.chain p := hq G hGy (H.trans hGc hcx)
  rcases H.comparable hpx hcx with hpc | hcp'
  · -- p is c or an ancestor of c
    rcases (H.mem_pos hc0).1 hpc with rfl | hpG
    · exact absurd hpy hcy
    · rw [hl, H.antisymm (hcp ▸ hpG) hGp]
  · exact absurd (H.trans hcp' hpy) hcy

end Gossamer.C21
