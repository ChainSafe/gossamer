/-
C19: the invariant of the import loop of `ValidateCommit` (`ImpInv`): it never takes its early return (the `stop`
branch of the model is unreachable), its tracker is the fold of `addVote`, and its `curW` is the weight of the voters
seen (completeness).
-/
import Gossamer.Model.C19
import Gossamer.Lib.C19Voters
import Gossamer.Lib.C19Tracker
namespace Gossamer.C19

theorem importStep_run {vs : VoterSet} {s : Imp} (hs : s.stop = false) (p : Pre) :
    (importStep vs s p).tr = (addVote s.tr p).1 ∧
    (importStep vs s p).curW =
      (if resOf p (findT s.tr p.id) = .fresh then s.curW + (vs.weight? p.id).getD 0 else s.curW) ∧
    ((importStep vs s p).stop = true → resOf p (findT s.tr p.id) = .equiv ∧ p.id ∈ s.eqd) ∧
    ∀ id ∈ (importStep vs s p).eqd, id ∈ s.eqd ∨ id = p.id ∧ resOf p (findT s.tr p.id) = .equiv := by
  rw [← addVote_res]
  unfold importStep
  rw [if_neg (by rw [hs]; decide)]
  cases addVote s.tr p with
  | mk tr r =>
    cases r with
    | equiv =>
      by_cases hm : p.id ∈ s.eqd
      · dsimp only
        rw [if_pos hm]
        exact ⟨rfl, rfl, fun _ => ⟨rfl, hm⟩, fun id hid => Or.inl hid⟩
      · dsimp only
        rw [if_neg hm]
        exact ⟨rfl, rfl, fun h => absurd (hs.symm.trans h) (by decide), fun id hid =>
          (List.mem_cons.1 hid).elim (fun e => Or.inr ⟨e, rfl⟩) Or.inl⟩
    | _ => exact ⟨rfl, rfl, fun h => absurd (hs.symm.trans h) (by decide), fun id hid => Or.inl hid⟩

/-- the import loop after the precommits `seen`.  `eqd` is what keeps `run`: the loop stops only on an equivocation of an
    id in `eqd`, whose entry holds two votes already, and `addVote` reports none for such an entry.  `curW` needs distinct ids (`Sorted`): `weight?` reads the first entry
    of an id, the sum counts every entry (`wsum_single_sorted`). -/
structure ImpInv (vs : VoterSet) (seen : List Pre) (s : Imp) : Prop where
  run : s.stop = false
  tr : s.tr = trackAll seen
  eqd : ∀ id ∈ s.eqd, ∃ t, findT s.tr id = some t ∧ t.second.isSome = true
  curW : Sorted vs.voters → s.curW = wsum (fun id => (findT s.tr id).isSome) vs.voters

theorem ImpInv.step {vs : VoterSet} {seen : List Pre} {s : Imp} (h : ImpInv vs seen s) (p : Pre) :
    ImpInv vs (seen ++ [p]) (importStep vs s p) := by
  obtain ⟨htr, hcw, hstop, heqd⟩ := importStep_run (vs := vs) h.run p
  refine ⟨?_, ?_, fun id hid => ?_, fun hsorted => ?_⟩
  · -- stopping needs an equivocation by a signer in `eqd`: one vote so far, and two
    cases hst : (importStep vs s p).stop with
    | false => rfl
    | true =>
      obtain ⟨he, hm⟩ := hstop hst
      obtain ⟨t, ht, hnone, _⟩ := resOf_equiv he
      obtain ⟨t', ht', hsome⟩ := h.eqd p.id hm
      cases ht.symm.trans ht'
      rw [hnone] at hsome
      cases hsome
  · rw [htr, h.tr, trackAll, trackAll, List.foldl_append]; rfl
  · rw [htr, findT_addVote]
    rcases heqd id hid with hold | ⟨rfl, he⟩
    · obtain ⟨t, ht, hsome⟩ := h.eqd id hold
      by_cases hid : id = p.id
      · subst hid
        rw [if_pos rfl, ht, upd_of_second p hsome]
        exact ⟨t, rfl, hsome⟩
      · exact ⟨t, by rw [if_neg hid]; exact ht, hsome⟩
    · obtain ⟨_, _, _, hu⟩ := resOf_equiv he
      exact ⟨_, if_pos rfl, by rw [hu]; rfl⟩
  · -- the ids with an entry: those before, and the signer
    have hfind : wsum (fun id => (findT (importStep vs s p).tr id).isSome) vs.voters =
        wsum (fun id => (findT s.tr id).isSome || decide (id = p.id)) vs.voters := by
      refine wsum_congr (fun id => ?_) _
      rw [htr, findT_addVote]
      by_cases hid : id = p.id
      · simp [hid]
      · simp [hid]
    rw [hcw, hfind, h.curW hsorted]
    cases hf : findT s.tr p.id with
    | none =>
      rw [if_pos (resOf_fresh_iff.2 rfl), wsum_or_single (by rw [hf]; rfl), wsum_single_sorted hsorted]
      rfl
    | some t =>
      rw [if_neg (fun h => by cases resOf_fresh_iff.1 h)]
      refine wsum_congr (fun id => ?_) _
      by_cases hid : id = p.id
      · simp [hid, hf]
      · simp [hid]

theorem import_init (vs : VoterSet) (l : List Pre) : ImpInv vs l (l.foldl (importStep vs) Imp.init) := by
  simpa using foldl_inv (importStep vs) (ImpInv vs) (fun _ => True) (fun _ _ p _ h => h.step p) l [] Imp.init
    (fun _ _ => trivial) ⟨rfl, rfl, nofun, fun _ => by rw [wsum_eq]; exact (WSum.wsum_false _ _).symm⟩

end Gossamer.C19
