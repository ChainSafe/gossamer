/-
A byte is a pair of nibbles (`hiNib`, `loNib`, `byteOf`: a bijection `UInt8 ≃ Nib × Nib`); a nibble travels in Go as a
byte `< 16` (`UInt8.ofNat n.val`, partial inverse `loNib`); every shift/mask/div/mod the codecs use is one of these maps.
A nibble key held one nibble per byte is `nibs k`, the `List.map` of that embedding, so the facts about such keys are
the letter facts mapped.

The byte of a nibble, `UInt8.ofNat n.val`, is `Bridge.nb` (Lib/TrieProofBridge), `C06.Nb.nv` (Lib/C06NibblesLemmas) and the
head of `packNibs` for an odd key; the nibble key one nibble per byte is `Nibble.nibs` here (an `abbrev`, the normal form
the lemmas are stated in), `Bridge.nibB` (Lib/TrieProofBridge) and `TrieHeap.nibBytes` (the heap model).  Those are
definitions that unfold to these (equal by `rfl`): their files restate under their own name the lemmas they rewrite with.

There are two functions `keyLEToNibbles`: the in-memory trie's (`Trie.keyLEToNibbles` of Lib/TrieMem, result in `Nibs`:
`keyLEToNibbles_eq`) and the node codec's (`TrieCodec.keyLEToNibbles`, one nibble per byte: `Nibble.keyLEToNibbles_nibs`).
What is said of `toNibs` here needs no ordered map (C04 and C06 use it so); its order, prefix and `KeyEmb` facts are in
Lib/TrieBytes.

Lib/TrieCodecLemmas (C07) proves its own raw-byte versions of the packing lemmas and does not use this file: with
TrieSpec in scope the names `scaleBytes`, `merkleValue` inside `namespace Gossamer.C07` resolve to the specification's
instead of the codec's, and the statements of Props/C07 would change their meaning.
-/
import Gossamer.Lib.TrieSpec
import Gossamer.Lib.TrieCodec
import Gossamer.Lib.TrieMem
namespace Gossamer

theorem hiNib_val (b : UInt8) : (hiNib b).val = b.toNat / 16 :=
  Nat.mod_eq_of_lt (Nat.div_lt_of_lt_mul b.toNat_lt)

theorem loNib_val (b : UInt8) : (loNib b).val = b.toNat % 16 := Nat.mod_mod _ _

theorem byteOf_toNat (h l : Nib) : (byteOf h l).toNat = h.val * 16 + l.val := by
  have : h.val * 16 + l.val < 256 :=
    Nat.lt_of_lt_of_le (Nat.add_lt_add_left l.isLt _) (Nat.succ_mul h.val 16 ▸ Nat.mul_le_mul_right 16 h.isLt)
  rw [byteOf, UInt8.toNat_ofNat', Nat.mod_eq_of_lt this]

theorem hi_byteOf (h l : Nib) : hiNib (byteOf h l) = h :=
  Fin.ext (by rw [hiNib_val, byteOf_toNat, Nat.mul_comm, Nat.mul_add_div (by decide), Nat.div_eq_of_lt l.isLt]; rfl)

theorem lo_byteOf (h l : Nib) : loNib (byteOf h l) = l :=
  Fin.ext (by rw [loNib_val, byteOf_toNat, Nat.mul_comm, Nat.mul_add_mod, Nat.mod_eq_of_lt l.isLt])

theorem byteOf_hi_lo (b : UInt8) : byteOf (hiNib b) (loNib b) = b :=
  UInt8.toNat_inj.mp (by rw [byteOf_toNat, hiNib_val, loNib_val, Nat.mul_comm]; exact Nat.div_add_mod _ _)

theorem byte_ext {a b : UInt8} (h : hiNib a = hiNib b) (l : loNib a = loNib b) : a = b := by
  rw [← byteOf_hi_lo a, ← byteOf_hi_lo b, h, l]

open Trie in
/-- the two special cases of `codec.KeyLEToNibbles` give what the loop gives -/
theorem keyLEToNibbles_eq (k : Bytes) : keyLEToNibbles k = toNibs k := by
  unfold keyLEToNibbles
  split
  · rename_i h; cases k <;> simp_all [toNibs]
  · split
    · rename_i h
      obtain ⟨h1, h2⟩ := h
      cases k with
      | nil => simp at h1
      | cons b r =>
        cases r with
        | nil => simp at h2; subst h2; decide
        | cons c r' => simp at h1
    · rfl

namespace Nibble

theorem ofNat_val (n : Nib) : UInt8.ofNat n.val = byteOf 0 n := by
  rw [byteOf, Fin.val_zero, Nat.zero_mul, Nat.zero_add]

theorem lo_ofNat_val (n : Nib) : loNib (UInt8.ofNat n.val) = n := by rw [ofNat_val, lo_byteOf]

theorem ofNat_val_toNat (n : Nib) : (UInt8.ofNat n.val).toNat = n.val := by
  rw [ofNat_val, byteOf_toNat, Fin.val_zero, Nat.zero_mul, Nat.zero_add]

theorem ofNat_val_lt (n : Nib) : UInt8.ofNat n.val < 16 := by
  rw [UInt8.lt_iff_toNat_lt, ofNat_val_toNat]; exact n.isLt

theorem ofNat_val_inj {a b : Nib} (h : UInt8.ofNat a.val = UInt8.ofNat b.val) : a = b := by
  rw [← lo_ofNat_val a, ← lo_ofNat_val b, h]

theorem ofNat_lo_of_lt {b : UInt8} (h : b < 16) : UInt8.ofNat (loNib b).val = b :=
  UInt8.toNat_inj.mp (by
    rw [ofNat_val_toNat, loNib_val]; exact Nat.mod_eq_of_lt (UInt8.lt_iff_toNat_lt.mp h))

theorem shr4 (b : UInt8) : b >>> 4 = UInt8.ofNat (hiNib b).val :=
  UInt8.toNat_inj.mp (by
    rw [ofNat_val_toNat, hiNib_val, UInt8.toNat_shiftRight]; exact Nat.shiftRight_eq_div_pow _ 4)

theorem div16 (b : UInt8) : b / 16 = UInt8.ofNat (hiNib b).val :=
  UInt8.toNat_inj.mp (by rw [ofNat_val_toNat, hiNib_val, UInt8.toNat_div]; rfl)

theorem mod16 (b : UInt8) : b % 16 = UInt8.ofNat (loNib b).val :=
  UInt8.toNat_inj.mp (by rw [ofNat_val_toNat, loNib_val, UInt8.toNat_mod]; rfl)

theorem and0F (b : UInt8) : b &&& 0x0F = UInt8.ofNat (loNib b).val :=
  UInt8.toNat_inj.mp (by
    rw [ofNat_val_toNat, loNib_val, UInt8.toNat_and]
    exact Nat.and_two_pow_sub_one_eq_mod b.toNat 4)

theorem shl4 (b : UInt8) : b <<< 4 = byteOf (loNib b) 0 :=
  UInt8.toNat_inj.mp (by
    rw [byteOf_toNat, loNib_val, UInt8.toNat_shiftLeft]
    show b.toNat <<< 4 % (16 * 16) = b.toNat % 16 * 16 + 0
    rw [Nat.shiftLeft_eq]
    exact Nat.mul_mod_mul_right 16 b.toNat 16)

theorem andF0 (b : UInt8) : b &&& 0xF0 = byteOf (hiNib b) 0 := by
  have h : b &&& (0xF0 : UInt8) = (b >>> (4 : UInt8)) <<< (4 : UInt8) :=
    UInt8.eq_of_toBitVec_eq (BitVec.shiftLeft_ushiftRight (x := b.toBitVec) (n := 4)).symm
  rw [h, shr4, shl4, lo_ofNat_val]

theorem or_nibs (x y : Nib) : byteOf x 0 ||| UInt8.ofNat y.val = byteOf x y :=
  UInt8.toNat_inj.mp (by
    rw [UInt8.toNat_or, byteOf_toNat, byteOf_toNat, ofNat_val_toNat, Fin.val_zero, Nat.add_zero,
      Nat.mul_comm, ← Nat.two_pow_add_eq_or_of_lt (i := 4) y.isLt x.val])

/-- `NibblesToKeyLE` packs two nibble bytes -/
theorem pack (h l : Nib) :
    ((UInt8.ofNat h.val <<< 4) &&& 0xf0) ||| (UInt8.ofNat l.val &&& 0x0f) = byteOf h l := by
  rw [shl4, andF0, hi_byteOf, and0F, lo_ofNat_val, lo_ofNat_val, or_nibs]

abbrev nibs (k : Nibs) : Bytes := k.map fun n => UInt8.ofNat n.val

theorem map_lo_nibs (k : Nibs) : (nibs k).map loNib = k := by
  rw [List.map_map]
  exact (List.map_congr_left fun n _ => lo_ofNat_val n).trans (List.map_id k)

theorem nibs_lt (k : Nibs) : ∀ x ∈ nibs k, x < 16 := fun x hx => by
  obtain ⟨n, _, rfl⟩ := List.mem_map.mp hx
  exact ofNat_val_lt n

theorem nibs_map_lo {l : Bytes} (h : ∀ x ∈ l, x < 16) : nibs (l.map loNib) = l := by
  show List.map _ (List.map loNib l) = l
  rw [List.map_map]
  exact (List.map_congr_left fun x hx => ofNat_lo_of_lt (h x hx)).trans (List.map_id l)

theorem nibs_inj {a b : Nibs} (h : nibs a = nibs b) : a = b := by
  rw [← map_lo_nibs a, ← map_lo_nibs b, h]

theorem keyLEToNibbles_nibs (k : Bytes) : TrieCodec.keyLEToNibbles k = nibs (toNibs k) := by
  induction k with
  | nil => rfl
  | cons b r ih =>
    rw [TrieCodec.keyLEToNibbles, List.flatMap_cons, ← TrieCodec.keyLEToNibbles, ih, div16, mod16]; rfl

theorem packPairs_nibs : ∀ k : Nibs, TrieCodec.packPairs (nibs k) = packEven k
  | [] => rfl
  | [_] => rfl
  | h :: l :: r => by
    show _ :: TrieCodec.packPairs (nibs r) = _
    rw [pack, packPairs_nibs r]; rfl

theorem nibblesToKeyLE_nibs (k : Nibs) : TrieCodec.nibblesToKeyLE (nibs k) = packNibs k := by
  unfold TrieCodec.nibblesToKeyLE packNibs
  rw [List.length_map]
  split
  · exact packPairs_nibs k
  · cases k with
    | nil => rfl
    | cons a r => exact congrArg (_ :: ·) (packPairs_nibs r)

theorem isPrefixOf_map {α β : Type} [BEq α] [LawfulBEq α] [BEq β] [LawfulBEq β] (f : α → β)
    (hf : ∀ a b, f a = f b → a = b) : ∀ p k : List α, (p.map f).isPrefixOf (k.map f) = p.isPrefixOf k
  | [], _ => rfl
  | _ :: _, [] => rfl
  | a :: p, b :: k => by
    have : (f a == f b) = (a == b) := by
      rw [Bool.eq_iff_iff, beq_iff_eq, beq_iff_eq]; exact ⟨hf a b, congrArg f⟩
    simp only [List.map_cons, List.isPrefixOf_cons_cons, isPrefixOf_map f hf p k, this]

theorem nibs_beq (a b : Nibs) : (nibs a == nibs b) = (a == b) := by
  rw [Bool.eq_iff_iff, beq_iff_eq, beq_iff_eq]; exact ⟨nibs_inj, congrArg nibs⟩

theorem nibs_isPrefixOf (p k : Nibs) : (nibs p).isPrefixOf (nibs k) = p.isPrefixOf k :=
  isPrefixOf_map _ (fun _ _ => ofNat_val_inj) p k

theorem nibs_drop (n : Nat) (k : Nibs) : (nibs k).drop n = nibs (k.drop n) := List.map_drop.symm

theorem klt_map {α β : Type} [Rank α] [Rank β] (f : α → β)
    (hlt : ∀ a b, Rank.rank (f a) < Rank.rank (f b) ↔ Rank.rank a < Rank.rank b) :
    ∀ a b : List α, klt (a.map f) (b.map f) = klt a b
  | a, [] => by cases a <;> rfl
  | [], _ :: _ => rfl
  | x :: a, y :: b => by
    -- ranks are natural numbers: equal when neither is below the other
    have heq : (Rank.rank (f x) == Rank.rank (f y)) = (Rank.rank x == Rank.rank y) := by
      have h1 := hlt x y
      have h2 := hlt y x
      rw [Bool.eq_iff_iff, beq_iff_eq, beq_iff_eq]; omega
    simp only [List.map_cons, klt, decide_eq_decide.2 (hlt x y), heq, klt_map f hlt a b]

end Nibble
end Gossamer
