/-
C18: histories of commits and authority-set changes on one Service (`stateAfter`, `run`).
-/
import Gossamer.Model.C18
namespace Gossamer.C18

theorem stateAfter_append (t : Tree) (s : Svc) (a b : List Op) :
    stateAfter t s (a ++ b) = stateAfter t (stateAfter t s a) b := by
  simp [stateAfter, List.foldl_append]

theorem stateAfter_cons (t : Tree) (s : Svc) (op : Op) (ops : List Op) :
    stateAfter t s (op :: ops) = stateAfter t (stepOp t s op).1 ops := by
  simp [stateAfter]

theorem run_split (t : Tree) : ∀ (pre : List Op) (s : Svc) (op : Op) (post : List Op),
    run t (pre ++ op :: post) s =
      run t pre s ++ (stepOp t (stateAfter t s pre) op).2 ::
        run t post (stepOp t (stateAfter t s pre) op).1 := by
  intro pre
  induction pre with
  | nil => intro s op post; simp [run, runG, stepOp, stateAfter]
  | cons p ps ih =>
    intro s op post
    have := ih (stepOp t s p).1 op post
    simp only [run, stepOp] at this ⊢
    simp only [List.cons_append, runG, stateAfter_cons, stepOp, this]

theorem commit_keeps_set (t : Tree) (s : Svc) (f : Nat) (c : Commit) :
    (stepOp t s (.commit f c)).1.auths = s.auths ∧ (stepOp t s (.commit f c)).1.set = s.set := by
  simp only [stepOp, stepOpG, Svc.record]
  split
  · split <;> simp
  · simp

theorem commits_keep_set (t : Tree) : ∀ (cs : List Op) (s : Svc),
    (∀ op ∈ cs, ∃ f c, op = .commit f c) →
      (stateAfter t s cs).auths = s.auths ∧ (stateAfter t s cs).set = s.set := by
  intro cs
  induction cs with
  | nil => intro s _; simp [stateAfter]
  | cons op ops ih =>
    intro s h
    obtain ⟨f, c, rfl⟩ := h op (List.mem_cons_self ..)
    rw [stateAfter_cons]
    have h1 := ih (stepOp t s (.commit f c)).1 (fun o ho => h o (List.mem_cons_of_mem _ ho))
    have h2 := commit_keeps_set t s f c
    exact ⟨h1.1.trans h2.1, h1.2.trans h2.2⟩

theorem setchange_installs (t : Tree) (s : Svc) (ns : Nat) (vs : List Nat) (h : ns ≠ s.set) :
    (stepOp t s (.setchange ns vs)).1.auths = vs ∧ (stepOp t s (.setchange ns vs)).1.set = ns := by
  simp [stepOp, stepOpG, Svc.setchange, h]

/-- the code's `currSetID == s.state.setID` -/
theorem setchange_same_id (t : Tree) (s : Svc) (vs : List Nat) :
    (stepOp t s (.setchange s.set vs)).1 = s := by
  simp [stepOp, stepOpG, Svc.setchange]

end Gossamer.C18
