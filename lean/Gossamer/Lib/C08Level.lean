/-
C08: the logical content of a transaction level.  `effL base d` is the committed state with the diff
applied (`applyToTrie` over the ideal backend).  Under the invariants of the proved fragment
(`BaseInv` for the committed state, `DiffInv` for a diff; no string is used both as a main key and
as a child-trie key, no main key lies below `:child_storage:default:`) a logical state `l` IS the
level of `d` over `b` when its main map and each of its child maps is the one-level overlay of the
committed one (`Lvl`); there is exactly one such `l`, and it is `effL b d` (`lvl_eff`, the one place
where `applyToTrie` is analysed).  Every read of `TrieState` over the ideal backend inside a
transaction agrees with the ordered-map read of the level.
-/
import Gossamer.Lib.C08Order
import Gossamer.Lib.C08Limit
set_option linter.unusedSectionVars false
namespace Gossamer.C08
open Gossamer

def effL (b : Logical) (d : Diff) : Logical := applyIdeal b d.sortedOrder

section eff

variable {b : Logical} {d : Diff}

theorem effL_wf (hb : b.WF) : (effL b d).WF :=
  phase3_wf _ (phase2_wf _ (phase1_wf _ hb))

theorem effL_empty : effL b Diff.empty = b := by
  rfl

end eff

/-- `CK` says which strings the history uses as child-trie keys (every other string may be a main
    key; the fragment `OpOK` keeps the two apart, finding `deletes-shared-by-main-and-child`).  The
    committed state respects it: no main entry under a child-trie key (`mainCK`), no child trie
    under another string (`kidsCK`). -/
structure BaseInv (CK : Bytes → Bool) (b : Logical) : Prop where
  wf : b.WF
  mainCK : ∀ k, CK k = true → OMap.get k b.main = none
  kidsCK : ∀ ck, CK ck = false → kidOf b ck = []

section
variable {CK : Bytes → Bool} {b : Logical}

theorem baseInv_put (hb : BaseInv CK b) (k v : Bytes)
    (hk : Logical.isChildKey k = false ∧ CK k = false) :
    BaseInv CK { b with main := OMap.upsert k v b.main } :=
  ⟨wf_upsertMain hb.wf hk.1 v, fun k' hk' => by
    rw [OMap.get_upsert, if_neg (ne_of_true_of_false hk' hk.2), hb.mainCK k' hk'],
    hb.kidsCK⟩

/-- covers `Delete`, `ClearPrefix` and the limited removals -/
theorem baseInv_filter (hb : BaseInv CK b) (q : Bytes × Bytes → Bool) :
    BaseInv CK { b with main := b.main.filter q } :=
  ⟨wf_filterMain hb.wf q, fun k hk => OMap.get_filter_none q (hb.mainCK k hk), hb.kidsCK⟩

theorem baseInv_specLimit (hb : BaseInv CK b) (back : Entries) (sel : Bytes → Bool)
    (limit : Option Nat) :
    BaseInv CK { b with main := (specLimit b.main back sel limit).1 } := by
  obtain ⟨T, h⟩ := specLimit_fst b.main back sel limit
  rw [h]
  exact baseInv_filter hb _

theorem baseInv_setKid (hb : BaseInv CK b) (ck : Bytes) (es : Entries) (hs : OMap.Sorted es)
    (hck : CK ck = true) : BaseInv CK (Logical.setKid b ck es) := by
  refine ⟨wf_setKid hb.wf _ _ hs, ?_, ?_⟩
  · intro k hk; rw [main_setKid]; exact hb.mainCK k hk
  · intro ck' h'
    rw [kidOf_setKid, if_neg (ne_of_true_of_false hck h').symm]
    exact hb.kidsCK ck' h'

end

/-- what `DiffInv` (below) says about one change set, the main one or a child's, so that the writes
    of a change set are shown to keep it once for both -/
structure CDiff.Ok (c : CDiff) : Prop where
  sorted : c.SortedC
  disj : ∀ k, k ∈ c.deletes → KMap.find k c.upserts = none
  sk : c.sortedKeys = KMap.keys c.upserts

theorem CDiff.ok_empty : CDiff.empty.Ok := ⟨CDiff.sorted_empty, fun _ h => (nomatch h), rfl⟩

theorem CDiff.Ok.upsert {c : CDiff} (h : c.Ok) (k v : Bytes) : (c.upsert k v).Ok := by
  refine ⟨CDiff.sorted_upsert h.sorted k v, disj_upsert h.disj k v, ?_⟩
  simp only [CDiff.upsert, KMap.keys_ins, h.sk]

theorem CDiff.Ok.delete {c : CDiff} (h : c.Ok) (k : Bytes) : (c.delete k).Ok := by
  refine ⟨CDiff.sorted_delete h.sorted k, disj_delete h.disj k, ?_⟩
  simp only [CDiff.delete, KMap.keys_del, h.sk]

theorem CDiff.Ok.foldDelete {c : CDiff} (h : c.Ok) (K : List Bytes) :
    (K.foldl CDiff.delete c).Ok :=
  foldl_pres CDiff.Ok CDiff.delete (fun _ k h => h.delete k) K h

-- The invariant of a diff on the fragment.  `sorted`, `upsDel`, `sk` are `CDiff.Ok` (above) of the main
-- change set, `sorted.kid`, `kidDisj`, `kidSk` that of every child change set (`cOk`, `kidOk` read them
-- back).  With `CK` as in `BaseInv`: `upsCK` no upsert under a child-trie key or below
-- `:child_storage:default:`, `delsNoChild` no deletion mark below it (a mark on a `CK` string is a
-- deleted child trie), `kidsCK` child change sets only under child-trie keys.
structure DiffInv (CK : Bytes → Bool) (d : Diff) : Prop where
  sorted : d.SortedD
  upsCK : ∀ k, (CK k = true ∨ Logical.isChildKey k = true) → KMap.find k d.c.upserts = none
  upsDel : ∀ k, k ∈ d.c.deletes → KMap.find k d.c.upserts = none
  delsNoChild : ∀ k, k ∈ d.c.deletes → Logical.isChildKey k = false
  kidsCK : ∀ ck, CK ck = false → KMap.find ck d.kids = none
  kidDisj : ∀ ck c, KMap.find ck d.kids = some c → ∀ k, k ∈ c.deletes → KMap.find k c.upserts = none
  sk : d.c.sortedKeys = KMap.keys d.c.upserts
  kidSk : ∀ ck c, KMap.find ck d.kids = some c → c.sortedKeys = KMap.keys c.upserts

theorem DiffInv.cOk {CK : Bytes → Bool} {d : Diff} (hd : DiffInv CK d) : d.c.Ok :=
  ⟨hd.sorted.c, hd.upsDel, hd.sk⟩

theorem DiffInv.ok_of_find {CK : Bytes → Bool} {d : Diff} (hd : DiffInv CK d) {ck : Bytes} {c : CDiff}
    (hf : KMap.find ck d.kids = some c) : c.Ok :=
  ⟨hd.sorted.kid (ck, c) (KMap.find_some_mem hf), hd.kidDisj ck c hf, hd.kidSk ck c hf⟩

theorem DiffInv.kidOk {CK : Bytes → Bool} {d : Diff} (hd : DiffInv CK d) (ck : Bytes) :
    (d.kid ck).Ok := by
  unfold Diff.kid
  cases hf : KMap.find ck d.kids with
  | none => exact CDiff.ok_empty
  | some c => exact hd.ok_of_find hf

/-- `DiffInv` through `CDiff.Ok`: the way the invariant of a new diff is put together -/
theorem DiffInv.of_ok {CK : Bytes → Bool} {d : Diff} (hc : d.c.Ok) (hks : KMap.Sorted d.kids)
    (hkid : ∀ ck c, KMap.find ck d.kids = some c → c.Ok)
    (upsCK : ∀ k, (CK k = true ∨ Logical.isChildKey k = true) → KMap.find k d.c.upserts = none)
    (delsNoChild : ∀ k, k ∈ d.c.deletes → Logical.isChildKey k = false)
    (kidsCK : ∀ ck, CK ck = false → KMap.find ck d.kids = none) : DiffInv CK d where
  sorted := ⟨hc.sorted, hks, fun e he => (hkid e.1 e.2 (KMap.find_of_mem_sorted hks he)).sorted⟩
  upsCK := upsCK
  upsDel := hc.disj
  delsNoChild := delsNoChild
  kidsCK := kidsCK
  kidDisj := fun ck c hf => (hkid ck c hf).disj
  sk := hc.sk
  kidSk := fun ck c hf => (hkid ck c hf).sk

theorem DiffInv.empty (CK : Bytes → Bool) : DiffInv CK Diff.empty :=
  .of_ok CDiff.ok_empty trivial (fun _ _ h => nomatch h) (fun _ _ => rfl) (fun _ h => nomatch h)
    (fun _ _ => rfl)

section
variable {CK : Bytes → Bool} {b l l' : Logical} {d : Diff}

theorem kid_of_find {ck : Bytes} {ch : CDiff} (hf : KMap.find ck d.kids = some ch) :
    d.kid ck = ch := by
  unfold Diff.kid; rw [hf]; rfl

theorem kid_of_none {ck : Bytes} (hf : KMap.find ck d.kids = none) : d.kid ck = CDiff.empty := by
  unfold Diff.kid; rw [hf]; rfl

/-- main map of `applyToTrie`'s result: a deleted string is either a child-trie key, and then no
    main key, or it names no child trie (in the diff or committed), so the deletion hits the main key -/
theorem eff_main (hb : BaseInv CK b) (hd : DiffInv CK d) (k : Bytes) :
    OMap.get k (effL b d).main =
      if k ∈ d.c.deletes then none else ov (KMap.find k d.c.upserts) (OMap.get k b.main) := by
  have hw := hd.sorted
  unfold effL applyIdeal
  simp only [Diff.sortedOrder]
  rw [phase3_main _ (KSet.nodup_of_sorted hw.c.dels) (phase2_wf _ (phase1_wf _ hb.wf)), phase2_main,
    phase1_get _ (KMap.nodupKeys_of_sorted hw.c.ups)]
  by_cases hc : Logical.isChildKey k = true
  · have h3 : k ∉ d.c.deletes := fun h => ne_of_true_of_false hc (hd.delsNoChild k h) rfl
    simp [hc, h3, hd.upsCK k (Or.inr hc), hb.wf.noChild k hc]
  · have hc' : Logical.isChildKey k = false := Bool.eq_false_iff.mpr hc
    by_cases hk : k ∈ d.c.deletes
    · cases hck : CK k with
      | true => simp [hk, hc', hd.upsCK k (Or.inl hck), hb.mainCK k hck]
      | false =>
        have : kidOf (List.foldl applyKidI (List.foldl putMain b d.c.upserts)
            (d.kids.map (fun e => (e.1, e.2.upserts, e.2.deletes)))) k = [] := by
          rw [phase2_kid (d.kids.map _) (order_kids_nodup hw (sortedOrder_isOrder hw)).1,
            KMap.find_map fun c : CDiff => (c.upserts, c.deletes), hd.kidsCK k hck]
          exact (phase1_kid _ b k).trans (hb.kidsCK k hck)
        simp [hk, hc', this]
    · simp [hk, hc']

theorem eff_kid (hw : d.SortedD) (ck k : Bytes) :
    OMap.get k (kidOf (effL b d) ck) =
      if ck ∈ d.c.deletes then none
      else if k ∈ (d.kid ck).deletes then none
      else ov (KMap.find k (d.kid ck).upserts) (OMap.get k (kidOf b ck)) := by
  unfold effL applyIdeal
  simp only [Diff.sortedOrder]
  rw [phase3_kid]
  by_cases hk : ck ∈ d.c.deletes
  · rw [if_pos hk, if_pos hk]; rfl
  · rw [if_neg hk, if_neg hk]
    refine (order_kid_get hw (sortedOrder_isOrder hw) _ ck k).trans ?_
    rw [phase1_kid]
    unfold Diff.kid
    cases KMap.find ck d.kids <;> rfl

/-- `l` is the level of the diff `d` over the committed state `b`: component by component the
    overlay of the change set on the committed map; a child trie deleted in the transaction is empty -/
structure Lvl (CK : Bytes → Bool) (b : Logical) (d : Diff) (l : Logical) : Prop where
  dinv : DiffInv CK d
  linv : BaseInv CK l
  main : Overlay b.main d.c.upserts d.c.deletes l.main
  kid : ∀ ck, CK ck = true → ck ∉ d.c.deletes →
    Overlay (kidOf b ck) (d.kid ck).upserts (d.kid ck).deletes (kidOf l ck)
  dead : ∀ ck, ck ∈ d.c.deletes → kidOf l ck = []

theorem Lvl.unique (h : Lvl CK b d l) (h' : Lvl CK b d l') : l = l' := by
  refine Logical.ext h.linv.wf h'.linv.wf (fun k => (h.main.get k).trans (h'.main.get k).symm)
    fun ck k => ?_
  cases hck : CK ck with
  | false => rw [h.linv.kidsCK ck hck, h'.linv.kidsCK ck hck]
  | true =>
    by_cases hd : ck ∈ d.c.deletes
    · rw [h.dead ck hd, h'.dead ck hd]
    · exact ((h.kid ck hck hd).get k).trans ((h'.kid ck hck hd).get k).symm

theorem lvl_eff (hb : BaseInv CK b) (hd : DiffInv CK d) : Lvl CK b d (effL b d) := by
  have hw := effL_wf (d := d) hb.wf
  have nil_of : ∀ ck, (∀ k, OMap.get k (kidOf (effL b d) ck) = none) → kidOf (effL b d) ck = [] :=
    fun ck h => Classical.byContradiction fun hne => (get_head_ne_none hne).elim fun k hk => hk (h k)
  have dead : ∀ ck, ck ∈ d.c.deletes → kidOf (effL b d) ck = [] :=
    fun ck h => nil_of ck fun k => by rw [eff_kid hd.sorted, if_pos h]
  refine ⟨hd, ⟨hw, fun k hk => ?_, fun ck hck => ?_⟩,
    ⟨hb.wf.main, hd.sorted.c.ups, hw.main, hd.upsDel, eff_main hb hd⟩,
    fun ck _ hnd => ⟨kidOf_sorted hb.wf ck, (Diff.sorted_kid hd.sorted ck).ups, kidOf_sorted hw ck,
      (hd.kidOk ck).disj, fun x => by rw [eff_kid hd.sorted, if_neg hnd]⟩, dead⟩
  · rw [eff_main hb hd, hd.upsCK k (Or.inl hk), hb.mainCK k hk]
    split <;> rfl
  · by_cases h : ck ∈ d.c.deletes
    · exact dead ck h
    · refine nil_of ck fun k => ?_
      rw [eff_kid hd.sorted, if_neg h, kid_of_none (hd.kidsCK ck hck), hb.kidsCK ck hck]
      rfl

theorem Lvl.eq_eff (hb : BaseInv CK b) (h : Lvl CK b d l) : effL b d = l :=
  (lvl_eff hb h.dinv).unique h

theorem Lvl.kid_same (h : Lvl CK b d l) {ck : Bytes} (hck : CK ck = true)
    (hnd : ck ∉ d.c.deletes) (hf : KMap.find ck d.kids = none) : kidOf l ck = kidOf b ck := by
  have o := h.kid ck hck hnd
  rw [kid_of_none hf] at o
  exact OMap.sorted_ext o.sres o.sbase o.get

end

theorem isChildKey_root (ck : Bytes) : Logical.isChildKey (childPrefix ++ ck) = true := by
  unfold Logical.isChildKey
  exact isPrefixOf_append_self _ _

theorem view_get (Hc : Entries → Bytes) (l : Logical) (k : Bytes) (hk : Logical.isChildKey k = false) :
    OMap.get k (Logical.view Hc l) = OMap.get k l.main := by
  unfold Logical.view
  apply OMap.get_foldl_upsert_other
  intro e he
  unfold Logical.rootEntries at he
  obtain ⟨x, _, rfl⟩ := List.mem_map.mp he
  intro h
  rw [← h, isChildKey_root] at hk
  cases hk

theorem view_sorted (Hc : Entries → Bytes) {l : Logical} (h : OMap.Sorted l.main) :
    OMap.Sorted (Logical.view Hc l) :=
  sorted_foldl_upsert _ h

/-- `{ main := l.main, kids := b.kids }` is what `SS.mainView` reads (here and in `next_sim`,
    `ents_sim`): inside a transaction the child-root entries of the main trie are those of the last
    commit. -/
theorem view_overlay (Hc : Entries → Bytes) {CK : Bytes → Bool} {b l : Logical} {d : Diff}
    (hb : b.WF) (h : Lvl CK b d l) :
    Overlay (Logical.view Hc b) d.c.upserts d.c.deletes
      (Logical.view Hc { main := l.main, kids := b.kids }) := by
  have hd := h.dinv
  refine ⟨view_sorted Hc hb.main, hd.sorted.c.ups, view_sorted Hc h.linv.wf.main, hd.upsDel, ?_⟩
  intro x
  by_cases hc : Logical.isChildKey x = true
  · have h1 : x ∉ d.c.deletes := fun h => ne_of_true_of_false hc (hd.delsNoChild x h) rfl
    have h2 := hd.upsCK x (Or.inr hc)
    simp only [h1, if_false, h2, ov_none]
    unfold Logical.view
    rw [OMap.get_foldl_upsert, OMap.get_foldl_upsert, h.linv.wf.noChild x hc, hb.noChild x hc]
  · have hc' : Logical.isChildKey x = false := Bool.eq_false_iff.mpr hc
    rw [view_get Hc _ x hc', view_get Hc _ x hc', h.main.get]

section
variable (Hc Hm : Entries → Bytes) {CK : Bytes → Bool} {b l : Logical} {d : Diff}

theorem get_sim (h : Lvl CK b d l) (r : List Diff) (k : Bytes)
    (hk : Logical.isChildKey k = false) :
    getTS (idealBackend Hc Hm) { base := b, txs := d :: r } k = OMap.get k l.main := by
  rw [h.main.get]
  simp only [getTS]
  rw [cdiff_get_ov d.c k _ (h.dinv.upsDel k)]
  simp only [idealBackend]
  rw [view_get Hc b k hk]

theorem getChild_ideal (b : Logical) (ck : Bytes) :
    (idealBackend Hc Hm).getChild b ck =
      match KMap.find ck b.kids with
      | none => .missing
      | some es => .present es := rfl

theorem getFromChildB_ideal (b : Logical) (ck k : Bytes) :
    getFromChildB (idealBackend Hc Hm) b ck k = .val (OMap.get k (kidOf b ck)) := by
  unfold getFromChildB kidOf
  simp only [idealBackend]
  cases KMap.find ck b.kids with
  | none => simp [OMap.get]
  | some es => simp [omapOps]

theorem getFromChild_eq (d : Diff) (ck k : Bytes) : d.getFromChild ck k = (d.kid ck).get k := by
  unfold Diff.getFromChild Diff.kid
  cases KMap.find ck d.kids <;> rfl

theorem cget_sim (h : Lvl CK b d l) (r : List Diff) (ck k : Bytes) (hck : CK ck = true) :
    getChildStorageTS (idealBackend Hc Hm) { base := b, txs := d :: r } ck k =
      .val (OMap.get k (kidOf l ck)) := by
  by_cases hdel : ck ∈ d.c.deletes
  · rw [h.dead ck hdel]
    simp only [getChildStorageTS, KSet.has_iff.mpr hdel, if_true]
    rfl
  · simp only [getChildStorageTS]
    rw [if_neg (mt KSet.has_iff.mp hdel), getFromChild_eq, getFromChildB_ideal,
      ← apply_ite Out.val, cdiff_get_ov _ k _ ((h.dinv.kidOk ck).disj k), ← (h.kid ck hck hdel).get]

theorem next_sim (hb : BaseInv CK b) (h : Lvl CK b d l) (r : List Diff) (k : Bytes) :
    nextKeyTS (idealBackend Hc Hm) { base := b, txs := d :: r } k =
      OMap.nextKey k (Logical.view Hc { main := l.main, kids := b.kids }) := by
  rw [(view_overlay Hc hb.wf h).next k]
  simp only [nextKeyTS, idealBackend]
  rw [h.dinv.sk, nextSorted_eq _ _ (KMap.sorted_keys h.dinv.sorted.c.ups)]

theorem ents_sim (hb : BaseInv CK b) (h : Lvl CK b d l) (r : List Diff) :
    trieEntriesTS (idealBackend Hc Hm) { base := b, txs := d :: r } =
      (Logical.view Hc { main := l.main, kids := b.kids }).map (fun e => (e.1, some e.2)) := by
  rw [← (view_overlay Hc hb.wf h).entries]
  simp only [trieEntriesTS, idealBackend]

-- trap: this `match` has its own matcher and does not unify with the one inside `getChildNextKeyTS` (see `cnext_nil`)
theorem cnext_base (b : Logical) (ck k : Bytes) :
    (match (idealBackend Hc Hm).getChild b ck with
      | .present c => Out.val ((idealBackend Hc Hm).T.nextKey c k)
      | _ => Out.val none) = Out.val (OMap.nextKey k (kidOf b ck)) := by
  rw [getChild_ideal]
  unfold kidOf
  cases KMap.find ck b.kids with
  | none | some es => rfl

/-- `GetChildNextKey` with no transaction open (also the fall-through inside a transaction) -/
theorem cnext_nil (b : Logical) (ck k : Bytes) :
    getChildNextKeyTS (idealBackend Hc Hm) { base := b, txs := [] } ck k =
      .val (OMap.nextKey k (kidOf b ck)) := by
  simp only [getChildNextKeyTS]
  rw [getChild_ideal]
  unfold kidOf
  cases KMap.find ck b.kids <;> rfl

theorem cnext_sim (h : Lvl CK b d l) (r : List Diff) (ck k : Bytes)
    (hck : CK ck = true) :
    getChildNextKeyTS (idealBackend Hc Hm) { base := b, txs := d :: r } ck k =
      .val (OMap.nextKey k (kidOf l ck)) := by
  have hd := h.dinv
  simp only [getChildNextKeyTS]
  by_cases hdel : ck ∈ d.c.deletes
  · rw [if_pos (KSet.has_iff.mpr hdel), h.dead ck hdel]
    rfl
  · rw [if_neg (mt KSet.has_iff.mp hdel)]
    cases hf : KMap.find ck d.kids with
    | none =>
      rw [h.kid_same hck hdel hf]
      exact cnext_nil Hc Hm b ck k
    | some ch =>
      have ho := kid_of_find hf ▸ h.kid ck hck hdel
      have hs := KMap.sorted_keys (hd.sorted.kid (ck, ch) (KMap.find_some_mem hf)).ups
      simp only []
      rw [ho.next k, getChild_ideal, hd.kidSk ck ch hf, nextSorted_eq _ _ hs]
      unfold kidOf
      cases KMap.find ck b.kids with
      | none =>
        -- no committed child: nothing to merge with
        show Out.val _ = Out.val (mergeNext _ none)
        cases firstGt k (KMap.keys ch.upserts) <;> rfl
      | some es => rfl

theorem ckeys_base (b : Logical) (hb : b.WF) (ck p : Bytes) :
    (match (idealBackend Hc Hm).getChild b ck with
      | .present c => Out.keys (sortKeys ((idealBackend Hc Hm).T.keysWithPrefix c p))
      | _ => Out.keys []) = Out.keys (OMap.keysWithPrefix p (kidOf b ck)) := by
  rw [getChild_ideal]
  have hs := kidOf_sorted hb ck
  unfold kidOf at hs ⊢
  cases hf : KMap.find ck b.kids with
  | none => rfl
  | some es =>
    rw [hf] at hs
    simp only [Option.getD_some] at hs ⊢
    simp only [idealBackend, omapOps]
    rw [sortKeys_sorted (keysWithPrefix_sorted hs p)]

/-- `GetKeysWithPrefixFromChild` with no transaction open (also the fall-through inside one) -/
theorem ckeys_nil (b : Logical) (hw : b.WF) (ck p : Bytes) :
    getKeysWithPrefixFromChildTS (idealBackend Hc Hm) { base := b, txs := [] } ck p =
      .keys (OMap.keysWithPrefix p (kidOf b ck)) := by
  simp only [getKeysWithPrefixFromChildTS]
  rw [getChild_ideal]
  cases hfb : KMap.find ck b.kids with
  | none => rw [kidOf_none hfb]; rfl
  | some es =>
    simp only [kidOf_some hfb, idealBackend, omapOps]
    rw [sortKeys_sorted (keysWithPrefix_sorted (hw.kid ck es hfb).1 p)]

theorem ckeys_sim (hb : BaseInv CK b) (h : Lvl CK b d l) (r : List Diff) (ck p : Bytes)
    (hck : CK ck = true) :
    getKeysWithPrefixFromChildTS (idealBackend Hc Hm) { base := b, txs := d :: r } ck p =
      .keys (OMap.keysWithPrefix p (kidOf l ck)) := by
  simp only [getKeysWithPrefixFromChildTS]
  by_cases hdel : ck ∈ d.c.deletes
  · rw [if_pos (KSet.has_iff.mpr hdel), h.dead ck hdel]
    rfl
  · rw [if_neg (mt KSet.has_iff.mp hdel)]
    cases hf : KMap.find ck d.kids with
    | none =>
      rw [h.kid_same hck hdel hf]
      exact ckeys_nil Hc Hm b hb.wf ck p
    | some ch =>
      have ho := kid_of_find hf ▸ h.kid ck hck hdel
      have he := ho.entries
      rw [getChild_ideal]
      cases hfb : KMap.find ck b.kids with
      | none =>
        rw [kidOf_none hfb] at he ho
        rw [List.map_nil] at he
        by_cases hemp : ch.upserts.isEmpty = true
        · -- neither committed nor written keys: the child map of the level is empty
          have : kidOf l ck = [] := ho.res_nil_iff.mpr (List.isEmpty_iff.mp hemp)
          simp only [hemp, if_true, this]
          rfl
        · simp only [hemp]
          rw [he, keys_filter_map]
          rfl
      | some es =>
        rw [kidOf_some hfb] at he
        simp only [idealBackend, omapOps]
        rw [he, keys_filter_map]

end

end Gossamer.C08
