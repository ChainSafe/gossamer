/-
The supermajority thresholds of the two GRANDPA implementations as arithmetic on natural numbers:
lib/grandpa compares a number of votes with `⌊2n/3⌋` (`State.threshold()`), pkg/finality-grandpa a weight
with `total - ⌊(total-1)/3⌋` (`threshold(total)`).  C18, C19, C20, C21 and C22 each have their own copy of the
threshold function, as the code has; what they say about it comes from here.
-/
namespace Gossamer.Threshold

theorem two_thirds_lt (n w : Nat) : 2 * n / 3 < w ↔ 2 * n < 3 * w := by omega

theorem fg_le (t w : Nat) (h : 1 ≤ t) : t - (t - 1) / 3 ≤ w ↔ 2 * t < 3 * w := by omega

/-- finality-grandpa's tolerated faulty weight `t - threshold(t)` is less than a third of `t` -/
theorem fg_faulty_lt {t : Nat} (h : 1 ≤ t) : 3 * (t - (t - (t - 1) / 3)) < t := by omega

/-- a subtraction that does not underflow, evaluated with wrap-around modulo `M` (Go's unsigned integers) -/
theorem wrap_sub {M a b : Nat} (hb : b ≤ a) (ha : a < M) : (M + a - b) % M = a - b := by
  rw [Nat.add_sub_assoc hb, Nat.add_mod_left, Nat.mod_eq_of_lt (Nat.lt_of_le_of_lt (Nat.sub_le a b) ha)]

end Gossamer.Threshold
