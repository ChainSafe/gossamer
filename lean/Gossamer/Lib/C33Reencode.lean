/-
C33: a message a decoder produced, encoded by the Go `Encode`, decodes to itself.  The SCALE part
rests on `C11.unmarshal_good` (Lib/C11Decode): what a successful `Unmarshal` returned, on any input,
is a well-typed value whose `uint` leaves and sequence lengths the Go decoder accepts back.
-/
import Gossamer.Model.C33
import Gossamer.Lib.C11Decode
import Gossamer.Lib.C33WireLemmas
import Gossamer.Lib.AList
namespace Gossamer.C33
open Gossamer Gossamer.Scale Gossamer.Proto

/-! The glue functions of Model/C33 chain their steps as Go does (`if err != nil { return }`), by
nested matches; the `_eq` / `_cons` equations below say so with `Out.bind`, and what holds of `bind`
is proved once. -/

def Out.bind {α β : Type} (o : Out α) (f : α → Out β) : Out β :=
  match o with
  | .ok a => f a
  | .err => .err
  | .panic => .panic

theorem Out.bind_eq_ok {α β : Type} {o : Out α} {f : α → Out β} {b : β} (h : o.bind f = .ok b) :
    ∃ a, o = .ok a ∧ f a = .ok b := by
  cases o with
  | ok a => exact ⟨a, rfl, h⟩
  | err => cases h
  | panic => cases h

theorem Out.bind_ne_panic {α β : Type} {o : Out α} {f : α → Out β} (ho : o ≠ .panic)
    (hf : ∀ a, f a ≠ .panic) : o.bind f ≠ .panic := by
  cases o with
  | ok a => exact hf a
  | err => intro h; cases h
  | panic => exact absurd rfl ho

theorem protobufToBlockData_eq (d : Proto.BlockData) :
    protobufToBlockData d = (headerOf d.header).bind fun h => (bodyOf d.body).bind fun b =>
      .ok ⟨bytesToHash d.hash, h, b, optBytesOf d.receipt, optBytesOf d.messageQueue,
        justOf d.justification d.isEmptyJustification⟩ := by
  unfold protobufToBlockData
  cases headerOf d.header <;> try rfl
  cases bodyOf d.body <;> rfl

theorem blockDatas_cons (d : Proto.BlockData) (ds : List Proto.BlockData) :
    blockDatas (d :: ds) =
      (protobufToBlockData d).bind fun m => (blockDatas ds).bind fun ms => .ok (m :: ms) := by
  rw [blockDatas]
  cases protobufToBlockData d <;> try rfl
  cases blockDatas ds <;> rfl

theorem decodeBlockResponse_eq (bs : Bytes) :
    decodeBlockResponse bs = match (goParse bs).bind blocksOf with
      | none => .err
      | some ds => (blockDatas ds).bind fun ms => .ok (.blockResp ms) := by
  unfold decodeBlockResponse
  cases goParse bs with
  | none => rfl
  | some fs =>
    dsimp only [Option.bind]
    cases blocksOf fs with
    | none => rfl
    | some ds => dsimp only; cases blockDatas ds <;> rfl

theorem unmarshalTop_ok {t : Ty} {bs : Bytes} {v : Val} (h : unmarshalTop t bs = .ok v) :
    ∃ r, C11.unmarshal t bs = some (v, r) := by
  unfold unmarshalTop at h
  cases hu : C11.unmarshal t bs with
  | none => simp [hu] at h
  | some p =>
    obtain ⟨w, r⟩ := p
    simp only [hu, Out.ok.injEq] at h
    exact ⟨r, by rw [h]⟩

/-- what `scale.Unmarshal` returned survives `Marshal` then `Unmarshal` -/
theorem unmarshal_reencode (t : Ty) (hwf : t.wf = true) (bs : Bytes) (v : Val) (r : Bytes)
    (h : C11.unmarshal t bs = some (v, r)) :
    C11.unmarshal t (C11.marshal t v) = some (v, []) := by
  have ⟨w, l⟩ := C11.unmarshal_good t hwf bs v r h
  simpa using C11.unmarshal_marshal t v [] w l

theorem scale_reencode (t : Ty) (hwf : t.wf = true) (bs : Bytes) (v : Val)
    (h : unmarshalTop t bs = .ok v) : unmarshalTop t (C11.marshal t v) = .ok v := by
  obtain ⟨r, hu⟩ := unmarshalTop_ok h
  simp [unmarshalTop, unmarshal_reencode t hwf bs v r hu]

theorem scaleMsg_ok {o : Out Val} {m : Msg} (h : scaleMsg o = .ok m) : ∃ v, o = .ok v ∧ m = .scale v := by
  cases o <;> simp [scaleMsg] at h
  exact ⟨_, rfl, h.symm⟩

theorem grandpaGlue_ok {v : Val} {m : Msg} (h : grandpaGlue v = .ok m) : m = .scale v := by
  unfold grandpaGlue at h
  split at h
  · split at h <;> simp at h; exact h.symm
  all_goals (simp at h; try exact h.symm)

theorem wf_body : bodyTy.wf = true := by decide
theorem wf_header : headerTy.wf = true := by decide

theorem reencode_ne_nil {t : Ty} (hwf : t.wf = true) (hnil : C11.unmarshal t [] = none) {bs : Bytes}
    {v : Val} {r : Bytes} (hu : C11.unmarshal t bs = some (v, r)) :
    C11.marshal t v ≠ [] ∧ C11.unmarshal t (C11.marshal t v) = some (v, []) := by
  have hre := unmarshal_reencode t hwf bs v r hu
  refine ⟨fun he => ?_, hre⟩
  rw [he, hnil] at hre; cases hre

theorem newBodyFromBytes_reencode (bs : Bytes) (v : Val) (h : newBodyFromBytes bs = some v) :
    newBodyFromBytes (C11.marshal bodyTy v) = some v := by
  unfold newBodyFromBytes at h
  by_cases hb : bs = []
  · rw [if_pos hb] at h; cases h; rfl
  · rw [if_neg hb] at h
    cases hu : C11.unmarshal bodyTy bs with
    | none => rw [hu] at h; cases h
    | some p =>
      rw [hu] at h; cases h
      have ⟨hne, hre⟩ := reencode_ne_nil wf_body (C11.unmarshal_seq_nil _) hu
      rw [newBodyFromBytes, if_neg hne, hre]

theorem pow256_8' : (256 : Nat) ^ 8 = 18446744073709551616 := pow256_8

theorem entries_stream (vs : List Val) (hl : vs.length < maxSeqLen) :
    C11.encodeBigInt (entriesOf (.list vs)).length ++ (entriesOf (.list vs)).flatten
      = C11.marshal bodyTy (.list vs) := by
  rw [entriesOf, List.length_map]; exact C11.marshal_seq_stream bytesT vs hl

theorem body_nonempty {exts : List Bytes} (he : exts ≠ []) {v : Val}
    (hn : newBodyFromEncodedBytes exts = some v) :
    ∃ vs, v = .list vs ∧ vs ≠ [] ∧ vs.length < maxSeqLen := by
  obtain ⟨b0, tl, hb0, hne0⟩ := C11.encodeBigInt_head exts.length (List.length_pos_iff.2 he)
  unfold newBodyFromEncodedBytes newBodyFromBytes at hn
  rw [hb0, List.cons_append, if_neg (List.cons_ne_nil _ _)] at hn
  cases hu : C11.unmarshal bodyTy (b0 :: (tl ++ exts.flatten)) with
  | none => rw [hu] at hn; cases hn
  | some p =>
    obtain ⟨w, r⟩ := p
    rw [hu] at hn; cases hn
    obtain ⟨vs, rfl, hlen, _⟩ := wt_seq (C11.unmarshal_good bodyTy wf_body _ _ _ hu).1
    refine ⟨vs, rfl, ?_, hlen⟩
    rintro rfl
    -- an empty result means the decoded length is zero, so the count byte is
    obtain ⟨r0, hd⟩ := seq_nil_len C11.codec bytesT _ _ hu
    exact hne0 (C11.decodeUintV_zero b0 _ r0 hd)

theorem bodyOf_reencode (exts : List Bytes) (b : Option Val) (h : bodyOf exts = .ok b) :
    bodyOf (bodyEntries b) = .ok b := by
  unfold bodyOf at h
  by_cases he : exts = []
  · rw [if_pos he] at h; cases h; rfl
  · rw [if_neg he] at h
    cases hn : newBodyFromEncodedBytes exts with
    | none => rw [hn] at h; cases h
    | some v =>
      rw [hn] at h; cases h
      obtain ⟨vs, rfl, hvs, hlen⟩ := body_nonempty he hn
      have hent : entriesOf (.list vs) ≠ [] := fun hm => hvs (List.map_eq_nil_iff.mp hm)
      -- the re-encoded entries, concatenated behind their count, are `Marshal` of the body
      show bodyOf (entriesOf (.list vs)) = _
      rw [bodyOf, if_neg hent, newBodyFromEncodedBytes, entries_stream vs hlen,
        newBodyFromBytes_reencode _ _ hn]

theorem unmarshal_header_nil : C11.unmarshal headerTy [] = none := by
  decide

theorem headerOf_reencode (b : Bytes) (h : Option Val) (hh : headerOf b = .ok h) :
    headerOf (headerBytes h) = .ok h := by
  unfold headerOf at hh
  by_cases hb : b = []
  · rw [if_pos hb] at hh; cases hh; rfl
  · rw [if_neg hb] at hh
    cases hu : C11.unmarshal headerTy b with
    | none => rw [hu] at hh; cases hh
    | some p =>
      rw [hu] at hh; cases hh
      have ⟨hne, hre⟩ := reencode_ne_nil wf_header unmarshal_header_nil hu
      show headerOf (C11.marshal headerTy _) = _
      rw [headerOf, if_neg hne, hre]

theorem length_bytesToHash (b : Bytes) : (bytesToHash b).length = 32 := by
  unfold bytesToHash
  by_cases h : b.length > 32
  · simp only [h, if_true, List.length_append, List.length_replicate, List.length_drop]; omega
  · simp only [h, if_false, List.length_append, List.length_replicate]; omega

theorem bytesToHash_of_32 {b : Bytes} (h : b.length = 32) : bytesToHash b = b := by
  unfold bytesToHash
  simp [h]

theorem optBytes_reencode (b : Bytes) : optBytesOf (optToBytes (optBytesOf b)) = optBytesOf b := by
  unfold optBytesOf optToBytes
  by_cases h : b = [] <;> simp [h]

theorem just_reencode (o : Option Bytes) : justOf (optToBytes o) (o == some []) = o := by
  cases o with
  | none => simp [justOf, optToBytes]
  | some b =>
    by_cases h : b = []
    · subst h; simp [justOf, optToBytes]
    · simp [justOf, optToBytes, h]

theorem block_reencode (d : Proto.BlockData) (m : BlockDataMsg) (h : protobufToBlockData d = .ok m) :
    protobufToBlockData (blockDataToProto m) = .ok m := by
  rw [protobufToBlockData_eq] at h
  obtain ⟨hd, hh, h⟩ := Out.bind_eq_ok h
  obtain ⟨bd, hb, h⟩ := Out.bind_eq_ok h
  cases h
  rw [protobufToBlockData_eq]
  simp only [blockDataToProto, headerOf_reencode _ _ hh, bodyOf_reencode _ _ hb, optBytes_reencode,
    just_reencode, bytesToHash_of_32 (length_bytesToHash d.hash), Out.bind]

theorem blockDatas_reencode (ds : List Proto.BlockData) : ∀ (ms : List BlockDataMsg),
    blockDatas ds = .ok ms → blockDatas (ms.map blockDataToProto) = .ok ms := by
  induction ds with
  | nil => intro ms h; cases h; rfl
  | cons d ds ih =>
    intro ms h
    rw [blockDatas_cons] at h
    obtain ⟨m, hd, h⟩ := Out.bind_eq_ok h
    obtain ⟨ms', hr, h⟩ := Out.bind_eq_ok h
    cases h
    simp only [List.map_cons, blockDatas_cons, block_reencode _ _ hd, ih ms' hr, Out.bind]

/-- the `uint32` fields are truncated as they are stored, whatever the wire carries -/
theorem step_wf (m : Proto.BlockRequest) (f : WField) (h : m.wf) : (BlockRequest.step m f).wf := by
  unfold BlockRequest.step
  split
  all_goals first
    | exact h
    | exact ⟨Nat.mod_lt _ (by decide), h.2⟩
    | exact ⟨h.1, Nat.mod_lt _ (by decide)⟩

theorem ofFields_wf (fs : List WField) : (BlockRequest.ofFields fs).wf :=
  foldl_pres BlockRequest.wf BlockRequest.step step_wf fs ⟨by decide, by decide⟩

theorem le32_of_length {b : Bytes} (h : b.length = 4) : le32? b = some (natOfLE b) := by
  rw [le32?, if_neg (by omega), List.take_of_length_le (Nat.le_of_eq h)]

theorem le32_leBytes (n : Nat) (h : n < 4294967296) : le32? (leBytes 4 n) = some n := by
  rw [le32_of_length (length_leBytes 4 n), natOfLE_leBytes_lt (pow256_4 ▸ h)]

theorem le32_lt (b : Bytes) (n : Nat) (h : le32? b = some n) : n < 4294967296 := by
  unfold le32? at h
  split at h
  · cases h
  · cases h
    exact Nat.lt_of_lt_of_le (natOfLE_lt _) (pow256_mono (List.length_take_le 4 b))

/-- the shape of what `BlockRequestMessage.Decode` returns (`blockRequestGlue_ok`): already in
    normal form (`max = some k` only for `k ≠ 0`, a start number below 2^32), which is why
    `blockRequest_roundtrip` is exact where C14's round trip is up to `norm` -/
def ReqOk (r : BlockReqMsg) : Prop :=
  r.requestedData < 256 ∧ r.direction < 256 ∧ (∀ k, r.max = some k → k ≠ 0 ∧ k < 4294967296) ∧
    match r.start with
    | .number n => n < 4294967296
    | .hash h => h.length = 32

theorem blockRequestGlue_ok (msg : Proto.BlockRequest) (m : Msg) (hm : msg.maxBlocks < 4294967296)
    (h : blockRequestGlue msg = .ok m) : ∃ r, m = .blockReq r ∧ ReqOk r := by
  have hmax : ∀ k, (if msg.maxBlocks ≠ 0 then some msg.maxBlocks else none) = some k →
      k ≠ 0 ∧ k < 4294967296 := by
    intro k hk; split at hk
    · cases hk; exact ⟨‹_›, hm⟩
    · cases hk
  have hrd : msg.fields / 16777216 % 256 < 256 := Nat.mod_lt _ (by decide)
  have hdir : msg.direction % 256 < 256 := Nat.mod_lt _ (by decide)
  unfold blockRequestGlue at h
  cases hfb : msg.fromBlock with
  | unset => simp [hfb] at h
  | hash b =>
    simp only [hfb, Bool.false_eq_true, if_false, Out.ok.injEq] at h
    exact ⟨_, h.symm, hrd, hdir, hmax, length_bytesToHash b⟩
  | number b =>
    simp only [hfb] at h
    by_cases hl : b.length ≠ 4
    · simp [hl] at h
    · cases hle : le32? b with
      | none => simp [hl, hle] at h
      | some n =>
        simp only [hl, hle, Bool.false_eq_true, if_false, Out.ok.injEq] at h
        exact ⟨_, h.symm, hrd, hdir, hmax, le32_lt b n hle⟩

theorem blockRequest_roundtrip (r : BlockReqMsg) (h : ReqOk r) :
    decodeBlockRequest (blockReqToProto r).encodeGo = .ok (.blockReq r) := by
  obtain ⟨rd, st, dir, mx⟩ := r
  obtain ⟨h1, h2, h3, h4⟩ := h
  simp only at h1 h2 h3 h4
  have hmx : mx.getD 0 < 4294967296 ∧ (if mx.getD 0 ≠ 0 then some (mx.getD 0) else none) = mx := by
    cases mx with
    | none => exact ⟨by decide, rfl⟩
    | some k => exact ⟨(h3 k rfl).2, if_pos (h3 k rfl).1⟩
  have hok : ∀ f ∈ (blockReqToProto ⟨rd, st, dir, mx⟩).toFieldsGo, FieldOk f := by
    intro f hf
    simp only [BlockRequest.toFieldsGo, blockReqToProto, List.mem_append, mem_scalar] at hf
    rcases hf with ⟨_, rfl⟩ | ⟨_, rfl⟩ | ⟨_, rfl⟩ | hf
    · exact ⟨Nat.succ_pos _, Nat.le_of_ble_eq_true rfl, show 16777216 * rd < _ by omega⟩
    · exact ⟨Nat.succ_pos _, Nat.le_of_ble_eq_true rfl, show dir < _ by omega⟩
    · exact ⟨Nat.succ_pos _, Nat.le_of_ble_eq_true rfl, show mx.getD 0 < _ by omega⟩
    · cases st with
      | number n =>
        simp only [FromBlock.toFields, List.mem_singleton] at hf
        subst hf
        exact ⟨Nat.succ_pos _, Nat.le_of_ble_eq_true rfl, show (leBytes 4 _).length < _ by rw [length_leBytes]; decide⟩
      | hash b =>
        simp only [FromBlock.toFields, List.mem_singleton] at hf
        subst hf
        exact ⟨Nat.succ_pos _, Nat.le_of_ble_eq_true rfl, show b.length < _ by rw [h4]; decide⟩
  have hwf : (blockReqToProto ⟨rd, st, dir, mx⟩).wf := ⟨show 16777216 * rd < _ by omega, hmx.1⟩
  unfold decodeBlockRequest BlockRequest.encodeGo
  rw [goParse_encFields _ hok]
  simp only
  rw [BlockRequest.ofFields_toFieldsGo _ hwf]
  have e1 : 16777216 * rd / 16777216 % 256 = rd := by omega
  have e2 : dir % 256 = dir := Nat.mod_eq_of_lt h2
  cases st with
  | number n =>
    have hgt : ¬ n > 4294967295 := by omega
    simp only [blockRequestGlue, blockReqToProto, hgt, if_false, length_leBytes, ne_eq, not_true_eq_false,
      le32_leBytes n h4, Bool.false_eq_true, e1, e2]
    exact congrArg (fun x => Out.ok (Msg.blockReq ⟨rd, .number n, dir, x⟩)) hmx.2
  | hash b =>
    simp only [blockRequestGlue, blockReqToProto, Bool.false_eq_true, if_false, bytesToHash_of_32 h4, e1, e2]
    exact congrArg (fun x => Out.ok (Msg.blockReq ⟨rd, .hash b, dir, x⟩)) hmx.2

theorem foldl_start (m : StateReqP) (bs : List Bytes) :
    (bs.map (fun b => (⟨2, .len b⟩ : WField))).foldl StateReqP.step m = { m with start := m.start ++ bs } := by
  induction bs generalizing m with
  | nil => simp
  | cons b bs ih =>
    have := ih (StateReqP.step m ⟨2, .len b⟩)
    simp only [List.map_cons, List.foldl_cons] at this ⊢
    rw [this]; simp [StateReqP.step]

theorem StateReqP.ofFields_toFields (m : StateReqP) : StateReqP.ofFields m.toFields = m := by
  obtain ⟨b, st, np⟩ := m
  simp only [StateReqP.ofFields, StateReqP.toFields, List.foldl_append, foldl_start]
  by_cases hb : b = [] <;> cases np <;> simp [optBytes, flag, StateReqP.step, hb]

theorem stateReq_shape (m : StateReqP) :
    ∀ f ∈ m.toFields, (1 ≤ f.num ∧ f.num ≤ 7) ∧ ∀ n, f.val = .varint n → n < 18446744073709551616 := by
  intro f hf
  simp only [StateReqP.toFields, List.mem_append, mem_optBytes, List.mem_map, mem_flag] at hf
  rcases hf with ⟨_, rfl⟩ | ⟨_, _, rfl⟩ | ⟨_, rfl⟩
  iterate 2 exact ⟨⟨Nat.succ_pos _, Nat.le_of_ble_eq_true rfl⟩, nofun⟩
  exact ⟨⟨Nat.succ_pos _, Nat.le_of_ble_eq_true rfl⟩, fun n hn => by cases hn; decide⟩

end Gossamer.C33
