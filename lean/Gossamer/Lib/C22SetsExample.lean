/-
A concrete execution over TWO authority sets (non-vacuity of `C22_safe_sets`): set 0 runs the execution of
Lib/C22Example up to the finalisation of block 1, which is the handover block; in set 1 voter 0 prevotes block 3, a
descendant of the handover block.
-/
import Gossamer.Lib.C22Sets
import Gossamer.Lib.C22Example
namespace Gossamer.C22
namespace Example

def P : SetParams (Fin 4) := ⟨fun _ => vs, fun s => if s = 0 then 1 else 3⟩

theorem P_limits : ∀ s, fork4.le (P.limit s) (P.limit (s + 1)) = true := by
  intro s
  cases s with
  | zero => decide
  | succ k => simp [P]; decide

def u1 : State (Fin 4) := cast State.init ⟨0, .prevote, 0, 3⟩
def μ14 : MState (Fin 4) := upd (upd (fun _ => State.init) 0 t13) 1 u1

/-- the cap holds: every vote of `t13` is for the handover block itself -/
theorem q13 : MReachable P fork4 (upd (fun _ => State.init) 0 t13) :=
  MReachable.of_set0 (P := P) r13 (by decide)

theorem q14 : MReachable P fork4 μ14 :=
  .step _ _ q13 (MStep.mk _ 1 u1
    (Step.prevote State.init 0 3 (by decide) (by decide) (by intro q hq; simp [State.init] at hq))
    (by
      -- the rules tie precommits only, and the one vote of this step is a prevote
      intro m hm _ _ hst
      have : ∀ m ∈ u1.sent, m.stage = .prevote := by decide
      rw [this m hm] at hst
      cases hst))

end Example

end Gossamer.C22
