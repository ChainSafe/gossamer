/-
A second invariant of the block state of Model/C17, about the header table: it holds the finalised chain only,
every stored record is the universe's header of its hash, and no known header has the zero hash.  It is what makes
`GetHeader` parent links decrease the number (termination of `findAncestor` across finalisation).
-/
import Gossamer.Lib.C17Step
namespace Gossamer.C26
open Gossamer.C17

structure DbInv (blk : Nat → Blk) (g : Blk) (bs : C17.St) : Prop where
  treeU : ∀ b ∈ bs.tree, b = blk b.hash
  dbU : ∀ h x, findB bs.dbHdr h = some x → x = blk h
  treeNum : ∀ rb, findB bs.tree bs.root = some rb → ∀ b ∈ bs.tree, b.hash ≠ bs.root → rb.number < b.number
  dbTree : ∀ h x, findB bs.dbHdr h = some x → h ≠ bs.root → findB bs.tree h = none
  /-- about the HEADER table, not the number table `St.dbNum` -/
  dbNum : ∀ rb, findB bs.tree bs.root = some rb → ∀ h x, findB bs.dbHdr h = some x → x.number ≤ rb.number
  dbParent : ∀ h x, findB bs.dbHdr h = some x → h ≠ g.hash →
    ∃ p, findB bs.dbHdr x.parent = some p ∧ p.number + 1 = x.number
  nozeroT : findB bs.tree 0 = none
  nozeroD : findB bs.dbHdr 0 = none

theorem DbInv_init (blk : Nat → Blk) (g : Blk) (hg : blk g.hash = g) (h0 : g.hash ≠ 0) :
    DbInv blk g (C17.St.init g) := by
  -- tree and header table hold the genesis block only
  have htr : ∀ b ∈ (C17.St.init g).tree, b = g := fun b hb => List.mem_singleton.mp hb
  have hdb : ∀ h x, findB (C17.St.init g).dbHdr h = some x → h = g.hash ∧ x = g := fun h x hx =>
    ⟨(findB_hash hx).symm.trans (congrArg _ (htr x (findB_mem hx))), htr x (findB_mem hx)⟩
  have hz : findB [g] 0 = none := by rw [findB_cons, if_neg h0, findB_nil]
  exact {
    treeU := fun b hb => by rw [htr b hb, hg]
    dbU := fun h x hx => by rw [(hdb h x hx).1, (hdb h x hx).2, hg]
    treeNum := fun rb _ b hb hr => absurd (congrArg _ (htr b hb)) hr
    dbTree := fun h x hx hr => absurd (hdb h x hx).1 hr
    dbNum := fun rb hrb h x hx => by rw [(hdb h x hx).2, htr rb (findB_mem hrb)]; exact Nat.le_refl _
    dbParent := fun h x hx hr => absurd (hdb h x hx).1 hr
    nozeroT := hz
    nozeroD := hz }

theorem DbInv_add {blk : Nat → Blk} {g : Blk} {bs : C17.St} (inv : Inv g bs) (d : DbInv blk g bs) (h : Nat)
    (hh : (blk h).hash = h) (h0 : h ≠ 0) : DbInv blk g (addBlock bs (blk h)).1 := by
  rcases addBlock_cases bs (blk h) with he | ⟨p, hp, hnone, hn, heq⟩
  · rw [he]; exact d
  · rw [heq]
    obtain ⟨r, hrt⟩ := Option.isSome_iff_exists.mp inv.tree.rootIn
    -- the root is found in the old part of the tree
    have hroot : ∀ rb, findB (bs.tree ++ [blk h]) bs.root = some rb → findB bs.tree bs.root = some rb :=
      fun rb hrb => hrt.trans ((findB_append_left hrt _).symm.trans hrb)
    have hpt := findB_mem hp
    have hbnum : ∀ rb, findB bs.tree bs.root = some rb → rb.number < (blk h).number := by
      intro rb hrb
      by_cases hpr : p.hash = bs.root
      · have : p = rb := inv.tree.uniq.eq_of_hash hpt (findB_mem hrb) (hpr.trans (findB_hash hrb).symm)
        subst this; omega
      · have := d.treeNum rb hrb p hpt hpr; omega
    refine ⟨?treeU, d.dbU, ?treeNum, ?dbTree, fun rb hrb => d.dbNum rb (hroot rb hrb), d.dbParent, ?nozeroT, d.nozeroD⟩
    case treeU =>
      intro b hb
      rcases List.mem_append.mp hb with hb | hb
      · exact d.treeU b hb
      · rw [List.mem_singleton.mp hb, hh]
    case treeNum =>
      intro rb hrb b hb hr
      rcases List.mem_append.mp hb with hb | hb
      · exact d.treeNum rb (hroot rb hrb) b hb hr
      · rw [List.mem_singleton.mp hb]; exact hbnum rb (hroot rb hrb)
    case dbTree =>
      intro x y hy hr
      refine (findB_concat (d.dbTree x y hy hr) _).trans (if_neg fun hx => ?_)
      -- the new block is above the root, a header-table entry is not
      rw [hh] at hx
      subst hx
      have h1 := d.dbNum r hrt h y hy
      have h2 := hbnum r hrt
      rw [d.dbU h y hy] at h1; omega
    case nozeroT =>
      exact (findB_concat d.nozeroT _).trans (if_neg fun e => h0 (hh.symm.trans e))

theorem DbInv_moved {blk : Nat → Blk} {g : Blk} {bs bs' : C17.St} (inv : Inv g bs) (d : DbInv blk g bs)
    {h r s : Nat} {rb hn : Blk} {rest : List Blk} (m : Moved bs h r s rb hn rest bs') (hne : h ≠ bs.root) :
    DbInv blk g bs' := by
  have f := m.facts inv.tree hne
  have hrootFind : findB bs'.tree bs'.root = some hn := m.findRoot inv.tree
  -- a header-table entry after the move is a path block or an old entry
  have hsplit : ∀ x y, findB bs'.dbHdr x = some y → (y ∈ rest ∧ y.hash = x) ∨ (x ∉ rest.map (·.hash) ∧ findB bs.dbHdr x = some y) := by
    intro x y hy
    by_cases hx : x ∈ rest.map (·.hash)
    · obtain ⟨c, hc, hch⟩ := List.mem_map.mp hx
      have := m.dbNew c hc
      rw [hch, hy] at this
      cases this
      exact .inl ⟨hc, hch⟩
    · rw [m.dbOld x hx] at hy
      exact .inr ⟨hx, hy⟩
  have hkept : ∀ b ∈ bs'.tree, b ∈ bs.tree ∧ hn.hash ∈ up bs b := fun b hb => mem_kept.mp (m.tree ▸ hb)
  -- the hash of a path block is the hash of a non-root node of the old tree
  have hrest : ∀ x, (∀ c ∈ bs.tree, c.hash ≠ bs.root → c.hash ≠ x) → x ∉ rest.map (·.hash) := by
    intro x hx hm
    obtain ⟨c, hc, hch⟩ := List.mem_map.mp hm
    exact hx c (f.restTree c hc) (m.path.tailNonRoot c hc) hch
  refine ⟨fun b hb => d.treeU b (hkept b hb).1, ?dbU, ?treeNum, ?dbTree, ?dbNum, ?dbParent, ?nozeroT, ?nozeroD⟩
  case dbU =>
    intro x y hy
    rcases hsplit x y hy with ⟨hc, hch⟩ | ⟨_, hold⟩
    · rw [← hch]; exact d.treeU y (f.restTree y hc)
    · exact d.dbU x y hold
  case treeNum =>
    intro rb' hrb' b hb hr
    rw [hrootFind] at hrb'
    rw [← Option.some.inj hrb']
    rw [m.root, ← f.hnh] at hr
    exact (mem_upList_number inv.tree f.hnTree (hkept b hb).1 (hkept b hb).2).resolve_left
      fun he => hr (congrArg _ he.symm)
  case dbTree =>
    intro x y hy hr
    rw [m.root] at hr
    refine findB_eq_none.mpr fun b hb hbx => ?_
    obtain ⟨hbt, hup⟩ := hkept b hb
    rcases hsplit x y hy with ⟨hc, hch⟩ | ⟨hx, hold⟩
    · -- a path block other than the new head is not kept
      cases inv.tree.uniq.eq_of_hash (f.restTree y hc) hbt (hch.trans hbx.symm)
      exact f.not_below inv.tree hne (.inr (.inl ⟨hc, hbx ▸ hr⟩)) hup
    · by_cases hxr : x = bs.root
      · -- the old root is not kept
        exact f.not_below inv.tree hne
          (.inl (inv.tree.uniq.eq_of_hash hbt f.rbTree (hbx.trans (hxr.trans f.rbh.symm)))) hup
      · exact findB_eq_none.mp (d.dbTree x y hold hxr) b hbt hbx
  case dbNum =>
    intro rb' hrb' x y hy
    rw [hrootFind] at hrb'
    rw [← Option.some.inj hrb']
    rcases hsplit x y hy with ⟨hc, _⟩ | ⟨_, hold⟩
    · exact (m.path.mem y (List.mem_cons_of_mem _ hc)).2
    · have := d.dbNum rb m.rootB x y hold
      have := f.rootLt hn f.hnRest
      omega
  case dbParent =>
    intro x y hy hg
    rcases hsplit x y hy with ⟨hc, hch⟩ | ⟨hx, hold⟩
    · obtain ⟨z, hz, h1, h2⟩ := m.path.linked y hc
      refine ⟨z, ?_, h2⟩
      rw [← h1]
      rcases List.mem_cons.mp hz with hz | hz
      · rw [hz, f.rbh, m.dbOld _ (hrest _ fun c _ hcr => hcr)]
        exact inv.rootDb rb m.rootB
      · exact m.dbNew z hz
    · obtain ⟨p, hp, hpn⟩ := d.dbParent x y hold hg
      refine ⟨p, ?_, hpn⟩
      rw [m.dbOld _ (hrest _ fun c hc hcr hch => ?_)]
      · exact hp
      · -- `c` is a non-root tree node whose hash is in the old header table: impossible
        exact findB_eq_none.mp (d.dbTree y.parent p hp (hch ▸ hcr)) c hc hch
  case nozeroT =>
    exact findB_eq_none.mpr fun b hb => findB_eq_none.mp d.nozeroT b (hkept b hb).1
  case nozeroD =>
    rw [m.dbOld 0 (hrest 0 fun c hc _ => findB_eq_none.mp d.nozeroT c hc)]
    exact d.nozeroD

theorem DbInv_fin {blk : Nat → Blk} {g : Blk} {bs : C17.St} (inv : Inv g bs) (d : DbInv blk g bs)
    (h r s : Nat) : DbInv blk g (setFinalised g.hash bs h r s).1 := by
  rcases setFinalised_cases inv h r s with ⟨h1, _⟩ | ⟨_, _, h1⟩ | ⟨hne, _, rb, hn, rest, m⟩
  · rw [h1]; exact d
  · -- only the round keys changed, which the invariant does not look at
    rw [h1]
    exact ⟨d.treeU, d.dbU, d.treeNum, d.dbTree, d.dbNum, d.dbParent, d.nozeroT, d.nozeroD⟩
  · exact DbInv_moved inv d m hne

theorem getHeader_univ {blk : Nat → Blk} {g : Blk} {bs : C17.St} (inv : Inv g bs) (d : DbInv blk g bs)
    {h : Nat} {x : Blk} (hx : C17.getHeader bs h = some x) : x = blk h := by
  rcases getHeader_cases inv hx with ⟨ht, _⟩ | hd
  · exact getHeader_hash hx ▸ d.treeU x ht
  · exact d.dbU h x hd

theorem getHeader_zero {blk : Nat → Blk} {g : Blk} {bs : C17.St} (inv : Inv g bs) (d : DbInv blk g bs) :
    C17.getHeader bs 0 = none := by
  cases hx : C17.getHeader bs 0 with
  | none => rfl
  | some x =>
    rcases getHeader_cases inv hx with ⟨ht, _⟩ | hd
    · exact absurd (getHeader_hash hx) (findB_eq_none.mp d.nozeroT x ht)
    · rw [d.nozeroD] at hd; cases hd

theorem getHeader_parent_num {blk : Nat → Blk} {g : Blk} (hgb : blk g.hash = g) (hgp : g.parent = 0)
    {bs : C17.St} (inv : Inv g bs)
    (d : DbInv blk g bs) {h : Nat} {x p : Blk} (hx : C17.getHeader bs h = some x)
    (hp : C17.getHeader bs x.parent = some p) : p.number + 1 = x.number := by
  rcases getHeader_cases inv hx with ⟨ht, hr⟩ | hd
  · -- a non-root tree node: `GetHeader` of the parent hash answers the tree's parent node
    obtain ⟨q, hq, hqn⟩ := inv.tree.parent x ht hr
    rw [← findB_hash hq, getHeader_tree inv (findB_mem hq)] at hp
    cases hp
    exact hqn
  · by_cases hg : h = g.hash
    · -- genesis: its parent is the zero hash, which nothing answers
      have hxg : x = g := by rw [← hgb, ← hg]; exact d.dbU h x hd
      rw [hxg, hgp, getHeader_zero inv d] at hp
      cases hp
    · obtain ⟨p0, hp0, hpn⟩ := d.dbParent h x hd hg
      rcases getHeader_cases inv hp with ⟨ht, hr⟩ | hd'
      · -- a non-root tree node does not share its hash with an entry of the header table
        have hh := getHeader_hash hp
        exact absurd hh (findB_eq_none.mp (d.dbTree x.parent p0 hp0 (hh ▸ hr)) p ht)
      · rw [hp0] at hd'
        cases hd'
        exact hpn

theorem dbHdr_mono_add (bs : C17.St) (b : Blk) (h : Nat) (hs : (findB bs.dbHdr h).isSome) :
    (findB (C17.addBlock bs b).1.dbHdr h).isSome := by
  rcases C17.addBlock_cases bs b with he | ⟨_, _, _, _, heq⟩
  · rw [he]; exact hs
  · rw [heq]; exact hs

theorem dbHdr_mono_fin {g : Blk} {bs : C17.St} (inv : C17.Inv g bs) (t r s h : Nat) (hs : (findB bs.dbHdr h).isSome) :
    (findB (C17.setFinalised g.hash bs t r s).1.dbHdr h).isSome := by
  rcases C17.setFinalised_cases inv t r s with ⟨h1, _⟩ | ⟨_, _, h1⟩ | ⟨_, _, rb, hn, rest, m⟩
  · rw [h1]; exact hs
  · rw [h1]; exact hs
  · by_cases hx : h ∈ rest.map (·.hash)
    · obtain ⟨c, hc, hch⟩ := List.mem_map.mp hx
      rw [← hch, m.dbNew c hc]; rfl
    · rw [m.dbOld h hx]; exact hs

end Gossamer.C26
