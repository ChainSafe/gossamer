/-
The forest traversals of `Gossamer.Lib.BlockTree` read through `subsF f`, the list of all nodes of a forest
(pre-order): every traversal is a search, a filter or a map over it.  Per traversal: what it does on a single tree
(`_node`), on a concatenation (`_append`) and as a set (`mem_…`).
-/
import Gossamer.Lib.BlockTree
import Gossamer.Lib.AList

namespace Gossamer.BlockTree

def subsF : Forest → List Node
  | [] => []
  | .mk i cs :: rest => .mk i cs :: (subsF cs ++ subsF rest)

def LinkedNums (f : Forest) : Prop :=
  ∀ n ∈ subsF f, ∀ c ∈ n.children, c.info.number = n.info.number + 1

/-- `LinkedNums f`, and the top-level nodes of `f` have number `rn`: `LinkedNums` of a node says nothing of the numbers
    of its children's own level, so the inductions run on this pair (`linkedNums_cons`, `numOKF_cons`) -/
def numOKF (rn : Nat) (f : Forest) : Prop := (∀ c ∈ f, c.info.number = rn) ∧ LinkedNums f

/-- tree-side ancestry (`d` is `a` or below it): `IsDescendantOf`, `Prune` and the specification's `isAnc` are all
    read through it. -/
def InSubtree (f : Forest) (a d : Hash) : Prop := ∃ na, findF a f = some na ∧ d ∈ descF [na]

theorem nodup_of_map {α β : Type} {g : α → β} {l : List α} (h : (l.map g).Nodup) : l.Nodup :=
  List.Pairwise.of_map g (fun _ _ hne e => hne (e ▸ rfl)) h

theorem nodup_snoc {α : Type} {l : List α} {x : α} (hl : l.Nodup) (hx : x ∉ l) : (l ++ [x]).Nodup :=
  List.nodup_append.2 ⟨hl, List.pairwise_singleton _ _, fun _ ha _ hb e => hx (List.mem_singleton.1 hb ▸ e ▸ ha)⟩

theorem subsF_map_hash : ∀ f, (subsF f).map (fun n => n.info.hash) = descF f := by
  intro f
  induction f using forest_ind with
  | nil => simp [subsF, descF]
  | cons i cs rest ih1 ih2 => simp [subsF, descF, ih1, ih2]

theorem subsF_map_info : ∀ f, (subsF f).map (fun n => n.info) = infosF f := by
  intro f
  induction f using forest_ind with
  | nil => simp [subsF, infosF]
  | cons i cs rest ih1 ih2 => simp [subsF, infosF, ih1, ih2]

theorem descF_eq_map_infos (f : Forest) : descF f = (infosF f).map (·.hash) := by
  rw [← subsF_map_hash, ← subsF_map_info, List.map_map]; rfl

theorem mem_desc_iff_infos {f : Forest} {h : Hash} : h ∈ descF f ↔ ∃ x ∈ infosF f, x.hash = h := by
  rw [descF_eq_map_infos, List.mem_map]

theorem descF_append (f g : Forest) : descF (f ++ g) = descF f ++ descF g := by
  induction f using forest_ind with
  | nil => simp [descF]
  | cons i cs rest ih1 ih2 => simp [descF, ih2]

theorem subsF_append (f g : Forest) : subsF (f ++ g) = subsF f ++ subsF g := by
  induction f using forest_ind with
  | nil => simp [subsF]
  | cons i cs rest ih1 ih2 => simp [subsF, ih2]

theorem descF_single (i : Info) (cs : Forest) : descF [.mk i cs] = i.hash :: descF cs := by
  simp [descF]

theorem subsF_single (i : Info) (cs : Forest) : subsF [.mk i cs] = .mk i cs :: subsF cs := by
  simp [subsF]

theorem descF_node (n : Node) : descF [n] = n.info.hash :: descF n.children := by
  cases n; exact descF_single _ _

theorem infosF_node (t : Node) : infosF [t] = t.info :: infosF t.children := by
  cases t; simp [infosF]

theorem leavesF_node (t : Node) :
    leavesF [t] = (if t.children.isEmpty then [t.info] else []) ++ leavesF t.children := by
  cases t; simp [leavesF]

theorem pathF_node (t : Node) (h : Hash) :
    pathF h [t] = if t.info.hash = h then some [t.info] else (pathF h t.children).map (· ++ [t.info]) := by
  cases t with
  | mk i cs =>
    show pathF h [.mk i cs] = if i.hash = h then some [i] else (pathF h cs).map (· ++ [i])
    simp only [pathF]
    split
    · rfl
    · cases pathF h cs <;> simp

theorem exists_subsF_cons {P : Node → Prop} {i : Info} {cs rest : Forest} :
    (∃ n ∈ subsF (.mk i cs :: rest), P n) ↔ P (.mk i cs) ∨ (∃ n ∈ subsF cs, P n) ∨ ∃ n ∈ subsF rest, P n := by
  simp only [subsF, List.mem_cons, List.mem_append]
  constructor
  · rintro ⟨n, rfl | hn | hn, h⟩
    · exact .inl h
    · exact .inr (.inl ⟨n, hn, h⟩)
    · exact .inr (.inr ⟨n, hn, h⟩)
  · rintro (h | ⟨n, hn, h⟩ | ⟨n, hn, h⟩)
    · exact ⟨_, .inl rfl, h⟩
    · exact ⟨n, .inr (.inl hn), h⟩
    · exact ⟨n, .inr (.inr hn), h⟩

theorem mem_descF_iff_subs {f : Forest} {h : Hash} : h ∈ descF f ↔ ∃ n ∈ subsF f, n.info.hash = h := by
  rw [← subsF_map_hash]; simp

theorem subs_hash_mem {f : Forest} {n : Node} (hn : n ∈ subsF f) : n.info.hash ∈ descF f :=
  mem_descF_iff_subs.2 ⟨n, hn, rfl⟩

theorem occF_iff (h : Hash) : ∀ f, occF h f = true ↔ h ∈ descF f := by
  intro f
  induction f using forest_ind with
  | nil => simp [occF, descF]
  | cons i cs rest ih1 ih2 =>
    simp only [occF, descF, List.mem_cons, List.mem_append]
    grind

theorem findF_eq_find (h : Hash) : ∀ f, findF h f = (subsF f).find? (fun n => n.info.hash = h) := by
  intro f
  induction f using forest_ind with
  | nil => simp [findF, subsF]
  | cons i cs rest ih1 ih2 =>
    rw [findF, subsF, List.find?_cons, List.find?_append, ← ih1, ← ih2]
    by_cases hi : i.hash = h
    · simp [hi]
    · simp only [hi, if_false, Node.info_mk, decide_false]
      cases findF h cs <;> rfl

theorem findF_map_info (h : Hash) (f : Forest) :
    (findF h f).map (·.info) = (infosF f).find? (·.hash = h) := by
  rw [findF_eq_find, ← subsF_map_info, List.find?_map]; rfl

theorem findF_some {h : Hash} {f : Forest} {n : Node} (hn : findF h f = some n) :
    n ∈ subsF f ∧ n.info.hash = h := by
  rw [findF_eq_find] at hn
  exact ⟨List.mem_of_find?_eq_some hn, by simpa using List.find?_some hn⟩

theorem findF_mem {h : Hash} {f : Forest} {n : Node} (hn : findF h f = some n) : h ∈ descF f :=
  (findF_some hn).2 ▸ subs_hash_mem (findF_some hn).1

theorem inSubtree_of_find {f : Forest} {a d : Hash} {na : Node} (h : findF a f = some na) :
    InSubtree f a d ↔ d ∈ descF [na] :=
  ⟨fun ⟨_, e, hd⟩ => Option.some.inj (h.symm.trans e) ▸ hd, fun hd => ⟨na, h, hd⟩⟩

theorem findF_none {h : Hash} {f : Forest} : findF h f = none ↔ h ∉ descF f := by
  rw [findF_eq_find, ← subsF_map_hash, List.find?_eq_none]
  simp

theorem findF_isSome {h : Hash} {f : Forest} : (findF h f).isSome ↔ h ∈ descF f := by
  have := findF_none (h := h) (f := f)
  cases hf : findF h f <;> simp_all

theorem findF_node (t : Node) (h : Hash) :
    findF h [t] = if t.info.hash = h then some t else findF h t.children := by
  cases t with
  | mk i cs =>
    show findF h [.mk i cs] = if i.hash = h then some (.mk i cs) else findF h cs
    simp only [findF]
    split
    · rfl
    · cases findF h cs <;> rfl

theorem subs_sublist {f : Forest} {n : Node} (hn : n ∈ subsF f) : (descF [n]).Sublist (descF f) := by
  induction f using forest_ind with
  | nil => simp [subsF] at hn
  | cons i cs rest ih1 ih2 =>
    simp only [subsF, List.mem_cons, List.mem_append] at hn
    rw [descF]
    rcases hn with rfl | hn | hn
    · simp [descF]
    · exact ((ih1 hn).trans (List.sublist_append_left _ _)).trans (List.sublist_cons_self _ _)
    · exact ((ih2 hn).trans (List.sublist_append_right _ _)).trans (List.sublist_cons_self _ _)

theorem subs_trans {f : Forest} {n m : Node} (hn : n ∈ subsF f) (hm : m ∈ subsF [n]) : m ∈ subsF f := by
  induction f using forest_ind with
  | nil => simp [subsF] at hn
  | cons i cs rest ih1 ih2 =>
    simp only [subsF, List.mem_cons, List.mem_append] at hn ⊢
    rcases hn with rfl | hn | hn
    · rw [subsF_single, List.mem_cons] at hm
      exact hm.imp_right .inl
    · exact .inr (.inl (ih1 hn))
    · exact .inr (.inr (ih2 hn))

theorem subs_unique {f : Forest} (hd : (descF f).Nodup) {n m : Node} (hn : n ∈ subsF f) (hm : m ∈ subsF f)
    (he : n.info.hash = m.info.hash) : n = m :=
  inj_of_nodup_map _ (by rw [subsF_map_hash]; exact hd) hn hm he

theorem findF_of_mem {f : Forest} (hd : (descF f).Nodup) {n : Node} (hn : n ∈ subsF f) :
    findF n.info.hash f = some n :=
  (findF_eq_find _ f).trans (find?_of_mem_nodup (fun n : Node => n.info.hash) (subsF_map_hash f ▸ hd) hn)

theorem info_unique {f : Forest} (hd : (descF f).Nodup) {x y : Info} (hx : x ∈ infosF f) (hy : y ∈ infosF f)
    (he : x.hash = y.hash) : x = y :=
  inj_of_nodup_map (·.hash) (by rw [← descF_eq_map_infos]; exact hd) hx hy he

theorem mem_infos_of_subs {f : Forest} {n : Node} (hn : n ∈ subsF f) : n.info ∈ infosF f := by
  rw [← subsF_map_info]; exact List.mem_map.2 ⟨n, hn, rfl⟩

theorem findF_info_iff {f : Forest} (hd : (descF f).Nodup) {h : Hash} {i : Info} :
    (findF h f).map (·.info) = some i ↔ i ∈ infosF f ∧ i.hash = h := by
  constructor
  · intro hm
    obtain ⟨n, hn, rfl⟩ := Option.map_eq_some_iff.1 hm
    exact ⟨mem_infos_of_subs (findF_some hn).1, (findF_some hn).2⟩
  · rintro ⟨hi, rfl⟩
    rw [← subsF_map_info] at hi
    obtain ⟨n, hn, rfl⟩ := List.mem_map.1 hi
    rw [findF_of_mem hd hn]; rfl

theorem leavesF_append (f g : Forest) : leavesF (f ++ g) = leavesF f ++ leavesF g := by
  induction f using forest_ind with
  | nil => simp [leavesF]
  | cons i cs rest ih1 ih2 => simp [leavesF, ih2]

theorem mem_leavesF_cons {x i : Info} {cs rest : Forest} :
    x ∈ leavesF (.mk i cs :: rest) ↔ (cs = [] ∧ x = i) ∨ x ∈ leavesF cs ∨ x ∈ leavesF rest := by
  rw [leavesF, List.mem_append, List.mem_append]
  cases cs <;> simp

theorem leavesF_sublist : ∀ f, (leavesF f).Sublist (infosF f) := by
  intro f
  induction f using forest_ind with
  | nil => simp [leavesF, infosF]
  | cons i cs rest ih1 ih2 =>
    simp only [leavesF, infosF]
    split
    · simp only [List.cons_append, List.nil_append]
      exact (List.Sublist.append ih1 ih2).cons_cons _
    · simp only [List.nil_append]
      exact (List.Sublist.append ih1 ih2).trans (List.sublist_cons_self _ _)

theorem leavesF_sub_infos {f : Forest} {x : Info} (hx : x ∈ leavesF f) : x ∈ infosF f :=
  (leavesF_sublist f).subset hx

theorem leaf_hash_mem {f : Forest} {x : Info} (hx : x ∈ leavesF f) : x.hash ∈ descF f :=
  mem_desc_iff_infos.2 ⟨x, leavesF_sub_infos hx, rfl⟩

theorem mem_leavesF_subs {x : Info} : ∀ f, x ∈ leavesF f ↔ ∃ n ∈ subsF f, n.info = x ∧ n.children = [] := by
  intro f
  induction f using forest_ind with
  | nil => simp [leavesF, subsF]
  | cons i cs rest ih1 ih2 =>
    rw [mem_leavesF_cons, ih1, ih2, exists_subsF_cons]
    exact or_congr_left ⟨fun h => ⟨h.2.symm, h.1⟩, fun h => ⟨h.2, h.1.symm⟩⟩

theorem leaves_hash_nodup {f : Forest} (hd : (descF f).Nodup) : ((leavesF f).map (·.hash)).Nodup := by
  rw [descF_eq_map_infos] at hd
  exact ((leavesF_sublist f).map _).nodup hd

theorem pathF_cons {h : Hash} {i : Info} {cs rest : Forest} {q : List Info}
    (hq : pathF h (.mk i cs :: rest) = some q) :
    (i.hash = h ∧ q = [i]) ∨ (i.hash ≠ h ∧ ∃ p, pathF h cs = some p ∧ q = p ++ [i]) ∨
      (i.hash ≠ h ∧ pathF h cs = none ∧ pathF h rest = some q) := by
  rw [pathF] at hq
  by_cases hi : i.hash = h
  · rw [if_pos hi] at hq
    exact .inl ⟨hi, (Option.some.inj hq).symm⟩
  · rw [if_neg hi] at hq
    cases hp : pathF h cs with
    | some p => rw [hp] at hq; exact .inr (.inl ⟨hi, p, rfl, (Option.some.inj hq).symm⟩)
    | none => rw [hp] at hq; exact .inr (.inr ⟨hi, rfl, hq⟩)

theorem pathF_none {h : Hash} {f : Forest} : pathF h f = none ↔ h ∉ descF f := by
  induction f using forest_ind with
  | nil => simp [pathF, descF]
  | cons i cs rest ih1 ih2 =>
    simp only [pathF, descF, List.mem_cons, List.mem_append]
    grind

theorem pathF_mem {h : Hash} {f : Forest} {q : List Info} (hq : pathF h f = some q) : h ∈ descF f := by
  have := @pathF_none h f
  grind

theorem pathF_head {h : Hash} {f : Forest} {q : List Info} (hq : pathF h f = some q) :
    ∃ i r, q = i :: r ∧ i.hash = h := by
  induction f using forest_ind generalizing q with
  | nil => simp [pathF] at hq
  | cons i cs rest ih1 ih2 =>
    rcases pathF_cons hq with ⟨hi, rfl⟩ | ⟨_, p, hp, rfl⟩ | ⟨_, _, hq⟩
    · exact ⟨i, [], rfl, hi⟩
    · obtain ⟨i', r, rfl, hi'⟩ := ih1 hp
      exact ⟨i', r ++ [i], rfl, hi'⟩
    · exact ih2 hq

theorem pathF_sublist {h : Hash} {f : Forest} {q : List Info} (hq : pathF h f = some q) :
    q.reverse.Sublist (infosF f) := by
  induction f using forest_ind generalizing q with
  | nil => simp [pathF] at hq
  | cons i cs rest ih1 ih2 =>
    rw [infosF]
    rcases pathF_cons hq with ⟨_, rfl⟩ | ⟨_, p, hp, rfl⟩ | ⟨_, _, hq⟩
    · exact (List.nil_sublist _).cons_cons i
    · rw [List.reverse_append]
      exact ((ih1 hp).trans (List.sublist_append_left _ _)).cons_cons i
    · exact ((ih2 hq).trans (List.sublist_append_right _ _)).cons _

theorem linkedNums_cons {i : Info} {cs rest : Forest} :
    LinkedNums (.mk i cs :: rest) ↔ numOKF (i.number + 1) cs ∧ LinkedNums rest := by
  simp only [numOKF, LinkedNums, subsF, List.forall_mem_cons, List.mem_append, Node.info_mk, Node.children_mk]
  constructor
  · rintro ⟨h3, h4⟩
    exact ⟨⟨h3, fun n hn => h4 n (.inl hn)⟩, fun n hn => h4 n (.inr hn)⟩
  · rintro ⟨⟨h3, h4⟩, h5⟩
    exact ⟨h3, fun n hn => hn.elim (h4 n) (h5 n)⟩

theorem numOKF_cons {rn : Nat} {i : Info} {cs rest : Forest} :
    numOKF rn (.mk i cs :: rest) ↔ i.number = rn ∧ numOKF (i.number + 1) cs ∧ numOKF rn rest := by
  rw [numOKF, linkedNums_cons, numOKF, List.forall_mem_cons]
  exact ⟨fun ⟨⟨h1, h2⟩, h3, h4⟩ => ⟨h1, h3, h2, h4⟩, fun ⟨h1, h3, h2, h4⟩ => ⟨⟨h1, h2⟩, h3, h4⟩⟩

theorem LinkedNums.subs {f : Forest} (hf : LinkedNums f) {n : Node} (hn : n ∈ subsF f) : LinkedNums [n] :=
  fun m hm => hf m (subs_trans hn hm)

theorem pathF_numbers {h : Hash} : ∀ f rn q, numOKF rn f → pathF h f = some q →
    ∀ k (hk : k < q.length), q[k].number + k + 1 = rn + q.length := by
  intro f
  induction f using forest_ind with
  | nil => simp [pathF]
  | cons i cs rest ih1 ih2 =>
    intro rn q hn hq k hk
    rw [numOKF_cons] at hn
    rcases pathF_cons hq with ⟨_, rfl⟩ | ⟨_, p, hp, rfl⟩ | ⟨_, _, hq⟩
    · obtain rfl : k = 0 := by simpa using hk
      simpa using hn.1
    · rw [List.length_append, List.length_singleton] at hk ⊢
      by_cases hkp : k < p.length
      · rw [List.getElem_append_left hkp]
        have := ih1 _ p hn.2.1 hp k hkp
        omega
      · obtain rfl : k = p.length := by omega
        rw [List.getElem_append_right (Nat.le_refl _)]
        simp only [Nat.sub_self, List.getElem_cons_zero]
        omega
    · exact ih2 rn q hn.2.2 hq k hk

theorem filter_subsF_nil {d : Hash} {g : Forest} (h : d ∉ descF g) :
    (subsF g).filter (fun n => decide (d ∈ descF [n])) = [] :=
  List.filter_eq_nil_iff.2 fun _ hn hm => h ((subs_sublist hn).subset (of_decide_eq_true hm))

theorem pathF_eq_filter {d : Hash} {f : Forest} {q : List Info} (hd : (descF f).Nodup) (hq : pathF d f = some q) :
    q.reverse = ((subsF f).filter (fun n => decide (d ∈ descF [n]))).map (·.info) := by
  induction f using forest_ind generalizing q with
  | nil => simp [pathF] at hq
  | cons i cs rest ih1 ih2 =>
    simp only [descF, List.nodup_cons, List.mem_append, List.nodup_append, not_or] at hd
    obtain ⟨hi, hcs, hrest, hdis⟩ := hd
    have hself : ∀ x, x ∈ descF [Node.mk i cs] ↔ x = i.hash ∨ x ∈ descF cs := by simp [descF]
    have pos := @List.filter_cons_of_pos _ (fun n => decide (d ∈ descF [n])) (Node.mk i cs)
    have neg := @List.filter_cons_of_neg _ (fun n => decide (d ∈ descF [n])) (Node.mk i cs)
    rw [subsF]
    rcases pathF_cons hq with ⟨rfl, rfl⟩ | ⟨_, p, hp, rfl⟩ | ⟨hih, hp, hq⟩
    · rw [pos (decide_eq_true ((hself _).2 (.inl rfl))), List.filter_append, filter_subsF_nil hi.1,
        filter_subsF_nil hi.2]; rfl
    · have hdcs : d ∈ descF cs := pathF_mem hp
      rw [pos (decide_eq_true ((hself _).2 (.inr hdcs))), List.filter_append,
        filter_subsF_nil fun h => hdis _ hdcs _ h rfl, List.append_nil, List.reverse_append, List.map_cons,
        ← ih1 hcs hp]; rfl
    · have hdcs : d ∉ descF cs := pathF_none.1 hp
      have hno : ¬ decide (d ∈ descF [Node.mk i cs]) = true := by
        rw [decide_eq_true_eq, hself]; exact fun h => h.elim (fun e => hih e.symm) hdcs
      rw [neg hno, List.filter_append, filter_subsF_nil hdcs, List.nil_append, ← ih2 hrest hq]

theorem path_mem_iff {d a : Hash} {f : Forest} {q : List Info} (hd : (descF f).Nodup) (hq : pathF d f = some q) :
    a ∈ q.map (·.hash) ↔ InSubtree f a d := by
  rw [← List.mem_reverse, ← List.map_reverse, pathF_eq_filter hd hq, List.map_map, List.mem_map]
  constructor
  · rintro ⟨n, hn, rfl⟩
    exact ⟨n, findF_of_mem hd (List.mem_filter.1 hn).1, of_decide_eq_true (List.mem_filter.1 hn).2⟩
  · rintro ⟨n, hn, h⟩
    exact ⟨n, List.mem_filter.2 ⟨(findF_some hn).1, decide_eq_true h⟩, (findF_some hn).2⟩
end Gossamer.BlockTree
