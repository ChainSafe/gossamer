/-
C20: the memoised fields of the round after importing a valid, prevote-tolerant vote list: `ghost` is the GHOST of
the prevotes, and `fin`, `est`, `compl` equal what `update` computes from scratch on the final bookkeeping, i.e. the
incremental early returns / "unchanged" branches never leave a stale value behind.
-/
import Gossamer.Lib.C20Ghost
namespace Gossamer.C20

variable {t : Tree} {ws : List Nat}

def ValidOps (t : Tree) (ops : List Op) : Prop := ∀ o, o ∈ ops → o.sv.blk < t.size

theorem validOps_append {ops : List Op} {o : Op} (h : ValidOps t (ops ++ [o])) :
    ValidOps t ops ∧ o.sv.blk < t.size :=
  ⟨fun x hx => h x (List.mem_append_left _ hx), h o (by simp)⟩

theorem superm_false_of_voteWeight_lt (t : Tree) (ws : List Nat) (ops : List Op) (ph : Bool)
    (h : voteWeight ws ops ph < threshold (total ws)) (B : Nat) : superm t ws ops ph B = false := by
  unfold superm
  have := weightFor_le_voteWeight t ws ops ph B
  simp only [decide_eq_false_iff_not]
  omega

/-- the shape shared by "update prevote-GHOST" and `PrecommitGHOST`: a memoised GHOST, recomputed from the memo once the
threshold is reached.  Below the threshold no block has a supermajority, so the memo is then `none`. -/
theorem memo_isGhost (h : t.WF) (h0 : 0 < total ws) {ops : List Op} {ph : Bool} (htol : tolerant ws ops ph = true)
    (memo : Option Nat) (hmemo : ∀ m, memo = some m → superm t ws ops ph m = true) :
    IsGhost t ws ops ph (if (run t ws ops).cur ph ≥ threshold (total ws)
      then findGhost t (run t ws ops).cum memo (supermCond ws (run t ws ops).eqv ph) else memo) := by
  split
  · exact findGhost_isGhost h h0 htol memo hmemo
  · rename_i hlt
    have hno := superm_false_of_voteWeight_lt t ws ops ph (by rw [← cur_run t ws]; omega)
    cases hm : memo with
    | none => exact hno
    | some m => exact Bool.noConfusion ((hno m).symm.trans (hmemo m hm))

/-- no `ValidOps` needed: an import with its target outside the tree changes neither the vote graph nor the
equivocation bits -/
theorem ghost_run (h : t.WF) (h0 : 0 < total ws) : ∀ ops, tolerant ws ops false = true →
    IsGhost t ws ops false (run t ws ops).ghost := by
  apply run_induction (fun ops r => tolerant ws ops false = true → IsGhost t ws ops false r.ghost)
  · intro _ B
    exact superm_false_of_voteWeight_lt t ws [] false
      (by rw [voteWeight_nil]; exact Nat.lt_of_le_of_lt (Nat.zero_le _) (two_faulty_lt_thr h0)) B
  · intro ops o ih htol
    have ih := ih ((SubVotes.of_append false ops o).tolerant htol)
    have hmemo : ∀ m, (run t ws ops).ghost = some m → superm t ws (ops ++ [o]) false m = true := by
      intro m hm
      rw [hm] at ih
      exact (SubVotes.of_append false ops o).superm ih.1
    have key : ∀ r2 : Round, r2.ghost = (run t ws ops).ghost →
        update t ws (ghostStep t ws o.ph r2) = run t ws (ops ++ [o]) →
        IsGhost t ws (ops ++ [o]) false (update t ws (ghostStep t ws o.ph r2)).ghost := by
      intro r2 hg e
      rw [post_ghost, e, hg]
      by_cases hph : o.ph = false
      · simp only [hph, true_and]
        exact memo_isGhost h h0 htol _ hmemo
      · -- a precommit: the prevote weights are untouched
        rw [if_neg (fun hc => hph hc.1)]
        exact IsGhost.congr (fun B => Bool.eq_iff_iff.2
          ⟨(SubVotes.of_other_phase hph).superm, (SubVotes.of_append false ops o).superm⟩) ih
    -- vote graph and equivocation bits unchanged: same weights
    have same : ∀ r1 : Round, r1.eqv = (run t ws ops).eqv → r1.cum = (run t ws ops).cum → r1.ghost = (run t ws ops).ghost →
        r1 = run t ws (ops ++ [o]) → IsGhost t ws (ops ++ [o]) false r1.ghost := by
      intro r1 h1 h2 h3 e
      rw [h3]
      exact IsGhost.congr (fun B => by rw [← supermCond_run, ← supermCond_run, ← e, h1, h2]) ih
    -- the motive carries the equation "this is the state after `ops ++ [o]`", so that in each case of the import the
    -- `_run` lemmas (which speak of `run`) apply to the state the case describes
    have e := (run_append t ws ops o).symm
    revert e
    unfold step
    exact importVote_cases (fun x => x = run t ws (ops ++ [o]) → IsGhost t ws (ops ++ [o]) false x.ghost)
      o.ph o.v o.sv (fun _ e => same _ rfl rfl rfl e) (fun _ _ _ e => same _ rfl rfl rfl e)
      (fun _ _ _ e => key _ rfl e) (fun a _ _ _ e => key _ rfl e)

theorem ghost_superm (h : t.WF) (h0 : 0 < total ws) {ops : List Op}
    (htol : tolerant ws ops false = true) {b : Nat} (hb : (run t ws ops).ghost = some b) :
    superm t ws ops false b = true :=
  (hb ▸ ghost_run h h0 ops htol : IsGhost t ws ops false (some b)).1

/-- here `ValidOps` is needed: a first precommit for a target outside the tree raises `cur true` without `update`, and the
memoised fields fall behind -/
theorem coherent_run (h : t.WF) (h0 : 0 < total ws) : ∀ ops, ValidOps t ops → tolerant ws ops false = true →
    Coherent t ws (run t ws ops) := by
  apply run_induction (fun ops r => ValidOps t ops → tolerant ws ops false = true → Coherent t ws r)
  · intro _ _
    obtain ⟨f1, f2, f3⟩ := recompute_early t ws Round.init (Or.inr rfl)
    exact ⟨f1.symm, f2.symm, f3.symm⟩
  · intro ops o ih hvalid htol
    obtain ⟨hv, hb⟩ := validOps_append hvalid
    have htol0 := (SubVotes.of_append false ops o).tolerant htol
    have ih := ih hv htol0
    have key : ∀ r2 : Round, r2.fin = (run t ws ops).fin → r2.est = (run t ws ops).est →
        r2.compl = (run t ws ops).compl →
        update t ws (ghostStep t ws o.ph r2) = run t ws (ops ++ [o]) →
        Coherent t ws (update t ws (ghostStep t ws o.ph r2)) := by
      intro r2 e1 e2 e3 e
      have hg1 := ghost_run h h0 (ops ++ [o]) htol
      obtain ⟨m1, m2, m3⟩ := ghostStep_memo t ws o.ph r2
      have u2 := (update_book t ws (ghostStep t ws o.ph r2)).cur
      have u5 := update_ghost t ws (ghostStep t ws o.ph r2)
      rw [e] at u2 u5
      rw [e1] at m1; rw [e2] at m2; rw [e3] at m3
      have hcur : ∀ ph, (run t ws ops).cur ph ≤ (run t ws (ops ++ [o])).cur ph := by
        intro ph; rw [cur_run, cur_run]; exact (SubVotes.of_append ph ops o).voteWeight
      have hgnone : (run t ws (ops ++ [o])).ghost = none → (run t ws ops).ghost = none := by
        intro hn
        cases hg : (run t ws ops).ghost with
        | none => rfl
        | some g =>
          rw [hn] at hg1
          have := (SubVotes.of_append false ops o).superm (ghost_superm h h0 htol0 hg)
          rw [hg1 g] at this; exact Bool.noConfusion this
      exact coherent_update t ws (ghostStep t ws o.ph r2)
        (by
          intro hearly
          rw [m1, m2, m3, ih.fin, ih.est, ih.compl]
          apply recompute_early
          rcases hearly with hlt | hgn
          · left; rw [← u2] at hlt; have := hcur false; omega
          · right; rw [← u5] at hgn; exact hgnone hgn)
        (by
          intro hlt
          rw [m1, m3, ih.fin, ih.compl]
          apply recompute_below
          rw [← u2] at hlt; have := hcur true; omega)
    -- as in `ghost_run`, the motive carries the equation with `run t ws (ops ++ [o])`
    have e := (run_append t ws ops o).symm
    revert e
    unfold step
    exact importVote_cases (fun x => x = run t ws (ops ++ [o]) → Coherent t ws x)
      o.ph o.v o.sv (fun _ _ => ih) (fun _ _ hnb => absurd hb hnb) (fun _ _ _ e => key _ rfl rfl rfl e)
      (fun a _ _ _ e => key _ rfl rfl rfl e)

theorem cur_of_superm {ops : List Op} {ph : Bool} {g : Nat} (hg : superm t ws ops ph g = true) :
    ¬ (run t ws ops).cur ph < threshold (total ws) := by
  intro hlt
  rw [cur_run] at hlt
  exact Bool.false_ne_true ((superm_false_of_voteWeight_lt t ws ops ph hlt g).symm.trans hg)

/-- A rule for any property `P` of (prevote GHOST, finalized, estimate, completable) of the round: no block has a
prevote supermajority and nothing is set; or `g` is g(prevotes) and the precommit threshold is reached (`update` ran
to its end); or it is not (the shortcut `estimate = prevote GHOST`). -/
theorem run_cases (h : t.WF) (h0 : 0 < total ws) (ops : List Op) (hv : ValidOps t ops)
    (htol : tolerant ws ops false = true) (P : Option Nat → Option Nat → Option Nat → Bool → Prop)
    (hnone : IsGhost t ws ops false none → P none none none false)
    (hfull : ∀ g, IsGhost t ws ops false (some g) → voteWeight ws ops true ≥ threshold (total ws) →
      P (some g) (findAncestor t (run t ws ops).cum g (supermCond ws (run t ws ops).eqv true))
        (findAncestor t (run t ws ops).cum g (possibleToPrecommit ws ((run t ws ops).cur true) (run t ws ops).eqv))
        (match findAncestor t (run t ws ops).cum g
            (possibleToPrecommit ws ((run t ws ops).cur true) (run t ws ops).eqv) with
         | none => false
         | some e => (e != g) ||
            (match findGhost t (run t ws ops).cum (some e)
                (possibleToPrecommit ws ((run t ws ops).cur true) (run t ws ops).eqv) with
             | none => true
             | some x => x == g)))
    (hshort : ∀ g, IsGhost t ws ops false (some g) → voteWeight ws ops true < threshold (total ws) →
      P (some g) none (some g) false) :
    P (run t ws ops).ghost (run t ws ops).fin (run t ws ops).est (run t ws ops).compl := by
  have hco := coherent_run h h0 ops hv htol
  have hg := ghost_run h h0 ops htol
  rw [hco.fin, hco.est, hco.compl]
  cases hgh : (run t ws ops).ghost with
  | none =>
    obtain ⟨r1, r2, r3⟩ := recompute_early t ws _ (Or.inr hgh)
    rw [r1, r2, r3]; exact hnone (hgh ▸ hg)
  | some g =>
    rw [hgh] at hg
    have hcf := cur_of_superm hg.1
    unfold recompute update reset
    by_cases hct : (run t ws ops).cur true ≥ threshold (total ws)
    · simp only [hcf, hgh, hct, if_true, if_false]
      exact hfull g hg (cur_run t ws ops true ▸ hct)
    · simp only [hcf, hgh, hct, if_false]
      exact hshort g hg (cur_run t ws ops true ▸ Nat.lt_of_not_le hct)

end Gossamer.C20
