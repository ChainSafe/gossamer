/-
C19: the sum over id/weight pairs is the weighted sum of Lib/WSum (`wsum_eq`; the threshold and the tolerated
faulty weight in its linear form: `wsum_super`, `wsum_tol`); `newVoterSet` keeps, for every id, the SUM of the listed weights.
-/
import Gossamer.Model.C19
import Gossamer.Lib.WSum
import Gossamer.Lib.Threshold
import Gossamer.Lib.AList
namespace Gossamer.C19

/-- total weight a raw weight list gives to `id` (partial weights summed) -/
def rawWeight : List IdW → Nat → Nat
  | [], _ => 0
  | (i, w) :: rest, id => (if i = id then w else 0) + rawWeight rest id

def rawTotal : List IdW → Nat
  | [] => 0
  | (_, w) :: rest => w + rawTotal rest

/-- weight of the ids selected by `f`, every list entry counted -/
def wsum (f : Nat → Bool) : List IdW → Nat
  | [] => 0
  | (i, w) :: rest => (if f i then w else 0) + wsum f rest

theorem weightOn_eq (vs : VoterSet) (c : Chain) (tr : List Tracked) (b : Nat) :
    weightOn vs c tr b = wsum (fun id => bit c tr id b) vs.voters := by
  unfold weightOn
  induction vs.voters with
  | nil => rfl
  | cons a l ih => rw [List.map_cons, List.sum_cons, ih]; rfl

/-- `wsum`, `rawTotal`, `rawWeight` are the specification's own sums (Lib/C19Spec reads without Lib/WSum); this equation
    ties them to `WSum.wsum`, and `wsum_super`, `wsum_tol` conclude in its terms because they feed `WSum.meet_of_super` -/
theorem wsum_eq (f : Nat → Bool) (l : List IdW) : wsum f l = WSum.wsum (·.2) (fun iw => f iw.1) l := by
  induction l with
  | nil => rfl
  | cons a l ih => exact congrArg _ ih

theorem wsum_mono {f g : Nat → Bool} (h : ∀ i, f i = true → g i = true) (l : List IdW) :
    wsum f l ≤ wsum g l := by
  rw [wsum_eq, wsum_eq]; exact WSum.wsum_mono fun iw _ => h iw.1

theorem wsum_congr {f g : Nat → Bool} (h : ∀ i, f i = g i) (l : List IdW) : wsum f l = wsum g l := by
  rw [funext h]

theorem wsum_true (l : List IdW) : wsum (fun _ => true) l = rawTotal l := by
  induction l with
  | nil => rfl
  | cons a l ih => unfold wsum rawTotal; rw [ih, if_pos rfl]

theorem total_eq (l : List IdW) : WSum.total (·.2) l = rawTotal l :=
  (wsum_eq (fun _ => true) l).symm.trans (wsum_true l)

theorem wsum_super {ws : List IdW} (hpos : 0 < rawTotal ws) {f : Nat → Bool}
    (h : threshold (rawTotal ws) ≤ wsum f ws) :
    2 * WSum.total (·.2) ws < 3 * WSum.wsum (·.2) (fun iw => f iw.1) ws := by
  rw [← wsum_eq, total_eq]; exact (Threshold.fg_le _ _ hpos).1 h

theorem wsum_tol {ws : List IdW} (hpos : 0 < rawTotal ws) {f : Nat → Bool}
    (h : wsum f ws ≤ rawTotal ws - threshold (rawTotal ws)) :
    3 * WSum.wsum (·.2) (fun iw => f iw.1) ws < WSum.total (·.2) ws := by
  rw [← wsum_eq, total_eq]
  exact Nat.lt_of_le_of_lt (Nat.mul_le_mul_left 3 h) (Threshold.fg_faulty_lt hpos)

theorem wsum_single (l : List IdW) (id : Nat) : wsum (fun i => decide (i = id)) l = rawWeight l id := by
  induction l with
  | nil => rfl
  | cons a l ih => unfold wsum rawWeight; simp only [ih, decide_eq_true_eq]

theorem wsum_or_single {f : Nat → Bool} {id : Nat} (hf : f id = false) (l : List IdW) :
    wsum (fun i => f i || decide (i = id)) l = wsum f l + wsum (fun i => decide (i = id)) l := by
  have h := WSum.wsum_or_and (·.2) (fun iw : IdW => f iw.1) (fun iw => decide (iw.1 = id)) l
  rw [WSum.wsum_congr (p := fun iw : IdW => f iw.1 && decide (iw.1 = id)) (q := fun _ => false) fun iw _ => by
      by_cases e : iw.1 = id <;> simp [e, hf], WSum.wsum_false] at h
  simpa only [wsum_eq, Nat.add_zero] using h

theorem wsum_addWeight (f : Nat → Bool) (m : List IdW) (id w : Nat) :
    wsum f (addWeight m id w) = wsum f m + (if f id then w else 0) := by
  induction m with
  | nil => simp [addWeight, wsum]
  | cons a m ih =>
    unfold addWeight
    by_cases h1 : id = a.1
    · rw [if_pos h1]; unfold wsum; rw [← h1]; split <;> omega
    rw [if_neg h1]
    by_cases h2 : id < a.1
    · rw [if_pos h2]; simp only [wsum]; omega
    · rw [if_neg h2]; simp only [wsum, ih]; omega

/-- ids strictly ascending (the btree scan order); what is used of it is that the ids are distinct.  (`AList.Sorted` is
    the Bool form over a key order; nothing here needs it.) -/
def Sorted (m : List IdW) : Prop := m.Pairwise (fun a b => a.1 < b.1)

theorem mem_addWeight {m : List IdW} {id w : Nat} {e : IdW} (h : e ∈ addWeight m id w) :
    (e.1 = id ∧ w ≤ e.2) ∨ e ∈ m := by
  induction m with
  | nil => exact Or.inl (List.mem_singleton.1 h ▸ ⟨rfl, Nat.le_refl w⟩)
  | cons a m ih =>
    unfold addWeight at h
    by_cases h1 : id = a.1
    · rw [if_pos h1] at h
      rcases List.mem_cons.1 h with rfl | h
      · exact Or.inl ⟨h1.symm, Nat.le_add_left _ _⟩
      · exact Or.inr (List.mem_cons_of_mem _ h)
    rw [if_neg h1] at h
    by_cases h2 : id < a.1
    · rw [if_pos h2] at h
      exact (List.mem_cons.1 h).imp (fun e => by rw [e]; exact ⟨rfl, Nat.le_refl w⟩) fun h => h
    · rw [if_neg h2] at h
      rcases List.mem_cons.1 h with rfl | h
      · exact Or.inr List.mem_cons_self
      · exact (ih h).imp_right (List.mem_cons_of_mem _)

theorem sorted_addWeight {m : List IdW} (hs : Sorted m) (id w : Nat) : Sorted (addWeight m id w) := by
  induction m with
  | nil => exact List.pairwise_singleton _ _
  | cons a m ih =>
    have ⟨ha, hm⟩ := List.pairwise_cons.1 hs
    unfold addWeight
    by_cases h1 : id = a.1
    · rw [if_pos h1]; exact List.pairwise_cons.2 ⟨ha, hm⟩
    rw [if_neg h1]
    by_cases h2 : id < a.1
    · rw [if_pos h2]
      exact List.pairwise_cons.2 ⟨fun e he => (List.mem_cons.1 he).elim (· ▸ h2)
        fun he => Nat.lt_trans h2 (ha e he), hs⟩
    · rw [if_neg h2]
      refine List.pairwise_cons.2 ⟨fun e he => ?_, ih hm⟩
      rcases mem_addWeight he with ⟨h, _⟩ | h
      · rw [h]; omega
      · exact ha e h

theorem lookupW_eq (m : List IdW) (id : Nat) : lookupW m id = m.lookup id :=
  AssocLookup.eq_lookup (lk := fun id m => lookupW m id) ⟨fun _ => rfl, fun _ _ _ => rfl⟩ id m

theorem lookupW_none {m : List IdW} {id : Nat} (h : ∀ e ∈ m, e.1 ≠ id) : lookupW m id = none := by
  rw [lookupW_eq, AList.lookup_eq_none_iff_keys]
  exact fun hm => (List.mem_map.1 hm).elim fun e he => h e he.1 he.2

theorem wsum_single_sorted {m : List IdW} (hs : Sorted m) (id : Nat) :
    wsum (fun i => decide (i = id)) m = (lookupW m id).getD 0 := by
  induction m with
  | nil => rfl
  | cons a m ih =>
    have ⟨ha, hm⟩ := List.pairwise_cons.1 hs
    unfold wsum lookupW
    by_cases h : a.1 = id
    · rw [if_pos (decide_eq_true h), if_pos h, ih hm, lookupW_none fun e he => Nat.ne_of_gt (h ▸ ha e he)]
      rfl
    · rw [if_neg (by rwa [decide_eq_true_eq]), if_neg h, Nat.zero_add, ih hm]

theorem nvsLoop_spec : ∀ (ws : List IdW) (tot : Nat) (m : List IdW) (tot' : Nat) (m' : List IdW),
    nvsLoop ws tot m = some (tot', m') →
    tot' = tot + rawTotal ws ∧ (∀ f, wsum f m' = wsum f m + wsum f ws) ∧
    (Sorted m → Sorted m') ∧ ((∀ e ∈ m, 0 < e.2) → ∀ e ∈ m', 0 < e.2) := by
  intro ws
  induction ws with
  | nil =>
    intro tot m tot' m' h
    cases h
    exact ⟨rfl, fun f => rfl, id, id⟩
  | cons a ws ih =>
    intro tot m tot' m' h
    unfold nvsLoop at h
    by_cases hw : a.2 = 0
    · rw [if_pos hw] at h
      obtain ⟨h1, h2, h3⟩ := ih _ _ _ _ h
      refine ⟨by rw [h1, rawTotal, hw, Nat.zero_add], fun f => ?_, h3⟩
      rw [h2 f, wsum, hw, ite_self, Nat.zero_add]
    rw [if_neg hw] at h
    by_cases ho : tot + a.2 ≥ U64
    · rw [if_pos ho] at h; cases h
    rw [if_neg ho] at h
    obtain ⟨h1, h2, h3, h4⟩ := ih _ _ _ _ h
    refine ⟨by rw [h1, rawTotal, Nat.add_assoc], fun f => ?_, fun hs => h3 (sorted_addWeight hs _ _),
      fun hp => h4 fun e he => ?_⟩
    · rw [h2 f, wsum_addWeight, wsum, Nat.add_assoc]
    · exact (mem_addWeight he).elim (fun h => Nat.lt_of_lt_of_le (Nat.pos_of_ne_zero hw) h.2) (hp e)

theorem nvsLoop_isSome : ∀ (ws : List IdW) (tot : Nat) (m : List IdW), tot < U64 →
    ((nvsLoop ws tot m).isSome = true ↔ tot + rawTotal ws < U64) := by
  intro ws
  induction ws with
  | nil => intro tot m h; exact ⟨fun _ => h, fun _ => rfl⟩
  | cons a ws ih =>
    intro tot m h
    unfold nvsLoop rawTotal
    by_cases hw : a.2 = 0
    · rw [if_pos hw, hw, Nat.zero_add]; exact ih tot m h
    rw [if_neg hw]
    by_cases ho : tot + a.2 ≥ U64
    · rw [if_pos ho]; exact ⟨nofun, fun h => absurd h (by omega)⟩
    · rw [if_neg ho, ih _ _ (Nat.lt_of_not_le ho), Nat.add_assoc]

/-- what `NewVoterSet` makes of the raw list `ws` -/
structure VoterSetOf (ws : List IdW) (vs : VoterSet) : Prop where
  total : vs.total = rawTotal ws
  threshold : vs.threshold = C19.threshold (rawTotal ws)
  lt : rawTotal ws < U64
  pos : 0 < rawTotal ws
  wsum : ∀ f, wsum f vs.voters = wsum f ws
  weight : ∀ id, vs.weight? id = if rawWeight ws id = 0 then none else some (rawWeight ws id)
  sorted : Sorted vs.voters

theorem newVoterSet_spec {ws : List IdW} {vs : VoterSet} (h : newVoterSet ws = some vs) : VoterSetOf ws vs := by
  unfold newVoterSet at h
  cases hl : nvsLoop ws 0 [] with
  | none => rw [hl] at h; cases h
  | some r =>
    obtain ⟨tot, m⟩ := r
    simp only [hl] at h
    by_cases hne : m.isEmpty = true
    · rw [if_pos hne] at h; cases h
    rw [if_neg hne] at h
    cases h
    obtain ⟨a, b, hs, hp⟩ := nvsLoop_spec _ _ _ _ _ hl
    have b : ∀ f, wsum f m = wsum f ws := fun f => (b f).trans (Nat.zero_add _)
    have hsorted := hs List.Pairwise.nil
    have hlt : 0 + rawTotal ws < U64 := (nvsLoop_isSome ws 0 [] (by decide)).1 (hl ▸ rfl)
    rw [Nat.zero_add] at a hlt
    -- the stored weight of an id is its raw weight, and it is not zero
    have hw : ∀ id, lookupW m id = if rawWeight ws id = 0 then none else some (rawWeight ws id) := by
      intro id
      have := (wsum_single_sorted hsorted id).symm.trans ((b _).trans (wsum_single ws id))
      cases hx : lookupW m id with
      | none => rw [hx] at this; exact (if_pos this.symm).symm
      | some x =>
        have hpos := hp nofun _ (AList.mem_of_lookup (lookupW_eq m id ▸ hx))
        rw [hx] at this
        rw [if_neg (this ▸ Nat.ne_of_gt hpos), ← this]; rfl
    refine ⟨a, a ▸ rfl, hlt, ?_, b, hw, hsorted⟩
    -- non-empty map: some id has positive weight, so the total is positive
    cases m with
    | nil => exact absurd rfl hne
    | cons y ys =>
      have hy := hp nofun y List.mem_cons_self
      have := b fun _ => true
      rw [wsum_true, wsum_true] at this
      exact this ▸ Nat.lt_of_lt_of_le hy (Nat.le_add_right y.2 (rawTotal ys))

theorem newVoterSet_none {ws : List IdW} (h : newVoterSet ws = none) :
    U64 ≤ rawTotal ws ∨ rawTotal ws = 0 := by
  unfold newVoterSet at h
  cases hl : nvsLoop ws 0 [] with
  | none =>
    have := (nvsLoop_isSome ws 0 [] (by decide)).2
    rw [hl, Nat.zero_add] at this
    exact Or.inl (Nat.le_of_not_lt fun hlt => nomatch this hlt)
  | some r =>
    obtain ⟨tot, m⟩ := r
    simp only [hl] at h
    by_cases he : m.isEmpty = true
    · obtain ⟨_, b, _⟩ := nvsLoop_spec _ _ _ _ _ hl
      have := b fun _ => true
      rw [List.isEmpty_iff.1 he] at this
      exact Or.inr ((wsum_true ws).symm.trans ((Nat.zero_add _).symm.trans this.symm))
    · rw [if_neg he] at h; cases h

theorem contains_iff {ws : List IdW} {vs : VoterSet} (h : newVoterSet ws = some vs) (id : Nat) :
    vs.contains id = true ↔ 0 < rawWeight ws id := by
  unfold VoterSet.contains
  rw [(newVoterSet_spec h).weight id]
  split <;> simp <;> omega

end Gossamer.C19
