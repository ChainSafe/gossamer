/-
What another trie sees.  A view is the root cell `ρ` of that trie together with a region `P` that is closed under
child pointers and contains the children of `ρ`.  The two are read differently: the trie hashes `ρ` as ITS ROOT
(`RVal`: always hashed, a cache accepted only when it has 32 bytes) and the cells of `P` as non-root nodes (`Val`).
`ρ` may at the same time be the root cell of the trie that acts (a snapshot that has not diverged from its
parent), and `CalculateRootMerkleValue` of that trie then caches the ROOT flavour there; as a node strictly below
another root the same cell would get the non-root flavour.  Hence `Flav`: at `ρ` either flavour may be written.
`VP P ρ hp hp'` says that, on the cells of the view, `hp'` differs from `hp` only by such transparent cache
writes (`TrP` on `P`, `CellR` at `ρ`).  Then the root hash read through the view is unchanged (`VP.rval_iff`).
-/
import Gossamer.Lib.TrieHeapCache
namespace Gossamer
namespace TrieHeap

theorem merkleValue_large (H : Bytes → Bytes) (e : Bytes) (h : ¬ (merkleValue H e).length < 32) :
    merkleValue H e = H e := by
  unfold merkleValue at *
  split
  · rename_i hl; rw [if_pos hl] at h; exact absurd hl h
  · rfl

theorem mv_large {H : Bytes → Bytes} {root : Bool} {e : Bytes}
    (h : ¬ (if root then H e else merkleValue H e).length < 32) :
    (if root then H e else merkleValue H e) = H e := by
  cases root with
  | true => exact if_pos rfl
  | false => rw [if_neg Bool.false_ne_true] at h ⊢; exact merkleValue_large H e h

structure View (hp : Heap) (P : Nat → Prop) (ρ : Nat) : Prop where
  closed : Closed P hp
  kids : ∀ i c, (hp.get ρ).kids i = some c → P c

/-- `m` is what SOME reader (non-root or root) of the cell `ρ` obtains -/
def Flav (H : Bytes → Bytes) (hp : Heap) (ρ : Nat) (m : Bytes) : Prop := Val H hp ρ m ∨ RVal H hp ρ m

/-- a transparent cache write at the root cell of the view: `CellT (Flav H hp ρ) (hp.get ρ) (hp'.get ρ)` with its
    two components as fields (`CellR.cellT`, `CellR.of` convert) -/
structure CellR (H : Bytes → Bytes) (ρ : Nat) (hp hp' : Heap) : Prop where
  strip : (hp'.get ρ).strip = (hp.get ρ).strip
  cell : hp'.get ρ = hp.get ρ ∨
    ∃ m, (hp'.get ρ).mv = some m ∧
      ((hp'.get ρ).dirty = (hp.get ρ).dirty ∨ (hp'.get ρ).dirty = false) ∧ Flav H hp ρ m

structure VP (H : Bytes → Bytes) (P : Nat → Prop) (ρ : Nat) (hp hp' : Heap) : Prop where
  trp : TrP H P hp hp'
  root : CellR H ρ hp hp'

theorem VP.refl (H : Bytes → Bytes) (P : Nat → Prop) (ρ : Nat) (hp : Heap) : VP H P ρ hp hp :=
  ⟨TrP.refl H P hp, ⟨rfl, Or.inl rfl⟩⟩

theorem CellR.cellT {H : Bytes → Bytes} {ρ : Nat} {hp hp' : Heap} (t : CellR H ρ hp hp') :
    CellT (Flav H hp ρ) (hp.get ρ) (hp'.get ρ) := ⟨t.strip, t.cell⟩

theorem CellR.of {H : Bytes → Bytes} {ρ : Nat} {hp hp' : Heap} {n' : HNode} (e : hp'.get ρ = n')
    (c : CellT (Flav H hp ρ) (hp.get ρ) n') : CellR H ρ hp hp' := by
  subst e; exact ⟨c.1, c.2⟩

theorem View.next {H : Bytes → Bytes} {P : Nat → Prop} {ρ : Nat} {hp hp' : Heap} (v : View hp P ρ)
    (t : VP H P ρ hp hp') : View hp' P ρ :=
  ⟨t.trp.closed v.closed, fun i c hk => v.kids i c (by rw [← strip_kids t.root.strip]; exact hk)⟩

theorem rval_congr {H : Bytes → Bytes} {hp hp' : Heap} {ρ : Nat} (he : hp'.get ρ = hp.get ρ)
    (henc : ∀ e, Enc H hp ρ e ↔ Enc H hp' ρ e) (m : Bytes) : RVal H hp ρ m ↔ RVal H hp' ρ m := by
  unfold RVal
  rw [he]
  exact or_congr Iff.rfl (and_congr Iff.rfl (exists_congr fun e => and_congr (henc e) Iff.rfl))

theorem VP.rval_iff {H : Bytes → Bytes} {P : Nat → Prop} {ρ : Nat} {hp hp' : Heap} (v : View hp P ρ)
    (t : VP H P ρ hp hp') (m : Bytes) : RVal H hp ρ m ↔ RVal H hp' ρ m := by
  have henc := t.trp.enc_iff v.closed t.root.strip v.kids
  rcases t.root.cell with he | ⟨m', hm', hd', hf⟩
  · exact rval_congr he henc m
  · -- the cell was written with `m'`
    have key : ∀ e, Enc H hp ρ e → ¬ ((hp.get ρ).dirty = false ∧ ((hp.get ρ).mv.getD []).length = 32) →
        (m' = H e ∨ m' = merkleValue H e) → (RVal H hp ρ m ↔ RVal H hp' ρ m) := by
      intro e he hnu hme
      have h0 : RVal H hp ρ m ↔ m = H e := by
        constructor
        · rintro (⟨hu, _⟩ | ⟨_, e', he', rfl⟩)
          · exact absurd hu hnu
          · rw [he'.functional he]
        · rintro rfl; exact Or.inr ⟨hnu, e, he, rfl⟩
      -- a value of 32 bytes is the hash in either flavour
      have h32 : ((hp'.get ρ).mv.getD []).length = 32 → m' = H e := by
        intro hl
        rcases hme with rfl | hme
        · rfl
        · rw [hm', hme] at hl; rw [hme]; exact merkleValue_large H e (Nat.not_lt.mpr (Nat.le_of_eq hl.symm))
      have h1 : RVal H hp' ρ m ↔ m = H e := by
        constructor
        · rintro (⟨hu, hmv⟩ | ⟨_, e', he', rfl⟩)
          · rw [hm'] at hmv; cases hmv; exact h32 hu.2
          · rw [((henc e').mpr he').functional he]
        · rintro rfl
          by_cases hu : (hp'.get ρ).dirty = false ∧ ((hp'.get ρ).mv.getD []).length = 32
          · exact Or.inl ⟨hu, by rw [hm', h32 hu.2]⟩
          · exact Or.inr ⟨hu, e, (henc e).mp he, rfl⟩
      rw [h0, h1]
    -- a clean cell rewritten with the value it holds is the same cell
    have same : (hp.get ρ).dirty = false → (hp.get ρ).mv = some m' → (RVal H hp ρ m ↔ RVal H hp' ρ m) :=
      fun hd hm => rval_congr (hnode_ext t.root.strip (hd'.elim id (fun h => h.trans hd.symm)) (hm'.trans hm.symm))
        henc m
    rcases hf with hv | hr
    · -- non-root flavour
      cases hv with
      | cached hd hm => exact same hd hm
      | comp ms hcnd hk =>
        refine key _ ⟨ms, hk, rfl⟩ ?_ (Or.inr rfl)
        rintro ⟨h1, h2⟩
        rcases hcnd with h | h
        · rw [h] at h1; cases h1
        · rw [h] at h2; simp at h2
    · -- root flavour
      rcases hr with ⟨hu, hmv⟩ | ⟨hnu, e, he, rfl⟩
      · exact same hu.1 hmv
      · exact key e he hnu (Or.inl rfl)

theorem VP.flav_bwd {H : Bytes → Bytes} {P : Nat → Prop} {ρ : Nat} {hp hp' : Heap} (v : View hp P ρ)
    (t : VP H P ρ hp hp') {m : Bytes} (h : Flav H hp' ρ m) : Flav H hp ρ m := by
  rcases h with hv | hr
  · cases hv with
    | cached hd hm => exact (t.root.cellT.cached_bwd hd hm).elim Or.inl id
    | comp ms hc hk =>
      exact Or.inl (t.root.cellT.comp_bwd ms hc (fun i x hic =>
        t.trp.val_bwd v.closed (hk i x (by rw [encKids_strip t.root.strip]; exact hic))
          (v.kids i x (encKids_sub hic))))
  · exact Or.inr ((t.rval_iff v m).mpr hr)

theorem VP.trans {H : Bytes → Bytes} {P : Nat → Prop} {ρ : Nat} {hp hp1 hp2 : Heap} (v : View hp P ρ)
    (t1 : VP H P ρ hp hp1) (t2 : VP H P ρ hp1 hp2) : VP H P ρ hp hp2 :=
  ⟨t1.trp.trans t2.trp v.closed,
    CellR.of rfl (t1.root.cellT.trans t2.root.cellT (fun _ hf => t1.flav_bwd v hf))⟩

theorem VP.frame {H : Bytes → Bytes} {P : Nat → Prop} {ρ : Nat} {hp hp1 hp2 : Heap}
    (t : VP H P ρ hp hp1) (h : ∀ a, (P a ∨ a = ρ) → hp2.get a = hp1.get a) : VP H P ρ hp hp2 :=
  ⟨⟨fun a ha => by rw [h a (Or.inl ha)]; exact t.trp.cell a ha⟩, CellR.of (h ρ (Or.inr rfl)) t.root.cellT⟩

theorem VP.of_tr {H : Bytes → Bytes} {P : Nat → Prop} {ρ : Nat} {hp hp' : Heap} (v : View hp P ρ)
    (t : Tr H hp hp') : VP H P ρ hp hp' := by
  have hq : Closed (fun a => P a ∨ a = ρ) hp := by
    intro a ha i c hk
    rcases ha with ha | rfl
    · exact Or.inl (v.closed a ha i c hk)
    · exact Or.inl (v.kids i c hk)
  have tq := t.trp _ hq
  exact ⟨tq.mono (fun a ha => Or.inl ha), CellR.of rfl (CellT.mono (tq.cell ρ (Or.inr rfl)) (fun _ => Or.inl))⟩

theorem VP.write_mv {H : Bytes → Bytes} {P : Nat → Prop} {ρ : Nat} {hp hp1 : Heap}
    (t : VP H P ρ hp hp1) (a : Nat) (m : Bytes) (hv : P a → Val H hp a m) (hf : a = ρ → Flav H hp ρ m) :
    VP H P ρ hp (hp1.modify a (fun x => { x with mv := some m })) := by
  refine ⟨t.trp.write_mv a m hv, ?_⟩
  rcases hp1.get_modify_cases a _ ρ with ⟨e0, e⟩ | e
  · exact CellR.of e (t.root.cellT.write_mv (hf e0.symm))
  · exact CellR.of e t.root.cellT

/-- `SetClean` -/
theorem VP.write_clean {H : Bytes → Bytes} {P : Nat → Prop} {ρ : Nat} {hp hp1 : Heap}
    (t : VP H P ρ hp hp1) (a : Nat)
    (hv : P a → ∃ m, (hp1.get a).mv = some m ∧ Val H hp a m)
    (hf : a = ρ → ∃ m, (hp1.get ρ).mv = some m ∧ Flav H hp ρ m) :
    VP H P ρ hp (hp1.modify a (fun x => { x with dirty := false })) := by
  refine ⟨⟨fun b hb => ?_⟩, ?_⟩
  · rcases hp1.get_modify_cases a _ b with ⟨rfl, e⟩ | e <;> rw [e]
    · obtain ⟨m, hm, hval⟩ := hv hb
      exact CellT.write_clean (t.trp.cell b hb) hm hval
    · exact t.trp.cell b hb
  · rcases hp1.get_modify_cases a _ ρ with ⟨e0, e⟩ | e
    · obtain ⟨m, hm, hfl⟩ := hf e0.symm
      exact CellR.of e (t.root.cellT.write_clean hm hfl)
    · exact CellR.of e t.root.cellT

theorem calcRootMV_eq (H : Bytes → Bytes) (hp : Heap) (a : Nat) :
    calcRootMV H hp a =
      if (hp.get a).dirty = false ∧ ((hp.get a).mv.getD []).length = 32 then (hp, (hp.get a).mv)
      else ((encodeAndHash H true hp a).1, (encodeAndHash H true hp a).2.map (·.2)) := by
  unfold calcRootMV
  simp only [Bool.and_eq_true, Bool.not_eq_true', beq_iff_eq]

theorem calcRootMV_spec (H : Bytes → Bytes) (hp : Heap) (r : Nat) :
    ∃ hp1, Tr H hp hp1 ∧
      ((calcRootMV H hp r).1 = hp1 ∨ ∃ m, (calcRootMV H hp r).2 = some m ∧
        (calcRootMV H hp r).1 = hp1.modify r (fun x => { x with mv := some m })) ∧
      ∀ m, (calcRootMV H hp r).2 = some m → RVal H hp r m := by
  rw [calcRootMV_eq]
  by_cases hu : (hp.get r).dirty = false ∧ ((hp.get r).mv.getD []).length = 32
  · rw [if_pos hu]
    exact ⟨hp, Tr.refl H hp, Or.inl rfl, fun m hm => Or.inl ⟨hu, hm⟩⟩
  · rw [if_neg hu]
    obtain ⟨hm, hspec⟩ := encodeAndHash_spec H true hp r
    generalize encodeAndHash H true hp r = e at hm hspec ⊢
    obtain ⟨hpe, _ | ⟨enc, m⟩⟩ := e
    · exact ⟨hpe, hspec, Or.inl rfl, fun m h => nomatch h⟩
    · obtain ⟨henc, hmv, hp1, t1, heq⟩ := hspec
      exact ⟨hp1, t1, Or.inr ⟨m, rfl, heq⟩, fun m' h => by cases h; exact Or.inr ⟨hu, enc, henc, hmv⟩⟩

theorem mvOnly_calcRootMV (H : Bytes → Bytes) (hp : Heap) (a : Nat) : MvOnly hp (calcRootMV H hp a).1 := by
  obtain ⟨hp1, t1, e | ⟨m, _, e⟩, _⟩ := calcRootMV_spec H hp a <;> rw [e]
  · exact t1.mvOnly
  · exact t1.mvOnly.trans (MvOnly.modify_mv _ a _)

theorem calcRootMV_vp {H : Bytes → Bytes} {P : Nat → Prop} {ρ : Nat} {hp : Heap} (v : View hp P ρ)
    (r : Nat) (hr : ¬ P r) : VP H P ρ hp (calcRootMV H hp r).1 := by
  obtain ⟨hp1, t1, e | ⟨m, hm, e⟩, hs⟩ := calcRootMV_spec H hp r <;> rw [e]
  · exact VP.of_tr v t1
  · exact (VP.of_tr v t1).write_mv r m (fun hP => absurd hP hr) (fun e => e ▸ Or.inr (hs m hm))

end TrieHeap
end Gossamer
