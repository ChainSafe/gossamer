/-
C19: the vote tracker after importing a list of precommits, characterised by order-independent
predicates on that list (`equivB`, `supportsB`).
-/
import Gossamer.Model.C19
import Gossamer.Lib.AList
namespace Gossamer.C19

/-- `id` signed two precommits that differ in vote or signature -/
def equivB (vp : List Pre) (id : Nat) : Bool :=
  vp.any (fun p => vp.any (fun q => p.id == id && q.id == id && !sameVS p q))

/-- `id` counts for block `b`: it equivocated, or one of its precommits is for `b` or a descendant -/
def supportsB (c : Chain) (vp : List Pre) (id b : Nat) : Bool :=
  equivB vp id || vp.any (fun p => p.id == id && desc c b p.blk)

theorem sameVS_iff {a b : Pre} : sameVS a b = true ↔ a.blk = b.blk ∧ a.num = b.num ∧ a.sig = b.sig := by
  simp only [sameVS, Bool.and_eq_true, beq_iff_eq, and_assoc]

theorem sameVS_refl (a : Pre) : sameVS a a = true := sameVS_iff.2 ⟨rfl, rfl, rfl⟩

theorem sameVS_symm {a b : Pre} (h : sameVS a b = true) : sameVS b a = true :=
  have ⟨h1, h2, h3⟩ := sameVS_iff.1 h
  sameVS_iff.2 ⟨h1.symm, h2.symm, h3.symm⟩

theorem sameVS_trans {a b d : Pre} (h1 : sameVS a b = true) (h2 : sameVS b d = true) : sameVS a d = true :=
  have ⟨a1, a2, a3⟩ := sameVS_iff.1 h1
  have ⟨b1, b2, b3⟩ := sameVS_iff.1 h2
  sameVS_iff.2 ⟨a1.trans b1, a2.trans b2, a3.trans b3⟩

theorem sameVS_blk {a b : Pre} (h : sameVS a b = true) : a.blk = b.blk := (sameVS_iff.1 h).1

/-- what `addVote` does to the entry of the signer -/
def upd (p : Pre) : Option Tracked → Tracked
  | none => ⟨p.id, p, none⟩
  | some t => match t.second with
    | none => if sameVS t.first p then t else ⟨t.id, t.first, some p⟩
    | some _ => t

/-- what `addVote` answers -/
def resOf (p : Pre) : Option Tracked → AddRes
  | none => .fresh
  | some t => match t.second with
    | none => if sameVS t.first p then .dup else .equiv
    | some s => if sameVS t.first p || sameVS s p then .dup else .ignored

theorem findT_cons (t : Tracked) (ts : List Tracked) (id : Nat) :
    findT (t :: ts) id = if id = t.id then some t else findT ts id := by
  rw [findT]
  by_cases h : id = t.id
  · rw [if_pos h, if_pos h.symm]
  · rw [if_neg h, if_neg (Ne.symm h)]

theorem findT_mem {tr : List Tracked} {id : Nat} {t : Tracked} (h : findT tr id = some t) : t ∈ tr := by
  induction tr with
  | nil => cases h
  | cons a ts ih =>
    rw [findT] at h
    split at h
    · cases h; exact List.mem_cons_self
    · exact List.mem_cons_of_mem _ (ih h)

theorem upd_some_id (p : Pre) (t : Tracked) : (upd p (some t)).id = t.id := by
  rw [upd]
  split
  · split <;> rfl
  · rfl

theorem upd_some_first (p : Pre) (t : Tracked) : (upd p (some t)).first = t.first := by
  rw [upd]
  split
  · split <;> rfl
  · rfl

theorem upd_of_second (p : Pre) {t : Tracked} (h : t.second.isSome = true) : upd p (some t) = t := by
  rw [upd]
  split
  · rename_i hn; rw [hn] at h; cases h
  · rfl

theorem resOf_fresh_iff {p : Pre} {o : Option Tracked} : resOf p o = .fresh ↔ o = none := by
  cases o with
  | none => exact ⟨fun _ => rfl, fun _ => rfl⟩
  | some t =>
    simp only [resOf]
    cases t.second <;> (simp only; split <;> exact ⟨nofun, nofun⟩)

theorem resOf_equiv {p : Pre} {o : Option Tracked} (h : resOf p o = .equiv) :
    ∃ t, o = some t ∧ t.second = none ∧ (upd p o).second = some p := by
  cases o with
  | none => cases h
  | some t =>
    simp only [resOf] at h
    simp only [upd]
    cases hsec : t.second with
    | some q => rw [hsec] at h; simp only at h; split at h <;> cases h
    | none =>
      rw [hsec] at h
      simp only at h ⊢
      split at h
      · cases h
      · rename_i hne; exact ⟨t, rfl, hsec, by rw [if_neg hne]⟩

theorem addVote_head {t : Tracked} {p : Pre} (ht : t.id = p.id) (ts : List Tracked) :
    addVote (t :: ts) p = (upd p (some t) :: ts, resOf p (some t)) := by
  rw [addVote, if_pos ht, upd, resOf]
  cases t.second with
  | none => dsimp only; split <;> rfl
  | some s => dsimp only; split <;> rfl

theorem findT_addVote (tr : List Tracked) (p : Pre) (id : Nat) :
    findT (addVote tr p).1 id = if id = p.id then some (upd p (findT tr p.id)) else findT tr id := by
  induction tr with
  | nil => exact findT_cons _ _ id
  | cons t ts ih =>
    by_cases ht : t.id = p.id
    · rw [addVote_head ht ts, findT_cons, findT_cons, findT_cons, upd_some_id, ht, if_pos rfl]
      split <;> rfl
    · rw [addVote, if_neg ht]
      simp only [findT_cons, ih, if_neg (Ne.symm ht)]
      by_cases hid : id = p.id
      · simp only [if_pos hid, if_neg (hid ▸ Ne.symm ht : ¬id = t.id)]
      · simp only [if_neg hid]

theorem addVote_res (tr : List Tracked) (p : Pre) : (addVote tr p).2 = resOf p (findT tr p.id) := by
  induction tr with
  | nil => rfl
  | cons t ts ih =>
    rw [findT_cons]
    by_cases ht : t.id = p.id
    · rw [addVote_head ht ts, if_pos ht.symm]
    · rw [addVote, if_neg ht, if_neg (Ne.symm ht)]
      exact ih

/-- what the entry `t` of signer `id` records of the precommits `seen` -/
structure EntryInv (seen : List Pre) (id : Nat) (t : Tracked) : Prop where
  first_mem : t.first ∈ seen
  first_id : t.first.id = id
  second : ∀ q, t.second = some q → q ∈ seen ∧ q.id = id ∧ sameVS t.first q = false
  single : t.second = none → ∀ p ∈ seen, p.id = id → sameVS t.first p = true

/-- the tracker `tr` after the precommits `seen`.  `mem_first` speaks of every member of `tr`, not only of what `findT`
    finds: `children` ranges over the list. -/
structure TrInv (tr : List Tracked) (seen : List Pre) : Prop where
  absent : ∀ id, findT tr id = none → ∀ p ∈ seen, p.id ≠ id
  entry : ∀ id t, findT tr id = some t → EntryInv seen id t
  mem_first : ∀ t ∈ tr, t.first ∈ seen

theorem trInv_nil : TrInv [] [] :=
  ⟨fun _ _ _ h => (nomatch h), fun _ t (h : none = some t) => (nomatch h), fun _ h => (nomatch h)⟩

theorem EntryInv.snoc {seen : List Pre} {id : Nat} {t : Tracked} (h : EntryInv seen id t) {p : Pre}
    (hp : t.second = none → p.id = id → sameVS t.first p = true) : EntryInv (seen ++ [p]) id t where
  first_mem := List.mem_append_left _ h.first_mem
  first_id := h.first_id
  second q hq :=
    have ⟨b1, b2, b3⟩ := h.second q hq
    ⟨List.mem_append_left _ b1, b2, b3⟩
  single hsec q hq hqid := by
    rcases List.mem_append.1 hq with hq | hq
    · exact h.single hsec q hq hqid
    · rw [List.mem_singleton.1 hq] at hqid ⊢
      exact hp hsec hqid

theorem EntryInv.upd {seen : List Pre} {p : Pre} : ∀ {o : Option Tracked},
    (o = none → ∀ q ∈ seen, q.id ≠ p.id) → (∀ t, o = some t → EntryInv seen p.id t) →
    EntryInv (seen ++ [p]) p.id (upd p o)
  | none, hn, _ =>
    { first_mem := List.mem_concat_self
      first_id := rfl
      second := fun _ h => nomatch h
      single := fun _ q hq hqid => by
        rcases List.mem_append.1 hq with hq | hq
        · exact absurd hqid (hn rfl q hq)
        · rw [List.mem_singleton.1 hq]; exact sameVS_refl p }
  | some t, _, hs => by
    have e := hs t rfl
    rw [C19.upd]
    cases hsec : t.second with
    | some s =>
      dsimp only
      exact e.snoc (fun h => by rw [hsec] at h; cases h)
    | none =>
      dsimp only
      by_cases hv : sameVS t.first p = true
      · rw [if_pos hv]
        exact e.snoc (fun _ _ => hv)
      · rw [if_neg hv]
        -- the second vote of an equivocator is recorded
        exact
          { first_mem := List.mem_append_left _ e.first_mem
            first_id := e.first_id
            second := fun q hq => by
              cases hq
              exact ⟨List.mem_concat_self, rfl, Bool.eq_false_iff.2 hv⟩
            single := fun h => nomatch h }

theorem addVote_first {tr : List Tracked} {p : Pre} {S : List Pre} (hp : p ∈ S) :
    (∀ t ∈ tr, t.first ∈ S) → ∀ t ∈ (addVote tr p).1, t.first ∈ S := by
  induction tr with
  | nil =>
    intro _ t ht
    rw [List.mem_singleton.1 ht]
    exact hp
  | cons t ts ih =>
    intro h
    have h2 : ∀ x ∈ ts, x.first ∈ S := fun x hx => h x (List.mem_cons_of_mem _ hx)
    have key : ∀ (t' : Tracked) (ts' : List Tracked), t'.first = t.first → (∀ x ∈ ts', x.first ∈ S) →
        ∀ x ∈ t' :: ts', x.first ∈ S := fun t' ts' e h' x hx => by
      rcases List.mem_cons.1 hx with hx | hx
      · rw [hx, e]; exact h t List.mem_cons_self
      · exact h' x hx
    by_cases ht : t.id = p.id
    · rw [addVote_head ht ts]
      exact key _ ts (upd_some_first p t) h2
    · rw [addVote, if_neg ht]
      exact key t _ rfl (ih h2)

theorem trInv_step {tr : List Tracked} {seen : List Pre} (h : TrInv tr seen) (p : Pre) :
    TrInv (addVote tr p).1 (seen ++ [p]) where
  absent id hf := by
    rw [findT_addVote] at hf
    by_cases hid : id = p.id
    · rw [if_pos hid] at hf; cases hf
    · rw [if_neg hid] at hf
      intro q hq
      rcases List.mem_append.1 hq with hq | hq
      · exact h.absent id hf q hq
      · rw [List.mem_singleton.1 hq]; exact Ne.symm hid
  entry id t ht := by
    rw [findT_addVote] at ht
    by_cases hid : id = p.id
    · rw [if_pos hid] at ht
      cases ht
      rw [hid]
      exact EntryInv.upd (h.absent p.id) (h.entry p.id)
    · rw [if_neg hid] at ht
      exact (h.entry id t ht).snoc (fun _ e => absurd e.symm hid)
  mem_first :=
    addVote_first List.mem_concat_self
      (fun t ht => List.mem_append_left _ (h.mem_first t ht))

def trackAll (l : List Pre) : List Tracked := l.foldl (fun tr p => (addVote tr p).1) []

theorem trInv_all (l : List Pre) : TrInv (trackAll l) l := by
  simpa [trackAll] using foldl_inv (fun tr p => (addVote tr p).1) (fun seen tr => TrInv tr seen) (fun _ => True)
    (fun _ _ p _ h => trInv_step h p) l [] [] (fun _ _ => trivial) trInv_nil

theorem equivB_iff (vp : List Pre) (id : Nat) :
    equivB vp id = true ↔ ∃ p ∈ vp, ∃ q ∈ vp, p.id = id ∧ q.id = id ∧ sameVS p q = false := by
  simp [equivB, List.any_eq_true, and_assoc]

theorem supportsB_iff (c : Chain) (vp : List Pre) (id b : Nat) :
    supportsB c vp id b = true ↔
      equivB vp id = true ∨ ∃ p ∈ vp, p.id = id ∧ desc c b p.blk = true := by
  simp [supportsB, List.any_eq_true]

theorem EntryInv.equiv_eq {seen : List Pre} {id : Nat} {t : Tracked} (e : EntryInv seen id t) :
    t.second.isSome = equivB seen id := by
  rw [Bool.eq_iff_iff, equivB_iff]
  cases hsec : t.second with
  | some q =>
    obtain ⟨b1, b2, b3⟩ := e.second q hsec
    exact iff_of_true rfl ⟨t.first, e.first_mem, q, b1, e.first_id, b2, b3⟩
  | none =>
    refine iff_of_false nofun fun ⟨p, hp, q, hq, hpi, hqi, hne⟩ => ?_
    rw [sameVS_trans (sameVS_symm (e.single hsec p hp hpi)) (e.single hsec q hq hqi)] at hne
    cases hne

theorem bit_eq_supports {tr : List Tracked} {vp : List Pre} (h : TrInv tr vp) (c : Chain) (id b : Nat) :
    bit c tr id b = supportsB c vp id b := by
  rw [Bool.eq_iff_iff, supportsB_iff]
  unfold bit
  cases hf : findT tr id with
  | none =>
    simp only [Bool.false_eq_true, false_iff, equivB_iff]
    rintro (⟨p, hp, _, _, hpi, _⟩ | ⟨p, hp, hpi, _⟩) <;> exact h.absent id hf p hp hpi
  | some t =>
    have e := h.entry id t hf
    simp only [e.equiv_eq, Bool.or_eq_true]
    cases he : equivB vp id with
    | true => exact iff_of_true (Or.inl rfl) (Or.inl rfl)
    | false =>
      -- no equivocation: every precommit of `id` repeats the first
      have hall := e.single (Option.not_isSome_iff_eq_none.1 (by rw [e.equiv_eq, he]; decide))
      simp only [Bool.false_eq_true, false_or]
      exact ⟨fun hd => ⟨t.first, e.first_mem, e.first_id, hd⟩,
        fun ⟨p, hp, hpi, hd⟩ => sameVS_blk (hall p hp hpi) ▸ hd⟩

theorem TrInv.tracked_below {tr : List Tracked} {vp : List Pre} (h : TrInv tr vp) {c : Chain} {id b : Nat}
    (hs : supportsB c vp id b = true) (he : equivB vp id = false) : ∃ t ∈ tr, desc c b t.first.blk = true := by
  rw [← bit_eq_supports h, bit] at hs
  cases hf : findT tr id with
  | none => rw [hf] at hs; cases hs
  | some t =>
    simp only [hf, (h.entry id t hf).equiv_eq, he, Bool.false_or] at hs
    exact ⟨t, findT_mem hf, hs⟩

theorem importStep_stop {vs : VoterSet} {s : Imp} (h : s.stop = true) (p : Pre) : importStep vs s p = s := by
  simp [importStep, h]

theorem import_stop_mono (vs : VoterSet) : ∀ (l : List Pre) (s : Imp), s.stop = true →
    (l.foldl (importStep vs) s).stop = true :=
  fun l _ h => foldl_pres (fun s : Imp => s.stop = true) _ (fun _ p h => (importStep_stop h p).symm ▸ h) l h

end Gossamer.C19
