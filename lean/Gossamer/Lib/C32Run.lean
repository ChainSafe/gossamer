/-
The invariant of histories.  The layers, innermost first: `EvOk K K' evs` (a stretch of importer events from
known set `K` to `K'`), `ImpOk` (one `importAll` went well), `ProcOk` (one `Process` call went well), `RunInv` (the
whole history); beside them `Inv` (the unready set) and `AbsInv` (the first loop of `Process`).
-/
import Gossamer.Lib.C32Import
import Gossamer.Lib.AList
namespace Gossamer.C32

structure ProcOk (st : St) (o : POut) : Prop where
  ok : o.outcome = .ok
  inv : Inv o.st
  evs : EvOk st.known o.st.known o.events

theorem finish_ok (v : Validated) {st1 : St} {ready : List (List BD)} (hinv : Inv st1)
    (hready : ∀ f ∈ ready, GoodFrag f) : ProcOk st1 (finish v st1 ready) := by
  have hfr := mergeFrags_good (forall_sortFrags hready)
  have hne : ready.any (·.isEmpty) = false :=
    List.any_eq_false.mpr fun f hf => mt List.isEmpty_iff.mp (hready f hf).ne
  unfold finish
  rw [hne, if_neg Bool.false_ne_true]
  dsimp only
  generalize mergeFrags (sortFrags ready) = frags at hfr ⊢
  have h1 := importAll_ok (st := st1) (K := st1.known)
    (readyL_flatten (l := frags.filter (headParentKnown st1.known)) fun f hf =>
      ⟨hfr f (List.mem_filter.mp hf).1, (List.mem_filter.mp hf).2⟩) (fun x hx => hx)
  generalize importAll st1 _ = r1 at h1 ⊢
  rw [h1.ok]
  dsimp only
  obtain ⟨hs1, hs2⟩ := second_spec (known := r1.1.known) (fin := r1.1.fin)
    (disj := frags.filter fun f => !headParentKnown st1.known f)
    fun f hf => hfr f (List.mem_filter.mp hf).1
  generalize second _ _ _ = s at hs1 hs2 ⊢
  have h2 := importAll_ok (st := { r1.1 with disjoint := r1.1.disjoint ++ s.stored })
    (K := r1.1.known) hs1 (fun x hx => hx)
  generalize importAll _ s.next = r2 at h2 ⊢
  rw [h2.ok]
  refine ⟨rfl, removeIrrelevant_inv ⟨?_, ?_⟩, h1.evs.trans h2.evs⟩
  · rw [h2.dj]
    exact List.forall_mem_append.mpr ⟨h1.dj ▸ hinv.dj, hs2⟩
  · rw [h2.inc]
    exact h1.inc ▸ hinv.inc

theorem process_ok (bad : List Nat) {st : St} (hinv : Inv st) (results : List Result) :
    ProcOk st (process bad st results) := by
  unfold process
  simp only []
  have habs : AbsInv st ((validateResults bad results).valid.foldl (absorb st.fin) (st, [])) :=
    -- the prefix argument of `foldl_inv` is not used: only that every element is a `ValidResp`
    foldl_inv (absorb st.fin) (fun _ => AbsInv st) ValidResp (fun _ _ _ hv h => absorb_inv h hv) _ [] _
      (fun _ hv => validResp_of_mem hv) ⟨hinv, List.forall_mem_nil _, rfl, rfl⟩
  generalize (validateResults bad results).valid.foldl (absorb st.fin) (st, []) = acc at habs ⊢
  have h := finish_ok (validateResults bad results) habs.inv habs.ready
  exact ⟨h.ok, h.inv, habs.known ▸ h.evs⟩

/-- `[0]` is the initial known set (genesis) -/
structure RunInv (r : Run) : Prop where
  inv : Inv r.st
  evs : EvOk [0] r.st.known r.trace
  outs : ∀ o ∈ r.outcomes, o = .ok

theorem step_inv (bad : List Nat) {r : Run} (h : RunInv r) : ∀ op, RunInv (step bad r op)
  | .announce b => ⟨newIncomplete_inv h.inv b, h.evs, h.outs⟩
  | .proc results =>
    have hp := process_ok bad h.inv results
    ⟨hp.inv, h.evs.trans hp.evs,
      List.forall_mem_append.mpr ⟨h.outs, List.forall_mem_singleton.mpr hp.ok⟩⟩

theorem run_inv (bad : List Nat) (ops : List Op) : RunInv (run bad ops) :=
  foldl_pres RunInv (step bad) (fun _ op h => step_inv bad h op) ops
    ⟨⟨List.forall_mem_nil _, List.forall_mem_nil _⟩, EvOk.nil fun _ h => h, List.forall_mem_nil _⟩

/-- of the validation result only `reps` and `blocked` reach the output of `Process` -/
theorem finish_indep (v1 v2 : Validated) (st : St) (ready : List (List BD)) :
    (finish v1 st ready).st = (finish v2 st ready).st ∧
    (finish v1 st ready).events = (finish v2 st ready).events ∧
    (finish v1 st ready).outcome = (finish v2 st ready).outcome ∧
    (finish v1 st ready).queued = (finish v2 st ready).queued := by
  unfold finish
  split
  · exact ⟨rfl, rfl, rfl, rfl⟩
  · simp only []
    split
    · split <;> exact ⟨rfl, rfl, rfl, rfl⟩
    · exact ⟨rfl, rfl, rfl, rfl⟩

end Gossamer.C32
