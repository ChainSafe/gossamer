/-
C08: every write of `TrieState` over the ideal backend inside a transaction, as an operation on the
level (`Lvl`): the new diff has the level obtained by the specification's operation.  A write to
main storage replaces the main change set (`Lvl.setMain`; a deletion of a key that names no child
trie does not touch the child change sets, `fold_delete_mainKey`), a write to a child trie replaces
that child's change set (`Lvl.mapKid`); what either does to the map is the action of the change-set
operation on a one-level overlay.  The limited removals agree with the specification outside the
finding `alldeleted-counts-nonmatching`.
-/
import Gossamer.Lib.C08Level
set_option linter.unusedSectionVars false
namespace Gossamer.C08
open Gossamer

/-- `p` and the child-root prefix are comparable: it extends it or is extended by it (the empty
    prefix does).  The fragment `OpOK` (Lib/C08SimStep) admits a prefix clear only away from this
    region.  The driver applies the same test through a copy of its own (Driver/C08, same name). -/
def overlapsRegion (p : Bytes) : Bool := p.isPrefixOf childPrefix || childPrefix.isPrefixOf p

theorem not_child_of_prefix {p x : Bytes} (h : overlapsRegion p = false)
    (hx : p.isPrefixOf x = true) : Logical.isChildKey x = false := by
  cases hc : Logical.isChildKey x with
  | false => rfl
  | true =>
    unfold overlapsRegion at h
    simp only [Bool.or_eq_false_iff] at h
    rcases isPrefixOf_total (b := childPrefix) hx hc with c | c
    · rw [h.1] at c; cases c
    · rw [h.2] at c; cases c

section
variable {CK : Bytes → Bool} {b l : Logical} {d : Diff}

theorem DiffInv.setMain (hd : DiffInv CK d) {c' : CDiff} (hc : c'.Ok)
    (hups : ∀ k, (CK k = true ∨ Logical.isChildKey k = true) → KMap.find k c'.upserts = none)
    (hdels : ∀ k, k ∈ c'.deletes → Logical.isChildKey k = false) : DiffInv CK { d with c := c' } :=
  .of_ok hc hd.sorted.kids (fun _ _ => hd.ok_of_find) hups hdels hd.kidsCK

/-- `hdel`: the child tries are untouched as long as no child-trie key changes its deletion mark -/
theorem Lvl.setMain (h : Lvl CK b d l) {c' : CDiff} {m : Entries} (hc : c'.Ok)
    (hups : ∀ k, (CK k = true ∨ Logical.isChildKey k = true) → KMap.find k c'.upserts = none)
    (hdels : ∀ k, k ∈ c'.deletes → Logical.isChildKey k = false)
    (hdel : ∀ ck, CK ck = true → (ck ∈ c'.deletes ↔ ck ∈ d.c.deletes))
    (ho : Overlay b.main c'.upserts c'.deletes m) (hm : BaseInv CK { l with main := m }) :
    Lvl CK b { d with c := c' } { l with main := m } :=
  ⟨h.dinv.setMain hc hups hdels, hm, ho,
    fun ck hck hnd => h.kid ck hck (mt (hdel ck hck).mpr hnd), fun ck hd => by
      cases hck : CK ck with
      | false => exact hm.kidsCK ck hck
      | true => exact h.dead ck ((hdel ck hck).mp hd)⟩

theorem Lvl.upsert (h : Lvl CK b d l) (k v : Bytes)
    (hk : Logical.isChildKey k = false ∧ CK k = false) :
    Lvl CK b (d.upsert k v) { l with main := OMap.upsert k v l.main } :=
  h.setMain (h.dinv.cOk.upsert k v)
    (fun k' h' => KMap.find_ins_none (h'.elim (ne_of_true_of_false · hk.2)
      (ne_of_true_of_false · hk.1)) (h.dinv.upsCK k' h'))
    (fun k' h' => h.dinv.delsNoChild k' (KSet.mem_del.mp h').2)
    (fun _ hck => KSet.mem_del.trans (and_iff_right (ne_of_true_of_false hck hk.2)))
    (h.main.upsert k v) (baseInv_put h.linv k v hk)

theorem fold_delete_mainKey (hd : ∀ ck, CK ck = false → KMap.find ck d.kids = none) (K : List Bytes)
    (hK : ∀ x ∈ K, CK x = false) :
    K.foldl Diff.delete d = { d with c := K.foldl CDiff.delete d.c } := by
  induction K generalizing d with
  | nil => rfl
  | cons k r ih =>
    have e : d.delete k = { d with c := d.c.delete k } :=
      congrArg (Diff.mk _) (KMap.del_of_find_none (hd k (hK k (by simp))))
    rw [List.foldl_cons, List.foldl_cons, e]
    exact ih hd fun x hx => hK x (by simp [hx])

/-- the filter `q` covers erase, prefix clear and the keys a limit allows -/
theorem Lvl.deleteAll (h : Lvl CK b d l) (K : List Bytes)
    (hK : ∀ x ∈ K, Logical.isChildKey x = false ∧ CK x = false) {q : Bytes × Bytes → Bool}
    (ho : Overlay b.main (K.foldl CDiff.delete d.c).upserts (K.foldl CDiff.delete d.c).deletes
      (l.main.filter q)) :
    Lvl CK b (K.foldl Diff.delete d) { l with main := l.main.filter q } := by
  have hd := h.dinv
  rw [fold_delete_mainKey hd.kidsCK K fun x hx => (hK x hx).2]
  refine h.setMain (hd.cOk.foldDelete K) (fun k hk => ?_) (fun k hk => ?_) (fun ck hck => ?_) ho
    (baseInv_filter h.linv q)
  · exact foldl_pres (fun c => KMap.find k c.upserts = none) CDiff.delete
      (fun _ _ h => KMap.find_del_none h) K (hd.upsCK k hk)
  · rcases (mem_fold_dels K d.c k).mp hk with hm | hm
    · exact (hK k hm).1
    · exact hd.delsNoChild k hm
  · rw [mem_fold_dels]
    exact or_iff_right fun hm => ne_of_true_of_false hck (hK ck hm).2 rfl

theorem Lvl.delete (h : Lvl CK b d l) (k : Bytes)
    (hk : Logical.isChildKey k = false ∧ CK k = false) :
    Lvl CK b (d.delete k) { l with main := OMap.erase k l.main } :=
  h.deleteAll [k] (fun _ hx => List.mem_singleton.mp hx ▸ hk) (h.main.delete k)

theorem DiffInv.delete (hd : DiffInv CK d) (k : Bytes) (hk : Logical.isChildKey k = false) :
    DiffInv CK (d.delete k) :=
  .of_ok (hd.cOk.delete k) (KMap.sorted_del _ hd.sorted.kids)
    (fun _ _ hf => hd.ok_of_find (KMap.find_del_some hf))
    (fun k' h' => KMap.find_del_none (hd.upsCK k' h'))
    (fun k' h' => (KSet.mem_ins.mp h').elim (fun e => e ▸ hk) (hd.delsNoChild k'))
    (fun ck hck => KMap.find_del_none (hd.kidsCK ck hck))

/-- `DeleteChild` inside a transaction -/
theorem Lvl.kill (h : Lvl CK b d l) (ck : Bytes) (hck : CK ck = true)
    (hnc : Logical.isChildKey ck = false) : Lvl CK b (d.delete ck) (Logical.setKid l ck []) := by
  refine ⟨DiffInv.delete h.dinv ck hnc, baseInv_setKid h.linv ck [] trivial hck, ?_,
    fun ck' hck' hnd => ?_, fun ck' hm => ?_⟩
  · -- the main key `ck` is absent from the level anyway
    have e : OMap.erase ck l.main = l.main :=
      AList.filter_of_lookup_none (OMap.get_eq ck l.main ▸ h.linv.mainCK ck hck)
    exact (main_setKid _ ck []).symm ▸ e ▸ h.main.delete ck
  · have hne : ck' ≠ ck := fun e => hnd (KSet.mem_ins.mpr (Or.inl e))
    rw [kidOf_setKid, if_neg hne, show (d.delete ck).kid ck' = d.kid ck' from
      congrArg (·.getD CDiff.empty) ((KMap.find_del ck d.kids ck').trans (if_neg hne))]
    exact h.kid ck' hck' fun hm => hnd (KSet.mem_ins.mpr (Or.inr hm))
  · rw [kidOf_setKid]
    split
    · rfl
    · rename_i hne
      exact h.dead ck' ((KSet.mem_ins.mp hm).resolve_left hne)

theorem mainKey_of_mem (hb : BaseInv CK b) (hd : DiffInv CK d) {x : Bytes}
    (h : x ∈ KMap.keys d.c.upserts ∨ OMap.get x b.main ≠ none) :
    Logical.isChildKey x = false ∧ CK x = false := by
  have key : ∀ {q : Bool}, (q = true → KMap.find x d.c.upserts = none ∧ OMap.get x b.main = none) →
      q = false := by
    intro q hq
    cases q with
    | false => rfl
    | true =>
      obtain ⟨h1, h2⟩ := hq rfl
      rcases h with h | h
      · exact absurd h1 ((KMap.mem_keys_iff _ _).mp h)
      · exact absurd h2 h
  exact ⟨key fun hc => ⟨hd.upsCK x (Or.inr hc), hb.wf.noChild x hc⟩,
    key fun hc => ⟨hd.upsCK x (Or.inl hc), hb.mainCK x hc⟩⟩

end

section
variable (Hc Hm : Entries → Bytes) {CK : Bytes → Bool} {b l : Logical} {d : Diff}

theorem mem_mainKeys (hs : OMap.Sorted b.main) {p : Bytes} (hp : overlapsRegion p = false)
    (y : Bytes) :
    y ∈ keysWithPrefixOn ((idealBackend Hc Hm).get b) ((idealBackend Hc Hm).keysAfter b) p ↔
      (OMap.get y b.main ≠ none ∧ p.isPrefixOf y = true) :=
  (mem_keysWithPrefixOn (Logical.view Hc b) (view_sorted Hc hs) p y).trans
    (and_congr_left fun h2 => by rw [view_get Hc b y (not_child_of_prefix hp h2)])

theorem Lvl.clearPrefix (hb : BaseInv CK b) (h : Lvl CK b d l) (p : Bytes)
    (hp : overlapsRegion p = false) :
    let ks := keysWithPrefixOn ((idealBackend Hc Hm).get b) ((idealBackend Hc Hm).keysAfter b) p
    Lvl CK b (d.clearPrefix p ks none).1 { l with main := OMap.clearPrefix p l.main } := by
  intro ks
  have hks := mem_mainKeys Hc Hm hb.wf.main hp
  have hstep : (d.clearPrefix p ks none).1 = (clearKeys d.c.upserts p ks).foldl Diff.delete d :=
    clearPrefixG_none _ _ _ _ _
  rw [hstep]
  exact h.deleteAll _ (fun x hx => mainKey_of_mem hb h.dinv
      ((mem_clearKeys.mp hx).2.imp_right fun h => ((hks x).mp h).1))
    (h.main.clearAll p hks)

theorem Lvl.clearPrefixLimit (hb : BaseInv CK b) (h : Lvl CK b d l) (p : Bytes) (n : Nat)
    (hp : overlapsRegion p = false)
    (hK2 : ∀ k ∈ KMap.keys d.c.upserts, p.isPrefixOf k = true) :
    let ks := keysWithPrefixOn ((idealBackend Hc Hm).get b) ((idealBackend Hc Hm).keysAfter b) p
    let x := d.clearPrefix p ks (some n)
    let r := specLimit l.main b.main (fun k => p.isPrefixOf k) (some n)
    Lvl CK b x.1 { l with main := r.1 } ∧ x.2 = r.2 := by
  intro ks x r
  have hks := mem_mainKeys Hc Hm hb.wf.main hp
  obtain ⟨T, c, hT, hm, hs⟩ := h.main.clearLimited Diff.delete d p hks
    (sorted_keysWithPrefixOn (Logical.view Hc b) (view_sorted Hc hb.wf.main) p)
    hK2 (some n)
  have hx : x = _ := hm
  have hr : r = _ := hs
  rw [hx, hr]
  exact ⟨h.deleteAll T (fun y hy => mainKey_of_mem hb h.dinv
      ((hT y hy).imp_right fun h => ((hks y).mp h).1)) (h.main.foldDelete T), rfl⟩

end

theorem kid_insKid (d : Diff) (ck : Bytes) (c : CDiff) (ck' : Bytes) :
    ({ d with kids := KMap.ins ck c d.kids } : Diff).kid ck' = if ck' = ck then c else d.kid ck' := by
  unfold Diff.kid
  rw [KMap.find_ins]
  split <;> rfl

section
variable {CK : Bytes → Bool} {b l : Logical} {d : Diff}

theorem DiffInv.insKid (hd : DiffInv CK d) {ck : Bytes} (hck : CK ck = true) {c : CDiff} (hc : c.Ok) :
    DiffInv CK { d with kids := KMap.ins ck c d.kids } :=
  .of_ok hd.cOk (KMap.sorted_ins _ _ hd.sorted.kids)
    (fun _ _ hf => (KMap.find_ins_some hf).elim (fun e => e.2 ▸ hc) hd.ok_of_find)
    hd.upsCK hd.delsNoChild
    (fun ck' h' => KMap.find_ins_none (ne_of_true_of_false hck h').symm (hd.kidsCK ck' h'))

/-- A child write maps the level's child map by `f`.  `hf`: a child deleted in this transaction is empty
    in the level (`Lvl.dead`) and has to stay so, hence `f [] = []`; erasing and filtering do that,
    upserting does not, which is why `Lvl.upsertChild` asks for `ck ∉ d.c.deletes` (finding
    `child-recreated-after-kill`). -/
theorem Lvl.mapKid (h : Lvl CK b d l) {ck : Bytes} (hck : CK ck = true) {c : CDiff} (hc : c.Ok)
    (f : Entries → Entries) (hf : ck ∈ d.c.deletes → f [] = [])
    (ho : ∀ {res}, Overlay (kidOf b ck) (d.kid ck).upserts (d.kid ck).deletes res →
      Overlay (kidOf b ck) c.upserts c.deletes (f res)) :
    Lvl CK b { d with kids := KMap.ins ck c d.kids } (Logical.setKid l ck (f (kidOf l ck))) := by
  have hes : OMap.Sorted (f (kidOf l ck)) := by
    by_cases hnd : ck ∈ d.c.deletes
    · rw [h.dead ck hnd, hf hnd]; trivial
    · exact (ho (h.kid ck hck hnd)).sres
  refine ⟨DiffInv.insKid h.dinv hck hc, baseInv_setKid h.linv ck _ hes hck,
    (main_setKid l ck _).symm ▸ h.main, fun ck' hck' hnd => ?_, fun ck' hd => ?_⟩
  · rw [kid_insKid, kidOf_setKid]
    split
    · rename_i e; exact e ▸ ho (h.kid ck hck (e ▸ hnd))
    · exact h.kid ck' hck' hnd
  · rw [kidOf_setKid]
    split
    · rename_i e; rw [h.dead ck (e ▸ hd), hf (e ▸ hd)]
    · exact h.dead ck' hd

theorem Lvl.upsertChild (h : Lvl CK b d l) (ck k v : Bytes) (hck : CK ck = true)
    (hnd : ck ∉ d.c.deletes) :
    Lvl CK b (d.upsertChild ck k v) (Logical.putIntoChild l ck k (some v)) := by
  have e : d.upsertChild ck k v =
      { d with kids := KMap.ins ck ((d.kid ck).upsert k v) d.kids } := by
    unfold Diff.upsertChild
    rw [KSet.del_of_not_mem hnd]
  rw [e, putIntoChild_eq_setKid]
  exact h.mapKid hck ((h.dinv.kidOk ck).upsert k v) (OMap.upsert k v) (fun h => absurd h hnd)
    (fun h => h.upsert k v)

theorem Lvl.deleteFromChild (h : Lvl CK b d l) (ck k : Bytes) (hck : CK ck = true) :
    Lvl CK b (d.deleteFromChild ck k) (Logical.setKid l ck (OMap.erase k (kidOf l ck))) :=
  h.mapKid hck ((h.dinv.kidOk ck).delete k) (OMap.erase k) (fun _ => rfl) (fun h => h.delete k)

theorem Lvl.kidDeleteAll (h : Lvl CK b d l) (ck : Bytes) (hck : CK ck = true) (K : List Bytes) :
    Lvl CK b { d with kids := KMap.ins ck (K.foldl CDiff.delete (d.kid ck)) d.kids }
      (Logical.setKid l ck ((kidOf l ck).filter (fun e => !K.contains e.1))) :=
  h.mapKid hck ((h.dinv.kidOk ck).foldDelete K) (fun es => es.filter (fun e => !K.contains e.1))
    (fun _ => rfl) (fun h => h.foldDelete K)

end

/-- the keys of the committed child trie `ck` that start with `p`, as trie.go collects them -/
def kidKeysOn (b : Logical) (ck p : Bytes) : List Bytes :=
  keysWithPrefixOn (fun k => OMap.get k (kidOf b ck)) (Logical.keysAfterE (kidOf b ck)) p

section
variable {CK : Bytes → Bool} {b l : Logical} {d : Diff}

theorem mem_kidKeysOn (hw : b.WF) (ck p y : Bytes) :
    y ∈ kidKeysOn b ck p ↔ (OMap.get y (kidOf b ck) ≠ none ∧ p.isPrefixOf y = true) :=
  mem_keysWithPrefixOn (kidOf b ck) (kidOf_sorted hw ck) p y

/-- `ClearPrefixInChild` inside a transaction -/
theorem Lvl.clearChild (hb : BaseInv CK b) (h : Lvl CK b d l) (ck p : Bytes) (hck : CK ck = true) :
    Lvl CK b (d.clearPrefixInChild ck p (kidKeysOn b ck p) none).1
      (Logical.setKid l ck (OMap.clearPrefix p (kidOf l ck))) := by
  have e : (d.clearPrefixInChild ck p (kidKeysOn b ck p) none).1 =
      { d with
        kids := KMap.ins ck
          ((clearKeys (d.kid ck).upserts p (kidKeysOn b ck p)).foldl CDiff.delete (d.kid ck))
          d.kids } := by
    unfold Diff.clearPrefixInChild
    simp only
    rw [clearPrefixG_none]
  rw [e]
  exact h.mapKid hck ((h.dinv.kidOk ck).foldDelete _) (OMap.clearPrefix p) (fun _ => rfl)
    (fun h => h.clearAll p (mem_kidKeysOn hb.wf ck p))

/-- `ClearPrefixInChildWithLimit` inside a transaction, on a child that was not deleted in it and
    outside the finding `alldeleted-counts-nonmatching` -/
theorem Lvl.clearChildLimit (hb : BaseInv CK b) (h : Lvl CK b d l) (ck p : Bytes) (n : Nat)
    (hck : CK ck = true) (hnd : ck ∉ d.c.deletes)
    (hK2 : ∀ k ∈ KMap.keys (d.kid ck).upserts, p.isPrefixOf k = true) :
    let x := d.clearPrefixInChild ck p (kidKeysOn b ck p) (some n)
    let r := specLimit (kidOf l ck) (kidOf b ck) (fun k => p.isPrefixOf k) (some n)
    Lvl CK b x.1 (Logical.setKid l ck r.1) ∧ x.2 = r.2 := by
  intro x r
  obtain ⟨T, c, _, hm, hs⟩ := (h.kid ck hck hnd).clearLimited CDiff.delete (d.kid ck) p
    (mem_kidKeysOn hb.wf ck p) (sorted_keysWithPrefixOn (kidOf b ck) (kidOf_sorted hb.wf ck) p)
    hK2 (some n)
  have hx : x = ({ d with kids := KMap.ins ck (T.foldl CDiff.delete (d.kid ck)) d.kids }, c) := by
    show Diff.clearPrefixInChild d ck p _ (some n) = _
    unfold Diff.clearPrefixInChild
    simp only [hm]
  have hr : r = _ := hs
  rw [hx, hr]
  exact ⟨h.kidDeleteAll ck hck T, rfl⟩

/-- `DeleteChildLimit` inside a transaction, on a child that was not deleted in it -/
theorem Lvl.killLimit (hb : BaseInv CK b) (h : Lvl CK b d l) (ck : Bytes) (limit : Option Nat)
    (hck : CK ck = true) (hnc : Logical.isChildKey ck = false) (hnd : ck ∉ d.c.deletes) :
    let x := d.deleteChildLimit ck ((kidOf b ck).map (·.1)) limit
    let r := specLimit (kidOf l ck) (kidOf b ck) (fun _ => true) limit
    Lvl CK b x.1 (Logical.setKid l ck r.1) ∧ x.2 = r.2 := by
  intro x r
  have ho := h.kid ck hck hnd
  obtain ⟨T, _, hnone, hm, hs⟩ := ho.limited CDiff.delete (d.kid ck) (fun _ => true)
    (fun y => by rw [omap_mem_keys, and_iff_left rfl]) (fun _ _ => rfl)
    (sorted_killCandidates ho.sups (omap_sorted_keys (kidOf_sorted hb.wf ck))) (mem_killCandidates _ _)
    limit
  have hr : r = _ := hs
  cases limit with
  | none =>
    -- the whole child is deleted: every key of the level's child map is a candidate
    have hnil : (kidOf l ck).filter (fun e => !T.contains e.1) = [] := by
      rw [hnone rfl]
      exact filter_not_contains_nil fun e he => (mem_killCandidates _ _ e.1).mpr
        (((ho.mem_res e.1).mp (List.mem_map.mpr ⟨e, he, rfl⟩)).imp_right And.left)
    have hx : x = (d.delete ck, _, true) := rfl
    rw [hx, hr, hnil, hnone rfl, length_sortKeys, List.length_append]
    exact ⟨h.kill ck hck hnc, Prod.ext (Nat.add_comm _ _) (beq_self_eq_true _).symm⟩
  | some n =>
    have hx : x = ({ d with kids := KMap.ins ck (T.foldl CDiff.delete (d.kid ck)) d.kids },
        r.2) := by
      rw [hr]
      show Diff.deleteChildLimit d ck _ (some n) = _
      unfold Diff.deleteChildLimit
      simp only [hm]
    rw [hx, hr]
    exact ⟨h.kidDeleteAll ck hck T, rfl⟩

end

/-- the "nothing to delete" test of `DeleteChildLimit` reads the same on the level as on the
    committed state and the diff, unless the child exists only as an emptied change set -/
theorem killl_test {CK : Bytes → Bool} {b l : Logical} {d : Diff} (h : Lvl CK b d l) (c : Bytes)
    (hck : CK c = true) (hnd : c ∉ d.c.deletes)
    (hreg : (KMap.find c b.kids).isNone = true → (KMap.find c d.kids).isSome = true →
      (d.kid c).upserts ≠ []) :
    ((KMap.find c l.kids).isNone && (KMap.find c b.kids).isNone) =
      ((KMap.find c b.kids).isNone && (KMap.find c d.kids).isNone) := by
  have hw := h.linv.wf
  cases hfb : KMap.find c b.kids with
  | some es => simp
  | none =>
    cases hfd : KMap.find c d.kids with
    | none =>
      have : kidOf l c = [] := by rw [h.kid_same hck hnd hfd, kidOf_none hfb]
      rw [(kidOf_nil_iff hw c).mp this]
      rfl
    | some ch =>
      have hne := hreg (by rw [hfb]; rfl) (by rw [hfd]; rfl)
      have ho := h.kid c hck hnd
      rw [kidOf_none hfb] at ho
      have hnn : kidOf l c ≠ [] := fun e => hne (ho.res_nil_iff.mp e)
      cases hfl : KMap.find c l.kids with
      | none => exact absurd ((kidOf_nil_iff hw c).mpr hfl) hnn
      | some x => rfl

section
variable (Hc Hm : Entries → Bytes) (D : Dumper Logical) (ord : Diff → ApplyOrder) {b : Logical}

theorem entries_keys (es : Entries) :
    (((idealBackend Hc Hm).T.entries es).map (·.1)) = es.map (·.1) := by
  simp only [idealBackend, omapOps, List.map_map]
  rfl

theorem cclr_tx (d : Diff) (r : List Diff) (ck p : Bytes) :
    stepTS (idealBackend Hc Hm) D ord { base := b, txs := d :: r } (.cclr ck p) =
      ({ base := b, txs := (d.clearPrefixInChild ck p (kidKeysOn b ck p) none).1 :: r }, .ok) := by
  show clearPrefixInChildTS (idealBackend Hc Hm) { base := b, txs := d :: r } ck p = _
  simp only [clearPrefixInChildTS]
  rw [getChild_ideal]
  unfold kidKeysOn
  cases hf : KMap.find ck b.kids with
  | none =>
    simp only [kidOf_none hf, keysWithPrefixOn_nil]
  | some es =>
    simp only [kidOf_some hf]
    rfl

theorem cclrl_tx (d : Diff) (r : List Diff) (ck p : Bytes) (n : Nat) :
    stepTS (idealBackend Hc Hm) D ord { base := b, txs := d :: r } (.cclrl ck p n) =
      let x := d.clearPrefixInChild ck p (kidKeysOn b ck p) (some n)
      ({ base := b, txs := x.1 :: r }, .cnt x.2.1 x.2.2) := by
  show clearPrefixInChildLimitTS (idealBackend Hc Hm) { base := b, txs := d :: r } ck p n = _
  simp only [clearPrefixInChildLimitTS]
  rw [getChild_ideal]
  unfold kidKeysOn
  cases hf : KMap.find ck b.kids with
  | none =>
    simp only [kidOf_none hf, keysWithPrefixOn_nil]
  | some es =>
    simp only [kidOf_some hf]
    rfl

theorem killl_tx (d : Diff) (r : List Diff) (ck : Bytes) (limit : Option Nat) :
    stepTS (idealBackend Hc Hm) D ord { base := b, txs := d :: r } (.killl ck limit) =
      let x := d.deleteChildLimit ck ((kidOf b ck).map (·.1)) limit
      if (KMap.find ck b.kids).isNone && (KMap.find ck d.kids).isNone then
        ({ base := b, txs := d :: r }, .cnt 0 false)
      else ({ base := b, txs := x.1 :: r }, .cnt x.2.1 x.2.2) := by
  show deleteChildLimitTS (idealBackend Hc Hm) { base := b, txs := d :: r } ck limit = _
  simp only [deleteChildLimitTS]
  rw [getChild_ideal]
  cases hf : KMap.find ck b.kids with
  | none =>
    simp only [kidOf_none hf, List.map_nil, Option.isNone_none, Bool.true_and]
  | some es =>
    simp only [kidOf_some hf, Option.isNone_some, Bool.false_and, Bool.false_eq_true, if_false,
      entries_keys]

end

end Gossamer.C08
