/-
C35  Shared LRU caches are safe under concurrency.

Sequential part: the pointer-level model of `LRUCache` (map key ↦ element, recency list of
elements) refines the capacity-bounded recency list `SCache`, for every capacity
`1 ≤ cap < 2^63` (and `0`, which the constructor replaces by 20) and every Get/Put sequence.
Concurrent part: with the lock table of the Go methods (`lockTable`, re-extracted from the
source by the harness on every run), every concurrent execution under the RWMutex semantics
of Lib.Monitor is equivalent to the sequential model run in release order.
-/
import Gossamer.Lib.C35Inv
import Gossamer.Lib.Monitor
namespace Gossamer.C35
open Gossamer

/-- **C35_refines.**  For every capacity below 2^63 (0 meaning the default 20) and every
    sequence of Get/Put, the map+list implementation returns exactly what the capacity-bounded
    recency list returns, and its final content (recency order included) is the spec's. -/
theorem C35_refines (cap : Nat) (hcap : cap < 2 ^ 63) (ops : List Op) :
    (run (new cap) ops).1 = (srun (snew cap) ops).1 ∧
    abs (run (new cap) ops).2 = (srun (snew cap) ops).2 := by
  have := run_refines ops (inv_new cap) (new_capacity_lt hcap)
  exact ⟨this.1, this.2.1⟩

/-- the representation invariant (map ↔ list bijection, distinct keys, equal sizes) holds in
    every reachable state -/
theorem C35_invariant (cap : Nat) (hcap : cap < 2 ^ 63) (ops : List Op) :
    Inv (run (new cap) ops).2 :=
  (run_refines ops (inv_new cap) (new_capacity_lt hcap)).2.2

/-- outside the proved region: a capacity ≥ 2^63 is reinterpreted as a negative `int`, the cache
    then evicts on every insertion (it behaves as a capacity-1 cache) -/
theorem C35_refines_counterexample :
    abs (run (new (2 ^ 63)) [.put 1 1, .put 2 2]).2 ≠ (srun (snew (2 ^ 63)) [.put 1 1, .put 2 2]).2 := by
  decide

example : (run (new 2) [.put 1 5, .put 2 6, .get 1, .put 3 7, .get 2, .get 1]).1 = [0, 0, 5, 0, 0, 5] := by decide

/-- **C35_capacity.**  In every reachable state the cache holds at most `capacity` entries
    (list and map alike), where capacity 0 stands for the default 20. -/
theorem C35_capacity (cap : Nat) (hcap : cap < 2 ^ 63) (ops : List Op) :
    (run (new cap) ops).2.lruList.length ≤ (if cap < 1 then 20 else cap) ∧
    (run (new cap) ops).2.cache.length ≤ (if cap < 1 then 20 else cap) := by
  have h : (srun (snew cap) ops).2.items.length ≤ (if cap < 1 then 20 else cap) :=
    srun_length ops (new_capacity_pos cap) (Nat.zero_le _)
  rw [← (C35_refines cap hcap ops).2] at h
  have h' : (run (new cap) ops).2.lruList.length ≤ (if cap < 1 then 20 else cap) := by
    simpa [abs] using h
  exact ⟨h', (C35_invariant cap hcap ops).size ▸ h'⟩

/-- after every history the recency list of the SPECIFICATION (`srun`) is sorted by strictly decreasing `lastTouch`;
    `C35_refines` carries it to the model, as `C35_evicts_lru` does -/
theorem C35_recency_order (cap : Nat) (ops : List Op) :
    (srun (snew cap) ops).2.keys.Pairwise (fun a b => lastTouch ops a > lastTouch ops b) :=
  (stamped_run ops (snew cap) (0, fun _ => 0) ⟨List.Pairwise.nil, fun _ => Nat.le_refl _⟩).1

/-- **C35_evicts_lru.**  Putting a new key into a full cache removes exactly one entry, the
    `victim`, and the victim is the present key whose last use (last operation naming it, as
    read off the operation history, independently of the cache) is the oldest; every other
    entry stays, in the same recency order, behind the new key.  Stated on the implementation
    model (`run`, `put`) for every capacity below 2^63 and every history. -/
theorem C35_evicts_lru (cap : Nat) (hcap : cap < 2 ^ 63) (ops : List Op) (k v : Nat) :
    let c := (run (new cap) ops).2
    k ∉ (abs c).keys → (abs c).items.length ≥ c.capacity →
    ∃ victim, (abs c).keys.getLast? = some victim ∧
      (∀ k' ∈ (abs c).keys, k' ≠ victim → lastTouch ops victim < lastTouch ops k') ∧
      (abs (put c k v)).keys = k :: (abs c).keys.dropLast ∧
      victim ∉ (abs (put c k v)).keys := by
  intro c hk hfull
  have hI : Inv c := C35_invariant cap hcap ops
  have hceq : c.capacity = (new cap).capacity := run_capacity ops (new cap)
  have hcc : c.capacity < 2 ^ 63 := hceq ▸ new_capacity_lt hcap
  have hpos : 1 ≤ c.capacity := hceq ▸ new_capacity_pos cap
  have hsorted : (abs c).keys.Pairwise (fun a b => lastTouch ops a > lastTouch ops b) :=
    (C35_refines cap hcap ops).2 ▸ C35_recency_order cap ops
  have hput : (abs (put c k v)).keys = k :: (abs c).keys.dropLast := by
    rw [(put_refines hI hcc k v).1]
    have hfull' : (abs c).items.length ≥ (abs c).cap := hfull
    simp only [sput, hk, if_false, hfull', if_true]
    simp [SCache.keys, List.map_dropLast]
  obtain ⟨victim, hv⟩ : ∃ victim, (abs c).keys.getLast? = some victim := by
    cases hg : (abs c).keys.getLast? with
    | some x => exact ⟨x, rfl⟩
    | none =>
      -- a full cache of capacity at least 1 is not empty
      have : (abs c).items.length = 0 := by simpa [SCache.keys] using List.getLast?_eq_none_iff.mp hg
      omega
  obtain ⟨hmin, hgone⟩ := last_min hsorted hv
  refine ⟨victim, hv, hmin, hput, fun hm => ?_⟩
  rw [hput] at hm
  rcases List.mem_cons.mp hm with h | h
  · exact hk (h ▸ List.mem_of_getLast? hv)
  · exact hgone h

/-- non-vacuity: a full cache of capacity 2 with history put 1, put 2, get 1 — putting 3 evicts 2 -/
example : (abs (put (run (new 2) [.put 1 5, .put 2 6, .get 1]).2 3 7)).keys = [3, 1] := by decide

/-- distinct byte strings are distinct cache keys (and `nil` = 0 is not a code) -/
theorem encBytes_injective (a b : Bytes) (h : encBytes a = encBytes b) : a = b :=
  Option.some.inj (by rw [← decBytes_encBytes a, h, decBytes_encBytes])

/-- `0`, the answer on a miss, is not a code -/
theorem encBytes_pos (a : Bytes) : 0 < encBytes a :=
  Nat.pos_of_ne_zero fun h => by simpa [h, leMin_zero] using leMin_encBytes a

/-- **C35_triecache_refines.**  The wrapper `TrieInMemoryCache` (pkg/trie/cache/inmemory/trie_cache.go; node
    capacity `cap` < 2^63) returns, for every sequence of SetNode / GetNode / SetValue / GetValue, what a
    capacity-bounded recency list and a map keyed by the BYTES of the key at call time return.
    Keys are values (`encBytes` is injective): nothing the caller later does to the buffer it
    passed can change any answer.  (Value cache: below its byte budget, see Model.) -/
theorem C35_triecache_refines (cap : Nat) (hcap : cap < 2 ^ 63) (ops : List TOp) :
    (trun (tnew cap) ops).1 = (tsrun (tsnew cap) ops).1 :=
  (trun_refines ops (tnew cap) (inv_new cap) (new_capacity_lt hcap)).1

example : (trun (tnew 2) [.setn [10] [1], .setn [11] [2], .getn [10], .setn [12] [], .getn [11], .getn [12]]).1
    = [0, 0, encBytes [1], 0, 0, encBytes []] := by decide

def table : List Monitor.Method := (Monitor.ofTriples lockTable).getD []

/-- **C35_race_free.**  Over the lock table of `LRUCache` as transcribed in Model/C35
    (informational: the check does NOT compare against it, it decides the table it
    extracts from lru_cache.go at run time with the same `Monitor.raceFree`): every method that writes the
    guarded fields holds the exclusive lock and every reader holds a lock, hence no two
    conflicting methods can be inside their critical sections together.  The length is part of the statement
    because a table that fails to parse is `[]` (`getD []`), of which the two checks hold trivially. -/
theorem C35_race_free :
    table.length = 2 ∧ Monitor.disciplined table = true ∧ Monitor.raceFree table = true := by
  decide

/-- the table before the repair (Get under RLock) is rejected by the same check -/
theorem C35_race_free_counterexample :
    Monitor.raceFree [⟨"Get", .rlock, .writes⟩, ⟨"Put", .lock, .writes⟩] = false := by decide

def Op.method : Op → String
  | .get _ => "Get"
  | .put _ _ => "Put"

/-- The body is one micro-step; `Monitor.linearizable` holds for any split
    of a body into micro-steps. -/
def invOf (t : List Monitor.Method) (op : Op) : Monitor.Inv Cache Nat :=
  { mode := Monitor.modeIn t op.method, body := [fun c _ => ((step c op).2, (step c op).1)], init := 0 }

/-- what is asked of a table: it is race free (what a run of the check decides: `Monitor.verdict`), and Get and Put
    are classified as writers of the guarded fields (Get reorders the recency list; an assumption on the go/ast
    extractor: no run decides it) -/
structure GoodTable (t : List Monitor.Method) : Prop where
  raceFree : Monitor.raceFree t = true
  get : Monitor.accessIn t "Get" = .writes
  put : Monitor.accessIn t "Put" = .writes

/-- the transcribed table is one such table -/
theorem goodTable_today : GoodTable table := by
  refine ⟨?_, ?_, ?_⟩ <;> decide

theorem invOf_mode {t : List Monitor.Method} (ht : GoodTable t) (op : Op) : (invOf t op).mode = .lock := by
  cases op with
  | get k => exact Monitor.modeIn_lock ht.raceFree ht.get
  | put k v => exact Monitor.modeIn_lock ht.raceFree ht.put

/-- **C35_linearizable.**  For ANY lock table `t` that is a `GoodTable` (race free, Get and Put
    classified as writers; the run of the check decides race freedom only): any number of goroutines
    call Get/Put (`calls i` is the i-th invocation) on a cache created with capacity `cap`; each
    invocation acquires the lock the table assigns to its method, runs, and releases; acquisitions
    obey the RWMutex rules; the interleaving is otherwise arbitrary.  Whenever no invocation is in progress, the cache state
    and the value returned to every invocation are exactly those of the sequential model run of
    the invocations in release order, hence (C35_refines) those of the capacity-bounded recency
    list. -/
theorem C35_linearizable (t : List Monitor.Method) (ht : GoodTable t)
    (cap : Nat) (hcap : cap < 2 ^ 63) (calls : Nat → Op)
    (es : List Monitor.Ev) (c : Monitor.Cfg Cache Nat)
    (hs : Monitor.Steps (fun i => invOf t (calls i)) (Monitor.Cfg.init (new cap)) es c)
    (hq : ∀ j, c.fl j = none) :
    let order := c.log.reverse.map (·.1)
    c.shared = (run (new cap) (order.map calls)).2 ∧
    c.log.reverse = order.zip (run (new cap) (order.map calls)).1 ∧
    (run (new cap) (order.map calls)).1 = (srun (snew cap) (order.map calls)).1 ∧
    abs c.shared = (srun (snew cap) (order.map calls)).2 := by
  intro order
  have h := Monitor.linearizable_atomic (step := step) (run := run) (hnil := fun _ => rfl) (hcons := fun _ _ _ => rfl)
    (calls := calls) (hbody := fun _ => rfl) (hp := Monitor.readersPure_of_lock fun i => invOf_mode ht (calls i))
    (s0 := new cap) (hs := hs) (hq := hq)
  have hr := C35_refines cap hcap (order.map calls)
  exact ⟨h.1, h.2, hr.1, h.1 ▸ hr.2⟩

/-- under any `GoodTable` two invocations are never inside the cache at the same time (both
    methods write, so both must take the exclusive lock) -/
theorem C35_mutual_exclusion (t : List Monitor.Method) (ht : GoodTable t) (cap : Nat) (calls : Nat → Op)
    (es : List Monitor.Ev) (c : Monitor.Cfg Cache Nat)
    (hs : Monitor.Steps (fun i => invOf t (calls i)) (Monitor.Cfg.init (new cap)) es c)
    (i j : Nat) (hi : c.fl i ≠ none) (hj : c.fl j ≠ none) : i = j := by
  apply Classical.byContradiction
  intro hij
  have := (Monitor.mutual_exclusion _ (new cap) es c hs i j hi hj hij).1
  rw [invOf_mode ht] at this
  cases this

/-- a table with Get under RLock is not a `GoodTable` -/
theorem C35_get_needs_lock (t : List Monitor.Method) (ht : GoodTable t) :
    Monitor.modeIn t "Get" = .lock := Monitor.modeIn_lock ht.raceFree ht.get

/-- TrieInMemoryCache has no lock of its own: its table is accepted only while no method touches
    a mutable field of the wrapper (today: all `none pure`); an unsynchronised memo field written by
    GetNode/SetNode is rejected -/
theorem C35_triecache_table :
    Monitor.raceFree [⟨"GetNode", .none, .pure⟩, ⟨"GetValue", .none, .pure⟩, ⟨"SetNode", .none, .pure⟩,
      ⟨"SetValue", .none, .pure⟩] = true ∧
    Monitor.raceFree [⟨"GetNode", .none, .writes⟩, ⟨"GetValue", .none, .pure⟩, ⟨"SetNode", .none, .writes⟩,
      ⟨"SetValue", .none, .pure⟩] = false := by decide

/-- the sliding-window limiter (dot/network/ratelimiters/sliding_window.go), sequentially: every AddRequest is
    counted, and the verdict is `count > max` -/
theorem C35_limiter_seq (max : Nat) (ops : List LOp) (id : Nat) :
    lcount (lrun max [] ops).2 id = adds ops id ∧
    ((lstep max (lrun max [] ops).2 (.exc id)).1 = 1 ↔ adds ops id > max) := by
  have h := lrun_count max ops [] id
  have h0 : lcount [] id = 0 := rfl
  rw [h0, Nat.zero_add] at h
  refine ⟨h, ?_⟩
  simp only [lstep, h]
  by_cases hm : adds ops id > max <;> simp [hm]

def LOp.method : LOp → String
  | .add _ => "AddRequest"
  | .exc _ => "IsLimitExceeded"

def invOfL (t : List Monitor.Method) (max : Nat) (op : LOp) : Monitor.Inv Limiter Nat :=
  { mode := Monitor.modeIn t op.method,
    body := [fun l _ => ((lstep max l op).2, (lstep max l op).1)], init := 0 }

/-- what is asked of the limiter's table: race free (what a run of the check decides), and both methods are
    classified as read-modify-write sequences on `limits` (writers; an assumption on the extractor) — so each holds
    the limiter mutex across its whole Get … Put sequence -/
structure GoodLimiterTable (t : List Monitor.Method) : Prop where
  raceFree : Monitor.raceFree t = true
  add : Monitor.accessIn t "AddRequest" = .writes
  exc : Monitor.accessIn t "IsLimitExceeded" = .writes

theorem goodLimiterTable_today :
    GoodLimiterTable [⟨"AddRequest", .lock, .writes⟩, ⟨"IsLimitExceeded", .lock, .writes⟩] := by
  refine ⟨?_, ?_, ?_⟩ <;> decide

/-- the table after removing the limiter mutex is rejected -/
theorem C35_limiter_unlocked_rejected :
    Monitor.raceFree [⟨"AddRequest", .none, .writes⟩, ⟨"IsLimitExceeded", .none, .writes⟩] = false := by
  decide

/-- **C35_limiter_counts_all.**  Under any `GoodLimiterTable`, whatever the interleaving of
    concurrent AddRequest / IsLimitExceeded invocations (`calls i`), once they have all
    completed the limiter has recorded, for every id, exactly as many requests as AddRequest(id)
    invocations completed — none is lost — and IsLimitExceeded(id) answers `that number > max`. -/
theorem C35_limiter_counts_all (t : List Monitor.Method) (ht : GoodLimiterTable t) (max : Nat)
    (calls : Nat → LOp) (es : List Monitor.Ev) (c : Monitor.Cfg Limiter Nat)
    (hs : Monitor.Steps (fun i => invOfL t max (calls i)) (Monitor.Cfg.init []) es c)
    (hq : ∀ j, c.fl j = none) (id : Nat) :
    let done := (c.log.reverse.map (·.1)).map calls
    lcount c.shared id = adds done id ∧
    ((lstep max c.shared (.exc id)).1 = 1 ↔ adds done id > max) := by
  intro done
  have hmode : ∀ op, (invOfL t max op).mode = .lock := by
    intro op
    cases op with
    | add i => exact Monitor.modeIn_lock ht.raceFree ht.add
    | exc i => exact Monitor.modeIn_lock ht.raceFree ht.exc
  rw [(Monitor.linearizable_atomic (step := lstep max) (run := lrun max) (hnil := fun _ => rfl)
    (hcons := fun _ _ _ => rfl) (calls := calls) (hbody := fun _ => rfl)
    (hp := Monitor.readersPure_of_lock fun i => hmode (calls i)) (s0 := []) (hs := hs) (hq := hq)).1]
  exact C35_limiter_seq max done id

/-- non-vacuity of the hypotheses of C35_linearizable: a Put can run alone to completion -/
example : ∃ c, Monitor.Steps (fun i => invOf table ((fun _ => Op.put 1 5) i)) (Monitor.Cfg.init (new 2))
    [.acq 0, .step 0, .rel 0] c ∧ (∀ j, c.fl j = none) := by
  obtain ⟨c, h1, h2, _⟩ := Monitor.solo_one (fun i => invOf table ((fun _ => Op.put 1 5) i)) 0 _ rfl
    (by rw [invOf_mode goodTable_today]; simp) (new 2)
  exact ⟨c, h1, h2⟩

end Gossamer.C35
