/-
C36 — chain state survives a crash at any write: the property theorems.

Everything is about `run cfg ops`, the node obtained from the genesis node by ANY list of scenario operations
(imports with state tries on any parent, finalisations of any block with any round / set id, scheduled and
forced authority changes, BABE next-epoch data / config announcements and their finalisation, justifications,
prevotes / precommits, own-round finalisations, latest-round updates — failing operations included), and about
EVERY prefix of the write log it produced, replayed on the genesis database (`base`).
-/
import Gossamer.Lib.C36Node
namespace Gossamer.C36

theorem init_inv : NInv init := by
  have hg : HdrOK base genesisId := ⟨genesisHdr, by decide, by decide, by decide⟩
  exact ⟨base_inv, fun b hb => (by cases hb), hg, hg⟩

theorem foldl_step : ∀ (ops : List Op) (n : Node), NInv n →
    NInv (ops.foldl (step {}) n) ∧ Reach n (ops.foldl (step {}) n) ops.length
  | [], _, h => ⟨h, Reach.same rfl rfl⟩
  | op :: ops, n, h =>
    have ⟨h1, r1⟩ := step_step n op h
    have ⟨h2, r2⟩ := foldl_step ops (step {} n op) h1
    ⟨h2, (r1.trans r2).mono (Nat.le_of_eq (Nat.add_comm 1 ops.length))⟩

theorem run_safe (ops : List Op) :
    NInv (run {} ops) ∧ SafeSeg base (run {} ops).log ∧ (run {} ops).db = replay base (run {} ops).log := by
  obtain ⟨hi, seg, hl, hd, hs, _⟩ := foldl_step ops init init_inv
  have hl' : (run {} ops).log = seg := by simpa [run, init] using hl
  have hd' : (run {} ops).db = replay base seg := by simpa [run, init] using hd
  exact ⟨hi, by rw [hl']; exact hs, by rw [hl']; exact hd'⟩

/-- **C36.** For every scenario and every crash point `k` (a prefix of the write log after genesis; batches are atomic;
    the genesis initialisation itself is not a crash point: its log is replayed whole as `base`),
    restarting from the crash-truncated database succeeds: Service.Start finds the finalised head, its header,
    its body and its state trie; the finalised header of round 0 / set 0 is readable; the current GRANDPA set
    id is present together with ITS authority list and ITS activation block, and the latest round is present.
    (Holds for the repaired write order `Cfg.incrementFirst = false`.) -/
theorem C36_prefix_recoverable (ops : List Op) (k : Nat) :
    Good (replay base ((run {} ops).log.take k)) :=
  (base_inv.take (run_safe ops).2.1 k).good

/-- the same statement spelled out on the outcome of `restart` -/
theorem C36_prefix_restart (ops : List Op) (k : Nat) :
    ∃ head round set cur auths chg lr,
      restart (replay base ((run {} ops).log.take k)) =
        .ok head round set true true (some cur) (some auths) (some chg) (some lr) :=
  C36_prefix_recoverable ops k

theorem runOps_run (cfg : Cfg) : ∀ (ops : List Op) (n : Node) (acc : List String) (n' : Node) (rs : List String),
    runOps cfg n acc ops = some (n', rs) → n' = ops.foldl (step cfg) n
  | [], n, acc, n', rs, h => by
    simp only [runOps, Option.some.injEq, Prod.mk.injEq] at h
    exact h.1.symm
  | op :: ops, n, acc, n', rs, h => by
    simp only [runOps] at h
    split at h
    · cases h
    · rename_i n1 r hs
      have := runOps_run cfg ops n1 (r :: acc) n' rs h
      simp only [List.foldl, step, hs, this]

theorem prefixes_get : ∀ (l : List Entry) (db : DB) (k : Nat), k ≤ l.length →
    (prefixes db l)[k]? = some (replay db (l.take k))
  | [], db, k, h => by
    have : k = 0 := by simpa using h
    subst this; rfl
  | e :: es, db, 0, _ => rfl
  | e :: es, db, k + 1, h => by
    simpa [prefixes, replay] using prefixes_get es (db.apply e) k (by simpa using h)

/-- for a well-formed line the driver's node is `run` of the parsed operations, so every restart outcome it
    prints is one covered by `C36_prefix_restart` -/
theorem C36_driver_covered (ops : List Op) (n : Node) (rs : List String)
    (h : runOps {} init [] ops = some (n, rs)) (k : Nat) (hk : k ≤ n.log.length) :
    ∃ db, (prefixes base n.log)[k]? = some db ∧ Good db := by
  have hn : n = run {} ops := runOps_run {} ops init [] n rs h
  refine ⟨_, prefixes_get n.log base k hk, ?_⟩
  rw [hn]
  exact C36_prefix_recoverable ops k

theorem keeps_between (ops : List Op) (k1 k2 : Nat) (h : k1 ≤ k2) :
    Keeps (replay base ((run {} ops).log.take k1)) (replay base ((run {} ops).log.take k2)) := by
  obtain ⟨d, rfl⟩ := Nat.exists_eq_add_of_le h
  have hs := SafeSeg.take (k1 + d) (run_safe ops).2.1
  rw [List.take_add] at hs ⊢
  rw [replay_append]
  exact keeps_replay (SafeSeg.drop hs)

theorem crash_split (l seg : List Entry) (db : DB) (i : Nat) :
    replay db ((l ++ seg).take (l.length + i)) = replay (replay db l) (seg.take i) := by
  rw [List.take_length_add_append, replay_append]

/-- the set id of the highest finalised round never decreases along the write log: a later crash point never
    recovers an older set than an earlier one (in particular not older than at the last completed operation) -/
theorem C36_setid_monotone (ops : List Op) (k1 k2 : Nat) (h : k1 ≤ k2) :
    setOf (replay base ((run {} ops).log.take k1)) ≤ setOf (replay base ((run {} ops).log.take k2)) :=
  (keeps_between ops k1 k2 h).set

/-- crash-atomicity of the finalised round / set id: at every crash point inside an operation the recovered
    highest finalised (round, set id) is the one before the operation or the one after it — never a third,
    older value -/
theorem C36_finalised_atomic (ops : List Op) (op : Op) (i : Nat) :
    let n := run {} ops
    let n' := step {} n op
    let crashed := replay base (n'.log.take (n.log.length + i))
    crashed.hrs = n.db.hrs ∨ crashed.hrs = n'.db.hrs := by
  intro n n' crashed
  obtain ⟨hi, _, hdb⟩ := run_safe ops
  obtain ⟨_, seg, hl, hd, _, hc⟩ := step_step n op hi
  show (replay base (n'.log.take (n.log.length + i))).hrs = _ ∨ (replay base (n'.log.take (n.log.length + i))).hrs = _
  rw [hl, crash_split, ← hdb, hd]
  exact hrs_atomic seg n.db i hc

/-- **Epoch data.** Once the put of an announced NextEpochData (key nextepochdata<epoch>:<hash>, written by
    HandleBABEDigest at import) is durable, every later crash point still has it on disk — where NewEpochState
    restores it into the in-memory map — or has the persisted definition (epochinfo) of the same or a later
    epoch: the finalisation handler writes the definition BEFORE it deletes the announcements. -/
theorem C36_epoch_data_not_lost (ops : List Op) (k1 k2 e h : Nat) (hk : k1 < k2)
    (hput : (run {} ops).log[k1]? = some (.put (.ned e h))) :
    NedOK (replay base ((run {} ops).log.take k2)) e h := by
  have h1 : NedOK (replay base ((run {} ops).log.take (k1 + 1))) e h := by
    rw [List.take_add_one, hput, Option.toList_some, replay_append]
    exact Or.inl (by simp [replay, DB.apply, DB.write])
  exact (keeps_between ops (k1 + 1) k2 hk).nedok e h h1

/-- the same for announced NextConfigData and the persisted configuration (configinfo) -/
theorem C36_config_data_not_lost (ops : List Op) (k1 k2 e h : Nat) (hk : k1 < k2)
    (hput : (run {} ops).log[k1]? = some (.put (.ncd e h))) :
    NcdOK (replay base ((run {} ops).log.take k2)) e h := by
  have h1 : NcdOK (replay base ((run {} ops).log.take (k1 + 1))) e h := by
    rw [List.take_add_one, hput, Option.toList_some, replay_append]
    exact Or.inl (by simp [replay, DB.apply, DB.write])
  exact (keeps_between ops (k1 + 1) k2 hk).ncdok e h h1

/-- justifications, prevotes and precommits are never removed: durable at one crash point, durable at every
    later one -/
theorem C36_votes_durable (ops : List Op) (k1 k2 : Nat) (hk : k1 ≤ k2) :
    let d1 := replay base ((run {} ops).log.take k1)
    let d2 := replay base ((run {} ops).log.take k2)
    (∀ h, d1.jcp h = true → d2.jcp h = true) ∧ (∀ r s, d1.pv r s = true → d2.pv r s = true) ∧
    (∀ r s, d1.pc r s = true → d2.pc r s = true) :=
  ⟨(keeps_between ops k1 k2 hk).jcp, (keeps_between ops k1 k2 hk).pv, (keeps_between ops k1 k2 hk).pc⟩

/-- **Own-round finalisation (lib/grandpa `finalise`).** At every crash point inside a `gfin id r s` operation:
    if the finalised-hash key of (r, s) has changed, then the justification of the block and the prevotes and
    precommits of the round are already durable — they are written before SetFinalisedHash. -/
theorem C36_own_round_justified (ops : List Op) (id r s i : Nat) :
    let n := run {} ops
    let n' := step {} n (.gfin id r s)
    let crashed := replay base (n'.log.take (n.log.length + i))
    crashed.fin r s ≠ n.db.fin r s →
      crashed.jcp id = true ∧ crashed.pv r s = true ∧ crashed.pc r s = true := by
  intro n n' crashed hne
  obtain ⟨hi, _, hdb⟩ := run_safe ops
  -- the three puts, then the rest of the operation
  let pre : List Entry := [.put (.jcp id), .put (.pv r s), .put (.pc r s)]
  let n3 := ((n.put (.jcp id)).put (.pv r s)).put (.pc r s)
  obtain ⟨_, seg, hl, _, hs, _⟩ := doGfin_rest n id r s (gfinPuts_step n id r s hi).1
  have hl' : n'.log = n.log ++ (pre ++ seg) := by
    show (doGfin {} n id r s).1.log = _
    rw [hl]; simp [pre, Node.put, Node.emit]
  have hcr : crashed = replay (replay n.db (pre.take i)) (seg.take (i - 3)) := by
    show replay base (n'.log.take (n.log.length + i)) = _
    rw [hl', crash_split, ← hdb, List.take_append, replay_append]
    rfl
  by_cases h3 : 3 ≤ i
  · -- past the three puts: what they wrote stays
    have k : Keeps n3.db crashed := by
      rw [hcr, List.take_of_length_le (show pre.length ≤ i from h3)]
      exact keeps_replay (SafeSeg.take (i - 3) hs)
    exact ⟨k.jcp _ (if_pos rfl), k.pv _ _ (if_pos ⟨rfl, rfl⟩), k.pc _ _ (if_pos ⟨rfl, rfl⟩)⟩
  · -- within the three puts the finalised-hash keys are untouched
    exfalso
    apply hne
    have h0 : i - 3 = 0 := by omega
    rw [hcr, h0]
    have : i = 0 ∨ i = 1 ∨ i = 2 := by omega
    rcases this with rfl | rfl | rfl <;> rfl

/-- the scenario of the defect: block 1 carries a scheduled change (delay 0, authorities 5) and is finalised
    in round 1 -/
def defectOps : List Op := [.imp 1 0 0 1 (some (.sc 0 5)) false false, .fin 1 1 0]

/-- With the order the code had (IncrementSetID, then setAuthorities, then setChangeSetIDAtBlock) a crash
    right after the ninth write of this scenario — the new current set id — restarts with a current set id 1
    that has neither an authority list nor an activation block. -/
theorem C36_increment_first_counterexample :
    restart (replay base ((run { incrementFirst := true } defectOps).log.take 9)) =
      .ok ⟨1, 0, 1, 100⟩ 1 0 true true (some 1) none none (some 0) := by
  decide

/-- so that crash database is not `Good`: the property fails for the write order the code had -/
theorem C36_increment_first_not_good :
    ¬ Good (replay base ((run { incrementFirst := true } defectOps).log.take 9)) := by
  rintro ⟨hd, r, s, cur, a, c, lr, h⟩
  rw [C36_increment_first_counterexample] at h
  cases h

/-- the same crash point with the repaired order: the old set is still current and complete -/
example : restart (replay base ((run {} defectOps).log.take 9)) =
    .ok ⟨1, 0, 1, 100⟩ 1 0 true true (some 0) (some 0) (some 0) (some 0) := by decide

/-- and after the whole scenario the new set is current with its authorities and activation block -/
example : restart (run {} defectOps).db =
    .ok ⟨1, 0, 1, 100⟩ 1 0 true true (some 1) (some 5) (some 1) (some 0) := by decide

/-- the log of the scenario: 11 entries, the three authority-set writes last -/
example : (run {} defectOps).log.drop 8 = [.put (.auth 1 5), .put (.change 1 1), .put (.curSet 1)] := by decide

/-- `setHighestRoundAndSetID` compares set ids only: a completed finalisation with a lower round in the same
    set lowers the stored "highest" round (this is the behaviour of a completed operation, not of a crash;
    `C36_finalised_atomic` is therefore stated relative to the operation's own result) -/
theorem C36_round_not_monotone :
    (run {} [.imp 1 0 0 1 none false false, .fin 1 5 0, .imp 2 1 0 2 none false false, .fin 2 3 0]).db.hrs = some (3, 0) := by
  decide

end Gossamer.C36
