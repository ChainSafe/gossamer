/-
C32  Full sync imports only consistent chains, parents first.

The theorems hold for ALL bad-block lists, all histories of announcements and `Process` calls and all responses (any
split, order, duplication, fork, disconnected fragment, forged hash, broken link, missing field).  "Parent known" is
read off the trace: the flag of `Ev.handed` / `Ev.exec` is the lookup of the parent hash in the known set of that
very moment (`C32_handed_flag`, `C32_exec_flag`).  The theorems about histories are read off the invariant `run_inv`.
-/
import Gossamer.Lib.C32Run
namespace Gossamer.C32

/-- The flag of an `exec` event is the lookup of the block's parent in the known set at the moment
    the importer is called, and the block was not known (by its stated hash). -/
theorem C32_exec_flag (st : St) (b' b : BD) (pk : Bool)
    (h : Ev.exec b pk ∈ (importBlock st b').2.1) :
    b = b' ∧ pk = st.known.contains b.parent ∧ st.known.contains b.stated = false := by
  obtain h | ⟨h, hk⟩ | h := importBlock_events st b' _ h
  · cases h
  · cases h
    exact ⟨rfl, rfl, hk⟩
  · cases h

/-- The flag of a `handed` event is the lookup of the block's parent in the known set at the moment
    the strategy calls the importer. -/
theorem C32_handed_flag (st : St) (b' b : BD) (pk : Bool)
    (h : Ev.handed b pk ∈ (importBlock st b').2.1) : b = b' ∧ pk = st.known.contains b.parent := by
  obtain h | ⟨h, _⟩ | h := importBlock_events st b' _ h
  · cases h
    exact ⟨rfl, rfl⟩
  · cases h
  · cases h

/-- Every block handed to the importer, in any history, has its parent known at that moment. -/
theorem C32_parents_first (bad : List Nat) (ops : List Op) (b : BD) (pk : Bool)
    (h : Ev.handed b pk ∈ (run bad ops).trace) : pk = true :=
  (run_inv bad ops).evs.flags _ h

/-- Every block the importer goes on to execute, in any history, has its parent known at that moment. -/
theorem C32_parents_first_exec (bad : List Nat) (ops : List Op) (b : BD) (pk : Bool)
    (h : Ev.exec b pk ∈ (run bad ops).trace) : pk = true :=
  (run_inv bad ops).evs.flags _ h

/-- No `Process` call of any history fails (unknown parent, finalising an unknown block) or panics. -/
theorem C32_never_fails (bad : List Nat) (ops : List Op) :
    ∀ o ∈ (run bad ops).outcomes, o = .ok :=
  (run_inv bad ops).outs

/-- No block (identified by the hash of its header) is executed twice in a history. -/
theorem C32_at_most_once (bad : List Nat) (ops : List Op) : (execIds (run bad ops).trace).Nodup :=
  (run_inv bad ops).evs.nodup

/-- The unready set only ever holds non-empty hash-linked fragments of honest blocks. -/
theorem C32_unready_good (bad : List Nat) (ops : List Op) : Inv (run bad ops).st :=
  (run_inv bad ops).inv

/-- A completed response to a header request that is not a hash-linked chain is rejected; when its
    fields are in order the peer's reputation is changed for it. -/
theorem C32_rejects_non_chain (bad : List Nat) (r : Result) (hc : r.completed = true)
    (hk : r.kind.hdr = true) (hn : isChain (ordered r) = false) :
    (∃ rep blk, validateOne bad r = .reject rep blk) ∧
    (checkFields true (ordered r) = none → validateOne bad r = .reject (some .hdr) false) := by
  have hne : ordered r ≠ [] := fun h => by
    rw [h] at hn
    cases hn
  rw [validateOne_completed bad hc hne]
  cases hcf : checkFields r.kind.hdr (ordered r) with
  | none =>
    have := judge_non_chain bad hcf hk hn
    exact ⟨⟨_, _, this⟩, fun _ => this⟩
  | some e =>
    refine ⟨⟨_, _, judge_fieldErr bad hcf⟩, fun h => ?_⟩
    rw [hk, h] at hcf
    cases hcf

/-- A completed response to a header request containing a block whose stated hash is not the hash of
    its header is rejected. -/
theorem C32_rejects_forged_hash (bad : List Nat) (r : Result) (hc : r.completed = true)
    (hk : r.kind.hdr = true) (hf : ∃ b ∈ r.blocks, b.stated ≠ b.id) :
    ∃ rep blk, validateOne bad r = .reject rep blk := by
  obtain ⟨e, _, h⟩ := forged_fieldErr bad hc hk hf
  exact ⟨_, _, h⟩

/-- A completed response to a header request containing a block with a forged stated hash, all of whose blocks have
    a body, is rejected with a reputation change. -/
theorem C32_forged_hash_reported (bad : List Nat) (r : Result) (hc : r.completed = true)
    (hk : r.kind.hdr = true) (hf : ∃ b ∈ r.blocks, b.stated ≠ b.id)
    (hbody : ∀ b ∈ r.blocks, b.hasBody = true) :
    validateOne bad r = .reject (some .hdr) false := by
  obtain ⟨e, he, h⟩ := forged_fieldErr bad hc hk hf
  rw [h, if_neg]
  intro hnil
  subst hnil
  obtain ⟨b, hb, hh⟩ := checkFields_nilBody he
  rw [hbody b (mem_ordered.mp hb)] at hh
  cases hh

/-- Whatever `validateResults` lets through for a header request is a non-empty hash-linked chain of
    blocks with a body whose stated hash is the hash of the header. -/
theorem C32_accepted_honest_chain (bad : List Nat) (rs : List Result) (k : Kind) (bs : List BD)
    (h : (k, bs) ∈ (validateResults bad rs).valid) (hk : k.hdr = true) :
    bs ≠ [] ∧ isChain bs = true ∧ ∀ b ∈ bs, b.stated = b.id ∧ b.hasBody = true :=
  (validResp_of_mem h).hdr hk

/-- A response that `validateResults` rejects (not a chain, forged hash, missing field, bad block)
    changes neither the state nor what is handed to the importer nor the re-requests: the call
    behaves as if the response were not there. -/
theorem C32_rejected_no_effect (bad : List Nat) (st : St) (rs1 rs2 : List Result) (r : Result)
    (rep : Option Rep) (blk : Bool) (h : validateOne bad r = .reject rep blk) :
    (process bad st (rs1 ++ r :: rs2)).st = (process bad st (rs1 ++ rs2)).st ∧
    (process bad st (rs1 ++ r :: rs2)).events = (process bad st (rs1 ++ rs2)).events ∧
    (process bad st (rs1 ++ r :: rs2)).outcome = (process bad st (rs1 ++ rs2)).outcome ∧
    (process bad st (rs1 ++ r :: rs2)).queued = (process bad st (rs1 ++ rs2)).queued := by
  have hr : accepted bad r = none := by
    unfold accepted
    rw [h]
  have hv : (validateResults bad (rs1 ++ r :: rs2)).valid = (validateResults bad (rs1 ++ rs2)).valid := by
    rw [valid_eq_filterMap, valid_eq_filterMap, List.filterMap_append, List.filterMap_append,
      List.filterMap_cons_none hr]
  unfold process
  simp only []
  rw [hv]
  exact finish_indep _ _ _ _

private def blk (id parent num : Nat) : BD :=
  { id := id, stated := id, parent := parent, num := num, hasHeader := true, hasBody := true, just := false }

/-- chain 1..4 on genesis; the upper half arrives first, then a descending ancestor search -/
private def demoOps : List Op :=
  [ .proc [{ peer := 0, kind := .asc, completed := true, blocks := [blk 3 2 3, blk 4 3 4] }],
    .proc [{ peer := 0, kind := .desc, completed := true, blocks := [blk 2 1 2, blk 1 0 1] }],
    .proc [{ peer := 1, kind := .asc, completed := true, blocks := [blk 1 0 1, blk 2 1 2] }] ]

example : execIds (run [] demoOps).trace = [1, 2, 3, 4] := rfl
example : (run [] demoOps).outcomes = [.ok, .ok, .ok] := rfl
example : (run [] (demoOps.take 1)).st.disjoint = [[blk 3 2 3, blk 4 3 4]] := rfl

/-- a forged hash and a broken link are rejected with a reputation change -/
private def forged : BD := { blk 1 0 1 with stated := 77 }
private def resForged : Result := { peer := 0, kind := .asc, completed := true, blocks := [forged] }
private def resBroken : Result :=
  { peer := 0, kind := .asc, completed := true, blocks := [blk 1 0 1, blk 3 2 3] }
example : validateOne [] resForged = .reject (some .hdr) false := rfl
example : validateOne [] resBroken = .reject (some .hdr) false := rfl

end Gossamer.C32
