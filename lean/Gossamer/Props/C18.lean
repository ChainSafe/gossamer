/-
C18  Only supermajority-signed GRANDPA commits finalise blocks.

All theorems are about the model in Gossamer/Model/C18.lean (the code after the two `fix:` commits);
the differential run ties that model to lib/grandpa.  Signature validity is the oracle
`entryValid` (ed25519 is trusted).
-/
import Gossamer.Lib.Threshold
import Gossamer.Lib.C18Loop
import Gossamer.Lib.C18History
namespace Gossamer.C18

-- for the `decide` proofs of the examples and counterexamples below, which compare answers of type `Except VErr _`
deriving instance DecidableEq for Except

/-- "more than `State.threshold()` = ⌊2n/3⌋ votes" is "more than two thirds of the `n` authorities" -/
theorem C18_threshold_arith (w n : Nat) : w > thr n ↔ 3 * w > 2 * n :=
  Threshold.two_thirds_lt n w

/-- "at least ⌊2n/3⌋" (what the code asks for) is not "more than two thirds": 2 of 4 -/
theorem C18_threshold_not_strict_counterexample :
    ¬ (∀ w n : Nat, w ≥ thr n → 3 * w > 2 * n) := by
  intro h
  exact absurd (h 2 4 (by decide)) (by decide)

theorem thr_boundary (w n : Nat) (h : thr n ≤ w) (hs : ¬ 3 * w > 2 * n) : w = thr n :=
  Nat.le_antisymm (Nat.le_of_not_lt fun h' => hs ((C18_threshold_arith w n).1 h')) h

/-- a key enters `eqvVoters` only if it is a current authority and the commit holds two entries
    with its valid signature (right round, right set) for two different votes -/
theorem C18_equivocator_needs_two_valid {env : Env} {c : Commit} {acc : Acc}
    (h : verifyAcc env c = .ok acc) (id : Nat) (hid : id ∈ acc.eqv) :
    id ∈ env.auths ∧ ∃ e₁ e₂, e₁ ∈ c.entries ∧ e₂ ∈ c.entries ∧ e₁.id = id ∧ e₂.id = id ∧
      entryValid env c e₁ = true ∧ entryValid env c e₂ = true ∧ e₁.vote ≠ e₂.vote := by
  obtain ⟨e₁, e₂, h1, h2, h3, h4, h5, h6, h7⟩ := (inv_verifyAcc h).eqv id hid
  exact ⟨h3 ▸ entryValid_mem h5, e₁, e₂, List.mem_reverse.1 h1, List.mem_reverse.1 h2, h3, h4, h5, h6, h7⟩

/-- a key is counted as an ordinary supporter only for a valid precommit on the target's chain,
    and never together with being counted as an equivocator -/
theorem C18_supporter_needs_valid_on_chain {env : Env} {c : Commit} {acc : Acc}
    (h : verifyAcc env c = .ok acc) (id : Nat) (hid : id ∈ acc.sup) :
    id ∈ env.auths ∧ id ∉ acc.eqv ∧ ∃ e, e ∈ c.entries ∧ e.id = id ∧ entryValid env c e = true ∧
      onChain env c e = true := by
  have inv := inv_verifyAcc h
  obtain ⟨e, h1, h2, h3, h4⟩ := inv.sup id hid
  exact ⟨h2 ▸ entryValid_mem h3, inv.disj id hid, e, List.mem_reverse.1 h1, h2, h3, h4⟩

/-- every key the code counts is a current authority that supports the commit in the sense of the
    property, and it is counted once -/
theorem C18_counted_are_distinct_supporters {env : Env} {c : Commit} {acc : Acc}
    (h : verifyAcc env c = .ok acc) :
    (acc.sup ++ acc.eqv).Nodup ∧
      ∀ id, id ∈ acc.sup ++ acc.eqv → id ∈ env.auths ∧ supports env c id = true := by
  have inv := inv_verifyAcc h
  refine ⟨List.nodup_append.2 ⟨inv.supNodup, inv.eqvNodup, fun a ha b hb hab => inv.disj a ha (hab ▸ hb)⟩, ?_⟩
  intro id hid
  rw [supports_iff]
  rcases List.mem_append.mp hid with hs | hq
  · obtain ⟨ha, _, he⟩ := C18_supporter_needs_valid_on_chain h id hs
    exact ⟨ha, Or.inl he⟩
  · obtain ⟨ha, he⟩ := C18_equivocator_needs_two_valid h id hq
    exact ⟨ha, Or.inr he⟩

theorem count_le_specCount {env : Env} {c : Commit} {acc : Acc} (h : verifyAcc env c = .ok acc) :
    acc.count ≤ specCount env c := by
  obtain ⟨hn, hall⟩ := C18_counted_are_distinct_supporters h
  have := hn.length_le_of_subset (l₂ := env.auths.filter (supports env c))
    fun x hx => List.mem_filter.mpr (hall x hx)
  rwa [List.length_append, ← List.countP_eq_length_filter] at this

/-- `validAndEqv` as a function of the inputs (0 when the function returned before the comparison) -/
def codeCount (env : Env) (c : Commit) : Nat :=
  match verifyAcc env c with
  | .ok acc => acc.count
  | .error _ => 0

/-- What the code as it stands guarantees: an accepted commit is backed by at least ⌊2n/3⌋ DISTINCT
    current authorities, each with a valid precommit for the commit's round and the current set on
    the target or a descendant, or with two different valid precommits. -/
theorem C18_accept_reaches_threshold {env : Env} {c : Commit} (h : verifyCommit env c = .ok ()) :
    thr env.n ≤ specCount env c := by
  obtain ⟨acc, ha, ht⟩ := verifyCommit_ok.1 h
  exact Nat.le_trans ht (count_le_specCount ha)

/- The property itself:

     theorem C18_sound : verifyCommit env c = .ok () → supermajority (specCount env c) env.n = true

   does NOT hold for the code (known finding c18-threshold-not-strict): the comparison is
   `validAndEqv < threshold` with threshold = ⌊2n/3⌋.  It holds outside the region
   `validAndEqv = ⌊2n/3⌋`: -/
theorem C18_sound_partial {env : Env} {c : Commit} (h : verifyCommit env c = .ok ())
    (hregion : codeCount env c ≠ thr env.n) :
    supermajority (specCount env c) env.n = true := by
  obtain ⟨acc, ha, ht⟩ := verifyCommit_ok.1 h
  have hle := count_le_specCount ha
  have hc : codeCount env c = acc.count := by simp only [codeCount, ha]
  exact decide_eq_true ((C18_threshold_arith _ _).mp (by omega))

/-- SetFinalisedHash is called at most for the commit's own target, round and the current set, and
    only when the target is a known block with the claimed number, the round has no finalised block
    yet and the justification was accepted -/
theorem C18_finalises_only_verified_target {env : Env} {c : Commit} {x : Nat × Nat × Nat}
    (h : (handleCommit env c).fin = some x) :
    x = (c.tblk, c.round, env.set) ∧ verifyCommit env c = .ok () ∧ env.has = false ∧
      env.tree.known c.tblk = true ∧ env.tree.depth c.tblk = c.tnum := by
  rcases handleCommit_cases env c with ⟨hn, _⟩ | ⟨hf, hrest⟩
  · rw [hn] at h; exact nomatch h
  · exact ⟨Option.some.inj (h.symm.trans hf), hrest⟩

/-- `C18_sound_partial` for what `handleCommitMessage` does: SetFinalisedHash is called only for the
    target of a commit that (outside the region) has a supermajority behind it -/
theorem C18_finalise_sound_partial {env : Env} {c : Commit}
    (h : (handleCommit env c).fin ≠ none) (hregion : codeCount env c ≠ thr env.n) :
    (handleCommit env c).fin = some (c.tblk, c.round, env.set) ∧
      env.tree.known c.tblk = true ∧ env.tree.depth c.tblk = c.tnum ∧
      supermajority (specCount env c) env.n = true := by
  obtain ⟨x, hx⟩ := Option.ne_none_iff_exists'.mp h
  obtain ⟨rfl, hv, _, hk, hd⟩ := C18_finalises_only_verified_target hx
  exact ⟨hx, hk, hd, C18_sound_partial hv hregion⟩

/-- 0 ← 1 ← 2, and 3 a sibling of 1 -/
def exTree : Tree := ⟨[0, 1, 0]⟩
def exEnv (n : Nat) : Env := ⟨List.range n, 0, exTree, 0, false, 0⟩
def exOk (id blk num : Nat) : Entry := ⟨id, blk, num, Sig.honest id blk num 1 0⟩
def exCommit (es : List Entry) : Commit := ⟨1, 0, 1, 1, es, 0⟩

/-- the negation of the full statement at a concrete witness: 4 authorities, 2 honest precommits -/
theorem C18_sound_counterexample :
    ∃ (env : Env) (c : Commit), verifyCommit env c = .ok () ∧
      (handleCommit env c).fin = some (1, 1, 0) ∧ specCount env c = 2 ∧ env.auths = [0, 1, 2, 3] ∧
      supermajority (specCount env c) env.n = false :=
  ⟨exEnv 4, exCommit [exOk 0 1 1, exOk 1 2 2], by decide⟩

/-- non-vacuity: 3 of 4 honest precommits (one on a descendant) are accepted, outside the region,
    and the block is finalised -/
example : verifyCommit (exEnv 4) (exCommit [exOk 0 1 1, exOk 1 2 2, exOk 2 1 1]) = .ok () ∧
    codeCount (exEnv 4) (exCommit [exOk 0 1 1, exOk 1 2 2, exOk 2 1 1]) ≠ thr 4 ∧
    (handleCommit (exEnv 4) (exCommit [exOk 0 1 1, exOk 1 2 2, exOk 2 1 1])).fin = some (1, 1, 0) := by
  decide

/-- a commit that `verifyCommitMessageJustification` rejects causes neither SetFinalisedHash nor
    SetPrecommits -/
theorem C18_reject_finalises_nothing {env : Env} {c : Commit} (h : verifyCommit env c ≠ .ok ()) :
    (handleCommit env c).fin = none ∧ (handleCommit env c).pc = none := by
  rcases handleCommit_cases env c with ⟨hf, hp, _⟩ | ⟨_, hv, _⟩
  · exact ⟨hf, hp⟩
  · exact absurd hv h

/-- a commit with fewer than ⌊2n/3⌋ distinct supporting authorities finalises nothing, whatever
    else it contains (repetitions, garbage, outsiders, off-chain votes) -/
theorem C18_short_commit_finalises_nothing {env : Env} {c : Commit}
    (h : specCount env c < thr env.n) :
    ((handleCommit env c).res ≠ .ok ∨ env.has = true) ∧
      (handleCommit env c).fin = none ∧ (handleCommit env c).pc = none := by
  rcases handleCommit_cases env c with ⟨hf, hp, hr⟩ | ⟨_, hv, _⟩
  · exact ⟨hr, hf, hp⟩
  · exact absurd (C18_accept_reaches_threshold hv) (Nat.not_le.2 h)

/-- an accepted commit is for the current set and for a descendant of the highest finalised block -/
theorem C18_accept_set_and_ancestry {env : Env} {c : Commit} (h : verifyCommit env c = .ok ()) :
    c.set = env.set ∧ c.lm = 0 ∧ env.fault ≠ 1 ∧
      (env.fault ≠ 2 → env.tree.isDescendantOf env.fin c.tblk = .ok true) := by
  obtain ⟨acc, ha, _⟩ := verifyCommit_ok.1 h
  obtain ⟨h1, h2, h3, h4, _⟩ := verifyAcc_ok ha
  exact ⟨h2, h1, h3, h4⟩

/-- validity of an entry is exactly: the authority's own untouched precommit signature over this
    vote, the commit's round and the current set -/
theorem C18_valid_iff (env : Env) (c : Commit) (e : Entry) :
    entryValid env c e = true ↔
      e.sig = ⟨false, e.id, 1, e.blk, e.num, c.round, env.set, 0⟩ ∧ e.id ∈ env.auths := by
  rw [entryValid, Bool.and_eq_true, List.contains_iff_mem]
  exact and_congr_left fun _ => ⟨of_decide_eq_true, decide_eq_true⟩

/-- non-vacuity: a real equivocator (two valid precommits, neither on the target's chain) is counted
    once; one valid plus one badly signed entry is no equivocation; garbage pairs count nothing -/
example :
    (verifyAcc (exEnv 4) (exCommit [exOk 0 3 1, exOk 0 0 0, exOk 0 3 1])).toOption.map
        (fun a => (a.sup, a.eqv)) = some ([], [0]) ∧
    (verifyAcc (exEnv 4) (exCommit [exOk 0 1 1, { exOk 0 2 2 with sig := ⟨true, 0, 0, 0, 0, 0, 0, 0⟩ }]
        )).toOption.map (fun a => (a.sup, a.eqv)) = some ([0], []) ∧
    codeCount (exEnv 4) (exCommit [⟨100, 1, 1, ⟨true, 0, 0, 0, 0, 0, 0, 0⟩⟩,
        ⟨100, 1, 1, ⟨false, 100, 1, 1, 1, 1, 0, 3⟩⟩]) = 0 := by
  decide

/-- the loop skips no valid entry: with a known target, every valid entry names a block the tree knows, or the
    target itself -/
def allSeen (env : Env) (c : Commit) : Prop :=
  ∀ e, e ∈ c.entries → entryValid env c e = true → seen env c e = true

theorem supporters_are_counted {env : Env} {c : Commit} {acc : Acc}
    (h : verifyAcc env c = .ok acc) (hall : allSeen env c) (id : Nat)
    (hs : supports env c id = true) : id ∈ acc.sup ++ acc.eqv := by
  have inv := inv_verifyAcc h
  have hrec : ∀ e, e ∈ c.entries → entryValid env c e = true →
      ∃ v, acc.first.lookup e.id = some v ∧ (e.vote ≠ v → e.id ∈ acc.eqv) :=
    fun e he hv => inv.recd e (List.mem_reverse.2 he) (hall e he hv)
  rw [List.mem_append]
  rcases supports_iff.1 hs with ⟨e, he, rfl, hv, hon⟩ | ⟨e₁, e₂, h1, h2, rfl, hi2, hv1, hv2, hne⟩
  · obtain ⟨v, hl, hq⟩ := hrec e he hv
    by_cases hev : e.vote = v
    · exact inv.cnt e.id v hl (hev ▸ onChain_iff.1 hon)
    · exact Or.inr (hq hev)
  · obtain ⟨v, hl, hq⟩ := hrec e₁ h1 hv1
    obtain ⟨w, hl', hq'⟩ := hrec e₂ h2 hv2
    -- one key, one first vote: `e₁` or `e₂` differs from it
    have hvw : v = w := Option.some.inj (hl.symm.trans (hi2 ▸ hl'))
    by_cases hev : e₁.vote = v
    · exact Or.inr (hi2 ▸ hq' fun h2 => hne (hev.trans (hvw.trans h2.symm)))
    · exact Or.inr (hq hev)

/-- `validAndEqv` IS the number of distinct supporting authorities when no valid precommit names an
    unknown block (`allSeen`) and the authority list is duplicate-free (`specCount` counts a key once per occurrence in
    `auths`, the code once) -/
theorem C18_count_exact {env : Env} {c : Commit} {acc : Acc}
    (h : verifyAcc env c = .ok acc) (hall : allSeen env c) (hnd : env.auths.Nodup) :
    acc.count = specCount env c := by
  have hge := (hnd.sublist (List.filter_sublist (p := supports env c))).length_le_of_subset
    (l₂ := acc.sup ++ acc.eqv) fun x hx => supporters_are_counted h hall x (List.mem_filter.mp hx).2
  rw [← List.countP_eq_length_filter, List.length_append] at hge
  exact Nat.le_antisymm (count_le_specCount h) hge

/-- the decision of `verifyCommitMessageJustification`, completely: under the hypotheses of
    `C18_count_exact`, once `verifyAcc` ran to its end without an error, the commit is
    accepted exactly when at least ⌊2n/3⌋ distinct authorities support it -/
theorem C18_accept_iff {env : Env} {c : Commit} {acc : Acc}
    (h : verifyAcc env c = .ok acc) (hall : allSeen env c) (hnd : env.auths.Nodup) :
    verifyCommit env c = .ok () ↔ thr env.n ≤ specCount env c := by
  rw [← C18_count_exact h hall hnd, verifyCommit_ok, h]
  simp only [Except.ok.injEq, exists_eq_left']

/-- after a set change and any number of commits, the Service is in the new set with the new voters -/
theorem C18_history_current_set (t : Tree) (s0 : Svc) (pre cs : List Op) (ns : Nat) (vs : List Nat)
    (h : ns ≠ (stateAfter t s0 pre).set) (hc : ∀ op ∈ cs, ∃ f c, op = .commit f c) :
    (stateAfter t s0 (pre ++ .setchange ns vs :: cs)).auths = vs ∧
      (stateAfter t s0 (pre ++ .setchange ns vs :: cs)).set = ns := by
  rw [stateAfter_append, stateAfter_cons]
  have h1 := commits_keep_set t cs (stepOp t (stateAfter t s0 pre) (.setchange ns vs)).1 hc
  have h2 := setchange_installs t (stateAfter t s0 pre) ns vs h
  exact ⟨h1.1.trans h2.1, h1.2.trans h2.2⟩

/- The property over histories:

     after ANY history of commits and set changes, a commit that makes the Service call
     SetFinalisedHash is backed by more than two thirds of the authorities of the set the Service is
     in at that moment

   fails for the code only through the non-strict threshold (known finding); what holds: -/

/-- After any history `pre` on one Service, the next commit is handled against the authority set and
    set id the Service is in NOW (`stateAfter`): if SetFinalisedHash is called, it is for the commit's
    own target/round and the current set id, at least ⌊2n/3⌋ DISTINCT authorities OF THE CURRENT SET
    support the commit (n = size of the current set), every counted key is a current authority, and
    outside `validAndEqv = ⌊2n/3⌋` they are more than two thirds. -/
theorem C18_history_sound_partial (t : Tree) (s0 : Svc) (pre post : List Op) (f : Nat) (c : Commit) :
    let s := stateAfter t s0 pre
    let env := envOf t s f c
    let o := handleCommit env c
    run t (pre ++ .commit f c :: post) s0 = run t pre s0 ++ .commit o :: run t post (s.record f o) ∧
    (o.fin ≠ none →
      o.fin = some (c.tblk, c.round, s.set) ∧ c.set = s.set ∧
      thr s.auths.length ≤ s.auths.countP (supports env c) ∧
      (∃ acc, verifyAcc env c = .ok acc ∧ (acc.sup ++ acc.eqv).Nodup ∧
        thr s.auths.length ≤ (acc.sup ++ acc.eqv).length ∧
        ∀ id, id ∈ acc.sup ++ acc.eqv → id ∈ s.auths ∧ supports env c id = true) ∧
      (codeCount env c ≠ thr s.auths.length →
        supermajority (s.auths.countP (supports env c)) s.auths.length = true)) := by
  intro s env o
  refine ⟨by simpa [stepOp, stepOpG] using run_split t pre s0 (.commit f c) post, ?_⟩
  intro hfin
  obtain ⟨x, hx⟩ := Option.ne_none_iff_exists'.mp hfin
  have hv := C18_finalises_only_verified_target hx
  obtain ⟨acc, ha, ht⟩ := verifyCommit_ok.1 hv.2.1
  have hd := C18_counted_are_distinct_supporters ha
  have hset := (C18_accept_set_and_ancestry hv.2.1).1
  refine ⟨by rw [hx, hv.1]; rfl, hset, C18_accept_reaches_threshold hv.2.1, ⟨acc, ha, hd.1, ?_, hd.2⟩, ?_⟩
  · simpa [Acc.count, Env.n, env, envOf] using ht
  · intro hreg
    exact C18_sound_partial hv.2.1 hreg

/-- a commit that does not make it leaves the Service state (highest finalised block, finalised
    rounds, authority set) exactly as it was -/
theorem C18_history_reject_keeps_state (t : Tree) (s : Svc) (f : Nat) (c : Commit)
    (h : verifyCommit (envOf t s f c) c ≠ .ok ()) : (stepOp t s (.commit f c)).1 = s := by
  have := (C18_reject_finalises_nothing h).1
  simp [stepOp, stepOpG, Svc.record, this]

def exSig (id blk num round set : Nat) : Entry := ⟨id, blk, num, Sig.honest id blk num round set⟩

/-- authorities {0,1,2,3} of set 0 are replaced by {2,4,5} in set 1.  A set-1 commit signed by the three
    that LEFT (0,1,3) finalises nothing; one signed by the two newcomers (4,5) reaches ⌊2·3/3⌋ = 2 of the
    NEW set. -/
example :
    let s0 : Svc := ⟨[0, 1, 2, 3], 0, 0, []⟩
    let h := [Op.commit 0 ⟨1, 0, 1, 1, [exSig 0 1 1 1 0, exSig 1 1 1 1 0, exSig 3 1 1 1 0], 0⟩,
              Op.setchange 1 [2, 4, 5],
              Op.commit 0 ⟨2, 1, 2, 2, [exSig 0 2 2 2 1, exSig 1 2 2 2 1, exSig 3 2 2 2 1], 0⟩,
              Op.commit 0 ⟨3, 1, 2, 2, [exSig 4 2 2 3 1, exSig 5 2 2 3 1], 0⟩]
    (run exTree h s0).map (fun o => match o with | .commit o => o.fin | .set _ _ => none) =
      [some (1, 1, 0), none, none, some (2, 3, 1)] ∧
    (stateAfter exTree s0 h).auths = [2, 4, 5] := by
  decide

/-! ### the defects that were repaired (historical model of the code before the `fix:` commits) -/

/-- `getEquivocatoryVoters(AuthData)`: same id, different signature bytes; nothing is verified -/
def eqvVotersOld : List Entry → List (Nat × Sig) → List Nat → List Nat
  | [], _, eq => eq
  | e :: es, voters, eq =>
    match voters.lookup e.id with
    | some s =>
      if s ≠ e.sig then eqvVotersOld es voters (eq.insert e.id)
      else eqvVotersOld es ((e.id, e.sig) :: voters) eq
    | none => eqvVotersOld es ((e.id, e.sig) :: voters) eq

/-- the old loop: `totalValidPrecommits++` per entry (number/header errors left out: they do not
    occur in the witnesses) -/
def countOld (env : Env) (c : Commit) (eqv : List Nat) : List Entry → Nat
  | [] => 0
  | e :: es =>
    (if entryValid env c e && !eqv.contains e.id && onChain env c e then 1 else 0) +
      countOld env c eqv es

def acceptOld (env : Env) (c : Commit) : Bool :=
  let eqv := eqvVotersOld c.entries [] []
  decide (thr env.n ≤ countOld env c eqv c.entries + eqv.length)

/-- before the fix 55c97d324 ("prefix" = pre-fix): one authority of four, repeated three times, was a "supermajority" -/
theorem C18_prefix_duplicates_counterexample :
    acceptOld (exEnv 4) (exCommit [exOk 0 1 1, exOk 0 1 1, exOk 0 1 1]) = true ∧
    specCount (exEnv 4) (exCommit [exOk 0 1 1, exOk 0 1 1, exOk 0 1 1]) = 1 ∧
    verifyCommit (exEnv 4) (exCommit [exOk 0 1 1, exOk 0 1 1, exOk 0 1 1]) = .error (.min 2 1) := by
  decide

def exGarbage (id t : Nat) : Entry :=
  ⟨id, 1, 1, if t = 0 then ⟨true, 0, 0, 0, 0, 0, 0, 0⟩ else ⟨false, id, 1, 1, 1, 1, 0, t⟩⟩

/-- before the fix b355fe8fe: four entries without a single valid signature, of two keys that are not even
    authorities, were a "supermajority" of four authorities -/
theorem C18_prefix_fake_equivocators_counterexample :
    acceptOld (exEnv 4) (exCommit [exGarbage 100 0, exGarbage 100 1, exGarbage 101 0, exGarbage 101 2]) = true ∧
    specCount (exEnv 4) (exCommit [exGarbage 100 0, exGarbage 100 1, exGarbage 101 0, exGarbage 101 2]) = 0 ∧
    verifyCommit (exEnv 4) (exCommit [exGarbage 100 0, exGarbage 100 1, exGarbage 101 0, exGarbage 101 2])
      = .error (.min 2 0) := by
  decide

end Gossamer.C18
