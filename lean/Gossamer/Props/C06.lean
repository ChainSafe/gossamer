/-
C06 — the database-backed trie engine (`pkg/trie/triedb`) agrees with the spec.

Model: `Gossamer/Model/C06.lean` (`insertAt`/`insertInspector`, `removeAt`/`removeInspector`/`fix`,
`NewValue`, `commit`/`commitChild`, `lookup`/`TrieLookup`, deathRow) over an association-list
database.  Spec: the ordered map `specAll [] ops` of the history and its Merkle root `specRoot`
(C01: hash of the encoding of the canonical trie `build`).

The `_partial` theorems, `C06_reopen_collision` and `C06_history_independent` are the one-session
special case (no commit / reopen inside the history), under weaker hypotheses on the hash.

The trie model works on plain nibble lists throughout.  `C06_nibbles_<op>_refines`
(`Lib/C06NibblesLemmas.lean`) relate the byte-level model of `pkg/trie/triedb/nibbles` + `combineKey`
(`Lib/C06Nibbles.lean`: packed data and nibble offset, as in the Go code) to them helper by helper;
that the Go code calls each helper where the model uses the list operation is tied by the
correspondence run only.  `Compare` and `NibbleSlice.Pop` are modelled and run by the driver but have
no theorem.

Proof: the in-memory handle tree always stands for THE canonical trie of the current map (the insert
inspector computes the in-memory trie's `Trie.insert`, the remove inspector `tRemove`; C01's
`Canon`/`canon_unique`/`Rep`), relative to the trie `T0` committed last (`abs`, `Ok`); `commit`
produces the spec encoding (`encNew_spec`); rows scheduled for deletion belong to positions of `T0`
that the new tree does not refer to, and distinct positions have distinct rows (`rows_inj`), so the
database holds the new trie afterwards.
-/
import Gossamer.Lib.TrieDBHist
import Gossamer.Lib.C06NibblesLemmas
namespace Gossamer.C06
open Gossamer Gossamer.Trie

/-- **Root.**  For every history of puts, deletes (of any key, stored or not) and reads on a fresh
    `TrieDB` over an empty database, in either version: no op fails, `commit` succeeds, and the root
    hash it computes is the spec root of the resulting map.  `H` is any hash function; `dec` any
    decoder that decodes the empty node `[0]`. -/
theorem C06_root_eq_spec_partial (c : Cfg) (hdec0 : c.dec [0] = some .empty) (ops : List Op)
    (hs : ∀ op ∈ ops, op.inSession = true) :
    ∃ s s', execAll c (St.init c.H) ops = .ok s ∧ commit c.H s = .ok s' ∧
      s'.rootHash = specRoot c.ver c.H (specAll [] ops) := by
  obtain ⟨s, t, h1, hs1, hr1⟩ := live_exec c ops hs _ nil nil [] (live_init c hdec0) Rep.empty
  obtain ⟨s', h2, h3⟩ := live_nil_commit c hs1
  exact ⟨s, s', h1, h2, by rw [h3, hr1.root c.ver c.H]⟩

/-- the root does not depend on the history, only on the resulting map (stated for histories inside
    one session, where nothing is assumed of the hash) -/
theorem C06_history_independent (c : Cfg) (hdec0 : c.dec [0] = some .empty) (ops1 ops2 : List Op)
    (h1 : ∀ op ∈ ops1, op.inSession = true) (h2 : ∀ op ∈ ops2, op.inSession = true)
    (hm : specAll [] ops1 = specAll [] ops2) :
    ∃ s1 s1' s2 s2', execAll c (St.init c.H) ops1 = .ok s1 ∧ commit c.H s1 = .ok s1' ∧
      execAll c (St.init c.H) ops2 = .ok s2 ∧ commit c.H s2 = .ok s2' ∧
      s1'.rootHash = s2'.rootHash := by
  obtain ⟨s1, s1', a1, b1, c1⟩ := C06_root_eq_spec_partial c hdec0 ops1 h1
  obtain ⟨s2, s2', a2, b2, c2⟩ := C06_root_eq_spec_partial c hdec0 ops2 h2
  exact ⟨s1, s1', s2, s2', a1, b1, a2, b2, by rw [c1, c2, hm]⟩

/-- **Reopen (one session).**  After any history of puts, deletes and reads on a fresh `TrieDB` over
    an empty database and a `commit`, a fresh `NewTrieDB(root, db)` returns for EVERY key `k` (stored
    or not) exactly `get k` of the resulting map: the stored value for stored keys, `nil` for all
    others.  Hypotheses: 32-byte digests; `H` has no collision among the (finitely many) strings
    hashed along the history (`HashedIn`; see `C06_reopen_collision` for the explicit collision
    clause); the decoder inverts the encoding on the nodes of the committed trie. -/
theorem C06_reopen_partial (c : Cfg) (ops : List Op) (hs : ∀ op ∈ ops, op.inSession = true)
    (hlen : ∀ x, (c.H x).length = 32) (hinj : InjOn c.H (HashedIn c [] ops))
    (hdec : DecodesTrie c (build (specAll [] ops))) :
    ∃ s s', execAll c (St.init c.H) ops = .ok s ∧ commit c.H s = .ok s' ∧
      s'.rootHash = specRoot c.ver c.H (specAll [] ops) ∧
      ∀ k, doGet c (reopenAt s') k = OMap.get k (specAll [] ops) := by
  obtain ⟨s, t, h1, hs1, hr1⟩ := live_exec c ops hs _ nil nil [] (live_init c hdec.1) Rep.empty
  have ht : t = build (specAll [] ops) := hr1.eq_build
  have hcov : Covers c.ver c.H (HashedIn c [] ops) t := by
    have := covers_hashedIn c [] ops ops.length
    rw [List.take_length] at this
    rw [ht]; exact this
  obtain ⟨s', h2, h3, h4⟩ := live_nil_reopen c hlen hinj (Or.inl rfl) hs1 hcov
    (by rw [ht]; exact hdec.2)
  refine ⟨s, s', h1, h2, by rw [h3, hr1.root c.ver c.H], fun k => ?_⟩
  rw [h4 k, hr1.lookup_eq]

/-- the same with the collision clause explicit: either two different strings hashed along the
    history collide, or the fresh instance agrees with the map on every key -/
theorem C06_reopen_collision (c : Cfg) (ops : List Op) (hs : ∀ op ∈ ops, op.inSession = true)
    (hlen : ∀ x, (c.H x).length = 32) (hdec : DecodesTrie c (build (specAll [] ops))) :
    (∃ a b, HashedIn c [] ops a ∧ HashedIn c [] ops b ∧ a ≠ b ∧ c.H a = c.H b) ∨
    ∃ s s', execAll c (St.init c.H) ops = .ok s ∧ commit c.H s = .ok s' ∧
      ∀ k, doGet c (reopenAt s') k = OMap.get k (specAll [] ops) := by
  by_cases hcol : ∃ a b, HashedIn c [] ops a ∧ HashedIn c [] ops b ∧ a ≠ b ∧ c.H a = c.H b
  · exact Or.inl hcol
  · right
    have hinj : InjOn c.H (HashedIn c [] ops) := by
      intro a b ha hb hab
      by_cases hne : a = b
      · exact hne
      · exact absurd ⟨a, b, ha, hb, hne, hab⟩ hcol
    obtain ⟨s, s', h1, h2, _, h4⟩ := C06_reopen_partial c ops hs hlen hinj hdec
    exact ⟨s, s', h1, h2, h4⟩

/-- **Root and reopen, every history.**  For EVERY history of puts, deletes, reads, intermediate
    commits (`Hash()`) and fresh instances (`NewTrieDB(root, db)`) on a `TrieDB` that starts over an
    empty database, in either version: no op fails, the final commit succeeds, its root hash is the
    spec root of the resulting map, and a fresh instance opened at that root returns `get k` of the
    map for every key `k` — the stored value for stored keys, `nil` for all others.
    Hypotheses: `HashOK` on the finitely many strings hashed along the history (`HashedIn`: 32-byte
    digests, no collision among them, no cycle of hash references among them) and the decoder
    hypothesis `DecodesHist` (the decoder `c.dec` is a parameter; what C07 proves of `codec.Decode` is
    about another Lean model of it and is not tied to this hypothesis). -/
theorem C06_root_eq_spec (c : Cfg) (ops : List Op) (hH : HashOK c.H (HashedIn c [] ops))
    (hdec : DecodesHist c [] ops) :
    ∃ s s', execAll c (St.init c.H) ops = .ok s ∧ commit c.H s = .ok s' ∧
      s'.rootHash = specRoot c.ver c.H (specAll [] ops) ∧
      ∀ k, doGet c (reopenAt s') k = OMap.get k (specAll [] ops) := by
  obtain ⟨s, T0, t, h1, hs, hr⟩ := exec_inv c hH ops _ nil nil []
    (sessG_init c _ hH.len hdec.1) Rep.empty hdec (covers_hashedIn c [] ops)
  obtain ⟨hcovt, hdect⟩ := hist_at hdec (covers_hashedIn c [] ops) ops.length
    (by rw [List.take_length]; exact hr)
  obtain ⟨s', T1, h2, hs', hroot, hT⟩ := sessG_commit c hH hs (rep_even hr) hcovt hdect
  refine ⟨s, s', h1, h2, by rw [hroot, hr.root c.ver c.H], fun k => ?_⟩
  rw [fresh_get c s' hs'.dbok hT hroot k, hr.lookup_eq]

/-- **Get on the live instance.**  After every history (commits and fresh instances included, without
    a final commit) `Get` on the instance itself — the walk over in-memory nodes continued by
    `TrieLookup` over the database — returns `get k` of the map for every key. -/
theorem C06_get (c : Cfg) (ops : List Op) (hH : HashOK c.H (HashedIn c [] ops))
    (hdec : DecodesHist c [] ops) :
    ∃ s, execAll c (St.init c.H) ops = .ok s ∧
      ∀ k, doGet c s k = OMap.get k (specAll [] ops) := by
  obtain ⟨s, T0, t, h1, hs, hr⟩ := exec_inv c hH ops _ nil nil []
    (sessG_init c _ hH.len hdec.1) Rep.empty hdec (covers_hashedIn c [] ops)
  exact ⟨s, h1, fun k => by rw [sessG_get c hs k, hr.lookup_eq]⟩

/-- the reopen clause of `C06_root_eq_spec` on its own -/
theorem C06_reopen (c : Cfg) (ops : List Op) (hH : HashOK c.H (HashedIn c [] ops))
    (hdec : DecodesHist c [] ops) :
    ∃ s s', execAll c (St.init c.H) ops = .ok s ∧ commit c.H s = .ok s' ∧
      ∀ k, doGet c (reopenAt s') k = OMap.get k (specAll [] ops) := by
  obtain ⟨s, s', h1, h2, _, h4⟩ := C06_root_eq_spec c ops hH hdec
  exact ⟨s, s', h1, h2, h4⟩

/-- `NewValue` stores a value by hash exactly in version 1 and when it is longer than 32 bytes
    (the threshold of the spec encoding, `mustBeHashed`) -/
theorem C06_threshold (ver : Ver) (v : Bytes) :
    ((∃ d, newValue ver v = .fresh d) ↔ (ver = Ver.v1 ∧ 32 < v.length)) ∧
    ((∃ d, newValue ver v = .fresh d) ↔ mustBeHashed ver v = true) := by
  constructor
  · cases ver
    · simp [newValue, exceedsInline]
    · by_cases h : 32 < v.length <;> simp [newValue, exceedsInline, v1MaxInline, h]
  · cases ver
    · simp [newValue, exceedsInline, mustBeHashed]
    · by_cases h : 32 < v.length <;> simp [newValue, exceedsInline, v1MaxInline, mustBeHashed, h]

/-- non-vacuity: a history with keys that are prefixes of one another, values of 31, 32 and 33
    bytes, an overwrite and deletes of a stored and of an absent key is a session history -/
example : ∀ op ∈ [Op.put [] (List.replicate 31 1), .put [0x10] (List.replicate 32 2),
    .put [0x10, 0x01] (List.replicate 33 3), .put [0x10] [7], .del [0x10, 0x01], .del [0x55],
    .get [0x10]], op.inSession = true := by decide

def toyH : Bytes → Bytes := fun b => List.replicate 31 0 ++ [UInt8.ofNat b.length]
def toyC : Cfg := { H := toyH, dec := decodeNode, ver := Ver.v1 }

def l1 : Trie := leaf [] [1]
def l2 : Trie := leaf [2, 3] (List.replicate 40 7)
def exCs : Nib → Trie := fun i => if i = 0 then l1 else if i = 1 then l2 else nil
def exT : Trie := branch [1] (some [9]) exCs

theorem exT_dec : decodeNode (encodeNode Ver.v1 toyH exT) = some (viewOf Ver.v1 toyH exT) := by
  have h : decodeNode (encodeNode Ver.v1 toyH exT) =
      some (.branch [1] (some (.inl [9]))
        (kidsFn [(0, .inl [64, 4, 1]), (1, .hashed (List.replicate 31 0 ++ [34]))])) := by rfl
  rw [h]
  have hk : kidsFn [(0, EKid.inl [64, 4, 1]), (1, EKid.hashed (List.replicate 31 0 ++ [34]))] =
      fun i => viewKid Ver.v1 toyH (exCs i) := by
    funext i
    revert i
    decide
  rw [hk]
  rfl

/-- non-vacuity of the decoder hypothesis: the decoder of the model (`decodeNode`, the one the
    driver runs) satisfies `DecodesTrie` on a trie with an inline value, an inlined child, a hashed
    child and a hashed (40-byte, V1) value -/
example : DecodesTrie toyC exT := by
  refine ⟨rfl, ?_⟩
  intro n hn
  simp only [exT, NodeOf] at hn
  rcases hn with rfl | ⟨i, hi⟩
  · exact exT_dec
  · by_cases h0 : i = 0
    · subst h0
      have : exCs 0 = l1 := rfl
      rw [this] at hi
      simp only [l1, NodeOf] at hi
      subst hi
      rfl
    · by_cases h1 : i = 1
      · subst h1
        have : exCs 1 = l2 := rfl
        rw [this] at hi
        simp only [l2, NodeOf] at hi
        subst hi
        rfl
      · have : exCs i = nil := by simp [exCs, h0, h1]
        rw [this] at hi
        exact absurd hi (by simp [NodeOf])

def v40 : Bytes := List.replicate 40 7
def exOps : List Op := [.put [0x12] v40, .commit, .put [0x12] v40, .reopen, .del [0x34], .get [0x12]]
def exLeaf : Trie := leaf [1, 2] v40

theorem exSpec : ∀ j, build (specAll [] (exOps.take j)) = nil ∨ build (specAll [] (exOps.take j)) = exLeaf := by
  intro j
  match j with
  | 0 => left; rfl
  | 1 => right; rfl
  | 2 => right; rfl
  | 3 => right; rfl
  | 4 => right; rfl
  | 5 => right; rfl
  | n + 6 =>
    right
    have : exOps.take (n + 6) = exOps := List.take_of_length_le (by simp [exOps])
    rw [this]; rfl

theorem exHashed (x : Bytes) (h : HashedIn toyC [] exOps x) : x = [0] ∨ x = encodeNode Ver.v1 toyH exLeaf ∨ x = v40 := by
  rcases h with h | ⟨j, ⟨n, hn, hx⟩ | ⟨k, hk, _⟩⟩
  · exact Or.inl h
  · rcases exSpec j with e | e
    · rw [e] at hn; exact hn.elim
    · rw [e] at hn
      simp only [exLeaf, NodeOf] at hn
      subst hn
      exact Or.inr (Or.inl hx)
  · rcases exSpec j with e | e
    · rw [e] at hk; simp at hk
    · rw [e] at hk
      obtain ⟨-, rfl⟩ := lookup_leaf_eq_some.mp hk
      exact Or.inr (Or.inr rfl)

theorem exHashOK : HashOK toyC.H (HashedIn toyC [] exOps) := by
  refine ⟨fun x => by simp [toyC, toyH], ?_, ⟨fun x => if x.length = 34 then 1 else 0, ?_⟩, Or.inl rfl⟩
  · intro a b ha hb hab
    rcases exHashed a ha with rfl | rfl | rfl <;> rcases exHashed b hb with rfl | rfl | rfl <;>
      first | rfl | (exfalso; revert hab; decide)
  · intro x y hx hy hinf
    rcases exHashed x hx with rfl | rfl | rfl <;> rcases exHashed y hy with rfl | rfl | rfl <;>
      first | (exfalso; revert hinf; decide) | decide

theorem exDecodes : DecodesHist toyC [] exOps := by
  refine ⟨rfl, fun j n hn => ?_⟩
  rcases exSpec j with e | e
  · rw [e] at hn; exact hn.elim
  · rw [e] at hn
    simp only [exLeaf, NodeOf] at hn
    subst hn
    rfl

/-- non-vacuity of the hypotheses of `C06_root_eq_spec`: for a history with an intermediate commit, a
    re-put of an equal (hashed, 40-byte) value, a fresh instance and a delete of an absent key, the
    toy hash (digest = length) is `HashOK` on `HashedIn` and the decoder of the model satisfies
    `DecodesHist` -/
example : ∃ s s', execAll toyC (St.init toyC.H) exOps = .ok s ∧ commit toyC.H s = .ok s' ∧
    s'.rootHash = specRoot toyC.ver toyC.H (specAll [] exOps) ∧
    ∀ k, doGet toyC (reopenAt s') k = OMap.get k (specAll [] exOps) :=
  C06_root_eq_spec toyC exOps exHashOK exDecodes

end Gossamer.C06
