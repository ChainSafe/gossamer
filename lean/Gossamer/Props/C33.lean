/-
C33  Network message decoders withstand arbitrary peer input.

Model: `Gossamer.C33.decode : Kind → Bytes → Out Msg` (Model/C33.lean), every decoder a peer's bytes
reach, over the SCALE model of C11/C12 and the protobuf-go wire model of Lib/C33Wire.lean.

The framing of dot/network streams (`readStream`) has its model and its property theorems
`C33_stream_*` in Lib/C33Stream.lean.
-/
import Gossamer.Model.C33
import Gossamer.Lib.C33Reencode
import Gossamer.Lib.C33Cost
import Gossamer.Lib.C33WireSize
import Gossamer.Lib.C33Stream
namespace Gossamer.C33
open Gossamer Gossamer.Scale Gossamer.Proto

theorem unmarshalTop_ne_panic (t : Ty) (bs : Bytes) : unmarshalTop t bs ≠ .panic := by
  unfold unmarshalTop; split <;> simp

theorem scaleMsg_ne_panic (o : Out Val) (h : o ≠ .panic) : scaleMsg o ≠ .panic := by
  cases o <;> simp_all [scaleMsg]

theorem grandpaGlue_ne_panic (v : Val) : grandpaGlue v ≠ .panic := by
  unfold grandpaGlue; split <;> (try split) <;> simp

theorem blockRequestGlue_ne_panic (msg : Proto.BlockRequest) : blockRequestGlue msg ≠ .panic := by
  unfold blockRequestGlue
  cases hfb : msg.fromBlock with
  | unset => simp
  | hash b => simp
  | number b =>
    by_cases hl : b.length = 4
    · simp [hl, le32_of_length hl]
    · simp [hl]

theorem decodeBlockRequest_ne_panic (bs : Bytes) : decodeBlockRequest bs ≠ .panic := by
  unfold decodeBlockRequest
  cases goParse bs with
  | none => simp
  | some fs => exact blockRequestGlue_ne_panic _

theorem headerOf_ne_panic (b : Bytes) : headerOf b ≠ .panic := by
  unfold headerOf; split
  · simp
  · split <;> simp

theorem bodyOf_ne_panic (e : List Bytes) : bodyOf e ≠ .panic := by
  unfold bodyOf; split
  · simp
  · split <;> simp

theorem protobufToBlockData_ne_panic (d : Proto.BlockData) : protobufToBlockData d ≠ .panic := by
  rw [protobufToBlockData_eq]
  exact Out.bind_ne_panic (headerOf_ne_panic _) fun _ => Out.bind_ne_panic (bodyOf_ne_panic _) nofun

theorem blockDatas_ne_panic (ds : List Proto.BlockData) : blockDatas ds ≠ .panic := by
  induction ds with
  | nil => exact nofun
  | cons d ds ih =>
    rw [blockDatas_cons]
    exact Out.bind_ne_panic (protobufToBlockData_ne_panic d) fun _ => Out.bind_ne_panic ih nofun

theorem decodeBlockResponse_ne_panic (bs : Bytes) : decodeBlockResponse bs ≠ .panic := by
  rw [decodeBlockResponse_eq]
  split
  · exact nofun
  · exact Out.bind_ne_panic (blockDatas_ne_panic _) nofun

theorem decode_gmsg_eq (bs : Bytes) :
    decode .gmsg bs = (unmarshalTop grandpaMessageTy bs).bind grandpaGlue := by
  simp only [decode]; cases unmarshalTop grandpaMessageTy bs <;> rfl

/-- **C33 (no panic)**: no decoder reaches a partial operation of its glue on any input.  The model
    has such operations in `blockRequestGlue` only (`Uint32` of the start number behind the length
    guard, `*startingBlock` behind the error check); every other `.panic` of the model passes one
    on, and the reflect walk of `scale.Unmarshal` (`unmarshalTop`) has no panic in the model. -/
theorem C33_no_panic (k : Kind) (bs : Bytes) : decode k bs ≠ .panic := by
  cases k
  case gmsg =>
    rw [decode_gmsg_eq]
    exact Out.bind_ne_panic (unmarshalTop_ne_panic _ bs) grandpaGlue_ne_panic
  all_goals simp only [decode]
  case txh => simp
  case cons => simp
  case breq => exact decodeBlockRequest_ne_panic bs
  case bresp => exact decodeBlockResponse_ne_panic bs
  case body => cases newBodyFromBytes bs <;> simp
  case sreq => unfold decodeStateRequest; cases goParse bs <;> simp
  case sresp =>
    unfold decodeStateResponse
    cases goParse bs with
    | none => simp
    | some fs => simp only; cases kvEntriesOf fs <;> simp
  all_goals exact scaleMsg_ne_panic _ (unmarshalTop_ne_panic _ bs)

theorem goParse_blockData (d : Proto.BlockData) (hsz : d.encode.length < 18446744073709551616) :
    goParse d.encode = some d.toFields :=
  goParse_encFields _ (fieldOk_of_size _ hsz fun f hf =>
    ⟨(d.toFields_shape f hf).1, fun n hn => by rw [(d.toFields_shape f hf).2 n hn]; decide⟩)

theorem blocksOf_encoded (ps : List Proto.BlockData)
    (h : ∀ d ∈ ps, d.encode.length < 18446744073709551616) :
    blocksOf (ps.map (fun d => (⟨1, .len d.encode⟩ : WField))) = some ps := by
  induction ps with
  | nil => rfl
  | cons d ds ih =>
    simp only [List.map_cons, blocksOf, goParse_blockData d (h d (by simp)),
      BlockData.ofFields_toFields, ih (fun e he => h e (by simp [he])), Option.map_some]

theorem decodeBlockResponse_ok {bs : Bytes} {m : Msg} (h : decodeBlockResponse bs = .ok m) :
    ∃ fs ds ms, goParse bs = some fs ∧ blocksOf fs = some ds ∧ blockDatas ds = .ok ms ∧
      m = .blockResp ms := by
  rw [decodeBlockResponse_eq] at h
  split at h
  · cases h
  · rename_i ds hds
    obtain ⟨fs, hp, hb⟩ := Option.bind_eq_some_iff.1 hds
    obtain ⟨ms, hd, h⟩ := Out.bind_eq_ok h
    cases h
    exact ⟨fs, ds, ms, hp, hb, hd, rfl⟩

/-- one size hypothesis serves all: every block, being a field of the whole, is shorter than the
    whole -/
theorem goParse_blockResponse (r : Proto.BlockResponse) (hsz : r.encode.length < 18446744073709551616) :
    (goParse r.encode).bind blocksOf = some r.blocks := by
  have houter : ∀ f ∈ r.toFields, FieldOk f :=
    fieldOk_of_size _ hsz fun f hf => by
      obtain ⟨d, _, rfl⟩ := List.mem_map.mp hf
      exact ⟨⟨Nat.le_refl 1, Nat.le_add_left 1 6⟩, nofun⟩
  rw [BlockResponse.encode, goParse_encFields _ houter]
  exact blocksOf_encoded _ fun d hd =>
    Nat.lt_of_le_of_lt (length_payload_le (k := 1) (List.mem_map.mpr ⟨d, hd, rfl⟩)) hsz

theorem seqOk_kinds (k : Kind) (t : Ty) (hk : k.ty = some t) : t.wf = true ∧ seqOk t = true := by
  cases k <;> simp only [Kind.ty, Option.some.injEq] at hk <;> first
    | (subst hk; exact ⟨by decide, by decide⟩)
    | cases hk

theorem plain_reencode (k : Kind) (t : Ty) (hty : k.ty = some t)
    (hd : ∀ bs, decode k bs = scaleMsg (unmarshalTop t bs))
    (he : ∀ v, encode k (.scale v) = C11.marshal t v) (bs : Bytes) (m : Msg)
    (h : decode k bs = .ok m) : decode k (encode k m) = .ok m := by
  rw [hd] at h
  obtain ⟨v, hv, rfl⟩ := scaleMsg_ok h
  rw [he, hd, scale_reencode t (seqOk_kinds k t hty).1 bs v hv]
  rfl

theorem stateRequest_reencode (bs : Bytes) (m : Msg)
    (hsz : (encode .sreq m).length < 18446744073709551616)
    (h : decodeStateRequest bs = .ok m) : decodeStateRequest (encode .sreq m) = .ok m := by
  unfold decodeStateRequest at h
  cases hp : goParse bs with
  | none => simp [hp] at h
  | some fs =>
    simp only [hp, Out.ok.injEq] at h
    subst h
    simp only [encode] at hsz ⊢
    have hok := fieldOk_of_size _ hsz (stateReq_shape _)
    unfold decodeStateRequest
    rw [goParse_encFields _ hok]
    simp only [StateReqP.ofFields_toFields, bytesToHash_of_32 (length_bytesToHash _)]

/-- the size hypothesis is asked of the two kinds whose re-encoding goes back through protobuf-go's
    parser with length-delimited fields of unbounded size (`fieldOk_of_size`); a block request has
    bounded fields, the other kinds are SCALE -/
theorem reencode_core (k : Kind) (bs : Bytes) (m : Msg) (hk : k ≠ .sresp)
    (hsz : k = .bresp ∨ k = .sreq → (encode k m).length < 18446744073709551616)
    (h : decode k bs = .ok m) : decode k (encode k m) = .ok m := by
  cases k
  case txh => cases h; rfl
  case cons => cases h; rfl
  case breq =>
    simp only [decode] at h ⊢
    unfold decodeBlockRequest at h
    cases hp : goParse bs with
    | none => simp [hp] at h
    | some fs =>
      simp only [hp] at h
      obtain ⟨r, rfl, hr⟩ := blockRequestGlue_ok _ m (ofFields_wf fs).2 h
      exact blockRequest_roundtrip r hr
  case bresp =>
    obtain ⟨_, ds, ms, _, _, hd, rfl⟩ := decodeBlockResponse_ok h
    show decodeBlockResponse (BlockResponse.encode ⟨ms.map blockDataToProto⟩) = _
    rw [decodeBlockResponse_eq, goParse_blockResponse _ (hsz (Or.inl rfl))]
    simp only [blockDatas_reencode ds ms hd, Out.bind]
  case body =>
    simp only [decode] at h ⊢
    cases hn : newBodyFromBytes bs with
    | none => simp [hn] at h
    | some v =>
      simp only [hn, Out.ok.injEq] at h
      subst h
      show (match newBodyFromBytes (C11.marshal bodyTy v) with | some v => Out.ok (Msg.scale v) | none => Out.err) = _
      rw [newBodyFromBytes_reencode bs v hn]
  case gmsg =>
    rw [decode_gmsg_eq] at h ⊢
    obtain ⟨v, hu, h⟩ := Out.bind_eq_ok h
    cases grandpaGlue_ok h
    rw [show encode .gmsg (.scale v) = C11.marshal grandpaMessageTy v from rfl,
      scale_reencode grandpaMessageTy (seqOk_kinds .gmsg _ rfl).1 bs v hu]
    exact h
  case sreq => exact stateRequest_reencode bs m (hsz (Or.inr rfl)) h
  case sresp => exact absurd rfl hk
  -- the kinds that are one `scale.Unmarshal` into their type
  all_goals exact plain_reencode _ _ rfl (fun _ => rfl) (fun _ => rfl) bs m h

/-- **C33 (re-encoding)**: a message any decoder returned, encoded by the Go `Encode`, decodes to
    an equal message (`StateResponse` has no `Encode` in the Go code and is excluded).  The size
    hypothesis says that the re-encoded message is a real byte slice (protobuf length prefixes are
    64-bit); it is used for block responses and state requests only, see `C33_reencode_small`. -/
theorem C33_reencode (k : Kind) (hk : k ≠ .sresp) (bs : Bytes) (m : Msg)
    (hsz : (encode k m).length < 18446744073709551616)
    (h : decode k bs = .ok m) : decode k (encode k m) = .ok m :=
  reencode_core k bs m hk (fun _ => hsz) h

/-- every other decoder: no size hypothesis at all -/
theorem C33_reencode_small (k : Kind) (hk : k ≠ .bresp) (hk2 : k ≠ .sreq) (hk3 : k ≠ .sresp)
    (bs : Bytes) (m : Msg) (h : decode k bs = .ok m) : decode k (encode k m) = .ok m :=
  reencode_core k bs m hk3 (fun e => by rcases e with e | e <;> contradiction) h

/-- non-vacuity: a block announcement with one digest item, and a block response with a body of
    two extrinsics, decode -/
example : (decode .ba ([1] ++ List.replicate 31 0 ++ [20] ++ List.replicate 64 0 ++
    [4, 6, 0x42, 0x41, 0x42, 0x45, 8, 1, 2, 1])).isOk = true := by decide
example : (decode .bresp [0x0a, 0x0a, 0x0a, 0x01, 0xaa, 0x1a, 0x02, 0x04, 0x07, 0x1a, 0x01, 0x00]).isOk = true := by
  decide

def stepsA (k : Kind) : Nat := match k.ty with | some t => sA t | none => 0
def stepsB (k : Kind) : Nat := match k.ty with | some t => sB t | none => 1

/-- the second case: `NewBodyFromBytes` does not walk an empty body -/
theorem msgCost_ty (k : Kind) (t : Ty) (hk : k.ty = some t) (bs : Bytes) :
    msgCost k bs = cost t bs ∨ msgCost k bs = ⟨1, 0⟩ := by
  cases k <;> cases hk
  case body => exact if hb : bs = [] then .inr (if_pos hb) else .inl (if_neg hb)
  all_goals exact .inl rfl

theorem msgCost_none (k : Kind) (hk : k.ty = none) (hb : k ≠ .bresp) (bs : Bytes) :
    (msgCost k bs).alloc = 0 ∧ (k ≠ .sresp → (msgCost k bs).steps = 1) := by
  cases k
  case sresp =>
    -- the one kind that loops: whatever the parsers return, no buffer is counted
    refine ⟨?_, fun h => absurd rfl h⟩
    simp only [msgCost]
    split
    · rfl
    · split <;> rfl
  case bresp => exact absurd rfl hb
  all_goals first | exact ⟨rfl, fun _ => rfl⟩ | cases hk

/-- **C33 (time)**: the number of `unmarshal` calls and glue-loop iterations of every decoder
    except the block response and the state response is at most `stepsA k * |input| + stepsB k`;
    the constants are those of the message type (`C33_steps_constants`).  The two excepted ones
    are `C33_steps_linear_bresp` and `C33_steps_linear_sresp`. -/
theorem C33_steps_linear (k : Kind) (hk : k ≠ .bresp) (hk2 : k ≠ .sresp) (bs : Bytes) :
    (msgCost k bs).steps ≤ stepsA k * bs.length + stepsB k := by
  unfold stepsA stepsB
  cases hty : k.ty with
  | none => exact Nat.le_trans (Nat.le_of_eq ((msgCost_none k hty hk bs).2 hk2)) (Nat.le_add_left ..)
  | some t =>
    obtain ⟨hwf, hs⟩ := seqOk_kinds k t hty
    rcases msgCost_ty k t hty bs with e | e <;> rw [e]
    · exact steps_le_input t hwf hs bs
    · exact Nat.le_trans (sB_pos t) (Nat.le_add_left ..)

/-- slope and offset (`stepsA`, `stepsB`) of the kinds that are one `scale.Unmarshal`, by their Go
    types: block announce, its handshake, transactions, light request / response, warp request,
    block body, GRANDPA message, GRANDPA handshake.  The last clause, for the warp sync proof,
    gives no number: both sides are the same term. -/
theorem C33_steps_constants :
    (stepsA .ba, stepsB .ba) = (10, 119) ∧ (stepsA .bah, stepsB .bah) = (0, 73) ∧
    (stepsA .tx, stepsB .tx) = (3, 3) ∧ (stepsA .lreq, stepsB .lreq) = (1, 108) ∧
    (stepsA .lresp, stepsB .lresp) = (128, 148) ∧ (stepsA .warp, stepsB .warp) = (0, 35) ∧
    (stepsA .body, stepsB .body) = (1, 2) ∧ (stepsA .gmsg, stepsB .gmsg) = (139, 324) ∧
    (stepsA .ghs, stepsB .ghs) = (0, 3) ∧ (stepsA .wproof, stepsB .wproof) = (sA warpProofTy, sB warpProofTy) := by
  decide

/-- the byte stream `NewBodyFromEncodedBytes` hands to `scale.Unmarshal` -/
def bodyStream (d : Proto.BlockData) : Bytes := C11.encodeBigInt d.body.length ++ d.body.flatten

/-- **C33 (time, block response)**: the SCALE work of one `protobufToBlockData` is linear in the
    sizes of the header field and of the body entries protobuf handed over (the protobuf library
    itself is trusted to be linear) -/
theorem C33_steps_block (d : Proto.BlockData) :
    (blockCost d).steps ≤ sA headerTy * d.header.length + sA bodyTy * (bodyStream d).length
      + (sB headerTy + sB bodyTy + 1) := by
  have part : ∀ (t : Ty) (c : Prop) [Decidable c] (x : Bytes), t.wf = true → seqOk t = true →
      (if c then (⟨0, 0⟩ : Cost) else cost t x).steps ≤ sA t * x.length + sB t := by
    intro t c _ x hwf hs
    split
    · exact Nat.zero_le _
    · exact steps_le_input t hwf hs x
  have h1 := part headerTy (d.header = []) d.header wf_header (by decide)
  have h2 := part bodyTy (d.body = []) (bodyStream d) wf_body (by decide)
  simp only [blockCost, Cost.add, bodyStream] at h1 h2 ⊢
  omega

theorem blocksCost_steps (ds : List Proto.BlockData) :
    (blocksCost ds).steps = (ds.map (fun d => (blockCost d).steps)).sum := by
  induction ds with
  | nil => rfl
  | cons d ds ih => simp [blocksCost, Cost.add, ih]

theorem blockCost_le (d : Proto.BlockData) : (blockCost d).steps ≤ 10 * bdSize d + 125 := by
  have h := C33_steps_block d
  have a1 : sA headerTy = 10 := by decide
  have a2 : sA bodyTy = 1 := by decide
  have b1 : sB headerTy = 117 := by decide
  have b2 : sB bodyTy = 2 := by decide
  rw [a1, a2, b1, b2] at h
  -- the count prefix is paid for by the byte `bdSize` charges per entry: `|encodeBigInt k| ≤ k + 5`
  have hs : (bodyStream d).length ≤ d.body.length + 5 + (d.body.map List.length).sum := by
    unfold bodyStream
    rw [List.length_append, List.length_flatten]
    have := C11.length_encodeBigInt_le d.body.length
    omega
  unfold bdSize
  omega

theorem blocksCost_le (ds : List Proto.BlockData) : (blocksCost ds).steps ≤ 125 * blocksSize ds := by
  induction ds with
  | nil => simp [blocksCost, blocksSize]
  | cons d ds ih =>
    have := blockCost_le d
    simp only [blocksCost, blocksSize, Cost.add]
    omega

/-- **C33 (time, block response, whole message)**: header and body decoding of ALL blocks of a
    response together take at most `125 * |input| + 1` steps: the fields protobuf-go's parser hands
    over fit into the input (`goParse_size`), nested block by block -/
theorem C33_steps_linear_bresp (bs : Bytes) : (msgCost .bresp bs).steps ≤ 125 * bs.length + 1 := by
  simp only [msgCost]
  cases hp : goParse bs with
  | none => simp only; omega
  | some fs =>
    simp only
    cases hb : blocksOf fs with
    | none => simp only; omega
    | some ds =>
      have h1 := blocksCost_le ds
      have h2 := blocksOf_size fs ds hb
      have h3 := goParse_size bs fs hp
      simp only [Cost.add]
      omega

/-- **C33 (time, state response)**: the copy loops of `StateResponse.Decode` run at most once per
    input byte -/
theorem C33_steps_linear_sresp (bs : Bytes) : (msgCost .sresp bs).steps ≤ bs.length + 1 := by
  simp only [msgCost]
  cases hp : goParse bs with
  | none => simp only; omega
  | some fs =>
    simp only
    cases hk : kvEntriesOf fs with
    | none => simp only; omega
    | some es =>
      have h1 := kvEntriesOf_size fs es hk
      have h2 := goParse_size bs fs hp
      simp only
      omega

/-- the decoders whose SCALE type has no Go `[]byte` / `string`, and those without a SCALE type except
    the block response (whose blocks are SCALE-decoded) -/
def bytesFree (k : Kind) : Bool :=
  match k.ty with
  | some t => C12.noBytes t
  | none => k != .bresp

/-- **C33 (memory)** (partial: known finding bytes-alloc).  Full statement wanted:
    `(msgCost k bs).alloc ≤ a * |bs| + b` for every decoder.  It holds for the decoders whose
    SCALE type has no byte string: block-announce handshake, transactions, warp request, GRANDPA
    messages and handshake.  For the other `bytesFree` kinds (transaction handshake, consensus, block
    request, state request and response) `msgCost` counts no buffer at all (no SCALE work; the
    protobuf library's allocations are not counted), so the bound is `0 ≤ …`. -/
theorem C33_alloc_linear_partial (k : Kind) (hk : bytesFree k = true) (bs : Bytes) :
    (msgCost k bs).alloc ≤ 67 * (stepsA k * bs.length + stepsB k) := by
  unfold stepsA stepsB
  unfold bytesFree at hk
  cases hty : k.ty with
  | none =>
    rw [hty] at hk
    rw [(msgCost_none k hty (by simpa using hk) bs).1]
    exact Nat.zero_le _
  | some t =>
    rw [hty] at hk
    obtain ⟨hwf, hs⟩ := seqOk_kinds k t hty
    rcases msgCost_ty k t hty bs with e | e <;> rw [e]
    · exact Nat.le_trans (alloc_le_steps t hk bs) (Nat.mul_le_mul_left 67 (steps_le_input t hwf hs bs))
    · exact Nat.zero_le _

/-- a block announcement whose only digest item declares `Data` of 2^30-1 bytes and stops -/
def baHuge : Bytes :=
  List.replicate 32 0 ++ [0] ++ List.replicate 64 0 ++ [4, 6, 0x42, 0x41, 0x42, 0x45, 0xfe, 0xff, 0xff, 0xff]

/-- the excluded region is real: 107 bytes make `decodeBlockAnnounceMessage` allocate a gigabyte
    before it fails -/
theorem C33_alloc_linear_counterexample :
    baHuge.length = 107 ∧ (decode .ba baHuge).isOk = false ∧
    (msgCost .ba baHuge).alloc = 1073741926 ∧ allocBudget baHuge.length = 185856 := by
  refine ⟨by decide, by decide, by decide, by decide⟩

end Gossamer.C33
