/-
C15 — the block tree matches the added blocks.

For EVERY history (any root, any sequence of AddBlock / Prune calls, accepted or refused) the Go structure
modelled in `Gossamer.Lib.BlockTree` (`tree … ops`) is compared with the flat specification state
(`spec … ops`): a list of blocks `(hash, parent, number, arrival, primary)` to which an accepted AddBlock appends
and from which finalising `f` keeps exactly the strict descendants of `f` (by parent links).
All queries of the tree are characterised from the parent links of that list.

Where the specification is written: `Spec` and its notions (`chain`, `isAnc`, `isLeaf`, `IsBest`, `add`, `prune`) in
Lib/BlockTree; its transitions `Spec.addErr`, `Spec.addStep`, `Spec.pruneStep` at the head of Lib/BlockTreeSim; the run of a
history (`specStep`, `spec`) and `specRange` below.  `Spec.isAnc a a` holds of any hash, held or not, and
`Spec.pathDown` means something only under `isAnc`: the statements below guard with `present`.
-/
import Gossamer.Model.C15
import Gossamer.Lib.BlockTreeLca

namespace Gossamer.C15
open Gossamer.BlockTree

def specStep (s : Spec) : Op → Spec
  | .add hd arr => s.addStep hd arr
  | .prune h => s.pruneStep h

def specRun (s : Spec) (ops : List Op) : Spec := ops.foldl specStep s

def tree (rh rn ra : Nat) (ops : List Op) : BT := run (NewBlockTreeFromRoot rh rn ra) ops

def spec (rh rn ra : Nat) (ops : List Op) : Spec := specRun ⟨⟨rh, rn, ra, false⟩, []⟩ ops

theorem step_good {bt : BT} {s : Spec} (hi : Inv bt) (hs : Sim bt s) (op : Op) :
    Inv (step bt op) ∧ Sim (step bt op) (specStep s op) := by
  cases op with
  | add hd arr =>
    simp only [step, specStep]
    cases h : bt.addBlock hd arr with
    | ok bt' => exact ⟨inv_add hi h, (sim_add hi hs h).2⟩
    | error e =>
      have := sim_add_err hi hs h
      refine ⟨hi, ?_⟩
      simp only [Spec.addStep, this]
      exact hs
  | prune h => exact ⟨inv_prune hi h, sim_prune hi hs h⟩

theorem run_good : ∀ (ops : List Op) {bt : BT} {s : Spec}, Inv bt → Sim bt s →
    Inv (run bt ops) ∧ Sim (run bt ops) (specRun s ops) := by
  intro ops
  induction ops with
  | nil => intro bt s hi hs; exact ⟨hi, hs⟩
  | cons op ops ih =>
    intro bt s hi hs
    obtain ⟨hi', hs'⟩ := step_good hi hs op
    exact ih hi' hs'

/-- the entry point for further properties (C16 starts from it, not from the `C15_*` theorems) -/
theorem reach (rh rn ra : Nat) (ops : List Op) :
    Inv (tree rh rn ra ops) ∧ Sim (tree rh rn ra ops) (spec rh rn ra ops) :=
  run_good ops (inv_init rh rn ra) (sim_init rh rn ra)

theorem reachEq (rh rn ra : Nat) (ops : List Op) : SpecEq (spec rh rn ra ops) (tree rh rn ra ops).spec :=
  (reach rh rn ra ops).2.eq (reach rh rn ra ops).1

/-- **Contents.** The tree holds exactly the blocks of the specification state — the accepted blocks that descend
    from the last finalised block — once each, with the same payload and the same parent link. -/
theorem C15_contents (rh rn ra : Nat) (ops : List Op) :
    let bt := tree rh rn ra ops
    let S := spec rh rn ra ops
    bt.getAllBlocks.Nodup ∧ (∀ h, h ∈ bt.getAllBlocks ↔ S.present h) ∧
    (∀ h, (bt.getNode h).map (·.info) = S.infoOf h) ∧
    S.root = bt.root.info ∧ (∀ b, b ∈ S.blocks ↔ b ∈ bt.spec.blocks) := by
  intro bt S
  obtain ⟨hi, hs⟩ := reach rh rn ra ops
  exact ⟨hi.nodup, fun h => (hs.present hi h).symm, fun h => (hs.infoOf hi h).symm, hs.root, hs.mem⟩

/-- **Leaves.** The leaf map holds, once each, exactly the held blocks that are nobody's parent. -/
theorem C15_leaves (rh rn ra : Nat) (ops : List Op) :
    let bt := tree rh rn ra ops
    let S := spec rh rn ra ops
    bt.leafHashes.Nodup ∧ ∀ h, h ∈ bt.leafHashes ↔ S.isLeaf h := by
  intro bt S
  obtain ⟨hi, hs⟩ := reach rh rn ra ops
  refine ⟨hi.leavesNodup, fun h => ?_⟩
  rw [hs.isLeaf hi]
  simp only [BT.leafHashes, List.mem_map]
  exact ⟨fun ⟨x, hx, he⟩ => ⟨x, (hi.leavesMem x).1 hx, he⟩, fun ⟨x, hx, he⟩ => ⟨x, (hi.leavesMem x).2 hx, he⟩⟩

/-- **Ancestry.** `IsDescendantOf(a, d)` answers by the parent links and reports which argument is unknown; `a = d`
    answers true without a look-up, for an unknown hash too. -/
theorem C15_isDescendantOf (rh rn ra : Nat) (ops : List Op) (a d : Hash) :
    let bt := tree rh rn ra ops
    let S := spec rh rn ra ops
    bt.isDescendantOf a d =
      if a = d then .ok true
      else if ¬ S.present a then .startNotFound
      else if ¬ S.present d then .endNotFound
      else .ok (decide (S.isAnc a d)) := by
  intro bt S
  obtain ⟨hi, hs⟩ := reach rh rn ra ops
  unfold BT.isDescendantOf BT.getNode
  by_cases had : a = d
  · rw [if_pos had, if_pos had]
  · rw [if_neg had, if_neg had]
    cases hfa : findF a [bt.root] with
    | none => rw [if_pos (hs.not_present hi hfa)]
    | some pn =>
      rw [if_neg (not_not_intro (hs.present_of_find hi hfa))]
      cases hfd : findF d [bt.root] with
      | none => rw [if_pos (hs.not_present hi hfd)]
      | some cn =>
        have hdm : d ∈ descF [bt.root] := findF_mem hfd
        rw [if_neg (not_not_intro (hs.present_of_find hi hfd))]
        dsimp only
        rw [(findF_some hfd).2]
        congr 1
        rw [Bool.eq_iff_iff, occF_iff, decide_eq_true_iff, hs.isAnc hi hdm, inSubtree_of_find hfa]

/-- **Prune.** Finalising `f` reports — once each — exactly the held blocks that are neither ancestors nor
    descendants of `f` (nothing if `f` is unknown). -/
theorem C15_prune_exact (rh rn ra : Nat) (ops : List Op) (f : Hash) :
    let bt := tree rh rn ra ops
    let S := spec rh rn ra ops
    let pruned := (bt.prune f).2
    pruned.Nodup ∧ ∀ h, h ∈ pruned ↔ (S.present f ∧ S.present h ∧ ¬ S.isAnc h f ∧ ¬ S.isAnc f h) := by
  intro bt S pruned
  obtain ⟨hi, hs⟩ := reach rh rn ra ops
  have hp := hs.present hi
  show (bt.prune f).2.Nodup ∧ ∀ h, h ∈ (bt.prune f).2 ↔ _
  rcases prune_cases bt f with ⟨hc, h⟩ | ⟨n, hne, hf, h⟩
  · rw [h]
    refine ⟨List.nodup_nil, fun x => ?_⟩
    simp only [List.not_mem_nil, false_iff]
    rintro ⟨hpf, hpx, _, h2⟩
    rcases hc with hc | hc
    · -- the root is an ancestor of everything
      exact h2 ((hs.isAnc hi ((hp x).1 hpx)).2 ⟨bt.root, (findF_node _ f).trans (if_pos hc.symm), (hp x).1 hpx⟩)
    · exact absurd hpf (hs.not_present hi hc)
  · rw [h]
    obtain ⟨hns, hnh⟩ := findF_some hf
    have hfm : f ∈ descF [bt.root] := findF_mem hf
    refine ⟨(pruneF_sublist n _).nodup hi.nodup, fun x => ?_⟩
    show x ∈ pruneF n [bt.root] ↔ _
    rw [mem_pruneF hi.nodup hns, hnh, hp, hp, hs.isAnc hi hfm]
    constructor
    · rintro ⟨hx, hnd, hna⟩
      refine ⟨hfm, hx, hna, ?_⟩
      rwa [hs.isAnc hi hx, inSubtree_of_find hf]
    · rintro ⟨_, hx, h1, h2⟩
      exact ⟨hx, fun hd => h2 ((hs.isAnc hi hx).2 ((inSubtree_of_find hf).2 hd)), h1⟩

/-- **AddBlock.** It succeeds exactly when the specification accepts the header; otherwise it reports the first
    failing condition (unknown parent, duplicate, wrong number, primary flag undeterminable) and the tree is
    unchanged. -/
theorem C15_addBlock_errors (rh rn ra : Nat) (ops : List Op) (hd : Header) (arr : Nat) :
    let bt := tree rh rn ra ops
    let S := spec rh rn ra ops
    match bt.addBlock hd arr with
    | .ok bt' => S.addErr hd = none ∧ step bt (.add hd arr) = bt'
    | .error err => S.addErr hd = some err ∧ step bt (.add hd arr) = bt := by
  intro bt S
  obtain ⟨hi, hs⟩ := reach rh rn ra ops
  cases h : bt.addBlock hd arr with
  | ok bt' => exact ⟨(sim_add hi hs h).1, by simp [step, h]⟩
  | error err => exact ⟨sim_add_err hi hs h, by simp [step, h]⟩

/-- what `Spec.addErr` demands, spelled out -/
theorem addErr_none_iff (s : Spec) (hd : Header) :
    s.addErr hd = none ↔ (∃ pi, s.infoOf hd.parent = some pi ∧ pi.number + 1 = hd.number) ∧
      ¬ s.present hd.hash ∧ hd.kind.isSome := by
  unfold Spec.addErr
  cases hp : s.infoOf hd.parent with
  | none => simp
  | some pi =>
    by_cases h1 : s.present hd.hash
    · simp [h1]
    · by_cases h2 : pi.number + 1 = hd.number
      · cases hk : hd.kind <;> simp [h1, h2]
      · simp [h1, h2]

/-- **By number.** `GetHashesAtNumber n` returns, once each, exactly the held blocks with number `n`. -/
theorem C15_hashesAtNumber (rh rn ra : Nat) (ops : List Op) (num : Nat) :
    let bt := tree rh rn ra ops
    let S := spec rh rn ra ops
    (bt.getHashesAtNumber num).Nodup ∧
      ∀ h, h ∈ bt.getHashesAtNumber num ↔ ∃ i, S.infoOf h = some i ∧ i.number = num := by
  intro bt S
  obtain ⟨hi, hs⟩ : Inv bt ∧ Sim bt S := reach rh rn ra ops
  have hinfo : ∀ h, (∃ i, S.infoOf h = some i ∧ i.number = num) ↔ ∃ x ∈ infosF [bt.root], x.hash = h ∧ x.number = num :=
    fun h => ⟨fun ⟨i, h1, h2⟩ => ⟨i, ((hs.infoOf_iff hi).1 h1).1, ((hs.infoOf_iff hi).1 h1).2, h2⟩,
      fun ⟨x, h1, h2, h3⟩ => ⟨x, (hs.infoOf_iff hi).2 ⟨h1, h2⟩, h3⟩⟩
  have hnone : (∀ x ∈ infosF [bt.root], x.number ≠ num) → ([] : List Hash).Nodup ∧
      ∀ h, h ∈ ([] : List Hash) ↔ ∃ i, S.infoOf h = some i ∧ i.number = num := by
    refine fun hno => ⟨List.nodup_nil, fun h => ?_⟩
    rw [hinfo]
    simp only [List.not_mem_nil, false_iff]
    rintro ⟨x, hx, _, hn⟩
    exact hno x hx hn
  unfold BT.getHashesAtNumber
  split
  · next h1 =>
    refine hnone (fun x hx => ?_)
    have := hi.number_ge x hx
    omega
  · split
    · next h2 =>
      refine hnone (fun x hx => ?_)
      obtain ⟨l, hl, hle⟩ := leaf_above hi.nums x hx
      have := (foldl_max_fn (·.number) bt.leaves 0).2.1 l ((hi.leavesMem l).2 hl)
      omega
    · exact ⟨(hashesAtF_sublist num _).nodup hi.nodup, fun h => by rw [hinfo, mem_hashesAtF hi.nums]⟩

/-- what Range / RangeInMemory must answer, from the parent links only (the last arm of the `match` is dead: both
    hashes are `present` there, so both have a payload) -/
def specRange (S : Spec) (s e : Hash) (inMemory : Bool) : Except RangeErr (List Hash) :=
  if ¬ S.present e then .error .endNotFound
  else if inMemory = true ∧ ¬ S.present s then .error .startNotFound
  else
    let s' := if S.present s then s else S.root.hash
    match S.infoOf s', S.infoOf e with
    | some si, some ei =>
      if si.number > ei.number then .error .startGreater
      else if S.isAnc s' e then .ok (S.pathDown s' e)
      else .error .notAncestor
    | _, _ => .error .endNotFound

/-- **Range.** `Range` and `RangeInMemory` return the chain of parent links from the start block down to the end
    block when the start (for `Range`: the root if the start is unknown) is an ancestor of the end, and an error
    otherwise. -/
theorem C15_range (rh rn ra : Nat) (ops : List Op) (s e : Hash) :
    let bt := tree rh rn ra ops
    let S := spec rh rn ra ops
    bt.range s e = specRange S s e false ∧ bt.rangeInMemory s e = specRange S s e true := by
  intro bt S
  obtain ⟨hi, hsim⟩ := reach rh rn ra ops
  have hinfo := hsim.infoOf hi
  have hroot : findF bt.root.info.hash [bt.root] = some bt.root := (findF_node _ _).trans (if_pos rfl)
  unfold BT.range BT.rangeInMemory specRange BT.getNode
  cases he : findF e [bt.root] with
  | none =>
    have : ¬ S.present e := hsim.not_present hi he
    simp [this]
  | some en =>
    have hpe : S.present e := hsim.present_of_find hi he
    simp only [hpe, not_true_eq_false, if_false, Bool.false_eq_true, false_and]
    cases hs : findF s [bt.root] with
    | none =>
      have hps : ¬ S.present s := hsim.not_present hi hs
      simp only [hps, not_false_eq_true, and_true, if_true, Option.getD_none, if_false]
      rw [hsim.root, hinfo, hinfo, hroot, he]
      simp only [Option.map_some]
      rw [accumulate_spec hi hsim hroot he]
    | some sn =>
      have hps : S.present s := hsim.present_of_find hi hs
      simp only [hps, not_true_eq_false, and_false, if_false, if_true, Option.getD_some]
      rw [hinfo, hinfo, hs, he]
      simp only [Option.map_some]
      have := accumulate_spec hi hsim hs he
      refine ⟨this, ?_⟩
      by_cases hgt : sn.info.number > en.info.number
      · simp [hgt]
      · simp only [hgt, if_false]; rw [this]; simp only [hgt, if_false]; rfl

/-- **Lowest common ancestor.** For two held blocks `LowestCommonAncestor` never panics and returns a common
    ancestor (by parent links) that has every other common ancestor among its own ancestors; an unknown block gives an
    error. -/
theorem C15_lca (rh rn ra : Nat) (ops : List Op) (a b : Hash) :
    let bt := tree rh rn ra ops
    let S := spec rh rn ra ops
    (¬ (S.present a ∧ S.present b) → bt.lca a b = .notFound) ∧
    (S.present a → S.present b → ∃ c, bt.lca a b = .ok c ∧ S.isAnc c a ∧ S.isAnc c b ∧
      ∀ x, S.isAnc x a → S.isAnc x b → S.isAnc x c) := by
  intro bt S
  obtain ⟨hi, hsim⟩ := reach rh rn ra ops
  have hanc : ∀ {x d}, d ∈ descF [bt.root] → (S.isAnc x d ↔ x ∈ (bt.up d).map Info.hash) := fun hd => by
    rw [Spec.isAnc, hsim.ancestors hi hd]
  unfold BT.lca BT.getNode
  cases ha : findF a [bt.root] with
  | none => exact ⟨fun _ => rfl, fun hpa => absurd hpa (hsim.not_present hi ha)⟩
  | some an =>
    cases hb : findF b [bt.root] with
    | none => exact ⟨fun _ => rfl, fun _ hpb => absurd hpb (hsim.not_present hi hb)⟩
    | some bn =>
      have ham : a ∈ descF [bt.root] := findF_mem ha
      have hbm : b ∈ descF [bt.root] := findF_mem hb
      refine ⟨fun hn => absurd ⟨hsim.present_of_find hi ha, hsim.present_of_find hi hb⟩ hn, fun _ _ => ?_⟩
      obtain ⟨c, hc, hca, hcb, hlow⟩ := lcaNodes_spec hi ha hb
      have hcm : c ∈ descF [bt.root] := by
        obtain ⟨v, hv, hvc⟩ := List.mem_map.1 hca
        exact mem_desc_iff_infos.2 ⟨v, (up_facts hi ham).mem v hv, hvc⟩
      refine ⟨c, by dsimp only; rw [hc], (hanc ham).2 hca, (hanc hbm).2 hcb, fun x hxa hxb => ?_⟩
      exact (hanc hcm).2 (hlow x ((hanc ham).1 hxa) ((hanc hbm).1 hxb))

/-- the fuel of `Spec.chain` is enough in every reachable state -/
theorem spec_chain_fuel (rh rn ra : Nat) (ops : List Op) (h : Hash) (fuel : Nat)
    (hf : (spec rh rn ra ops).blocks.length ≤ fuel) :
    chainAux (spec rh rn ra ops).blocks fuel h = (spec rh rn ra ops).chain h := by
  have eq := reachEq rh rn ra ops
  rw [eq.chain, chainAux_congr eq.lookup]
  exact chainAux_fuel (reach rh rn ra ops).1.nodup h (eq.length ▸ hf)

/-- root 10 (number 0); blocks 11, 12, 13 under the root, 14 under 12 -/
def exampleOps : List Op :=
  [.add ⟨11, 10, 1, some true⟩ 0, .add ⟨12, 10, 1, some false⟩ 0, .add ⟨13, 10, 1, some true⟩ 1,
   .add ⟨14, 12, 2, some false⟩ 2]

def exampleTree : BT :=
  ⟨.mk ⟨10, 0, 0, false⟩ [.mk ⟨11, 1, 0, true⟩ [], .mk ⟨12, 1, 0, false⟩ [.mk ⟨14, 2, 2, false⟩ []],
      .mk ⟨13, 1, 1, true⟩ []],
   [⟨11, 1, 0, true⟩, ⟨13, 1, 1, true⟩, ⟨14, 2, 2, false⟩]⟩

theorem exampleTree_eq : tree 10 0 0 exampleOps = exampleTree := by
  simp [tree, exampleOps, exampleTree, run, step, NewBlockTreeFromRoot, BT.addBlock, BT.getNode, findF,
    Node.addChild, addChildF, occF, leafReplace, leafStore, leafDelete]

example : exampleTree.getAllBlocks = [10, 11, 12, 14, 13] := by simp [exampleTree, BT.getAllBlocks, descF]
/-- finalising 13 reports 11, 12 and 14: every sibling subtree, none skipped -/
example : (exampleTree.prune 13).2 = [11, 12, 14] := by
  simp [exampleTree, BT.prune, BT.getNode, findF, pruneF, occF]
example : (exampleTree.prune 12).2 = [11, 13] := by
  simp [exampleTree, BT.prune, BT.getNode, findF, pruneF, occF]
example : exampleTree.isDescendantOf 12 14 = .ok true := by
  simp [exampleTree, BT.isDescendantOf, BT.getNode, findF, occF]
example : exampleTree.isDescendantOf 11 14 = .ok false := by
  simp [exampleTree, BT.isDescendantOf, BT.getNode, findF, occF]
example : exampleTree.lca 11 14 = .ok 10 := by
  simp [exampleTree, BT.lca, BT.getNode, BT.up, findF, pathF, lcaNodes, lcaAligned, lcaWalk]
example : exampleTree.range 10 14 = .ok [10, 12, 14] := by
  simp [exampleTree, BT.range, BT.getNode, BT.up, findF, pathF, accumulate]
/-- a start that is not an ancestor of the end is refused -/
example : exampleTree.range 11 14 = .error .notAncestor := by
  simp [exampleTree, BT.range, BT.getNode, BT.up, findF, pathF, accumulate]
/-- numbers above the best leaf (11, number 1) are still reported -/
example : exampleTree.getHashesAtNumber 2 = [14] := by
  simp [exampleTree, BT.getHashesAtNumber, hashesAtF]
/-- an unknown parent is refused -/
example : exampleTree.addBlock ⟨15, 99, 1, some true⟩ 0 = .error .parentNotFound := by
  simp [exampleTree, BT.addBlock, BT.getNode, findF]

end Gossamer.C15
