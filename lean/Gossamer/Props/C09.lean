/-
C09  Storage append follows Substrate semantics.

`C09_append_eq` is the property at full strength: the bytes `storageAppend` (Model/C09) stores are
those of Substrate's `StorageAppend::append` (`substrateAppend`) for ALL stored values and items; it
holds for the code after the C09 `fix:` commit.  `C09_spec_bump` / `C09_spec_reset` say the spec in
words; `C09_unguarded_wrong` is the repaired defect: without the u32 guard EVERY value whose prefix
is a canonical compact n ≥ u32::MAX (n+1 < 2^536) is stored differently from Substrate.  The frame
and rollback theorems are about appends on the layered storage of Model/C09 (`stepS`).
-/
import Gossamer.Model.C09
import Gossamer.Lib.C11Decode
import Gossamer.Lib.C11Encode
namespace Gossamer.C09
open Gossamer Gossamer.Scale

theorem compactEnc_one : compactEnc 1 = [4] := by decide

/-- `scale.Marshal(big.NewInt(1))` -/
theorem encodeBigInt_one : C11.encodeBigInt 1 = [4] := by decide

/-- `256 ^ 67`: the big-integer mode of a SCALE compact carries at most 4 + 63 payload bytes -/
theorem lt_pow67_of_le_maxU32 {n : Nat} (h : n ≤ maxU32) : n < 256 ^ 67 :=
  lt_pow67_of_lt_u64 (by unfold maxU32 at h; omega)

/-- **C09**: the stored bytes are Substrate's, for every existing value and every item -/
theorem C09_append_eq (cur item : Bytes) : storageAppend cur item = substrateAppend cur item := by
  unfold storageAppend substrateAppend
  cases cur with
  | nil => simp [compactDec, encodeBigInt_one, compactEnc_one]
  | cons b bs =>
    have hne : ¬ ((b :: bs).length = 0) := by simp
    rw [if_neg hne, C11.decBigV_spec]
    cases hdec : compactDec (b :: bs) with
    | none => simp [compactEnc_one]
    | some p =>
      obtain ⟨n, rest⟩ := p
      obtain ⟨_, hcur⟩ := compactDec_sound hdec
      simp only
      by_cases hn : maxU32 ≤ n
      · have : ¬ (n + 1 ≤ maxU32) := by omega
        simp [hn, this, compactEnc_one]
      · have hle : n + 1 ≤ maxU32 := by omega
        rw [if_neg hn, if_pos hle, C11.C11_encodeBigInt_canonical n (lt_pow67_of_le_maxU32 (by omega)),
          C11.C11_encodeBigInt_canonical (n + 1) (lt_pow67_of_le_maxU32 hle), hcur, List.drop_left]

/-- a value that starts with the canonical compact of `n`, `n + 1 ≤ u32::MAX`: prefix bumped, items kept -/
theorem C09_spec_bump (n : Nat) (rest item : Bytes) (h : n + 1 ≤ maxU32) :
    substrateAppend (compactEnc n ++ rest) item = compactEnc (n + 1) ++ rest ++ item := by
  unfold substrateAppend
  rw [compactDec_enc n (lt_pow67_of_le_maxU32 (by omega)) rest]
  simp [h]

/-- every other value (absent, empty, truncated, non-canonical, undecodable, length ≥ u32::MAX) -/
theorem C09_spec_reset (cur item : Bytes)
    (h : ¬ ∃ n rest, n + 1 ≤ maxU32 ∧ cur = compactEnc n ++ rest) :
    substrateAppend cur item = [4] ++ item := by
  unfold substrateAppend
  cases hdec : compactDec cur with
  | none => simp [compactEnc_one]
  | some p =>
    obtain ⟨n, rest⟩ := p
    obtain ⟨_, hcur⟩ := compactDec_sound hdec
    by_cases hn : n + 1 ≤ maxU32
    · exact absurd ⟨n, rest, hn, hcur⟩ h
    · simp [hn, compactEnc_one]

theorem C09_append_bump (n : Nat) (rest item : Bytes) (h : n + 1 ≤ maxU32) :
    storageAppend (compactEnc n ++ rest) item = compactEnc (n + 1) ++ rest ++ item := by
  rw [C09_append_eq, C09_spec_bump n rest item h]

theorem C09_append_reset (cur item : Bytes)
    (h : ¬ ∃ n rest, n + 1 ≤ maxU32 ∧ cur = compactEnc n ++ rest) :
    storageAppend cur item = [4] ++ item := by
  rw [C09_append_eq, C09_spec_reset cur item h]

/-- non-vacuity: both regions are inhabited (a two-item vector; a non-canonical prefix) -/
example : storageAppend [8, 0xaa, 0xbb] [0xcc] = [12, 0xaa, 0xbb, 0xcc] := by decide
example : storageAppend [1, 0, 0xaa] [0xcc] = [4, 0xcc] := by decide
example : storageAppend [0xfd] [0xcc] = [4, 0xcc] := by decide
example : storageAppend [0xfc, 0xaa] [0xcc] = [0x01, 0x01, 0xaa, 0xcc] := by decide

/-- appends to a SCALE vector with `n` items give the vector with the items added, as long as the
    count fits `u32` -/
theorem C09_appendAll_vec (items : List Bytes) : ∀ (n : Nat) (body : Bytes),
    n + items.length ≤ maxU32 →
    appendAll (compactEnc n ++ body) items = compactEnc (n + items.length) ++ body ++ items.flatten := by
  induction items with
  | nil => intro n body _; simp [appendAll]
  | cons i is ih =>
    intro n body h
    simp only [List.length_cons] at h
    have h1 : n + 1 ≤ maxU32 := by omega
    have := ih (n + 1) (body ++ i) (by omega)
    simp only [appendAll, List.foldl_cons] at this ⊢
    rw [C09_append_bump n body i h1, List.append_assoc, this]
    simp only [List.length_cons, List.flatten_cons, List.append_assoc]
    congr 2; omega

/-- appends to an absent (or empty) value build the SCALE vector of the items -/
theorem C09_appendAll_fresh (i : Bytes) (items : List Bytes) (h : 1 + items.length ≤ maxU32) :
    appendAll [] (i :: items) = compactEnc (1 + items.length) ++ (i :: items).flatten := by
  have h0 : storageAppend [] i = compactEnc 1 ++ i := by
    simp [storageAppend, encodeBigInt_one, compactEnc_one]
  have := C09_appendAll_vec items 1 i h
  simp only [appendAll, List.foldl_cons] at this ⊢
  rw [h0, this]; simp

/-- whatever was stored before, the new value starts with a canonical `Compact<u32>` length ≥ 1 -/
theorem C09_result_prefix (cur item : Bytes) :
    ∃ k r, compactDec (storageAppend cur item) = some (k, r) ∧ 1 ≤ k ∧ k ≤ maxU32 := by
  by_cases h : ∃ n rest, n + 1 ≤ maxU32 ∧ cur = compactEnc n ++ rest
  · obtain ⟨n, rest, hn, rfl⟩ := h
    rw [C09_append_bump n rest item hn, List.append_assoc]
    exact ⟨n + 1, _, compactDec_enc (n + 1) (lt_pow67_of_le_maxU32 hn) _,
      by omega, hn⟩
  · rw [C09_append_reset cur item h, ← compactEnc_one]
    exact ⟨1, item, compactDec_enc 1 (lt_pow67_of_lt_u64 (by omega)) item, by omega,
      by unfold maxU32; omega⟩

/-- before the fix: a canonical prefix `n ≥ u32::MAX` was incremented like any other length, so
    the stored value differed from Substrate's on the WHOLE region -/
theorem C09_unguarded_wrong (n : Nat) (body item : Bytes) (h1 : maxU32 ≤ n) (h2 : n + 1 < 256 ^ 67) :
    storageAppendUnguarded (compactEnc n ++ body) item ≠ substrateAppend (compactEnc n ++ body) item := by
  have hn : n < 256 ^ 67 := by omega
  have hlen : ¬ ((compactEnc n ++ body).length = 0) :=
    List.length_append ▸ Nat.ne_of_gt (Nat.add_pos_left (compactEnc_length_pos n) _)
  unfold storageAppendUnguarded substrateAppend
  rw [if_neg hlen, C11.decBigV_spec, compactDec_enc n hn body]
  have : ¬ (n + 1 ≤ maxU32) := by omega
  simp only [this, if_false]
  rw [C11.C11_encodeBigInt_canonical (n + 1) h2]
  intro heq
  have d1 := compactDec_enc (n + 1) h2 ((compactEnc n ++ body).drop (C11.encodeBigInt n).length ++ item)
  have d2 := compactDec_enc 1 (lt_pow67_of_lt_u64 (by omega)) item
  rw [← List.append_assoc, heq, d2] at d1
  injection d1 with d1; injection d1 with d1 _
  unfold maxU32 at h1; omega

/-- witness: the value `03 ffffffff` (length u32::MAX) -/
theorem C09_unguarded_counterexample :
    storageAppendUnguarded [0x03, 0xff, 0xff, 0xff, 0xff] [0xcc]
      ≠ substrateAppend [0x03, 0xff, 0xff, 0xff, 0xff] [0xcc] := by
  have e : compactEnc 4294967295 = [0x03, 0xff, 0xff, 0xff, 0xff] := by
    have h := compactDec_sound (bs := [0x03, 0xff, 0xff, 0xff, 0xff]) (n := 4294967295) (r := []) (by decide)
    simpa using h.2.symm
  have := C09_unguarded_wrong 4294967295 [] [0xcc] (by decide) (lt_pow67_of_lt_u64 (by omega))
  rwa [e] at this

theorem Store.get_set_self (s : Store) (k v : Bytes) : (s.set k v).get k = v := by
  simp [Store.set, Store.get]

theorem Store.get_set_ne (s : Store) (k k' v : Bytes) (h : k ≠ k') : (s.set k v).get k' = s.get k' := by
  simp [Store.set, Store.get, h]

/-- **frame**: an append touches the current view at its key only — every other key of the view,
    and every other layer (parent transactions, the trie), is exactly what it was; the new value
    is Substrate's -/
theorem C09_append_frame (top : Store) (rest : List Store) (k item : Bytes) :
    ∃ top', stepS (top :: rest) (.app k item) = some (top' :: rest) ∧
      top'.get k = substrateAppend (top.get k) item ∧ ∀ k', k ≠ k' → top'.get k' = top.get k' := by
  refine ⟨top.set k (storageAppend (top.get k) item), rfl, ?_, ?_⟩
  · rw [Store.get_set_self, C09_append_eq]
  · intro k' h; exact Store.get_set_ne _ _ _ _ h

/-- operations that never close a transaction they did not open (`d` = how many they may close) -/
def safeOps : Nat → List Op → Bool
  | _, [] => true
  | d, .tbegin :: ops => safeOps (d + 1) ops
  | d, .rollback :: ops => decide (1 ≤ d) && safeOps (d - 1) ops
  | d, .commit :: ops => decide (1 ≤ d) && safeOps (d - 1) ops
  | d, _ :: ops => safeOps d ops

def depthAfter : Nat → List Op → Nat
  | d, [] => d
  | d, .tbegin :: ops => depthAfter (d + 1) ops
  | d, .rollback :: ops => depthAfter (d - 1) ops
  | d, .commit :: ops => depthAfter (d - 1) ops
  | d, _ :: ops => depthAfter d ops

/-- **frame for runs**: operations that stay above the layers `rest` leave them untouched -/
theorem C09_tx_frame (ops : List Op) : ∀ (pre rest : List Store), pre ≠ [] →
    safeOps (pre.length - 1) ops = true →
    ∃ pre', pre' ≠ [] ∧ pre'.length - 1 = depthAfter (pre.length - 1) ops ∧
      runS ops (pre ++ rest) = some (pre' ++ rest) := by
  induction ops with
  | nil => intro pre rest hne _; exact ⟨pre, hne, rfl, rfl⟩
  | cons op ops ih =>
    intro pre rest hne hs
    obtain ⟨top, tl, rfl⟩ := List.exists_cons_of_ne_nil hne
    suffices step : ∃ pre1, pre1 ≠ [] ∧ stepS (top :: tl ++ rest) op = some (pre1 ++ rest) ∧
        safeOps (pre1.length - 1) ops = true ∧
        depthAfter (pre1.length - 1) ops = depthAfter ((top :: tl).length - 1) (op :: ops) by
      obtain ⟨pre1, h1, h2, h3, h4⟩ := step
      obtain ⟨pre', g1, g2, g3⟩ := ih pre1 rest h1 h3
      refine ⟨pre', g1, g2.trans h4, ?_⟩
      simp only [runS, h2]
      exact g3
    cases op with
    | app k item =>
      exact ⟨top.set k (storageAppend (top.get k) item) :: tl, List.cons_ne_nil _ _, rfl, hs, rfl⟩
    | put k v => exact ⟨top.set k v :: tl, List.cons_ne_nil _ _, rfl, hs, rfl⟩
    | get k | cap k | snap => exact ⟨top :: tl, hne, rfl, hs, rfl⟩
    | tbegin => exact ⟨top :: top :: tl, List.cons_ne_nil _ _, rfl, hs, rfl⟩
    | rollback =>
      cases tl with
      | nil => cases hs
      | cons t2 tl2 =>
        exact ⟨t2 :: tl2, List.cons_ne_nil _ _, rfl, (Bool.and_eq_true _ _ ▸ hs).2, rfl⟩
    | commit =>
      cases tl with
      | nil => cases hs
      | cons t2 tl2 =>
        exact ⟨top :: tl2, List.cons_ne_nil _ _, rfl, (Bool.and_eq_true _ _ ▸ hs).2, rfl⟩

theorem runS_append (a b : List Op) (st : List Store) :
    runS (a ++ b) st = (runS a st).bind (runS b) := by
  induction a generalizing st with
  | nil => simp [runS]
  | cons op a ih =>
    simp only [List.cons_append, runS]
    cases stepS st op with
    | none => simp
    | some st' => simpa using ih st'

/-- **rollback restores**: whatever happens inside a transaction — appends, puts, nested
    transactions that are themselves closed — `RollbackTransaction` gives back exactly the storage
    (every layer, every value) that `StartTransaction` saw -/
theorem C09_rollback_restores (ops : List Op) (top : Store) (rest : List Store)
    (hs : safeOps 0 ops = true) (hd : depthAfter 0 ops = 0) :
    runS (.tbegin :: ops ++ [.rollback]) (top :: rest) = some (top :: rest) := by
  obtain ⟨pre', hne, hlen, hrun⟩ := C09_tx_frame ops [top] (top :: rest) (by simp) (by simpa using hs)
  simp only [List.length_singleton, Nat.sub_self, hd] at hlen
  have h1 : pre'.length = 1 := by
    have : 0 < pre'.length := List.length_pos_iff.2 hne
    omega
  obtain ⟨x, rfl⟩ := List.length_eq_one_iff.mp h1
  show runS (.tbegin :: (ops ++ [.rollback])) (top :: rest) = _
  simp only [runS, stepS]
  rw [runS_append]
  have : runS ops (top :: top :: rest) = some ([x] ++ (top :: rest)) := hrun
  rw [this]
  rfl

/-- non-vacuity: the scenario of the nested, rolled-back append -/
example : runS [.app [0x61] [1], .tbegin, .app [0x61] [2], .rollback, .app [0x61] [3]] [[]]
    = some [[([0x61], [8, 1, 3]), ([0x61], [4, 1])]] := by decide

end Gossamer.C09
