/-
C04 — Persisted state reads back identically.

Model: `Gossamer.TrieHeap` (`writeDirty`, the mutators), `getFromDB`/`gfdF` (`TrieHeapDB`, after the `fix:`
commits), with the node decoder of C07.  `MTrie.writeDirty` (child tries) enters only through
`stepModel` in the closing `example`; `loadF` (`Load`) occurs in no theorem or example here.  `H` is any function with 32-byte output (Blake2b-256 in the differential run).

Read side: `GetFromDB` on a database that represents a trie returns the in-memory `Get`, for present and for absent
keys (`C04_getFromDB`, `_stored`).  Write side: `WriteDirty` on a trie with coherent caches makes the database
represent it (`C04_writeDirty_*`), and along lines `(Put|Delete|ClearPrefix|SetVersion)*; WriteDirty; Snapshot; …`
the caches stay coherent ("clean ⇒ already in the database"), so every later `WriteDirty` persists a state that
reads back identically (`C04_incremental_*`).  Covered: the main trie, without `Hash()` steps between the mutators;
child tries and `Load` are tied to the Go code by the differential run only; persistence after `ClearPrefixLimit`
is in neither (the run of C04 has no such operation).  The root hash is `H (encode H N)` for the codec node `N` with
the `MustBeHashed` flags found in the heap; no theorem ties it to C01's `H (encodeNode ver H T)`.
-/
import Gossamer.Lib.C04Stored
import Gossamer.Lib.C04WriteMain
import Gossamer.Lib.C04Chain
import Gossamer.Model.C04
namespace Gossamer.C04
open Gossamer Gossamer.Trie Gossamer.TrieHeap

/-- `getFromDBAtNode` on a decoded node that represents `t` reads what `retrieve` reads on `t` -/
theorem C04_atNode (db : DB) (t : Trie) (n : TrieCodec.Node) (key : Bytes) (f : Nat)
    (h : Rep db t n) (hk : IsNib key) (hf : key.length < f) :
    gfdF db f n key = some (retrieve t (key.map toNib)) := by
  have := gfd_nibs db t n (key.map toNib) f h (by rw [List.length_map]; exact hf)
  rwa [nibs_toNib hk] at this

/-- **`GetFromDB` = in-memory `Get`**, for every key, when the database represents the trie -/
theorem C04_getFromDB (H : Bytes → Bytes) (db : DB) (root : Bytes) (t : Trie)
    (h : RootRep H db root t) (key : Bytes) : getFromDB H db root key = some (Trie.get t key) := by
  unfold getFromDB Trie.get
  rcases h with ⟨rfl, rfl⟩ | ⟨hne, enc, n, h1, h2, h3⟩
  · simp [retrieve]
  · have : (root == H [0]) = false := by simpa using hne
    simp only [this, Bool.false_eq_true, if_false, h1, h2]
    rw [Nibble.keyLEToNibbles_nibs, gfd_nibs db t n _ _ h3 (by rw [List.length_map]; omega), keyLEToNibbles_eq]

/-- **`GetFromDB` = in-memory `Get`** from the WRITER's view: it suffices that the database holds, under its
    hash, the encoding of the root and of every node whose encoding has ≥ 32 bytes, and every hashed value
    (`Sto`); decoding is then the decoder of C07, inlined sub-branches and V1 values included. -/
theorem C04_getFromDB_stored (H : Bytes → Bytes) (hH : ∀ m, (H m).length = 32) (db : DB) (t : Trie)
    (N : TrieCodec.Node) (hs : Sto H db t N) (hwf : C07.WF N) (hne : t ≠ .nil)
    (hroot : H (TrieCodec.encode H N) ≠ H [0])
    (hdb : dbGet db (H (TrieCodec.encode H N)) = some (TrieCodec.encode H N)) (key : Bytes) :
    getFromDB H db (H (TrieCodec.encode H N)) key = some (Trie.get t key) := by
  refine C04_getFromDB H db _ t (Or.inr ⟨hroot, _, _, hdb, ?_, rep_of_sto H hH db t N hs hwf hne⟩) key
  unfold decodeNode
  rw [C07.decode_encode H hH true _ hwf]

/-- absent keys read as absent: `nil` and no error -/
theorem C04_absent (H : Bytes → Bytes) (db : DB) (root : Bytes) (t : Trie) (h : RootRep H db root t)
    (key : Bytes) (ha : Trie.get t key = none) : getFromDB H db root key = some none := by
  rw [C04_getFromDB H db root t h key, ha]

/-- the empty state: every key is absent -/
theorem C04_empty (H : Bytes → Bytes) (db : DB) (key : Bytes) : getFromDB H db (H [0]) key = some none := by
  have := C04_getFromDB H db (H [0]) .nil (Or.inl ⟨rfl, rfl⟩) key
  rw [this]; rfl

/-- **`WriteDirty` stores the trie.**  For a trie that the heap represents (`HRep`) and whose caches
    are coherent (`Coh`: a clean node carries the Merkle value of its sub-trie and that sub-trie is
    already in the database — true in particular when every node is dirty), after `WriteDirty` the
    database `Sto`-represents it and holds the root encoding under the root hash — what
    `C04_getFromDB_stored` asks of the database — unless two DIFFERENT values stored under one key of the database have
    the same hash.  `DBOK`: the database was content-addressed before (kept by `WriteDirty`). -/
theorem C04_writeDirty_stores (H : Bytes → Bytes) (hH : ∀ m, (H m).length = 32) (hp : Heap) (db : DB)
    (t : Handle) (r0 : Nat) (ht : t.root = some r0) (T : Trie) (N : TrieCodec.Node)
    (hr : HRep hp T N r0) (hc : Coh H (Mem db) hp true T N r0) (hd : depth T ≤ bigFuel)
    (hok : DBOK H db) :
    Collision H (writeDirty H hp db t).2 ∨
    (Sto H (writeDirty H hp db t).2 T N ∧
      dbGet (writeDirty H hp db t).2 (H (TrieCodec.encode H N)) = some (TrieCodec.encode H N)) := by
  obtain ⟨h3, h4, h5, _⟩ := writeDirty_coh H hH hp db t r0 ht T N hr hc hd
  have hcl := Coh.clean h4 (HRep.ne_nil h3) h5
  have hok' : DBOK H (writeDirty H hp db t).2 :=
    writeDirtyF_dbok (t.ctx H) bigFuel (hp, db) t.root hok
  rcases noColl_or_collision H hH _ hok' with hn | hcol
  · exact Or.inr ⟨sto_of_mem H hn T N hcl.2.1, dbGet_of_mem hn (hcl.2.2 (Or.inl rfl))⟩
  · exact Or.inl hcol

/-- after `WriteDirty` the heap is coherent again with respect to the new database and its root cell is clean
    (`Coh`: every CLEAN cell has its Merkle value cached and its sub-trie in the database; a clean cell stops the
    walk, so cells below it may still be dirty), and the database has only grown: the invariant that incremental
    writes rely on -/
theorem C04_writeDirty_coherent (H : Bytes → Bytes) (hH : ∀ m, (H m).length = 32) (hp : Heap) (db : DB)
    (t : Handle) (r0 : Nat) (ht : t.root = some r0) (T : Trie) (N : TrieCodec.Node)
    (hr : HRep hp T N r0) (hc : Coh H (Mem db) hp true T N r0) (hd : depth T ≤ bigFuel) :
    HRep (writeDirty H hp db t).1 T N r0 ∧
    Coh H (Mem (writeDirty H hp db t).2) (writeDirty H hp db t).1 true T N r0 ∧
    ((writeDirty H hp db t).1.get r0).dirty = false ∧
    (∀ k v, Mem db k v → Mem (writeDirty H hp db t).2 k v) :=
  writeDirty_coh H hH hp db t r0 ht T N hr hc hd

/-- **Write, then read any key directly from the database**: `GetFromDB` on the root hash returns the
    in-memory `Get` — short of a collision between two stored values or between the root encoding
    and the encoding `[0]` of the empty trie. -/
theorem C04_writeDirty_getFromDB (H : Bytes → Bytes) (hH : ∀ m, (H m).length = 32) (hp : Heap) (db : DB)
    (t : Handle) (r0 : Nat) (ht : t.root = some r0) (T : Trie) (N : TrieCodec.Node)
    (hr : HRep hp T N r0) (hc : Coh H (Mem db) hp true T N r0) (hd : depth T ≤ bigFuel)
    (hsz : SizeOK T) (hok : DBOK H db) (key : Bytes) :
    Collision H (writeDirty H hp db t).2 ∨ H (TrieCodec.encode H N) = H [0] ∨
    getFromDB H (writeDirty H hp db t).2 (H (TrieCodec.encode H N)) key = some (Trie.get T key) := by
  rcases C04_writeDirty_stores H hH hp db t r0 ht T N hr hc hd hok with hcol | ⟨hs, hg⟩
  · exact Or.inl hcol
  · by_cases hz : H (TrieCodec.encode H N) = H [0]
    · exact Or.inr (Or.inl hz)
    · exact Or.inr (Or.inr (C04_getFromDB_stored H hH _ T N hs (hrep_wf T N r0 hr hsz) (HRep.ne_nil hr) hz hg key))

/-- The states of ONE line of trie handles on the heap model, from `NewEmptyTrie()`: `Put`, `Delete`,
    `ClearPrefix`, `SetVersion`, `Snapshot` (the line continues with the snapshot, as dot/state
    does), `WriteDirty`; the last component is the pure trie (`Trie.put`/`delete`/`clearPrefix` of the
    C02 model on the same arguments) the handle stands for.  `depth T ≤ bigFuel` is the fuel of the model's
    recursions (100000 levels); of a mutator only the hashing inside `prepForMutation`/`registerDeletedNodeHash`
    needs it. -/
inductive Line (H : Bytes → Bytes) : Heap → DB → Handle → Trie → Prop
  | init (ver : Ver) : Line H Heap.empty [] { root := none, gen := 0, ver := ver } .nil
  | put {hp : Heap} {db : DB} {h : Handle} {T : Trie} (l : Line H hp db h T) (hd : depth T ≤ bigFuel)
      (k v : Bytes) : Line H (put H hp h k v).1 db (put H hp h k v).2 (Trie.put T k v)
  | delete {hp : Heap} {db : DB} {h : Handle} {T : Trie} (l : Line H hp db h T) (hd : depth T ≤ bigFuel)
      (k : Bytes) : Line H (delete H hp h k).1 db (delete H hp h k).2 (Trie.delete T k)
  | clearPrefix {hp : Heap} {db : DB} {h : Handle} {T : Trie} (l : Line H hp db h T) (hd : depth T ≤ bigFuel)
      (p : Bytes) : Line H (clearPrefix H hp h p).1 db (clearPrefix H hp h p).2 (Trie.clearPrefix T p)
  | setVersion {hp : Heap} {db : DB} {h : Handle} {T : Trie} (l : Line H hp db h T) (ver : Ver) :
      Line H hp db { h with ver := ver } T
  | snapshot {hp : Heap} {db : DB} {h : Handle} {T : Trie} (l : Line H hp db h T) :
      Line H hp db (snapshot h) T
  | writeDirty {hp : Heap} {db : DB} {h : Handle} {T : Trie} (l : Line H hp db h T) (hd : depth T ≤ bigFuel) :
      Line H (writeDirty H hp db h).1 (writeDirty H hp db h).2 h T

/-- **Cache coherence of the copy-on-write mutators (`Put`, `Delete`, `ClearPrefix`) as an invariant.**  In
    every state of a line the handle's view is a tree that represents `T`, no cell of the handle's own
    generation is shared between two positions, and every clean cell carries the Merkle value of its sub-trie,
    which the database already stores ("clean ⇒ already in the database"). -/
theorem C04_incremental_inv (H : Bytes → Bytes) (hH : ∀ m, (H m).length = 32) {hp : Heap} {db : DB}
    {h : Handle} {T : Trie} (l : Line H hp db h T) : CInv H hp db h T := by
  induction l with
  | init ver => exact cinv_init H ver
  | put _ hd k v ih => exact put_cinv H hH ih (Nat.le_succ_of_le hd) k v
  | delete _ hd k ih => exact delete_cinv H hH ih (Nat.le_succ_of_le hd) k
  | clearPrefix _ hd p ih => exact clearPrefix_cinv H hH ih (Nat.le_succ_of_le hd) p
  | setVersion _ ver ih => exact setVersion_cinv H ih ver
  | snapshot _ ih => exact snapshot_cinv H ih
  | writeDirty _ hd ih => exact writeDirty_cinv H hH ih hd

/-- **Incremental persistence (main trie; `ClearPrefixLimit` and child tries not covered).**  At ANY point of a
    line of snapshots — whatever was written and persisted before — `WriteDirty` followed by `GetFromDB` on the
    root hash that `Hash()` reports returns the in-memory `Get` of EVERY key (which is `Get` of the pure trie):
    the nodes that `WriteDirty` skips because they are clean are already in the database.  Exceptions: two
    DIFFERENT stored values with the same hash, or a non-empty trie whose root hashes to the hash of the empty
    trie's encoding `[0]`.  Side conditions: `depth T ≤ bigFuel` (the fuel of the model) and `SizeOK T` (the
    limits of the codec); the lines are those of `Line`, which has no `Hash()` step between the mutators. -/
theorem C04_incremental_partial (H : Bytes → Bytes) (hH : ∀ m, (H m).length = 32) {hp : Heap} {db : DB}
    {h : Handle} {T : Trie} (l : Line H hp db h T) (hd : depth T ≤ bigFuel) (hsz : SizeOK T) (key : Bytes) :
    ∃ root, (hash H (writeDirty H hp db h).1 h).2 = some root ∧
      (Collision H (writeDirty H hp db h).2 ∨ (h.root ≠ none ∧ root = H [0]) ∨
        getFromDB H (writeDirty H hp db h).2 root key = some (get hp h.root key)) ∧
      get hp h.root key = Trie.get T key := by
  have inv := C04_incremental_inv H hH l
  rw [cinv_get inv key]
  cases hr : h.root with
  | none =>
    obtain rfl := cinv_nil inv hr
    refine ⟨H [0], ?_, Or.inr (Or.inr ?_), rfl⟩
    · show (hashRoot H _ h.root).2 = _
      rw [hr]; rfl
    · rw [C04_empty]; rfl
  | some r0 =>
    obtain ⟨N, fp, hti, _⟩ := cinv_some inv hr
    obtain ⟨h3, h4, _, _⟩ := writeDirty_coh H hH hp db h r0 hr T N hti.rep hti.coh hd
    refine ⟨H (TrieCodec.encode H N), ?_, ?_, rfl⟩
    · show (hashRoot H _ h.root).2 = _
      rw [hr]
      exact (calcRootMV_pure hH h3 h4 (Nat.le_succ_of_le hd)).2
    · rcases C04_writeDirty_getFromDB H hH hp db h r0 hr T N hti.rep hti.coh hd hsz inv.dbok key with
        hc | hz | hg
      · exact Or.inl hc
      · exact Or.inr (Or.inl ⟨fun e => (nomatch e), hz⟩)
      · exact Or.inr (Or.inr hg)

/-- a 32-byte stand-in for the hash function, good enough for an example -/
def H1 : Bytes → Bytes := fun m => (m ++ List.replicate 32 0).take 32

def v40 : Bytes := List.replicate 40 7

def exOps : List Op :=
  [.ver 0 Ver.v1, .put 0 [0x12, 0x34] v40, .put 0 [0x56, 0x10] [1], .put 0 [0x56, 0x11] [2],
   .put 0 [0x56, 0x20] [3], .wd 0]

def exState : St := exOps.foldl (fun s op => (stepModel H1 s op).1) St.init

def exRoot : Bytes := ((exState.ts[0]?).bind (fun m => (hash H1 exState.hp m.t).2)).getD []

set_option maxRecDepth 1000000 in
unseal encodeKids wdKids in
/-- the model's `WriteDirty` followed by the model's `GetFromDB`: the hashed value comes back as the
    value, keys below the inlined sub-branch are found, absent neighbours read nil -/
example : getFromDB H1 exState.db exRoot [0x12, 0x34] = some (some v40) ∧
    getFromDB H1 exState.db exRoot [0x56, 0x10] = some (some [1]) ∧
    getFromDB H1 exState.db exRoot [0x56, 0x20] = some (some [3]) ∧
    getFromDB H1 exState.db exRoot [0x14] = some none ∧
    getFromDB H1 exState.db exRoot [0x56] = some none := by
  decide +kernel

end Gossamer.C04
