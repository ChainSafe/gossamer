/-
C26  BABE epoch data is taken from the block's own fork.  The model is over the block state of Model/C17,
finalisation included.

Vocabulary
* `AncI st a h` : `a` is `h` or an ancestor of `h` along the parent links of the headers `GetHeader` answers
  (unfinalised blocks and the finalised header table) — no fuel.
* `Anc st a hdr` : `a` lies on `hdr`'s own fork; `hdr` itself need not be imported ("not fully imported by the
  blocktree", the block being imported).
* `Visible … hdr e` : a definition for epoch `e` exists that `hdr` may use: a persisted one, or an in-memory
  announcement made by a block on `hdr`'s own fork.
* `WF u st` : the invariant of reachable block states (C17's `Inv` + the header-table invariant `DbInv`).
* `answer st db m e hdr` : what one epoch answers (the persisted definition, else `Retrieve`); `AnsSpec`
  (Lib/C26Answer, a `match` on the answer) says what each answer means: `(…_spec w h nofun)` below is that clause,
  reduced by the constructor of the answer.  `GetEpochDataRaw` is one answer, `GetConfigData` the answer of the latest epoch that
  is not skipped (`getConfigData_level`).
* `Src ops st` : every entry of the maps was announced in the history `ops`, every persisted definition was
  stored explicitly or copied from a finalised block's announcement; stated per kind of data (`Stores`, `SrcS`).
-/
import Gossamer.Lib.C26Src
namespace Gossamer.C26
open Gossamer.C17 (Blk findB)

/-- **own fork**: whatever in-memory epoch data `GetEpochDataRaw` can return (for any Go map order) was
    announced for that epoch by the queried block itself or by one of its ancestors — in any state of any
    history, finalisations included (`WF` holds in all of them). -/
theorem C26_own_fork {u : Univ} {st : St} (w : WF u st) {hdr : Blk} (hc : Consistent st hdr) {e : Nat} {c : Entries}
    (h : getEpochDataRaw st e hdr = .mem c) :
    c ≠ [] ∧ ∃ es, lookup st.nextEpoch e = some es ∧ ∀ x ∈ c, x ∈ es ∧ Anc st x.1 hdr :=
  (getEpochDataRaw_spec w h nofun).2 hc

/-- **no foreign data**: the lookup fails with `errHashNotInMemory` only when nothing was announced for
    the epoch on the block's own fork — another fork's announcement is never handed out instead. -/
theorem C26_none_on_fork {u : Univ} {st : St} (w : WF u st) {hdr : Blk} {e : Nat}
    (h : getEpochDataRaw st e hdr = .errHash) :
    ∃ es, lookup st.nextEpoch e = some es ∧ ∀ x ∈ es, ¬ Anc st x.1 hdr :=
  (getEpochDataRaw_spec w h nofun).2

/-- **fails promptly**: the `findAncestor` loop ends within `number + 1` iterations. -/
theorem C26_terminates {u : Univ} {st : St} (w : WF u st) (entries : Entries) {hdr : Blk} (hok : HdrOK st hdr) :
    ∃ fuel, fuel ≤ hdr.number + 1 ∧ findAnc st entries fuel hdr ≠ .outOfFuel :=
  ⟨hdr.number + 1, Nat.le_refl _, findAnc_fuel w hok (Nat.lt_succ_self _)⟩

/-- once the loop has ended, more iterations allowed change nothing: the fuelled model is the Go loop -/
theorem C26_fuel_stable (st : St) (entries : Entries) (f f' : Nat) (hdr : Blk)
    (h : findAnc st entries f hdr ≠ .outOfFuel) (hle : f ≤ f') :
    findAnc st entries f' hdr = findAnc st entries f hdr := findAnc_mono st entries h hle

/-- **never hangs**: neither lookup is still running after `number + 1` iterations -/
theorem C26_never_hangs {u : Univ} {st : St} (w : WF u st) {hdr : Blk} (hok : HdrOK st hdr) (e : Nat) :
    getEpochDataRaw st e hdr ≠ .timeout ∧ getConfigData st hdr e ≠ .timeout :=
  ⟨fun h => getEpochDataRaw_spec w h nofun hok, fun h => (getConfigData_spec w h nofun).elim fun _ sp => sp hok⟩

/-- what `GetConfigData(e, hdr)` must be: the definition of the latest epoch `e' ≤ e` that has one visible to
    `hdr` (persisted first, else announced on `hdr`'s own fork), the genesis configuration when there is none;
    the only error left is a broken lineage (`GetHeader` of some ancestor's parent fails: a pruned block). -/
def CfgSpec (st : St) (hdr : Blk) (e : Nat) : Res → Prop
  | .gen => ∀ e', 1 ≤ e' → e' ≤ e → ¬ Visible st st.nextConfig st.dbConfig hdr e'
  | .db d => ∃ e', 1 ≤ e' ∧ e' ≤ e ∧ lookup st.dbConfig e' = some d ∧
      ∀ e'', e' < e'' → e'' ≤ e → ¬ Visible st st.nextConfig st.dbConfig hdr e''
  | .mem c => c ≠ [] ∧ ∃ e' es, 1 ≤ e' ∧ e' ≤ e ∧ lookup st.dbConfig e' = none ∧
      lookup st.nextConfig e' = some es ∧ (∀ x ∈ c, x ∈ es ∧ Anc st x.1 hdr) ∧
      ∀ e'', e' < e'' → e'' ≤ e → ¬ Visible st st.nextConfig st.dbConfig hdr e''
  | .errParent => True
  | .errEpoch => False
  | .errHash => False
  | .timeout => False

/-- **latest earlier configuration** -/
theorem C26_config_latest_earlier {u : Univ} {st : St} (w : WF u st) {hdr : Blk} (hc : Consistent st hdr)
    (hok : HdrOK st hdr) : ∀ e, CfgSpec st hdr e (getConfigData st hdr e) := by
  intro e
  rcases getConfigData_level st hdr e with ⟨hg, hs⟩ | ⟨e', h1, h2, hr, hns, hs⟩
  · rw [hg]
    exact fun k a b => not_visible_of_skip w (hs k a b)
  · have later : ∀ k, e' < k → k ≤ e → ¬ Visible st st.nextConfig st.dbConfig hdr k :=
      fun k a b => not_visible_of_skip w (hs k a b)
    have sp := answer_spec w st.dbConfig st.nextConfig e' hdr
    rw [← hr] at sp
    cases hres : getConfigData st hdr e with
    | gen => rw [hres] at sp; exact sp.elim
    | db d => rw [hres] at sp; exact ⟨e', h1, h2, sp, later⟩
    | mem c =>
      rw [hres] at sp
      obtain ⟨hne, es, hl, hall⟩ := sp.2 hc
      exact ⟨hne, e', es, h1, h2, sp.1, hl, hall, later⟩
    | errParent => trivial
    | errEpoch => exact hns (.inl hres)
    | errHash => exact hns (.inr hres)
    | timeout => rw [hres] at sp; exact sp hok

theorem own_of_lookup {st : St} {m : EpochMap} {e : Nat} {es c : Entries} {hdr : Blk} (hl : lookup m e = some es)
    (hall : ∀ x ∈ c, x ∈ es ∧ Anc st x.1 hdr) : ∀ x ∈ c, Anc st x.1 hdr ∧ EntryIn m x :=
  fun x hx => ⟨(hall x hx).2, entryIn_of_lookup hl (hall x hx).1⟩

theorem SrcS.announced {ann dbop : Nat → Nat → Op} {ops : List Op} {bs : C17.St} {s : Stores}
    (h : SrcS ann dbop ops bs s) {P : Nat × Nat → Prop} {c : Entries}
    (hall : ∀ x ∈ c, P x ∧ EntryIn s.next x) : ∀ x ∈ c, P x ∧ ann x.1 x.2 ∈ ops :=
  fun x hx => ⟨(hall x hx).1, h.ent x (.inl (hall x hx).2)⟩

/-- **skipped epochs, own fork**: in-memory epoch data handed out for a skipped epoch
    (`GetSkippedEpochDataRaw`, also used with the block being imported) was announced on the header's fork -/
theorem C26_skipped_own_fork {u : Univ} {st : St} (w : WF u st) {hdr : Blk} (hc : Consistent st hdr)
    {s cur : Nat} {c : Entries} (h : (getSkippedEpochData st s cur hdr).2 = .mem c) :
    c ≠ [] ∧ ∃ es, lookup st.nextEpoch s = some es ∧ ∀ x ∈ c, x ∈ es ∧ Anc st x.1 hdr := by
  unfold getSkippedEpochData at h
  split at h
  · cases h
  · split at h
    · cases h
    · exact (retrieveAndUpdate_spec w h).2 hc

/-- **skipped epochs, own fork, configuration**: in-memory configuration data handed out by `GetSkippedConfigData`
    (which falls back to the latest earlier configuration) was announced on the header's fork -/
theorem C26_skipped_config_own_fork {u : Univ} {st : St} (w : WF u st) {hdr : Blk} (hc : Consistent st hdr)
    (hok : HdrOK st hdr) {s cur : Nat} {c : Entries} (h : (getSkippedConfig st s cur hdr).2 = .mem c) :
    c ≠ [] ∧ ∀ x ∈ c, Anc st x.1 hdr ∧ EntryIn st.nextConfig x := by
  unfold getSkippedConfig at h
  split at h
  · cases h
  · split at h
    · cases h
    · -- the fall-back to the latest earlier configuration reads a map that `RetrieveAndUpdate` left alone
      have fallback : (∀ c', (retrieveAndUpdate st st.nextConfig s cur hdr).2 ≠ .mem c') →
          getConfigData { st with nextConfig := (retrieveAndUpdate st st.nextConfig s cur hdr).1 } hdr (s - 1) = .mem c →
          c ≠ [] ∧ ∀ x ∈ c, Anc st x.1 hdr ∧ EntryIn st.nextConfig x := by
        intro hnm hg
        rcases retrieveAndUpdate_cases st st.nextConfig s cur hdr with hm | ⟨_, _, _, _, _, _, hm⟩
        · rw [hm] at hg
          have := C26_config_latest_earlier w hc hok (s - 1)
          rw [show getConfigData st hdr (s - 1) = .mem c from hg] at this
          obtain ⟨hne, _, es, _, _, _, hl, hall, _⟩ := this
          exact ⟨hne, own_of_lookup hl hall⟩
        · exact absurd (congrArg Prod.snd hm) (hnm _)
      split at h
      · rename_i hr; exact fallback (fun _ hm => by rw [hr] at hm; cases hm) h
      · rename_i hr; exact fallback (fun _ hm => by rw [hr] at hm; cases hm) h
      · obtain ⟨hne, es, hl, hall⟩ := (retrieveAndUpdate_spec w h).2 hc
        exact ⟨hne, own_of_lookup hl hall⟩

/-- **reachable states are well formed**, for every history — imports, announcements, finalisations (with
    pruning), skipped-epoch updates, restarts -/
theorem C26_wf_reachable (u : Univ) (hu : u.blk genesis.hash = genesis) (l : Nat) (ops : List Op)
    (hops : ∀ o ∈ ops, OpOK u o) : WF u (run u l ops) := (reachable_wf_src u hu l ops hops).1

/-- **own fork, all histories**: any in-memory epoch data returned for the header with hash `h` after any
    sequence of imports, announcements, finalisations (pruning), skipped-epoch updates, persisted definitions
    and restarts was announced (`HandleBABEDigest`) by that block itself or by one of its ancestors. -/
theorem C26_own_fork_history (u : Univ) (hu : u.blk genesis.hash = genesis) (l : Nat) (ops : List Op)
    (hops : ∀ o ∈ ops, OpOK u o) (h : Nat) (hh : (u.blk h).hash = h) (e : Nat) (c : Entries)
    (hq : getEpochDataRaw (run u l ops) e (u.blk h) = .mem c) :
    c ≠ [] ∧ ∀ x ∈ c, Anc (run u l ops) x.1 (u.blk h) ∧ Op.ann x.1 x.2 ∈ ops := by
  have w := C26_wf_reachable u hu l ops hops
  obtain ⟨hne, es, hl, hall⟩ := C26_own_fork w (w.consistent hh) hq
  exact ⟨hne, (Src_reachable u hu l ops hops).e.announced (own_of_lookup hl hall)⟩

/-- **own fork, configuration, all histories**: the same for the in-memory configuration data `GetConfigData` returns,
    announced by `HandleBABEDigest`'s config branch (`Op.cfg`) -/
theorem C26_config_own_fork_history (u : Univ) (hu : u.blk genesis.hash = genesis) (l : Nat) (ops : List Op)
    (hops : ∀ o ∈ ops, OpOK u o) (h : Nat) (hh : (u.blk h).hash = h) (hok : HdrOK (run u l ops) (u.blk h))
    (e : Nat) (c : Entries) (hq : getConfigData (run u l ops) (u.blk h) e = .mem c) :
    c ≠ [] ∧ ∀ x ∈ c, Anc (run u l ops) x.1 (u.blk h) ∧ Op.cfg x.1 x.2 ∈ ops := by
  have w := C26_wf_reachable u hu l ops hops
  have := C26_config_latest_earlier w (w.consistent hh) hok e
  rw [hq] at this
  obtain ⟨hne, e', es, _, _, _, hl, hall, _⟩ := this
  exact ⟨hne, (Src_reachable u hu l ops hops).c.announced (own_of_lookup hl hall)⟩

/-- **own fork, skipped epochs, all histories**: the same for what `GetSkippedEpochDataRaw` and `GetSkippedConfigData`
    hand out from memory -/
theorem C26_skipped_own_fork_history (u : Univ) (hu : u.blk genesis.hash = genesis) (l : Nat) (ops : List Op)
    (hops : ∀ o ∈ ops, OpOK u o) (h : Nat) (hh : (u.blk h).hash = h) (hok : HdrOK (run u l ops) (u.blk h))
    (s cur : Nat) :
    (∀ c, (getSkippedEpochData (run u l ops) s cur (u.blk h)).2 = .mem c →
      c ≠ [] ∧ ∀ x ∈ c, Anc (run u l ops) x.1 (u.blk h) ∧ Op.ann x.1 x.2 ∈ ops) ∧
    (∀ c, (getSkippedConfig (run u l ops) s cur (u.blk h)).2 = .mem c →
      c ≠ [] ∧ ∀ x ∈ c, Anc (run u l ops) x.1 (u.blk h) ∧ Op.cfg x.1 x.2 ∈ ops) := by
  have w := C26_wf_reachable u hu l ops hops
  have src := Src_reachable u hu l ops hops
  refine ⟨fun c hc => ?_, fun c hc => ?_⟩
  · obtain ⟨hne, es, hl, hall⟩ := C26_skipped_own_fork w (w.consistent hh) hc
    exact ⟨hne, src.e.announced (own_of_lookup hl hall)⟩
  · obtain ⟨hne, hall⟩ := C26_skipped_config_own_fork w (w.consistent hh) hok hc
    exact ⟨hne, src.c.announced hall⟩

/-- **persisted definitions**: a definition answered from the database was stored explicitly or was copied on
    finalisation from the announcement of a block that is in the header table, i.e. of a finalised block -/
theorem C26_db_from_finalised (u : Univ) (hu : u.blk genesis.hash = genesis) (l : Nat) (ops : List Op)
    (hops : ∀ o ∈ ops, OpOK u o) (hdr : Blk) (e d : Nat) :
    (getEpochDataRaw (run u l ops) e hdr = .db d → DOK .ann .dbe ops (run u l ops).bs d) ∧
    (getConfigData (run u l ops) hdr e = .db d → DOK .cfg .dbc ops (run u l ops).bs d) := by
  have w := C26_wf_reachable u hu l ops hops
  have src := Src_reachable u hu l ops hops
  refine ⟨fun hq => ?_, fun hq => ?_⟩
  · exact src.e.db _ (lookup_mem (getEpochDataRaw_spec w hq nofun))
  · obtain ⟨e', sp⟩ := getConfigData_spec w hq nofun
    exact src.c.db _ (lookup_mem sp)

/-- **prompt, all histories**: no lookup hangs, for any header whose number fits its parent's -/
theorem C26_prompt_history (u : Univ) (hu : u.blk genesis.hash = genesis) (l : Nat) (ops : List Op)
    (hops : ∀ o ∈ ops, OpOK u o) (hdr : Blk) (hok : HdrOK (run u l ops) hdr) (e : Nat) :
    getEpochDataRaw (run u l ops) e hdr ≠ .timeout ∧ getConfigData (run u l ops) hdr e ≠ .timeout :=
  C26_never_hangs (C26_wf_reachable u hu l ops hops) hok e

/-- the hypotheses on a queried header hold for every header `GetHeader` knows (imported or finalised) -/
theorem C26_known_header_ok {u : Univ} {st : St} (w : WF u st) {h : Nat} (hh : (u.blk h).hash = h)
    (hk : (getHeader st h).isSome) : Consistent st (u.blk h) ∧ HdrOK st (u.blk h) :=
  ⟨w.consistent hh, w.hdrOK hk⟩

/-- **the epoch of a block is counted on its own fork**: while the first-slot key is not yet set (`fsn = 0`; the
    value a finalisation writes into the key is not covered) the first slot `GetEpochForBlock` uses is that of the
    only number-1 block if there is just one, else of the queried block itself (number 1) or of a number-1 block
    that is its ancestor. -/
theorem C26_first_slot_own_fork {u : Univ} {st : St} (inv : C17.Inv genesis st.bs) {bh s : Nat}
    (hf : st.fsn = 0) (h : retrieveFirst u st bh = .ok s) :
    (∃ x, hashesAt1 st = [x] ∧ s = u.slot x) ∨
    ∃ b, getHeader st bh = some b ∧
      ((b.number = 1 ∧ s = u.slot b.hash) ∨
        ∃ x ∈ hashesAt1 st, (AncI st x bh ∨ x = bh) ∧ s = u.slot x) := by
  unfold retrieveFirst at h
  rw [if_neg (not_not_intro hf)] at h
  split at h
  · cases h
  · rename_i x hl
    split at h
    · exact .inl ⟨x, hl, (Slot.ok.inj h).symm⟩
    · cases h
  · split at h
    · cases h
    · rename_i b hb
      refine .inr ⟨b, hb, ?_⟩
      split at h
      · rename_i h1
        exact .inl ⟨h1, (Slot.ok.inj h).symm⟩
      · exact .inr (scanFirst_ok inv h)

def wA1 : Blk := { hash := 2, parent := 1, number := 1, sroot := 0 }
def wA2 : Blk := { hash := 3, parent := 2, number := 2, sroot := 0 }
def wA3 : Blk := { hash := 4, parent := 3, number := 3, sroot := 0 }
def wB2 : Blk := { hash := 5, parent := 2, number := 2, sroot := 0 }

def wU : Univ :=
  { blk := fun h => if h = 1 then genesis else if h = 2 then wA1 else if h = 3 then wA2 else if h = 4 then wA3
      else if h = 5 then wB2 else default
    slot := fun h => if h = 2 then 10 else if h = 3 then 11 else if h = 4 then 12 else if h = 5 then 11 else 0 }

/-- chain g ← a1 ← a2 ← a3, sibling b2 of a2 announces epoch data 7 and config 9 -/
def wOps : List Op := [.add 2, .add 3, .add 4, .add 5, .ann 5 7, .cfg 5 9]
def wSt : St := run wU 200 wOps

theorem wU_ok : wU.blk genesis.hash = genesis := rfl
theorem wOps_ok : ∀ o ∈ wOps, OpOK wU o := by
  intro o ho
  simp only [wOps, List.mem_cons, List.mem_nil_iff, or_false] at ho
  rcases ho with rfl | rfl | rfl | rfl | rfl | rfl
  · exact ⟨rfl, by decide, by decide⟩
  · exact ⟨rfl, by decide, by decide⟩
  · exact ⟨rfl, by decide, by decide⟩
  · exact ⟨rfl, by decide, by decide⟩
  · trivial
  · trivial

/-- **the defect that was repaired**: with `GetHeader(header.ParentHash)` the loop never ends for block a2 of
    the witness (no amount of fuel suffices), i.e. `C26_terminates` was false for the code as found. -/
theorem C26_old_loop_diverges : ∀ fuel, findAncOld wSt [(5, 7)] wA2 fuel wA2 = .outOfFuel :=
  fun fuel => findAncOld_stuck (p := wA1) (by decide) (by rintro b (rfl | rfl) <;> decide) fuel wA2 (.inl rfl)

/-- the repaired loop on the same witness: prompt failure for a2/a3, own data for b2, and the genesis
    configuration (not an error, not b2's) for the blocks of the other fork -/
example : getEpochDataRaw wSt 1 wA2 = .errHash := by decide +kernel
example : getEpochDataRaw wSt 1 wA3 = .errHash := by decide +kernel
example : getEpochDataRaw wSt 1 wB2 = .mem [(5, 7)] := by decide +kernel
example : getConfigData wSt wA3 1 = .gen := by decide +kernel
example : getConfigData wSt wB2 3 = .mem [(5, 9)] := by decide +kernel
example : WF wU wSt := C26_wf_reachable wU wU_ok 200 wOps wOps_ok

/-- finalising a2 prunes b2: its announcements stay in the maps but no surviving block is served from them;
    finalising a block that announced persists its data for everybody -/
def wSt2 : St := run wU 200 (wOps ++ [.fin 3 1])
example : (wSt2.bs.tree.map (·.hash)) = [3, 4] := by decide +kernel
example : getEpochDataRaw wSt2 1 wA3 = .errHash := by decide +kernel
example : getConfigData wSt2 wA3 2 = .gen := by decide +kernel
def wSt3 : St := run wU 200 [.add 2, .add 3, .add 5, .ann 2 6, .ann 5 7, .fin 2 1]
example : getEpochDataRaw wSt3 1 wA2 = .db 6 := by decide +kernel
example : wSt3.nextEpoch = [] := by decide +kernel

end Gossamer.C26
