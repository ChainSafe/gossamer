/-
C01 — the state root equals the spec Merkle root of the state content.

`specRoot ver H es = H (encodeNode ver H (build es))`: the hash of the encoding of the canonical
radix-16 trie `build es` of the map (`TrieSpec`).  The model root is the hash of the encoding of
the trie that the Go operations (`TrieMem`) produce.  The theorems show that the Go operations
always produce THE canonical trie of the current map (`Rep.eq_build`: canonical form is kept by
insert / delete / clear-prefix and is unique for a given content), hence the same root, whatever
history led to the map.  `H` (BLAKE2b-256 in the code) is a parameter.  Inside the regions of the C02 known
findings the map itself is already wrong.
-/
import Gossamer.Lib.C02Run
import Gossamer.Model.C01
namespace Gossamer.C01
open Gossamer Gossamer.Trie Gossamer.C02

def putAll (t : Trie) (kvs : List (Bytes × Bytes)) : Trie := kvs.foldl (fun t e => Trie.put t e.1 e.2) t
def upsertAll (es : Entries) (kvs : List (Bytes × Bytes)) : Entries :=
  kvs.foldl (fun es e => OMap.upsert e.1 e.2 es) es

theorem rep_putAll (kvs : List (Bytes × Bytes)) : ∀ {t : Trie} {es : Entries}, Rep t es →
    Rep (putAll t kvs) (upsertAll es kvs) :=
  fun h => List.foldl_rel h fun e _ _ _ h => h.put e.1 e.2

/-- For every list of puts (any keys, values and order, overwrites included) and either version, the root the
    model computes is the spec root of the resulting map. -/
theorem C01_root_eq_spec_puts (ver : Ver) (H : Bytes → Bytes) (kvs : List (Bytes × Bytes)) :
    hashTrie ver H (putAll Trie.nil kvs) = specRoot ver H (upsertAll [] kvs) :=
  (rep_putAll kvs Rep.empty).root ver H

/-- `TrieLayout.Root(entries)` (puts into an empty trie) is the spec root -/
theorem C01_layoutRoot (ver : Ver) (H : Bytes → Bytes) (kvs : List (Bytes × Bytes)) :
    layoutRoot ver H kvs = specRoot ver H (upsertAll [] kvs) := C01_root_eq_spec_puts ver H kvs

/-- a second, smaller op language (put, delete) for `C01_root_eq_spec_present`, whose side condition `delPresent`
    speaks of the map alone; `C02.Op` under `SafeFrom` is the general one, and nothing relates the two -/
inductive HOp where
  | put (k v : Bytes)
  | del (k : Bytes)

def stepM (t : Trie) : HOp → Trie
  | .put k v => Trie.put t k v
  | .del k => Trie.delete t k

def stepS (es : Entries) : HOp → Entries
  | .put k v => OMap.upsert k v es
  | .del k => OMap.erase k es

/-- every delete removes a key that is stored at that moment -/
def delPresent (es : Entries) : List HOp → Bool
  | [] => true
  | .put k v :: r => delPresent (OMap.upsert k v es) r
  | .del k :: r => (OMap.get k es).isSome && delPresent (OMap.erase k es) r

theorem rep_hist (ops : List HOp) : ∀ {t : Trie} {es : Entries}, Rep t es → delPresent es ops = true →
    Rep (ops.foldl stepM t) (ops.foldl stepS es) := by
  induction ops with
  | nil => intro t es h _; exact h
  | cons op r ih =>
    intro t es h hp
    cases op with
    | put k v => exact ih (h.put k v) (by simpa [delPresent, stepS] using hp)
    | del k =>
      simp only [delPresent, Bool.and_eq_true] at hp
      obtain ⟨v, hv⟩ := Option.isSome_iff_exists.mp hp.1
      exact ih (h.delete k (h.safe_of_present hv)) hp.2

/-- For every history of inserts, overwrites and deletions of stored keys, and either version, the
    model root is the spec root of the resulting map. -/
theorem C01_root_eq_spec_present (ver : Ver) (H : Bytes → Bytes) (ops : List HOp)
    (hp : delPresent [] ops = true) :
    hashTrie ver H (ops.foldl stepM Trie.nil) = specRoot ver H (ops.foldl stepS []) :=
  (rep_hist ops Rep.empty hp).root ver H

/-- FULL STATEMENT (false for the code, see the counterexample):
    `∀ ops, hashTrie ver H (finalModel ops) = specRoot ver H (finalSpec ops)`.
    Proved for every op sequence (put, delete of any key, clear-prefix, limited clear-prefix, reads)
    that stays outside the regions of the C02 known findings. -/
theorem C01_root_eq_spec_partial (ver : Ver) (H : Bytes → Bytes) (ops : List Op)
    (hs : SafeFrom Trie.nil [] ops) :
    hashTrie ver H (finalModel ops) = specRoot ver H (finalSpec ops) :=
  (final_rep ops hs).root ver H

/-- after `put 13 04; del -` (the empty key is not stored) the model trie is empty while the spec trie
    is the leaf of key `13`: the roots are hashes of different encodings -/
theorem C01_root_eq_spec_counterexample :
    ∃ ops : List Op, ∀ ver H, encodeNode ver H (finalModel ops) ≠ encodeNode ver H (build (finalSpec ops)) := by
  refine ⟨[.put [0x13] [0x04], .del []], fun ver H => ?_⟩
  have h1 : finalModel [.put [0x13] [0x04], .del []] = Trie.nil := rfl
  have h2 : build (finalSpec [.put [0x13] [0x04], .del []]) = Trie.leaf [1, 3] [0x04] := rfl
  rw [h1, h2]
  cases ver <;> simp [encodeNode, mustBeHashed, header, packNibs, packEven]

/-- Two histories (of any mutating ops outside the regions) that reach the same map give the same
    root: the root does not depend on the order of inserts, overwrites and deletions. -/
theorem C01_history_independent (ver : Ver) (H : Bytes → Bytes) (ops1 ops2 : List Op)
    (h1 : SafeFrom Trie.nil [] ops1) (h2 : SafeFrom Trie.nil [] ops2)
    (hm : finalSpec ops1 = finalSpec ops2) :
    hashTrie ver H (finalModel ops1) = hashTrie ver H (finalModel ops2) := by
  rw [C01_root_eq_spec_partial ver H ops1 h1, C01_root_eq_spec_partial ver H ops2 h2, hm]

/-- the same for put lists: permuted / repeated puts with the same resulting map -/
theorem C01_history_independent_puts (ver : Ver) (H : Bytes → Bytes) (a b : List (Bytes × Bytes))
    (hm : upsertAll [] a = upsertAll [] b) :
    hashTrie ver H (putAll Trie.nil a) = hashTrie ver H (putAll Trie.nil b) := by
  rw [C01_root_eq_spec_puts, C01_root_eq_spec_puts, hm]

/-- the model trie itself (not only its hash) is independent of the history -/
theorem C01_trie_independent (ops1 ops2 : List Op)
    (h1 : SafeFrom Trie.nil [] ops1) (h2 : SafeFrom Trie.nil [] ops2)
    (hm : finalSpec ops1 = finalSpec ops2) : finalModel ops1 = finalModel ops2 := by
  rw [(final_rep ops1 h1).eq_build, (final_rep ops2 h2).eq_build, hm]

/-- a value is stored by hash exactly in version 1 and when longer than 32 bytes; in version 0 every
    value is inlined (SCALE bytes) -/
theorem C01_v1_threshold (ver : Ver) (H : Bytes → Bytes) (v : Bytes) :
    (mustBeHashed ver v = true ↔ ver = Ver.v1 ∧ 32 < v.length) ∧
    encodeValue Ver.v0 H v = scaleBytes v ∧
    encodeValue Ver.v1 H v = if 32 < v.length then H v else scaleBytes v := by
  refine ⟨?_, ?_, ?_⟩
  · cases ver <;> simp [mustBeHashed]
  · simp [encodeValue, mustBeHashed]
  · simp [encodeValue, mustBeHashed]

/-- the empty state has root `H [0]` (BLAKE2b-256(0x00) in the code), in the spec and in the model -/
theorem C01_empty (ver : Ver) (H : Bytes → Bytes) :
    specRoot ver H [] = H [0] ∧ hashTrie ver H (finalModel []) = H [0] := ⟨rfl, rfl⟩

/-- a concrete represented state: keys `""`, `10`, `1001` (a key that is a prefix of another) with values of 31,
    32 and 33 bytes, across the V1 threshold -/
example : Rep (putAll Trie.nil [([], List.replicate 31 1), ([0x10], List.replicate 32 2),
      ([0x10, 0x01], List.replicate 33 3)])
    (upsertAll [] [([], List.replicate 31 1), ([0x10], List.replicate 32 2),
      ([0x10, 0x01], List.replicate 33 3)]) := rep_putAll _ Rep.empty

end Gossamer.C01
