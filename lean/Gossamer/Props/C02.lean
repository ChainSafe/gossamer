/-
C02 — the in-memory trie behaves as an ordered byte-string map.

State relation: `Rep t es` — the model trie `t` (Go: `InMemoryTrie.root`) is canonical and its
entries are exactly the strictly sorted byte-keyed list `es` (the ordered map of the spec).
Each theorem is a refinement step `Rep t es → (observable of the Go model) = (observable of the
ordered map) ∧ Rep (new trie) (new map)`, for ALL tries, keys, values, prefixes and limits;
`C02_refines_partial` chains them over arbitrary op sequences of the harness language.

Where the code violates the property the theorem is `_partial`: its hypothesis is the complement of the region of
a known finding, with a `_counterexample` inside the region: `empty-remaining-key` (get, delete),
`prefix-zero-nibble` (keys-with-prefix, clear-prefix, clear-prefix-limit), `clrl-children-first` (clear-prefix-limit).
-/
import Gossamer.Lib.C02Run
namespace Gossamer.C02
open Gossamer Gossamer.Trie

theorem C02_empty : Rep Trie.nil [] := Rep.empty

/-- Put = upsert of the ordered map (all tries, keys, values) -/
theorem C02_put {t : Trie} {es : Entries} (h : Rep t es) (k v : Bytes) :
    Rep (Trie.put t k v) (OMap.upsert k v es) := h.put k v

/-- FULL STATEMENT (false for the code): `Rep t es → Trie.get t k = OMap.get k es`.
    Proved outside the region of the `len(key) == 0` short cut. -/
theorem C02_get_partial {t : Trie} {es : Entries} (h : Rep t es) (k : Bytes)
    (hk : emptyKeyHit t (keyLEToNibbles k) = false) : Trie.get t k = OMap.get k es := by
  rw [keyLEToNibbles_eq] at hk; exact h.get k hk

/-- keys that are present are always outside that region: Get of a stored key is exact -/
theorem C02_get_present {t : Trie} {es : Entries} (h : Rep t es) (k v : Bytes)
    (hk : OMap.get k es = some v) : Trie.get t k = some v := by
  rw [h.get k (h.safe_of_present hk), hk]

def cexTrie : Trie := Trie.put (Trie.put Trie.nil [0x00] [0x09]) [0x00, 0x00, 0x01] [0x71]
def cexMap : Entries := OMap.upsert [0x00, 0x00, 0x01] [0x71] (OMap.upsert [0x00] [0x09] [])

theorem cex_rep : Rep cexTrie cexMap := (Rep.empty.put _ _).put _ _

/-- inside the region: `Get("")` returns the value of key `00` -/
theorem C02_get_counterexample :
    ∃ (t : Trie) (es : Entries) (k : Bytes), Rep t es ∧ Trie.get t k ≠ OMap.get k es :=
  ⟨cexTrie, cexMap, [], cex_rep, by decide⟩

/-- FULL STATEMENT (false for the code): `Rep t es → Rep (Trie.delete t k) (OMap.erase k es)`. -/
theorem C02_delete_partial {t : Trie} {es : Entries} (h : Rep t es) (k : Bytes)
    (hk : emptyKeyHit t (keyLEToNibbles k) = false) :
    Rep (Trie.delete t k) (OMap.erase k es) := by
  rw [keyLEToNibbles_eq] at hk; exact h.delete k hk

/-- deleting a stored key is always exact -/
theorem C02_delete_present {t : Trie} {es : Entries} (h : Rep t es) (k v : Bytes)
    (hk : OMap.get k es = some v) : Rep (Trie.delete t k) (OMap.erase k es) :=
  h.delete k (h.safe_of_present hk)

/-- inside the region: `Delete("")` on the trie holding only key `13` removes that key -/
theorem C02_delete_counterexample :
    ∃ (t : Trie) (es : Entries) (k : Bytes), Rep t es ∧
      ¬ Rep (Trie.delete t k) (OMap.erase k es) := by
  refine ⟨Trie.put Trie.nil [0x13] [0x04], OMap.upsert [0x13] [0x04] [], [], Rep.empty.put _ _, ?_⟩
  exact fun h => absurd h.entries (by decide)

/-- NextKey = the smallest strictly greater key (all tries, all keys) -/
theorem C02_nextKey {t : Trie} {es : Entries} (h : Rep t es) (k : Bytes) :
    Trie.nextKey t k = OMap.nextKey k es := h.nextKey k

/-- FULL STATEMENT (false for the code): `Rep t es → Trie.keysWithPrefix t p = OMap.keysWithPrefix p es`
    (same keys, ascending order). -/
theorem C02_keysWithPrefix_partial {t : Trie} {es : Entries} (h : Rep t es) (p : Bytes)
    (hp : trimRegion p es = false) : Trie.keysWithPrefix t p = OMap.keysWithPrefix p es :=
  h.keysWithPrefix p hp

/-- in particular for every prefix whose last byte has a non-zero low nibble -/
theorem C02_keysWithPrefix_nonzero {t : Trie} {es : Entries} (h : Rep t es) (p : Bytes)
    (hp : lowNibbleZero p = false) : Trie.keysWithPrefix t p = OMap.keysWithPrefix p es :=
  h.keysWithPrefix p (by simp [trimRegion, hp])

/-- inside the region: prefix `10` lists key `1f` -/
theorem C02_keysWithPrefix_counterexample :
    ∃ (t : Trie) (es : Entries) (p : Bytes), Rep t es ∧
      Trie.keysWithPrefix t p ≠ OMap.keysWithPrefix p es :=
  ⟨Trie.put Trie.nil [0x1f] [0x01], OMap.upsert [0x1f] [0x01] [], [0x10], Rep.empty.put _ _,
    by decide⟩

/-- FULL STATEMENT (false for the code): `Rep t es → Rep (Trie.clearPrefix t p) (OMap.clearPrefix p es)`. -/
theorem C02_clearPrefix_partial {t : Trie} {es : Entries} (h : Rep t es) (p : Bytes)
    (hp : trimRegion p es = false) : Rep (Trie.clearPrefix t p) (OMap.clearPrefix p es) :=
  h.clearPrefix p hp

/-- inside the region: clearing prefix `10` deletes key `1f` -/
theorem C02_clearPrefix_counterexample :
    ∃ (t : Trie) (es : Entries) (p : Bytes), Rep t es ∧
      ¬ Rep (Trie.clearPrefix t p) (OMap.clearPrefix p es) := by
  refine ⟨Trie.put Trie.nil [0x1f] [0x01], OMap.upsert [0x1f] [0x01] [], [0x10], Rep.empty.put _ _, ?_⟩
  exact fun h => absurd h.entries (by decide)

/-- FULL STATEMENT (false for the code): for every limit the new map, the number of removed keys
    and the all-deleted flag are those of `OMap.clearPrefixLimit` (the `n` smallest keys go). -/
theorem C02_clearPrefixLimit_partial {t : Trie} {es : Entries} (h : Rep t es) (p : Bytes) (n : Nat)
    (hp : trimRegion p es = false) (hnest : nestedRegion p es = false) :
    Rep (Trie.clearPrefixLimit t p n).1 (OMap.clearPrefixLimit p n es).1 ∧
    (Trie.clearPrefixLimit t p n).2 = (OMap.clearPrefixLimit p n es).2 :=
  h.clearPrefixLimit p n hp hnest

-- `dnlBranch` is irreducible (see TrieMem); the evaluation below has to run it
unseal Trie.dnlBranch in
/-- inside the region `clrl-children-first`: keys `11`, `1101`, prefix `11`, limit 1 removes `1101` -/
theorem C02_clearPrefixLimit_counterexample :
    ∃ (t : Trie) (es : Entries) (p : Bytes) (n : Nat), Rep t es ∧ trimRegion p es = false ∧
      ¬ Rep (Trie.clearPrefixLimit t p n).1 (OMap.clearPrefixLimit p n es).1 := by
  refine ⟨Trie.put (Trie.put Trie.nil [0x11] [0x01]) [0x11, 0x01] [0x02],
    OMap.upsert [0x11, 0x01] [0x02] (OMap.upsert [0x11] [0x01] []), [0x11], 1,
    (Rep.empty.put _ _).put _ _, by decide, ?_⟩
  exact fun h => absurd h.entries (by decide)

/-- `Entries()` lists exactly the map, every value as `Get` returns it -/
theorem C02_entries {t : Trie} {es : Entries} (h : Rep t es) :
    Trie.entries t = es.map (fun e => (e.1, some e.2)) := h.entries_eq

/-- FULL STATEMENT (false for the code): `∀ ops, runModel ops = runSpec ops`.
    Every sequence of put / delete / clear-prefix / clear-prefix-limit / get / next-key /
    keys-with-prefix / entries all of whose ops stay outside the three known-finding regions gives
    exactly the observables of the ordered map. -/
theorem C02_refines_partial (ops : List Op) (hs : SafeFrom Trie.nil [] ops) :
    runModel ops = runSpec ops := (run_refines Rep.empty ops hs).1

-- as above: the run contains a limited clear
unseal Trie.dnlBranch in
/-- the hypothesis is not vacuous: a run with every kind of op (prefix keys, a key that is a prefix
    of another key, a limited clear) is safe -/
example : SafeFrom Trie.nil []
    [.put [0x10] [1], .put [0x10, 0x01] [2], .put [] [3], .get [0x10], .next [0x10], .keys [0x11],
     .clrl [0x10, 0x01] 1, .del [0x10], .clr [0x11], .entries] := by decide

/-- outside the regions the final trie represents the final map -/
theorem C02_final_rep_partial (ops : List Op) (hs : SafeFrom Trie.nil [] ops) :
    Rep (finalModel ops) (finalSpec ops) := final_rep ops hs

/-- the full statement fails: after the run `put 13 04; del -` the trie is empty, the map is not (the
    printed outputs differ too, `ok empty` against `ok 13=04`; what is refuted here, as in the `_counterexample`s
    above, is `Rep`, because `decide` on an inequality of the output strings does not get through `String.decEq`) -/
theorem C02_refines_counterexample : ∃ ops : List Op, ¬ Rep (finalModel ops) (finalSpec ops) := by
  refine ⟨[.put [0x13] [0x04], .del []], ?_⟩
  exact fun h => absurd h.entries (by decide)

end Gossamer.C02
