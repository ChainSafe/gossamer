/-
C30  The peer set never exceeds its slots and never connects banned peers.

Property (properties.jsonl): for every sequence of peer additions, removals, reservations, reputation
reports, incoming connections, disconnections and time ticks, the slot-occupying connections of each
direction equal the number of connected peers of that direction that are not no-slot nodes
(`C30_counters`) and do not exceed the configured maxima (false for the code as it is:
`C30_slots_partial`, `C30_slots_counterexample`);
no peer below the ban threshold is connected (`C30_no_banned`) or accepted
(`C30_incoming_banned_rejected`); reputation arithmetic saturates (`C30_saturating_add`, `_sub`,
`C30_rep_range`); a report for several peers reaches each of them (`C30_report_all`).

All theorems are about the model `Gossamer/Model/C30.lean` (peerstate.go, peerset.go with its actor goroutine, the
`Handler` API of handler.go; after the `fix:` commits).  A history is a list of operations, each with the hint that resolves
Go's map iteration order, and `adv` operations carry the clock; the theorems quantify over all of them.

Standing hypotheses:
* `Fits n` (Lib/C30Inv): the peers fit the uint32 counters `numIn`/`numOut`, so that a count of peers
  never wraps;
* `safeRun s ops` (Lib/C30Ops), only for the slot maxima: every `removeReserved` / `setReserved` of the
  history runs `removeReservedPeers` under `slotGuard` (`rrSafe`).  The code does not keep
  `numIn ≤ maxIn`, `numOut ≤ maxOut` without it (`C30_slots_counterexample`, known finding
  unreserve-over-max).
-/
import Gossamer.Lib.C30Ops
import Gossamer.Lib.C30Actor
namespace Gossamer.C30
variable {n : Nat}

/-- **C30, counters.**  After every history (any operations, any resolution of map order, any clock
    oracle) `numIn` / `numOut` equal the number of connected non-no-slot peers of that direction. -/
theorem C30_counters (hn : Fits n) (maxIn maxOut : Nat) (ro : Bool) (ops : List (Op n × List (Msg n))) :
    (run (newPS maxIn maxOut ro) ops).numIn = cntIn (run (newPS maxIn maxOut ro : PS n) ops) ∧
    (run (newPS maxIn maxOut ro) ops).numOut = cntOut (run (newPS maxIn maxOut ro : PS n) ops) :=
  let h := run_inv hn _ ops (newPS_inv maxIn maxOut ro)
  ⟨h.cin, h.cout⟩

/-- **C30, banned peers.**  After every history no connected peer (reserved or not) has a reputation
    below `BannedThresholdValue`. -/
theorem C30_no_banned (hn : Fits n) (maxIn maxOut : Nat) (ro : Bool) (ops : List (Op n × List (Msg n)))
    (p : Fin n) (nd : Node) (h : (run (newPS maxIn maxOut ro : PS n) ops).nodes p = some nd)
    (hc : nd.st = .ingoing ∨ nd.st = .outgoing) : bannedThreshold ≤ nd.rep := by
  apply (run_inv hn _ ops (newPS_inv maxIn maxOut ro)).noban p nd h
  cases hc with
  | inl h => simp [h, MS.connected]
  | inr h => simp [h, MS.connected]

/-- reputations stay in the int32 range, so the wrap-free arithmetic `addI`/`subI`/`tickI` of the
    state machine coincides with the 32-bit code (`add32_eq`, `sub32_eq`, `C30_tick32_eq`) -/
theorem C30_rep_range (hn : Fits n) (maxIn maxOut : Nat) (ro : Bool) (ops : List (Op n × List (Msg n)))
    (p : Fin n) (nd : Node) (h : (run (newPS maxIn maxOut ro : PS n) ops).nodes p = some nd) :
    minI32 ≤ nd.rep ∧ nd.rep ≤ maxI32 :=
  (run_inv hn _ ops (newPS_inv maxIn maxOut ro)).range p nd h

/-- **C30, slot maxima.**  Full statement (false for the code as it is):
     ∀ ops, numIn ≤ maxIn ∧ numOut ≤ maxOut after `run (newPS maxIn maxOut ro) ops`.
   `removeReservedPeers` outside reserved-only mode turns a connected no-slot peer into a
   slot-occupying one without looking at the maximum.  Proved for every history that is `safeRun`;
   `C30_slots_counterexample` is the excluded region. -/
theorem C30_slots_partial (hn : Fits n) (maxIn maxOut : Nat) (ro : Bool)
    (ops : List (Op n × List (Msg n))) (hsafe : safeRun (newPS maxIn maxOut ro : PS n) ops) :
    (run (newPS maxIn maxOut ro : PS n) ops).numIn ≤ maxIn ∧
    (run (newPS maxIn maxOut ro : PS n) ops).numOut ≤ maxOut := by
  obtain ⟨hs, e1, e2⟩ :=
    run_inv2 hn _ ops (newPS_inv maxIn maxOut ro) ⟨Nat.zero_le _, Nat.zero_le _⟩ hsafe
  unfold SlotsOk at hs
  rw [e1, e2] at hs
  exact hs

/-- the excluded region is real: reserve a peer (it is connected outside the slots), then unreserve it
    with `maxOut = 0`: `numOut = 1 > maxOut`.  (`1 0 0|ar 0 >C0;rr 0 >` in the correspondence run.) -/
theorem C30_slots_counterexample :
    ¬ ((run (newPS 1 0 false : PS 1)
          [(.addReserved [0], [.connect 0]), (.removeReserved [0], [])]).numOut ≤ 0) := by
  decide

/-- `C30_slots_partial` is not vacuous: a history with reservations, an unreservation that finds a free
    slot, incoming and outgoing connections is `safeRun` -/
example : safeRun (newPS 1 2 false : PS 3)
    [(.addReserved [0], [.connect 0]), (.addPeer [1], [.connect 1]), (.removeReserved [0], []),
     (.incoming [2], [.accept 2]), (.disconnect [0], [.drop 0, .connect 0])] := by
  decide

/-- **C30, reports.**  From any state satisfying the invariant, `reportPeer(v, ps...)` returns no
    error and every peer ends with the reputation it had after the time update, changed by `v` once
    per occurrence in `ps` (saturating); peers not listed keep theirs.  (An unknown peer counts as 0.) -/
theorem C30_report_all (hn : Fits n) (s : PS n) (hI : Inv s) (v : Int) (ps : List (Fin n))
    (hint : List (Msg n)) :
    (step s (.report v ps) hint).2.2 = false ∧
    ∀ q, repOf (step s (.report v ps) hint).1 q
          = addN v (ps.count q) (repOf (updateTime (clearFresh s)) q) :=
  (reportLoop_spec hn v ps
    (withS { s := clearFresh s, out := [], hint := hint } (updateTime (clearFresh s)))
    (updateTime_invX (clearFresh_invX hI.toX)) rfl).2

/-- the reputations of `C30_report_all`, in every reachable state -/
theorem C30_report_all_reachable (hn : Fits n) (maxIn maxOut : Nat) (ro : Bool)
    (ops : List (Op n × List (Msg n))) (v : Int) (ps : List (Fin n)) (hint : List (Msg n)) (q : Fin n) :
    repOf (step (run (newPS maxIn maxOut ro : PS n) ops) (.report v ps) hint).1 q
      = addN v (ps.count q) (repOf (updateTime (clearFresh (run (newPS maxIn maxOut ro : PS n) ops))) q) :=
  (C30_report_all hn _ (run_inv hn _ ops (newPS_inv maxIn maxOut ro)) v ps hint).2 q

/-- a two-peer report really moves both (the defect repaired by the `fix:` commit) -/
example : (fun s : PS 3 => (repOf s 0, repOf s 1, repOf s 2))
    (step (newPS 2 2 false : PS 3) (.report (-10) [0, 1, 1]) []).1 = (-10, -20, 0) := by decide

/-- **C30, saturation.**  `Reputation.add` on int32 is addition clamped to [MinInt32, MaxInt32] -/
theorem C30_saturating_add (a b : Int32) : (add32 a b).toInt = clamp (a.toInt + b.toInt) := by
  rw [add32_eq, addI_clamp _ _ (int32_inRange a)]

/-- `Reputation.sub` on int32 is subtraction clamped to [MinInt32, MaxInt32] -/
theorem C30_saturating_sub (a b : Int32) : (sub32 a b).toInt = clamp (a.toInt - b.toInt) := by
  rw [sub32_eq, subI_clamp _ _ (int32_inRange a)]

/-- **C30, banned peers are not accepted.**  `incoming` called with the one peer `p` (not already
    connected) whose reputation after the time update is below the threshold answers `Reject` and leaves
    it not connected; this holds in every mode and whether or not the peer is reserved. -/
theorem C30_incoming_banned_rejected (s : PS n) (p : Fin n) (hint : List (Msg n))
    (hc : conn (updateTime (clearFresh s)) p = false)
    (hb : repOf (updateTime (clearFresh s)) p < bannedThreshold) :
    (step s (.incoming [p]) hint).2.1 = [.reject p] ∧ conn (step s (.incoming [p]) hint).1 p = false :=
  incomingLoop_banned (withS { s := clearFresh s, out := [], hint := hint } (updateTime (clearFresh s))) p hc hb

/-- the hypotheses of `C30_incoming_banned_rejected` are satisfiable: a peer reported down to MinInt32 -/
example :
    let s : PS 2 := run (newPS 1 1 false) [(.report minI32 [0], [])]
    conn (updateTime (clearFresh s)) 0 = false ∧ repOf (updateTime (clearFresh s)) 0 < bannedThreshold := by
  decide

/-- in a reachable state nobody `sortedPeers` returns is banned -/
theorem C30_sortedPeers_not_banned (hn : Fits n) (maxIn maxOut : Nat) (ro : Bool)
    (ops : List (Op n × List (Msg n))) (p : Fin n)
    (h : p ∈ sortedPeers (run (newPS maxIn maxOut ro : PS n) ops)) :
    bannedThreshold ≤ repOf (run (newPS maxIn maxOut ro : PS n) ops) p := by
  have hc := ((C30_sortedPeers _).1 p).mp h
  have hI := run_inv hn _ ops (newPS_inv (n := n) maxIn maxOut ro)
  cases hnd : (run (newPS maxIn maxOut ro : PS n) ops).nodes p with
  | none => unfold conn at hc; rw [hnd] at hc; cases hc
  | some nd => rw [repOf_node hnd]; exact hI.noban p nd hnd ((conn_node hnd).symm.trans hc)

/-- **The actor is a FIFO executor of the synchronous methods.**  For every interleaving of API calls,
    actor receptions and ticker firings (and every map order / hint): the peer set equals the
    synchronous semantics `run` of the logged operations; the served actions followed by the actions
    still queued are exactly the API calls in call order; every logged operation is the operation of
    the served action, or a ticker `allocSlots`. -/
theorem C30_actor_fifo (maxIn maxOut : Nat) (ro : Bool) (evs : List (Ev n)) :
    let h := hrun (newHS maxIn maxOut ro : HS n) evs
    h.ps = run (newPS maxIn maxOut ro) (logOps h) ∧
    h.log.filterMap (·.act) ++ h.queue = callsOf evs ∧
    (∀ e ∈ h.log, (∃ a ord, e.act = some a ∧ e.op = a.toOp ord) ∨ (e.act = none ∧ e.op = .tick)) := by
  have hk := actor_ok (n := n) maxIn maxOut ro evs
  exact ⟨hk.sem, hk.fifo, hk.ops⟩

/-- once the queue is drained and the ticker has not fired, the handler is in the state the
    synchronous methods produce for the API calls in call order -/
theorem C30_actor_drained (maxIn maxOut : Nat) (ro : Bool) (evs : List (Ev n))
    (hq : (hrun (newHS maxIn maxOut ro : HS n) evs).queue = [])
    (hnofire : ∀ e ∈ (hrun (newHS maxIn maxOut ro : HS n) evs).log, e.act ≠ none) :
    ∃ ords hints, ords.length = (callsOf evs).length ∧ hints.length = (callsOf evs).length ∧
      (hrun (newHS maxIn maxOut ro : HS n) evs).ps =
        run (newPS maxIn maxOut ro)
          ((((callsOf evs).zip ords).zip hints).map (fun x => (x.1.1.toOp x.1.2, x.2))) := by
  have hk := actor_ok (n := n) maxIn maxOut ro evs
  have hfifo := hk.fifo
  rw [hq, List.append_nil] at hfifo
  obtain ⟨ords, hints, h1, h2, h3⟩ := log_as_calls _ hk.ops hnofire
  rw [hfifo] at h1 h2 h3
  refine ⟨ords, hints, h1, h2, ?_⟩
  rw [hk.sem]
  unfold logOps
  rw [h3]

/-- the invariants hold for the public `Handler` API under every schedule -/
theorem C30_handler_inv (hn : Fits n) (maxIn maxOut : Nat) (ro : Bool) (evs : List (Ev n)) :
    let s := (hrun (newHS maxIn maxOut ro : HS n) evs).ps
    s.numIn = cntIn s ∧ s.numOut = cntOut s ∧
    (∀ p nd, s.nodes p = some nd → nd.st.connected = true → bannedThreshold ≤ nd.rep) ∧
    (∀ p nd, s.nodes p = some nd → InRange nd.rep) := by
  simp only []
  rw [(actor_ok maxIn maxOut ro evs).sem]
  have hI := run_inv hn _ (logOps (hrun (newHS maxIn maxOut ro : HS n) evs)) (newPS_inv (n := n) maxIn maxOut ro)
  exact ⟨hI.cin, hI.cout, hI.noban, hI.range⟩

/-- the slot maxima for the public API: whenever the operations the actor has applied are `safeRun` -/
theorem C30_handler_slots_partial (hn : Fits n) (maxIn maxOut : Nat) (ro : Bool) (evs : List (Ev n))
    (hsafe : safeRun (newPS maxIn maxOut ro : PS n) (logOps (hrun (newHS maxIn maxOut ro : HS n) evs))) :
    (hrun (newHS maxIn maxOut ro : HS n) evs).ps.numIn ≤ maxIn ∧
    (hrun (newHS maxIn maxOut ro : HS n) evs).ps.numOut ≤ maxOut := by
  rw [(actor_ok maxIn maxOut ro evs).sem]
  exact C30_slots_partial hn maxIn maxOut ro _ hsafe

/-- `setReservedPeer` outside reserved-only mode unreserves at most one peer, whichever the map order
    puts first: two reserved peers, `SetReservedPeer()` with the empty list, one stays reserved -/
example : (fun s : PS 2 => (s.reserved 0, s.reserved 1))
    (run (newPS 1 1 false : PS 2) [(.addReserved [0, 1], [.connect 0, .connect 1]), (.setReserved [] [1], [])])
    = (true, false) := by decide


end Gossamer.C30
