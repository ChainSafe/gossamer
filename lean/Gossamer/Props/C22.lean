/-
C22  GRANDPA finality is safe under a Byzantine minority.

The theorems are about the ABSTRACT protocol of Gossamer/Model/C22.lean (weights, arbitrary voter count,
arbitrary block tree, any message schedule), not about Go code.  The tie to the code is (1) the threshold
theorems below, whose left-hand sides are the comparisons the Go code makes (tied by `thr`/`fgthr` cases
of the differential run), and (2) trace validation of the tally/decision functions (Driver/C22).
-/
import Gossamer.Lib.C22Inv
import Gossamer.Lib.C22Possible
import Gossamer.Lib.C22Example
import Gossamer.Lib.C22Sim
import Gossamer.Lib.C22SetsExample
import Gossamer.Lib.Threshold
namespace Gossamer.C22

/-- Two voter sets that each hold more than two thirds of the weight share an HONEST voter, whenever the
    Byzantine voters hold less than one third.  Any number of voters, any weights. -/
theorem C22_quorum_intersection (vs : Voters) (a b : Nat → Bool) (hmin : vs.minority)
    (ha : supermajority vs.total (vs.weight a)) (hb : supermajority vs.total (vs.weight b)) :
    ∃ v, vs.honest v ∧ a v = true ∧ b v = true := by
  have ⟨v, hm, h1, h2, h3⟩ := vs.two_super_meet a b vs.byz hmin ha hb
  exact ⟨v, ⟨hm, h3⟩, h1, h2⟩

/-- 4 voters of weight 1, voter 3 Byzantine -/
def vs4 : Voters := ⟨[0, 1, 2, 3], fun _ => 1, fun v => v == 3⟩
/-- 4 voters of weight 1, voters 2 and 3 Byzantine (half of the weight) -/
def vs4bad : Voters := ⟨[0, 1, 2, 3], fun _ => 1, fun v => v == 2 || v == 3⟩
/-- the fork 0 ← 1 ← 2, 1 ← 3 -/
def fork : BlockOrder Nat := parentOrder [0, 1, 1]

/-- non-vacuous: {0,1,3} and {1,2,3} are supermajorities of `vs4`; they meet in the honest voter 1 -/
example : vs4.minority ∧ supermajority vs4.total (vs4.weight (fun v => v != 2)) ∧
    supermajority vs4.total (vs4.weight (fun v => v != 0)) := by decide

/-- the bound matters: with voters 2 and 3 of 4 Byzantine the supermajorities {0,2,3} and {1,2,3} meet
    only in Byzantine voters -/
theorem C22_quorum_intersection_counterexample :
    supermajority vs4bad.total (vs4bad.weight (fun v => v != 1)) ∧
    supermajority vs4bad.total (vs4bad.weight (fun v => v != 0)) ∧
    ¬ ∃ v, vs4bad.honest v ∧ (v != 1) = true ∧ (v != 0) = true := by
  refine ⟨by decide, by decide, fun ⟨v, hv, h1, h2⟩ => ?_⟩
  have : ∀ v ∈ vs4bad.ids, ¬ (vs4bad.byz v = false ∧ (v != 1) = true ∧ (v != 0) = true) := by decide
  exact this v hv.1 ⟨hv.2, h1, h2⟩

/-- If, in one round and stage, the votes observed by two parties (ANY subsets `S1`, `S2` of the votes
    cast, equivocators counted for every block) give a supermajority to `b1` and to `b2`, then `b1` and
    `b2` lie on one chain.  Honest voters cast at most one vote; Byzantine voters cast anything. -/
theorem C22_single_round_safe {B : Type} [DecidableEq B] (vs : Voters) (O : BlockOrder B)
    (castV S1 S2 : Votes B) (b1 b2 : B) (hmin : vs.minority)
    (hhon : ∀ v, vs.honest v → single castV v)
    (h1 : ∀ p, p ∈ S1 → p ∈ castV) (h2 : ∀ p, p ∈ S2 → p ∈ castV)
    (hs1 : hasSuper vs O S1 b1) (hs2 : hasSuper vs O S2 b2) : O.comparable b1 b2 :=
  single_round_comparable vs O castV S1 S2 b1 b2 hmin hhon h1 h2 hs1 hs2

/-- non-vacuous, with an equivocator: voters 0,1,2 honest, 3 Byzantine votes for both forks; one observer
    sees a supermajority for 2, another one for 1, nobody can see one for 3 -/
example : vs4.minority ∧ hasSuper vs4 fork [(0, 2), (1, 2), (3, 2)] 2 ∧
    hasSuper vs4 fork [(0, 2), (1, 2), (2, 3), (3, 2), (3, 3)] 1 ∧
    ¬ hasSuper vs4 fork [(0, 2), (1, 2), (2, 3), (3, 2), (3, 3)] 3 := by decide

/-- without the bound the conclusion fails: voters 2 and 3 of 4 Byzantine and equivocating give both
    forks a supermajority -/
theorem C22_single_round_counterexample :
    (∀ v, vs4bad.honest v → single [(0, 2), (1, 3), (2, 2), (2, 3), (3, 2), (3, 3)] v) ∧
    hasSuper vs4bad fork [(0, 2), (1, 3), (2, 2), (2, 3), (3, 2), (3, 3)] 2 ∧
    hasSuper vs4bad fork [(0, 2), (1, 3), (2, 2), (2, 3), (3, 2), (3, 3)] 3 ∧
    ¬ fork.comparable 2 3 := by
  refine ⟨fun v hv => (not_equivocates_iff_single _ v).1 ?_, by decide, by decide, by decide⟩
  have : ∀ v ∈ vs4bad.ids, vs4bad.byz v = false →
      equivocates [(0, 2), (1, 3), (2, 2), (2, 3), (3, 2), (3, 3)] v = false := by decide
  exact this v hv.1 hv.2

/-- lib/grandpa: the three places where the voter itself decides — block selection in the tallies
    (`total > threshold`), the precommit gate (`total <= threshold` → wait) and `attemptToFinalize`
    (`precommitCount <= threshold` → not finalisable) — with `threshold = ⌊2n/3⌋` are each EXACTLY
    "more than two thirds of n"; pkg/finality-grandpa: `weight >= total - (total-1)/3` is exactly
    "more than two thirds of total" (total ≥ 1), and the `uint64` evaluation of that threshold is the
    natural-number one. -/
theorem C22_threshold_tie :
    (∀ n c : Nat, (libSelects n c = true ↔ supermajority n c) ∧
                  (libGate n c = true ↔ supermajority n c) ∧
                  (libFinalises n c = true ↔ supermajority n c)) ∧
    (∀ total w : Nat, 1 ≤ total → (fgSuper total w = true ↔ supermajority total w)) ∧
    (∀ total : Nat, 1 ≤ total → total < 18446744073709551616 → thrFG64 total = thrFG total) := by
  refine ⟨fun n c => ?_, fun total w h => ?_, fun total h1 h2 => ?_⟩
  · have h : ¬ c ≤ thrLib n ↔ supermajority n c := Nat.not_le.trans (Threshold.two_thirds_lt n c)
    unfold libSelects libGate libFinalises
    rw [decide_eq_true_eq, Bool.not_eq_true', decide_eq_false_iff_not]
    exact ⟨Threshold.two_thirds_lt n c, h, h⟩
  · unfold fgSuper
    rw [decide_eq_true_eq]
    exact Threshold.fg_le total w h
  · unfold thrFG64 thrFG
    simp only
    rw [Nat.mod_eq_of_lt h2, Threshold.wrap_sub h1 h2,
      Threshold.wrap_sub (Nat.le_trans (Nat.div_le_self _ _) (Nat.sub_le _ _)) h2]

/-- the commit-message path of lib/grandpa (`validAndEqv < threshold` → reject) accepts every supermajority -/
theorem C22_commit_rule_complete (n c : Nat) (h : supermajority n c) : libCommitAccepts n c = true := by
  unfold libCommitAccepts
  rw [Bool.not_eq_true', decide_eq_false_iff_not]
  exact Nat.lt_asymm ((Threshold.two_thirds_lt n c).2 h)

/-- the commit-message path also accepts exactly ⌊2n/3⌋ supporters, which is never a supermajority (known finding
    c18-threshold-not-strict, seen from C22) -/
theorem C22_commit_rule_not_strict (n : Nat) :
    libCommitAccepts n (thrLib n) = true ∧ ¬ supermajority n (thrLib n) := by
  unfold libCommitAccepts
  rw [Bool.not_eq_true', decide_eq_false_iff_not]
  exact ⟨Nat.lt_irrefl _, fun h => Nat.lt_irrefl _ ((Threshold.two_thirds_lt n _).2 h)⟩

/-- For which n is the commit rule still safe?  When n is a multiple of 3, two accepted signer sets of
    sizes c1, c2 ≤ n overlap in MORE than f voters for every f with 3f < n: they share an honest voter. -/
theorem C22_commit_rule_quorum_partial (n f c1 c2 : Nat) (h3 : n % 3 = 0) (hf : 3 * f < n)
    (h1 : libCommitAccepts n c1 = true) (h2 : libCommitAccepts n c2 = true) :
    n + f < c1 + c2 := by
  unfold libCommitAccepts thrLib at *
  simp only [Bool.not_eq_true', decide_eq_false_iff_not] at h1 h2
  omega

/-- When n is NOT a multiple of 3, there are f with 3f < n and accepted sizes c1, c2 ≤ n with
    c1 + c2 ≤ n + f: two accepted signer sets can overlap in Byzantine voters only (or not at all). -/
theorem C22_commit_rule_quorum_counterexample (n : Nat) (h3 : n % 3 ≠ 0) :
    ∃ f c1 c2, 3 * f < n ∧ c1 ≤ n ∧ c2 ≤ n ∧ libCommitAccepts n c1 = true ∧
      libCommitAccepts n c2 = true ∧ c1 + c2 ≤ n + f := by
  have hacc := (C22_commit_rule_not_strict n).1
  refine ⟨(n - 1) / 3, thrLib n, thrLib n, by omega, ?_, ?_, hacc, hacc, ?_⟩ <;> unfold thrLib
  · omega
  · omega
  · rcases (by omega : n % 3 = 1 ∨ n % 3 = 2) with h | h <;> omega

def vs4h : Voters := ⟨[0, 1, 2, 3], fun _ => 1, fun _ => false⟩
def vs5 : Voters := ⟨[0, 1, 2, 3, 4], fun _ => 1, fun v => v == 4⟩

/-- concretely: 4 voters, none Byzantine: the signer sets {0,1} and {2,3} are both accepted by the commit
    rule and are disjoint; 5 voters, voter 4 Byzantine: {0,1,4} and {2,3,4} meet only in voter 4 -/
theorem C22_commit_rule_disjoint_counterexample :
    (vs4h.minority ∧ libCommitAccepts 4 (vs4h.weight (fun v => v < 2)) = true ∧
       libCommitAccepts 4 (vs4h.weight (fun v => 2 ≤ v)) = true ∧
       vs4h.weight (fun v => v < 2 && 2 ≤ v) = 0) ∧
    (vs5.minority ∧ libCommitAccepts 5 (vs5.weight (fun v => v < 2 || v == 4)) = true ∧
       libCommitAccepts 5 (vs5.weight (fun v => 2 ≤ v)) = true ∧
       vs5.weight (fun v => (v < 2 || v == 4) && 2 ≤ v && !vs5.byz v) = 0) := by decide

/-- SAFETY.  In every reachable state of the asynchronous system (any interleaving of honest steps,
    Byzantine votes incl. equivocations, delivery / loss / duplication / reordering), any two blocks
    finalised by honest voters — the same or different voters, the same or different rounds — lie on one
    chain, provided the Byzantine voters hold less than a third of the weight. -/
theorem C22_safe {B : Type} [DecidableEq B] (vs : Voters) (O : BlockOrder B) (hmin : vs.minority)
    (s : State B) (hs : Reachable vs O s) (v1 v2 : Nat) (b1 b2 : B)
    (h1 : b1 ∈ s.fin v1) (h2 : b2 ∈ s.fin v2) : O.comparable b1 b2 :=
  hs.inv.safe hmin h1 h2

/-- The paper's invariant, for reachable states: a block that has a supermajority of the precommits cast
    in round r is an ancestor of every honest vote of every later round. -/
theorem C22_locked_later {B : Type} [DecidableEq B] (vs : Voters) (O : BlockOrder B) (hmin : vs.minority)
    (s : State B) (hs : Reachable vs O s) (r : Nat) (x : B)
    (hx : hasSuper vs O (votesOf s.sent r .precommit) x)
    (m : Msg B) (hm : m ∈ s.sent) (hv : vs.honest m.voter) (hr : r < m.round) :
    O.le x m.block = true :=
  hs.inv.hist.locked_later hmin r x hx m hm hv hr

/-- Safety across rounds for ANY honest behaviour that keeps the abstract rule "never PRECOMMIT in a round
    after r for a block that does not descend from a block that got a precommit supermajority in round r"
    (stated on the set of all votes cast; this is the form trace validation checks against the Go code). -/
theorem C22_safe_of_rule {B : Type} [DecidableEq B] (vs : Voters) (O : BlockOrder B) (hmin : vs.minority)
    (sent : List (Msg B))
    (hsingle : ∀ m m', m ∈ sent → m' ∈ sent → vs.honest m.voter → m.voter = m'.voter →
      m.round = m'.round → m.stage = m'.stage → m.block = m'.block)
    (hrule : ∀ r x, hasSuper vs O (votesOf sent r .precommit) x →
      ∀ m, m ∈ sent → vs.honest m.voter → r < m.round → m.stage = .precommit → O.le x m.block = true)
    (r1 r2 : Nat) (b1 b2 : B)
    (h1 : hasSuper vs O (votesOf sent r1 .precommit) b1)
    (h2 : hasSuper vs O (votesOf sent r2 .precommit) b2) : O.comparable b1 b2 := by
  refine safe_of_rule vs O hmin sent (fun r v hv b b' hb hb' => ?_) hrule r1 r2 b1 b2 h1 h2
  rw [mem_votesOf] at hb hb'
  exact hsingle _ _ hb hb' hv rfl rfl rfl

/-- the hypotheses of `C22_safe` can be met: the abstract system reaches a state (Lib/C22Example: 4 voters,
    one Byzantine, a tree with a fork) in which an honest voter has finalised a block, has left round 0 with an
    estimate through the `closable` rule and has cast a vote in round 1.  (One block is finalised in that state, so it
    instantiates the conclusion with `b1 = b2` only.) -/
theorem C22_safe_nonvacuous :
    ∃ s : State (Fin 4), Reachable Example.vs Example.fork4 s ∧ Example.vs.minority ∧
      (1 : Fin 4) ∈ s.fin 0 ∧ s.round 0 = 1 ∧ s.est 0 0 = some 1 ∧
      (⟨1, .prevote, 0, 3⟩ : Msg (Fin 4)) ∈ s.sent :=
  ⟨Example.t15, Example.r15, by decide, by decide, by decide, by decide, by decide⟩

/-- The computed test "is a supermajority for x still possible?" (weight for x + weight that has not voted +
    as much of the weight against x as may still equivocate — finality-grandpa's `Round.estimate`, and the
    rule check of the trace validation) is complete for the semantic notion used by `closable`: if ANY
    extension of the received votes with less than a third equivocating gives x a supermajority, the
    test says "possible". -/
theorem C22_possible_complete {B : Type} [DecidableEq B] (vs : Voters) (O : BlockOrder B) (S : Votes B)
    (x : B) (h : possible vs O S x) : possibleW vs O S x = true :=
  possibleW_of_possible vs O S x h

/-- Hence a voter that leaves a round with the estimate computed by that test follows the abstract rule. -/
theorem C22_closable_of_computed {B : Type} [DecidableEq B] (vs : Voters) (O : BlockOrder B)
    (view : List (Msg B)) (r : Nat) (g e : B)
    (hg : hasSuper vs O (votesOf view r .prevote) g) (he : O.le e g = true)
    (hall : ∀ x : B, O.comparable x g → possibleW vs O (votesOf view r .precommit) x = true →
      O.le x e = true) : closable vs O view r g e :=
  closable_of_computed vs O view r g e hg he hall

/-- the schedule of the known finding: 4 voters, NO Byzantine voter, the fork 0 ← 1 ← 2, 1 ← 3 -/
def forkCfg : Sim.Cfg := ⟨4, [], [0, 1, 1]⟩

def forkOps : List Sim.Op :=
  [.best 0 2, .best 1 2, .best 2 2, .best 3 3, .pv 0, .pv 1, .pv 2, .pv 3, .d 1 0, .d 2 0, .d 3 0,
   .d 0 1, .d 2 1, .d 3 1, .d 0 2, .d 1 2, .d 3 2, .d 0 3, .d 1 3, .pc 0, .pc 1, .pc 2, .pc 3,
   .d 5 0, .d 6 0, .d 7 0, .d 4 1, .d 7 1, .d 4 2, .d 7 2, .d 4 3, .d 5 3, .fin 0, .fin 1, .fin 2,
   .fin 3, .best 1 3, .best 2 3, .best 3 3, .pv 1, .pv 2, .pv 3, .d 9 1, .d 10 1, .d 8 2, .d 10 2,
   .d 8 3, .d 9 3, .pc 1, .pc 2, .pc 3, .d 12 1, .d 13 1, .d 11 2, .d 13 2, .d 11 3, .d 12 3,
   .fin 1, .fin 2, .fin 3]

/-- The decision functions of lib/grandpa in the closed form that the differential run ties to the real
    code (Lib/C22Sim; the real Services give the same outputs on this very schedule, corpus line of
    corpus/C22/run0.lines) finalise blocks 2 and 3, which are on different forks, although every voter is
    honest: voter 0 finalises block 2 in round 1, voters 1–3 finalise block 1 in round 1 and block 3 in
    round 2.  `C22_safe` does not apply because these voters leave round 1 without an estimate and prevote
    outside the chain of block 2, which still could (and did) get a supermajority: the rule `closable` /
    `extendsEst` of the abstract protocol is not implemented by lib/grandpa. -/
theorem C22_lib_rounds_counterexample :
    forkCfg.byz = [] ∧
    (let w := forkOps.foldl (Sim.step forkCfg) { vs := List.replicate forkCfg.n {}, sets := [List.range forkCfg.n] }
     Sim.safeB forkCfg w = false ∧ (Sim.getV w 0).fins = [2] ∧ (Sim.getV w 1).fins = [3, 1] ∧
       w.estViol = true ∧ w.otherViol = false) ∧
    ¬ (parentOrder forkCfg.ps).comparable 2 3 := by
  refine ⟨rfl, ?_, by decide⟩
  decide +kernel

/-- SAFETY ACROSS AUTHORITY SETS.  The system of Lib/C22Sets: one protocol state per set id, voter set `P.vs s` for
    set s (a key outside `(P.vs s).ids` — e.g. a retired authority that keeps voting — weighs nothing in set s),
    every step is a step of the single-set protocol in one set.  ASSUMED of honest voters (`okVote`, for PRECOMMITS
    only): a precommit of set s is never strictly above the handover block `P.limit s`; a precommit of set s+1
    descends from `P.limit s` and is cast only once `P.limit s` has a supermajority of the precommits of some round
    of set s.  ASSUMED of the parameters (`hlim`): the handover blocks lie on one chain.  PROVED: any two blocks
    finalised by honest voters, in any rounds of any sets, lie on one chain, if every set from the lower to the
    higher one keeps its Byzantine members below a third of its weight. -/
theorem C22_safe_sets {B : Type} [DecidableEq B] (P : SetParams B) (O : BlockOrder B)
    (hlim : ∀ s, O.le (P.limit s) (P.limit (s + 1)) = true)
    (σ : MState B) (hr : MReachable P O σ) (s1 s2 v1 v2 : Nat) (b1 b2 : B)
    (hmin : ∀ k, min s1 s2 ≤ k → k ≤ max s1 s2 → (P.vs k).minority)
    (h1 : b1 ∈ (σ s1).fin v1) (h2 : b2 ∈ (σ s2).fin v2) : O.comparable b1 b2 := by
  have I := hr.minv
  have ⟨r1, hr1⟩ := (I.inv s1).fin_ok v1 b1 h1
  have ⟨r2, hr2⟩ := (I.inv s2).fin_ok v2 b2 h2
  rcases Nat.le_total s1 s2 with h | h
  · exact I.safe hlim s1 s2 r1 r2 b1 b2 h (fun k ha hb => hmin k (by omega) (by omega)) hr1 hr2
  · exact (I.safe hlim s2 s1 r2 r1 b2 b1 h (fun k ha hb => hmin k (by omega) (by omega)) hr2 hr1).symm

/-- within one set only that set's bound is needed, whatever happens in the other sets -/
theorem C22_safe_within_set {B : Type} [DecidableEq B] (P : SetParams B) (O : BlockOrder B)
    (σ : MState B) (hr : MReachable P O σ) (s v1 v2 : Nat) (b1 b2 : B) (hmin : (P.vs s).minority)
    (h1 : b1 ∈ (σ s).fin v1) (h2 : b2 ∈ (σ s).fin v2) : O.comparable b1 b2 :=
  (hr.minv.inv s).safe hmin h1 h2

/-- the hypotheses of `C22_safe_sets` can be met: an execution over two sets (Lib/C22SetsExample) in which set 0
    finalises the handover block 1 and an honest voter of set 1 prevotes block 3 above it.  (Set 1 casts no precommit and
    finalises nothing: the rules `okVote` and the case of two different sets are not exercised.) -/
theorem C22_safe_sets_nonvacuous :
    ∃ σ : MState (Fin 4), MReachable Example.P Example.fork4 σ ∧
      (∀ s, Example.fork4.le (Example.P.limit s) (Example.P.limit (s + 1)) = true) ∧
      (1 : Fin 4) ∈ (σ 0).fin 0 ∧ (⟨0, .prevote, 0, 3⟩ : Msg (Fin 4)) ∈ (σ 1).sent :=
  ⟨Example.μ14, Example.q14, Example.P_limits, by decide, by decide⟩

end Gossamer.C22
