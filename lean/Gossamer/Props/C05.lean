/-
C05 — storage read proofs are complete and sound: theorems about the model
(`Gossamer.Model.C05`: `generate`, `verify`).

`H` (BLAKE2b-256 in the code) is a parameter with 32-byte digests.  Collision resistance is not
assumed: each theorem concludes "… or a collision is exhibited", where the collision is between an
item SUPPLIED by the prover and a DIFFERENT node encoding or stored value of the state
(`CollisionWith`; a bare `∃ a ≠ b, H a = H b` is true of every hash with fixed-size digests).

Soundness is stated against `Trie.get`/`Trie.retrieve`, the model of Go's `Get` that `Verify` itself
runs on the rebuilt trie, completeness against `Trie.lookup`, the specification.  The two differ only
in the `len(key) == 0` short cut of `retrieveFromBranch` (`emptyKeyHit`; `Trie.retrieve_eq_lookup`),
and there `Verify` really confirms keys the state does not hold (`C05_sound_map_counterexample`), so
no statement against `lookup` alone is true of the code.  A present key is never in that region
(`Rep.safe_of_present`): for present keys the two theorems compose (`C05_complete_map`,
`C05_wrong_value`).
-/
import Gossamer.Lib.TrieProofSound
import Gossamer.Lib.TrieProofComplete
import Gossamer.Lib.TrieProofMemo
import Gossamer.Lib.TrieRefine
namespace Gossamer.C05
open Gossamer Gossamer.TrieCodec Gossamer.Bridge Gossamer.Trie

/-- keys short enough for the partial-key length field (the Go encoder panics beyond 65535
    nibbles, so at most 32767 bytes), values shorter than 2^30 bytes -/
def SizesOK (es : Entries) : Prop := ∀ e ∈ es, e.1.length ≤ 32767 ∧ e.2.length < 1073741824

/-- every branch of a canonical trie lies on the path of some key (`canon_has_key`), whose length
    bounds its partial key -/
theorem wft_of_key_bounds : ∀ t : Trie, Canon t →
    (∀ k v, lookup t k = some v → k.length ≤ 65535 ∧ v.length < 1073741824) → WFT t := by
  intro t
  induction t with
  | nil => intro _ _; trivial
  | leaf pk v =>
    intro _ hb
    exact hb pk v (by simp)
  | branch pk v cs ih =>
    intro hc hb
    obtain ⟨i, hi⟩ := canon_branch_child hc
    obtain ⟨k, x, hk⟩ := canon_has_key (cs i) (hc.1 i) hi
    have h1 := (hb (pk ++ i :: k) x (by rw [lookup_branch_child]; exact hk)).1
    refine ⟨by simp at h1; omega, ?_, ?_⟩
    · intro y hy
      exact (hb pk y (by rw [lookup_branch_self]; exact hy)).2
    · intro j
      refine ih j (hc.1 j) ?_
      intro k' v' hk'
      have := hb (pk ++ j :: k') v' (by rw [lookup_branch_child]; exact hk')
      refine ⟨?_, this.2⟩
      have := this.1
      simp at this; omega

theorem wft_of_rep {t : Trie} {es : Entries} (h : Rep t es) (hs : SizesOK es) : WFT t := by
  apply wft_of_key_bounds t h.canon
  intro k v hk
  obtain ⟨e, he, rfl, rfl⟩ := h.lookup_mem hk
  have := hs e he
  rw [length_toNibs]
  exact ⟨by omega, this.2⟩

/-- **Soundness (trie level, every input).**  Whatever proof items are supplied (omitted,
    duplicated, foreign, altered nodes), if `Verify` accepts the non-empty value `value` for `key`
    under the root hash of the state trie `t`, then `Get(key)` on `t` returns exactly `value` — or
    one of the supplied items collides under `H` with a different node encoding or stored value
    of `t`.  `WFT t`: the sizes for which C07 proves that `node.Decode` inverts the encoding. -/
theorem C05_sound (ver : Ver) (H : Bytes → Bytes) (hH : ∀ m, (H m).length = 32) (strict : Bool)
    (nodes : List Bytes) (t : Trie) (hw : WFT t) (key value : Bytes) (hv : value ≠ [])
    (h : verify H strict nodes (hashTrie ver H t) key value = .ok) :
    Trie.get t key = some value ∨ CollisionWith ver H (· ∈ nodes) t := by
  rcases injOn_or_collision ver H (· ∈ nodes) t with hinj | hc
  · left
    obtain ⟨pv, hget, hval⟩ := verify_sound_inj ver H hH strict nodes t hw hinj key value h
    rcases hval with hval | hval
    · exact absurd hval hv
    · rw [Trie.get, keyLEToNibbles_eq, hget, hval]
  · exact .inr hc

/-- non-vacuity of `C05_sound`, first disjunct: on the state `1234 ↦ aa, 1f ↦ dd` the root alone
    proves `1f ↦ dd` -/
example : verify (fun b => (b ++ List.replicate 32 0).take 32) false
      [encodeNode Ver.v0 (fun b => (b ++ List.replicate 32 0).take 32)
        (Trie.put (Trie.put Trie.nil [0x12, 0x34] [0xaa]) [0x1f] [0xdd])]
      (hashTrie Ver.v0 (fun b => (b ++ List.replicate 32 0).take 32)
        (Trie.put (Trie.put Trie.nil [0x12, 0x34] [0xaa]) [0x1f] [0xdd])) [0x1f] [0xdd] = .ok ∧
    Trie.get (Trie.put (Trie.put Trie.nil [0x12, 0x34] [0xaa]) [0x1f] [0xdd]) [0x1f] = some [0xdd] := by
  decide +kernel

/-- FULL STATEMENT (false for the code, see `C05_sound_map_counterexample`): this one without `hk`.
    **Soundness against the map the state represents**: a verified pair is an entry of the state,
    outside the region of the `len(key) == 0` short cut of `retrieveFromBranch` (`hk`; finding
    `empty-remaining-key` of C02, which `Verify` inherits through `Get`). -/
theorem C05_sound_map_partial (ver : Ver) (H : Bytes → Bytes) (hH : ∀ m, (H m).length = 32)
    (strict : Bool) (nodes : List Bytes) {t : Trie} {es : Entries} (hr : Rep t es) (hs : SizesOK es)
    (key value : Bytes) (hv : value ≠ [])
    (hk : emptyKeyHit t (toNibs key) = false)
    (h : verify H strict nodes (specRoot ver H es) key value = .ok) :
    OMap.get key es = some value ∨ CollisionWith ver H (· ∈ nodes) t := by
  rw [← hr.root ver H] at h
  rcases C05_sound ver H hH strict nodes t (wft_of_rep hr hs) key value hv h with hg | hc
  · left; rw [← hr.get key hk]; exact hg
  · exact .inr hc

/-- **No proof for an absent key.**  If `key` is not in the state (and outside the short-cut region)
    no set of proof items makes `Verify` accept a non-empty value for it, short of a collision. -/
theorem C05_absent (ver : Ver) (H : Bytes → Bytes) (hH : ∀ m, (H m).length = 32)
    (strict : Bool) (nodes : List Bytes) {t : Trie} {es : Entries} (hr : Rep t es) (hs : SizesOK es)
    (key value : Bytes) (hv : value ≠ []) (hk : emptyKeyHit t (toNibs key) = false)
    (habs : OMap.get key es = none) :
    verify H strict nodes (specRoot ver H es) key value ≠ .ok ∨ CollisionWith ver H (· ∈ nodes) t := by
  by_cases h : verify H strict nodes (specRoot ver H es) key value = .ok
  · rcases C05_sound_map_partial ver H hH strict nodes hr hs key value hv hk h with hg | hc
    · rw [habs] at hg; cases hg
    · exact .inr hc
  · exact .inl h

/-- a present key is never in the short-cut region: a WRONG non-empty value for a PRESENT key is
    never accepted -/
theorem C05_wrong_value (ver : Ver) (H : Bytes → Bytes) (hH : ∀ m, (H m).length = 32)
    (strict : Bool) (nodes : List Bytes) {t : Trie} {es : Entries} (hr : Rep t es) (hs : SizesOK es)
    (key value v : Bytes) (hv : value ≠ []) (hpres : OMap.get key es = some v) (hne : value ≠ v) :
    verify H strict nodes (specRoot ver H es) key value ≠ .ok ∨ CollisionWith ver H (· ∈ nodes) t := by
  by_cases h : verify H strict nodes (specRoot ver H es) key value = .ok
  · rcases C05_sound_map_partial ver H hH strict nodes hr hs key value hv (hr.safe_of_present hpres) h
      with hg | hc
    · rw [hpres] at hg; cases hg; exact absurd rfl hne
    · exact .inr hc
  · exact .inl h

/-- **Completeness (trie level).**  If `Generate` returns the proof `N` for the keys `ks` of the state
    trie `t` (V0 or V1, values on either side of the hashing threshold), then for every requested
    key `k` holding `v`, `Verify(N, root(t), k, v)` succeeds — or two DIFFERENT honest strings of
    the state (node encodings, stored values) collide under `H`. -/
theorem C05_complete (ver : Ver) (H : Bytes → Bytes) (hH : ∀ m, (H m).length = 32) (strict : Bool)
    (t : Trie) (hw : WFT t) (ks N : List Bytes) (hgen : generate ver H t ks = some N)
    (k v : Bytes) (hk : k ∈ ks) (hpres : Trie.lookup t (toNibs k) = some v) :
    verify H strict N (hashTrie ver H t) k v = .ok ∨ CollisionWith ver H (Honest ver H t) t := by
  rcases injOn_or_collision ver H (Honest ver H t) t with hinj | hc
  · exact .inl (verify_complete_inj ver H hH strict t hw (injS_honest_iff.mpr hinj) ks N hgen k v hk
      hpres)
  · exact .inr hc

/-- `Generate` succeeds whenever every requested key is present -/
theorem C05_generate_present (ver : Ver) (H : Bytes → Bytes) (t : Trie) (ks : List Bytes)
    (h : ∀ k ∈ ks, ∃ x, Trie.lookup t (toNibs k) = some x) : ∃ N, generate ver H t ks = some N :=
  generateFrom_present ver H t ks ([], []) h

/-- **Completeness against the map the state represents**: for keys of the state, the generated
    proof exists and lets the verifier confirm each requested entry under the state root. -/
theorem C05_complete_map (ver : Ver) (H : Bytes → Bytes) (hH : ∀ m, (H m).length = 32) (strict : Bool)
    {t : Trie} {es : Entries} (hr : Rep t es) (hs : SizesOK es) (ks : List Bytes)
    (hks : ∀ k ∈ ks, ∃ x, OMap.get k es = some x) :
    ∃ N, generate ver H t ks = some N ∧
      ∀ k ∈ ks, ∀ v, OMap.get k es = some v →
        verify H strict N (specRoot ver H es) k v = .ok ∨ CollisionWith ver H (Honest ver H t) t := by
  obtain ⟨N, hN⟩ := C05_generate_present ver H t ks (fun k hk => by
    obtain ⟨x, hx⟩ := hks k hk
    exact ⟨x, by rw [hr.lookup_eq]; exact hx⟩)
  refine ⟨N, hN, fun k hk v hv => ?_⟩
  rw [← hr.root ver H]
  exact C05_complete ver H hH strict t (wft_of_rep hr hs) ks N hN k v hk (by rw [hr.lookup_eq]; exact hv)

/-! Counterexamples on a concrete hash.  `H0` pads or truncates to 32 bytes: a "hash" with 32-byte
digests on which everything below is decidable.  The honest strings of a trie are enumerated by
`honestList`, so the absence of a relevant collision is checked by computation too. -/

def H0 (b : Bytes) : Bytes := (b ++ List.replicate 32 0).take 32

theorem H0_len (m : Bytes) : (H0 m).length = 32 := by
  rw [H0, List.length_take, List.length_append, List.length_replicate]
  omega

def honestList (ver : Ver) (H : Bytes → Bytes) : Trie → List Bytes
  | .nil => [encodeNode ver H .nil]
  | .leaf pk v => [encodeNode ver H (.leaf pk v), v]
  | .branch pk v cs =>
    encodeNode ver H (.branch pk v cs) ::
      (v.toList ++ (List.finRange 16).flatMap fun i => honestList ver H (cs i))

theorem honest_mem (ver : Ver) (H : Bytes → Bytes) :
    ∀ (t : Trie) (b : Bytes), Honest ver H t b → b ∈ honestList ver H t := by
  intro t
  induction t with
  | nil => intro b h; simp only [Honest] at h; simp [honestList, h]
  | leaf pk v => intro b h; simp only [Honest] at h; simpa [honestList] using h
  | branch pk v cs ih =>
    intro b h
    simp only [Honest] at h
    simp only [honestList, List.mem_cons, List.mem_append, List.mem_flatMap, List.mem_finRange, true_and]
    rcases h with h | h | ⟨i, h⟩
    · exact .inl h
    · exact .inr (.inl (by simp [h]))
    · exact .inr (.inr ⟨i, ih i b h⟩)

theorem no_collision_of_lists {ver : Ver} {H : Bytes → Bytes} {nodes : List Bytes} {t : Trie}
    (h : ∀ a ∈ nodes, ∀ b ∈ honestList ver H t, a ≠ b → H a ≠ H b) :
    ¬ CollisionWith ver H (· ∈ nodes) t := by
  rintro ⟨a, b, ha, hb, hne, hh⟩
  exact h a ha b (honest_mem ver H t b hb) hne hh

/-- the state `1234 ↦ aa, 123456 ↦ cc, 1f ↦ dd`: the key `12` ends on arrival at the branch of `1234` -/
def cexTrie : Trie :=
  Trie.put (Trie.put (Trie.put Trie.nil [0x12, 0x34] [0xaa]) [0x12, 0x34, 0x56] [0xcc]) [0x1f] [0xdd]
def cexMap : Entries :=
  OMap.upsert [0x1f] [0xdd] (OMap.upsert [0x12, 0x34, 0x56] [0xcc] (OMap.upsert [0x12, 0x34] [0xaa] []))

theorem cex_rep : Rep cexTrie cexMap := ((Rep.empty.put _ _).put _ _).put _ _

/-- the honest proof of key `1234`: the root alone (every other node is inlined) -/
def cexProof : List Bytes := [encodeNode Ver.v0 H0 cexTrie]

/-- **Inside the short-cut region the map-level statement fails**: under the root of the state
    `{1234 ↦ aa, 123456 ↦ cc, 1f ↦ dd}` the honest proof of `1234` makes `Verify` confirm
    `(12, aa)`, a key that is not in the state, and no collision is involved. -/
theorem C05_sound_map_counterexample :
    ∃ (ver : Ver) (H : Bytes → Bytes) (strict : Bool) (nodes : List Bytes) (t : Trie) (es : Entries)
      (key value : Bytes),
      (∀ m, (H m).length = 32) ∧ Rep t es ∧ SizesOK es ∧ value ≠ [] ∧
      verify H strict nodes (specRoot ver H es) key value = .ok ∧
      ¬ (OMap.get key es = some value ∨ CollisionWith ver H (· ∈ nodes) t) := by
  refine ⟨Ver.v0, H0, false, cexProof, cexTrie, cexMap, [0x12], [0xaa], H0_len, cex_rep,
    by unfold SizesOK; decide, by decide, ?_, ?_⟩
  · rw [← cex_rep.root Ver.v0 H0]
    decide +kernel
  · rintro (h | h)
    · revert h; decide +kernel
    · exact no_collision_of_lists (by decide +kernel) h

def cexTrie1 : Trie := Trie.put Trie.nil [0x01] [0x02]

/-- **The hypothesis `value ≠ []` of `C05_sound` is needed**: an EMPTY claimed value is accepted for
    a present key whatever its value (the `len(value) > 0` guard of `Verify`; finding `empty-claim`). -/
theorem C05_empty_claim_counterexample :
    ∃ (ver : Ver) (H : Bytes → Bytes) (strict : Bool) (nodes : List Bytes) (t : Trie) (key : Bytes),
      (∀ m, (H m).length = 32) ∧ WFT t ∧
      verify H strict nodes (hashTrie ver H t) key [] = .ok ∧
      ¬ (Trie.get t key = some [] ∨ CollisionWith ver H (· ∈ nodes) t) := by
  have hw : WFT cexTrie1 :=
    wft_of_rep (es := OMap.upsert [0x01] [0x02] []) (Rep.empty.put _ _) (by unfold SizesOK; decide)
  refine ⟨Ver.v0, H0, false, [encodeNode Ver.v0 H0 cexTrie1], cexTrie1, [0x01], H0_len, hw,
    by decide +kernel, ?_⟩
  rintro (h | h)
  · revert h; decide +kernel
  · exact no_collision_of_lists (by decide +kernel) h

/-- **`Generate` has no proof of absence**: for a key that is not in the state it returns
    `ErrKeyNotFound` (finding `generate-absent`). -/
theorem C05_generate_absent_counterexample :
    ∃ (ver : Ver) (H : Bytes → Bytes) (t : Trie) (key : Bytes),
      Trie.get t key = none ∧ generate ver H t [key] = none :=
  ⟨Ver.v0, H0, cexTrie1, [0x03], by decide +kernel, by decide +kernel⟩

/-- non-vacuity of `C05_complete`, left disjunct: the three-key state of the counterexample, proof
    for `1234` and `1f` -/
example : ∃ N, generate Ver.v0 H0 cexTrie [[0x12, 0x34], [0x1f]] = some N ∧
    verify H0 false N (hashTrie Ver.v0 H0 cexTrie) [0x12, 0x34] [0xaa] = .ok ∧
    verify H0 false N (hashTrie Ver.v0 H0 cexTrie) [0x1f] [0xdd] = .ok ∧
    verify H0 false N (hashTrie Ver.v0 H0 cexTrie) [0x1f] [0xaa] = .mismatch :=
  ⟨(generate Ver.v0 H0 cexTrie [[0x12, 0x34], [0x1f]]).getD [], by decide +kernel⟩

/-- the driver runs `generateE` on `annot t` (node encodings computed once) and takes the hash of
    the annotated root: these are `generate` and `hashTrie` -/
theorem C05_driver_generate (ver : Ver) (H : Bytes → Bytes) (t : Trie) (ks : List Bytes) :
    generateE ver H (annot ver H t) ks = generate ver H t ks ∧
    H (annot ver H t).enc = hashTrie ver H t :=
  ⟨generateFromE_annot ver H t ks ([], []), by rw [annot_enc]; rfl⟩

/-- the driver caches the digest pairs of the current proof: `verify` is `verifyP` on them -/
theorem C05_driver_verify (H : Bytes → Bytes) (strict : Bool) (nodes : List Bytes) (root key value : Bytes) :
    verifyP strict (pairsOf H nodes) root key value = verify H strict nodes root key value := rfl

end Gossamer.C05
