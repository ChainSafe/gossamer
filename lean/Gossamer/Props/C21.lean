/-
C21 – the voter's vote choices and finalisation follow GRANDPA-GHOST.

Theorems about the model of lib/grandpa's tally code (Gossamer/Model/C21.lean).  Every theorem about a tally
function is stated for ALL iteration orders of the Go maps (`o : Ord`, `o.Valid`: every order is a permutation).
-/
import Gossamer.Lib.C21Final
import Gossamer.Lib.C21Filter
namespace Gossamer.C21

/-- `total > State.threshold()` is "more than two thirds of the `n` authorities" -/
theorem C21_threshold_arith (n w : Nat) : thr n < w ↔ 2 * n < 3 * w :=
  Threshold.two_thirds_lt n w

/-- `getTotalVotesForBlock` (the sum over the Go map of direct votes, keyed by (hash, number) pairs) is the number
of authorities whose stored vote is for the block or a descendant, plus the number of equivocators -/
theorem C21_total_eq_weight (c : Cfg) (s : St) (b : Nat) :
    pvTotal c s b = cnt c.t s.pv b + s.pve.length ∧ pcTotal c s b = cnt c.t s.pc b + s.pce.length :=
  ⟨total_eq _ _ _ _, total_eq _ _ _ _⟩

/-- **The pre-voted block in closed form, for every iteration order.**  If the stored prevotes name blocks of the
tree on the chain of the finalised head with their own numbers (`GoodVotes`), `getPreVotedBlock` answers one of the
blocks of `pvbSet` (the deepest candidates at the first threshold `thr n, thr n - 1, …` that has any) with that
block's number, and fails (`ErrNoGHOST`) only when there is none. -/
theorem C21_prevoted_closed_form {c : Cfg} (hw : c.t.WF) {s : St} (hg : GoodVotes c s.pv) {o : Ord}
    (ho : o.Valid) :
    (∀ v, getPreVotedBlock c o s = .ok v → v.blk ∈ pvbSet c s ∧ v = c.voteOf v.blk) ∧
    (∀ e, getPreVotedBlock c o s = .error e → e = .noghost ∧ pvbSet c s = []) :=
  gpv_closed_form hw hg ho

/-- **Order independence.**  When the closed form leaves one block (no tie between equally deep candidates), any
two families of iteration orders give the same pre-voted block and the same precommit. -/
theorem C21_order_independent {c : Cfg} (hw : c.t.WF) {s : St} (hg : GoodVotes c s.pv) {o o' : Ord}
    (ho : o.Valid) (ho' : o'.Valid) (huniq : ∀ a ∈ pvbSet c s, ∀ b ∈ pvbSet c s, a = b) :
    getPreVotedBlock c o s = getPreVotedBlock c o' s ∧ determinePreCommit c o s = determinePreCommit c o' s := by
  have key : ∀ {o1 o2 : Ord}, o1.Valid → o2.Valid → getPreVotedBlock c o1 s = getPreVotedBlock c o2 s := by
    intro o1 o2 h1 h2
    have a1 := C21_prevoted_closed_form hw hg h1
    have a2 := C21_prevoted_closed_form hw hg h2
    cases e1 : getPreVotedBlock c o1 s <;> cases e2 : getPreVotedBlock c o2 s
    · rw [(a1.2 _ e1).1, (a2.2 _ e2).1]
    · exact absurd ((a1.2 _ e1).2 ▸ (a2.1 _ e2).1) List.not_mem_nil
    · exact absurd ((a2.2 _ e2).2 ▸ (a1.1 _ e1).1) List.not_mem_nil
    · rw [(a1.1 _ e1).2, (a2.1 _ e2).2, huniq _ (a1.1 _ e1).1 _ (a2.1 _ e2).1]
  refine ⟨key ho ho', ?_⟩
  unfold determinePreCommit
  rw [key (ho.sub 0) (ho'.sub 0)]

def tieCfg : Cfg := ⟨[0, 1, 2, 3], 9, 0, ⟨[0, 0, 0]⟩, 0, .none, 1, 0, false⟩
def tieSt : St := { pv := [(0, ⟨1, 1⟩), (1, ⟨2, 1⟩)], pve := [(2, 2), (3, 2)] }

/-- a concrete tie (two equivocators of four and one vote on each of two siblings, both with 3 of 4): the answer
does depend on the order – both blocks are possible -/
theorem C21_order_dependent_on_ties :
    (getPreVotedBlock tieCfg (fun _ => Perms.id) tieSt).toOption = some ⟨2, 1⟩ ∧
    (getPreVotedBlock tieCfg (fun _ => ⟨fun l => l, fun l => l, List.reverse⟩) tieSt).toOption = some ⟨1, 1⟩ ∧
    pvbSet tieCfg tieSt = [1, 2] := by
  decide +kernel

/-- the GRANDPA-GHOST of the specification: a deepest block of the tree with more than two thirds of the prevotes
(votes for descendants and equivocators counted) -/
def IsGhost (c : Cfg) (s : St) (G : Nat) : Prop :=
  G < c.t.size ∧ thr c.n < pvTotal c s G ∧
    ∀ b, b < c.t.size → thr c.n < pvTotal c s b → c.t.depth b ≤ c.t.depth G

/-- with distinct authorities and at most one third equivocators the GHOST is unique -/
theorem C21_ghost_unique {c : Cfg} (hw : c.t.WF) {s : St} (hg : GoodVotes c s.pv)
    (hacc : s.pv.length + s.pve.length ≤ c.n) (he : 3 * s.pve.length ≤ c.n) {G G' : Nat}
    (h : IsGhost c s G) (h' : IsGhost c s G') : G = G' := by
  obtain ⟨hG, hGt, hmax⟩ := h
  obtain ⟨hG', hGt', hmax'⟩ := h'
  have hd := Nat.le_antisymm (hmax' G hG hGt) (hmax G' hG' hGt')
  rw [(C21_total_eq_weight c s _).1] at hGt hGt'
  exact super_unique hw hg.known hacc he hG hG' hGt hGt' hd

/-- **The precommit target** (partial: outside the region of known finding c21-direct-vote-shadows-ghost).
Full statement: for every iteration order, if a GHOST `G` exists (and the authorities are distinct with at most one
third equivocators) then `getPreVotedBlock = G` and `determinePreCommit = cap G`.  It holds when `G` itself was
voted for directly or no directly voted block has a supermajority (the hypothesis `hns` is exactly the complement
of the region where the early return of `getPossibleSelectedBlocks` hides `G`, see the counterexample below). -/
theorem C21_precommit_target_partial {c : Cfg} (hw : c.t.WF) {s : St} (hg : GoodVotes c s.pv) {o : Ord}
    (ho : o.Valid) (hacc : s.pv.length + s.pve.length ≤ c.n) (he : 3 * s.pve.length ≤ c.n) {G : Nat}
    (hgh : IsGhost c s G)
    (hns : (∃ kv ∈ s.pv, kv.2.blk = G) ∨ (∀ kv ∈ s.pv, pvTotal c s kv.2.blk ≤ thr c.n)) :
    getPreVotedBlock c o s = .ok (c.voteOf G) ∧ determinePreCommit c o s = capVote c (c.voteOf G) := by
  obtain ⟨hG, hGt, hmax⟩ := hgh
  have htot : ∀ b, pvTotal c s b = cnt c.t s.pv b + s.pve.length := fun b => (C21_total_eq_weight c s b).1
  rw [htot] at hGt
  have hGc : G ∈ cands c s.pv s.pve.length (thr c.n) := by
    by_cases hd : dirSel c s.pv s.pve.length (thr c.n) = []
    · have hne : s.pv ≠ [] := fun hn => by
        rw [hn, cnt, List.countP_nil, Nat.zero_add] at hGt
        have := (C21_threshold_arith _ _).1 hGt
        omega
      rw [cands_eq_super hd hne]
      exact mem_superBlocks.2 ⟨hG, hGt⟩
    · rw [cands_eq_dirSel hd]
      obtain ⟨b0, hb0⟩ := List.exists_mem_of_ne_nil _ hd
      obtain ⟨⟨kv0, hkv0, rfl⟩, ht0⟩ := mem_dirSel.1 hb0
      rcases hns with ⟨kv, hkv, hkG⟩ | hns
      · exact mem_dirSel.2 ⟨⟨kv, hkv, hkG⟩, hGt⟩
      · exact absurd (htot _ ▸ hns kv0 hkv0) (Nat.not_le.2 ht0)
  have hne : cands c s.pv s.pve.length (thr c.n) ≠ [] := List.ne_nil_of_mem hGc
  have hset : ∀ b, b ∈ pvbSet c s ↔ b = G := by
    intro b
    rw [pvbSet, candsDown_of_ne hne, mem_maxDepth]
    constructor
    · intro ⟨hbc, hbm⟩
      have hbs := mem_cands_super hg.known hbc
      exact super_unique hw hg.known hacc he hbs.1 hG hbs.2 hGt
        (Nat.le_antisymm (hmax b hbs.1 (htot b ▸ hbs.2)) (hbm G hGc))
    · rintro rfl
      exact ⟨hGc, fun b' hb' => hmax b' (mem_cands_super hg.known hb').1 (htot b' ▸ (mem_cands_super hg.known hb').2)⟩
  have key : ∀ {o1 : Ord}, o1.Valid → getPreVotedBlock c o1 s = .ok (c.voteOf G) := by
    intro o1 h1
    have a1 := C21_prevoted_closed_form hw hg h1
    cases e1 : getPreVotedBlock c o1 s with
    | ok v => rw [(a1.1 v e1).2, (hset _).1 (a1.1 v e1).1]
    | error x => exact absurd ((a1.2 x e1).2 ▸ (hset G).2 rfl) List.not_mem_nil
  refine ⟨key ho, ?_⟩
  unfold determinePreCommit
  rw [key (ho.sub 0)]
  rfl

def shadowCfg : Cfg := ⟨[0, 1, 2, 3], 9, 0, ⟨[0, 0, 1, 2, 2]⟩, 0, .none, 1, 0, false⟩
def shadowSt : St := { pv := [(0, ⟨1, 1⟩), (1, ⟨3, 3⟩), (2, ⟨3, 3⟩), (3, ⟨4, 3⟩)] }

/-- the full statement fails: block 1 was voted for directly (4 of 4 in total), so the common ancestor 2 of the
other three votes (3 of 4: the GHOST) is never looked for; the pre-voted block and the precommit are block 1 -/
theorem C21_precommit_target_counterexample :
    ghostSet shadowCfg shadowSt.pv 0 (thr 4) = [2] ∧
    (getPreVotedBlock shadowCfg (fun _ => Perms.id) shadowSt).toOption = some ⟨1, 1⟩ ∧
    (determinePreCommit shadowCfg (fun _ => Perms.id) shadowSt).toOption = some ⟨1, 1⟩ ∧
    pvbSet shadowCfg shadowSt = [1] := by
  decide +kernel

/-- the cap of a vote for `G` at the authority change height `h < number G` is the highest ancestor of `G` with a
number `≤ h` (on the chain of `G`, not on the best chain) -/
theorem C21_cap_is_ancestor {c : Cfg} (hw : c.t.WF) {G h : Nat} (hG : G < c.t.size) (hc : c.chg = .at h)
    (hh : h < c.number G) {v : Vote} (hv : capVote c (c.voteOf G) = .ok v) :
    v = c.voteOf v.blk ∧ v.blk ∈ c.t.chain G ∧ v.num ≤ h ∧
      ∀ x ∈ c.t.chain G, c.number x ≤ h → x ∈ c.t.chain v.blk := by
  unfold capVote at hv
  rw [hc] at hv
  simp only [Cfg.voteOf, hh, if_true] at hv
  unfold ancestorAtNumber at hv
  rw [if_neg (Nat.not_le.2 hG)] at hv
  split at hv
  · rename_i x hx
    cases hv
    obtain ⟨h1, h2, h3⟩ := (Tree.upChain hw).find (fun x => decide (c.number x ≤ h)) hx
    refine ⟨rfl, h1, by simpa [Cfg.voteOf] using h2, fun y hy hyn => h3 y hy (by simpa using hyn)⟩
  · cases hv

/-- the defects of a vote message the property names (plus wrong set, wrong round and our own key);
the wrong block number counts only for the corrected check (`c.strict`) -/
def BadMsg (c : Cfg) (m : Msg) : Prop :=
  m.sigOK = false ∨ m.key ∉ c.voters ∨ c.t.size ≤ m.blk ∨ c.fin ∉ c.t.chain m.blk ∨ m.mset ≠ c.set ∨
    m.mround ≠ c.round ∨ m.key = c.me ∨ (c.strict = true ∧ m.num ≠ c.number m.blk)

/-- **The filter** (partial: the wrong block number is rejected only by the corrected check, known finding
c21-wrong-number-vote-counted).  Full statement: a vote message that is badly signed, from a non-authority, for an
unknown block, with a wrong block number or not descending from the finalised head is answered with an error and
changes none of the four tallies (prevotes, precommits, both equivocation maps) – for every state. -/
theorem C21_filter_partial (c : Cfg) (s : St) (m : Msg) (h : BadMsg c m) :
    (validateVoteMessage c s m).1 ≠ none ∧
    (validateVoteMessage c s m).2.pv = s.pv ∧ (validateVoteMessage c s m).2.pc = s.pc ∧
    (validateVoteMessage c s m).2.pve = s.pve ∧ (validateVoteMessage c s m).2.pce = s.pce := by
  have hnp : ¬ Passes c m := by
    rintro ⟨h1, h2, h3, h4, h5, hv⟩
    obtain ⟨hk, hf, hn⟩ := validateVote_none hv
    rcases h with h | h | h | h | h | h | h | ⟨hs, h⟩
    · rw [h1] at h; cases h
    · exact h h4
    · exact Nat.not_le.2 hk h
    · exact h hf
    · exact h h2
    · exact h h3
    · exact h5 h
    · exact h (hn hs)
  exact ((vvm_cases s m).resolve_right fun h => hnp h.1).2

def wnCfg : Cfg := ⟨[0, 1, 2, 3], 9, 0, ⟨[0, 0, 1]⟩, 0, .none, 1, 0, false⟩
def wnMsg (key num : Nat) : Msg := ⟨0, key, 2, num, true, 1, 0⟩

/-- the full statement fails for the wrong block number: a correctly signed prevote of an authority for block 2
(number 2) that says number 7 is accepted, stored and counted; together with two honest votes the pre-voted
block becomes `2` with number 2 or 7 depending on the iteration order -/
theorem C21_filter_counterexample :
    (validateVoteMessage wnCfg {} (wnMsg 2 7)).1 = none ∧
    (run wnCfg [.msg (wnMsg 1 2), .msg (wnMsg 2 7), .msg (wnMsg 3 2)]).pv =
      [(1, ⟨2, 2⟩), (2, ⟨2, 7⟩), (3, ⟨2, 2⟩)] ∧
    pvTotal wnCfg (run wnCfg [.msg (wnMsg 1 2), .msg (wnMsg 2 7), .msg (wnMsg 3 2)]) 2 = 3 ∧
    (getPreVotedBlock wnCfg (fun _ => Perms.id)
      (run wnCfg [.msg (wnMsg 1 2), .msg (wnMsg 2 7), .msg (wnMsg 3 2)])).toOption = some ⟨2, 7⟩ ∧
    (getPreVotedBlock wnCfg (fun _ => ⟨List.reverse, List.reverse, List.reverse⟩)
      (run wnCfg [.msg (wnMsg 1 2), .msg (wnMsg 2 7), .msg (wnMsg 3 2)])).toOption = some ⟨2, 2⟩ ∧
    (validateVoteMessage { wnCfg with strict := true } {} (wnMsg 2 7)).1 = some .num := by
  decide +kernel

/-- the Service votes for blocks it knows on the chain of its finalised head -/
def OpOK (c : Cfg) : Op → Prop
  | .msg _ => True
  | .own _ b => b < c.t.size ∧ c.fin ∈ c.t.chain b

/-- the message carries the number of its block (what the corrected check enforces) -/
def NumOK (c : Cfg) : Op → Prop
  | .msg m => m.num = c.number m.blk
  | .own _ _ => True

theorem step_good {c : Cfg} {s : St} {op : Op} (hop : OpOK c op) (hnum : c.strict = true ∨ NumOK c op)
    (h : GoodVotes c s.pv ∧ GoodVotes c s.pc) :
    GoodVotes c (step c s op).pv ∧ GoodVotes c (step c s op).pc := by
  cases op with
  | msg m => exact ⟨h.1.move (vvm_moves s m).1 hnum, h.2.move (vvm_moves s m).2 hnum⟩
  | own stage b =>
    show GoodVotes c (ownVote c s stage b).pv ∧ GoodVotes c (ownVote c s stage b).pc
    unfold ownVote
    split
    · exact ⟨h.1.aset _ ⟨hop.1, hop.2, rfl⟩, h.2⟩
    · exact ⟨h.1, h.2.aset _ ⟨hop.1, hop.2, rfl⟩⟩

/-- **Invariant of all reachable states** (any history of vote messages and own votes): every stored prevote and
precommit names a block of the tree on the chain of the finalised head and carries that block's number – provided the
accepted messages do (always, with the corrected number check). -/
theorem C21_reachable_good (c : Cfg) (ops : List Op) (hop : ∀ op ∈ ops, OpOK c op)
    (hnum : c.strict = true ∨ ∀ op ∈ ops, NumOK c op) :
    GoodVotes c (run c ops).pv ∧ GoodVotes c (run c ops).pc :=
  List.foldlRecOn ops (step c) (motive := fun s => GoodVotes c s.pv ∧ GoodVotes c s.pc)
    ⟨fun _ h => absurd h List.not_mem_nil, fun _ h => absurd h List.not_mem_nil⟩
    fun _ h op hm => step_good (hop op hm) (hnum.imp_right fun hn => hn op hm) h

/-- **Finalisation is sound, for every iteration order.**  If `attemptToFinalize` finalises block `X`
(`SetFinalisedHash(X, round, set)`), then `X` is a block of the tree with more than two thirds of the precommits
(votes for descendants and equivocators counted) and `X` is the pre-voted block or one of its ancestors – the
pre-voted block being the one `finalise` computed when it chose `X`: the orders `(o.sub 1).sub 0` are those of the
`getPreVotedBlock` call (`.sub 0`) inside the second `getBestFinalCandidate` (`o.sub 1`, the one of `finalise`). -/
theorem C21_finalise_sound {c : Cfg} (hw : c.t.WF) {s : St} (hgv : GoodVotes c s.pv) (hgc : GoodVotes c s.pc)
    {o : Ord} (ho : o.Valid) {X : Nat} (h : attemptToFinalize c o s = .ok (.yes X)) :
    X < c.t.size ∧ thr c.n < pcTotal c s X ∧
      ∃ p, getPreVotedBlock c ((o.sub 1).sub 0) s = .ok p ∧ X ∈ c.t.chain p.blk := by
  obtain ⟨b1, h1, ⟨hno, _⟩ | ⟨hcount, b2, h2, hX, hsz⟩⟩ := attemptToFinalize_ok h
  · cases hno
  cases hX
  obtain ⟨p2, sel2, hp2, _, _, hp2k, hc2, hcase⟩ := gbfc_ok hw hgv hgc (ho.sub 1) h2
  refine ⟨hsz, ?_, p2, hp2, ?_⟩
  · rcases hcase with ⟨hnil, rfl⟩ | ⟨q, hq, rfl, _⟩
    · -- finalise found no selected block: neither did retrieveBestFinalCandidate, and there is no precommit
      have hcn := (selRel_of_char hc2).nil_iff.1 hnil
      obtain ⟨p1, sel1, _, _, _, hp1k, hc1, ⟨_, rfl⟩ | ⟨q, hq, _⟩⟩ := gbfc_ok hw hgv hgc (ho.sub 0) h1
      · rw [(C21_total_eq_weight c s _).2] at hcount ⊢
        have hpc := votes_nil_of_cands_nil hp1k hcount hcn
        rwa [hpc] at hcount ⊢
      · rw [(selRel_of_char hc1).nil_iff.2 hcn] at hq; cases hq
    · have hqs := hc2.ok.known hq
      have hqt := hc2.ok.super hq
      have := cnt_mono hw hgc.known hqs (candOf_isLca hw hp2k hqs).left
      rw [(C21_total_eq_weight c s _).2]
      exact Nat.lt_of_lt_of_le hqt (Nat.add_le_add_right this _)
  · rcases hcase with ⟨_, rfl⟩ | ⟨q, hq, rfl, _⟩
    · exact c.t.mem_chain_self _
    · exact (candOf_isLca hw hp2k (hc2.ok.known hq)).right

/-- **Accounting of all reachable states**: when the Service is one of the `n` authorities, the authorities with a
stored vote of a stage and the equivocators of that stage are distinct authorities, hence at most `n` together
(the hypothesis `hacc` of the GHOST theorems). -/
theorem C21_reachable_accounted (c : Cfg) (hme : c.me ∈ c.voters) (ops : List Op) :
    (run c ops).pv.length + (run c ops).pve.length ≤ c.n ∧
    (run c ops).pc.length + (run c ops).pce.length ≤ c.n :=
  have h : AccInv c.voters c.me (run c ops).pv (run c ops).pve ∧
      AccInv c.voters c.me (run c ops).pc (run c ops).pce :=
    List.foldlRecOn ops (step c) (motive := fun s => AccInv c.voters c.me s.pv s.pve ∧
        AccInv c.voters c.me s.pc s.pce) ⟨.nil _ _, .nil _ _⟩ fun _ h op _ => step_acc hme h op
  ⟨h.1.length_le, h.2.length_le⟩

/-- **The precommit target over all histories** (partial, as `C21_precommit_target_partial`): after ANY sequence of
vote messages and own votes (messages carrying the numbers of their blocks), for ANY iteration orders, if at most one
third of the authorities equivocated in their prevotes and `G` is the GRANDPA-GHOST of the stored prevotes, then –
unless a directly voted block with a supermajority hides `G` – the Service precommits to `G` capped at the pending
authority change. -/
theorem C21_precommit_target_reachable_partial (c : Cfg) (hw : c.t.WF) (hme : c.me ∈ c.voters) (ops : List Op)
    (hop : ∀ op ∈ ops, OpOK c op) (hnum : c.strict = true ∨ ∀ op ∈ ops, NumOK c op) {o : Ord} (ho : o.Valid)
    (he : 3 * (run c ops).pve.length ≤ c.n) {G : Nat} (hgh : IsGhost c (run c ops) G)
    (hns : (∃ kv ∈ (run c ops).pv, kv.2.blk = G) ∨
      (∀ kv ∈ (run c ops).pv, pvTotal c (run c ops) kv.2.blk ≤ thr c.n)) :
    determinePreCommit c o (run c ops) = capVote c (c.voteOf G) :=
  (C21_precommit_target_partial hw (C21_reachable_good c ops hop hnum).1 ho
    (C21_reachable_accounted c hme ops).1 he hgh hns).2

/-- a history of the kind the theorem above speaks of, computed: four authorities, three prevote for block 2 and one for
its sibling; block 2 has 3 of 4 and the precommit goes to it.  (The hypotheses `WF`, `IsGhost` and `hns` hold of these data
but are not part of what is stated here.) -/
example :
    let c : Cfg := ⟨[0, 1, 2, 3], 0, 0, ⟨[0, 0, 1, 1]⟩, 0, .none, 1, 0, false⟩
    let ops : List Op := [.own 0 2, .msg ⟨0, 1, 2, 2, true, 1, 0⟩, .msg ⟨0, 2, 2, 2, true, 1, 0⟩,
      .msg ⟨0, 3, 3, 2, true, 1, 0⟩]
    (run c ops).pv = [(0, ⟨2, 2⟩), (1, ⟨2, 2⟩), (2, ⟨2, 2⟩), (3, ⟨3, 2⟩)] ∧ pvTotal c (run c ops) 2 = 3 ∧
    (determinePreCommit c (fun _ => Perms.id) (run c ops)).toOption = some ⟨2, 2⟩ := by
  decide +kernel

/-- **`getBestFinalCandidate` in closed form, for every iteration order**: with distinct precommitting authorities
and at most one third of them equivocating, the candidate is `bfcOf` of a possible pre-voted block `p ∈ pvbSet` – the
deepest block on the chain of `p` that is (an ancestor of) a candidate of the precommits, or `p` itself when no block
with a precommit supermajority is selected. -/
theorem C21_bfc_closed_form {c : Cfg} (hw : c.t.WF) {s : St} (hgv : GoodVotes c s.pv) (hgc : GoodVotes c s.pc)
    {o : Ord} (ho : o.Valid) (hacc : s.pc.length + s.pce.length ≤ c.n) (he : 3 * s.pce.length ≤ c.n)
    {b : Vote} (h : getBestFinalCandidate c o s = .ok b) :
    ∃ p ∈ pvbSet c s, b = c.voteOf (bfcOf c s p) :=
  gbfc_closed hw hgv hgc ho hacc he h

/-- **`attemptToFinalize` in closed form, for every iteration order** (same hypotheses): the decision is taken on
`bfcOf p1` and the block finalised is `bfcOf p2` for two possible pre-voted blocks `p1`, `p2` (one block when the
closed form leaves no tie). -/
theorem C21_finalise_closed_form {c : Cfg} (hw : c.t.WF) {s : St} (hgv : GoodVotes c s.pv)
    (hgc : GoodVotes c s.pc) {o : Ord} (ho : o.Valid) (hacc : s.pc.length + s.pce.length ≤ c.n)
    (he : 3 * s.pce.length ≤ c.n) :
    (∀ X, attemptToFinalize c o s = .ok (.yes X) →
      ∃ p1 ∈ pvbSet c s, ∃ p2 ∈ pvbSet c s, thr c.n < pcTotal c s (bfcOf c s p1) ∧ X = bfcOf c s p2) ∧
    (attemptToFinalize c o s = .ok .no →
      ∃ p1 ∈ pvbSet c s, pcTotal c s (bfcOf c s p1) ≤ thr c.n) := by
  refine ⟨fun X hX => ?_, fun hno => ?_⟩
  · obtain ⟨b1, h1, ⟨hno, _⟩ | ⟨hcount, b2, h2, hX, _⟩⟩ := attemptToFinalize_ok hX
    · cases hno
    cases hX
    obtain ⟨p1, hp1, rfl⟩ := C21_bfc_closed_form hw hgv hgc (ho.sub 0) hacc he h1
    obtain ⟨p2, hp2, rfl⟩ := C21_bfc_closed_form hw hgv hgc (ho.sub 1) hacc he h2
    exact ⟨p1, hp1, p2, hp2, hcount, rfl⟩
  · obtain ⟨b1, h1, ⟨_, hcount⟩ | ⟨_, b2, _, hX, _⟩⟩ := attemptToFinalize_ok hno
    · obtain ⟨p1, hp1, rfl⟩ := C21_bfc_closed_form hw hgv hgc (ho.sub 0) hacc he h1
      exact ⟨p1, hp1, hcount⟩
    · cases hX

/-- a catch-up step of `initiateRound` changes at most the set id and the round -/
theorem catchUp_eq (p : Prop) [Decidable p] (c : Cfg) (st r : Nat) :
    ∃ st' r', (if p then { c with set := st, round := r } else c) = { c with set := st', round := r' } := by
  by_cases h : p
  · exact ⟨st, r, if_pos h⟩
  · exact ⟨c.set, c.round, if_neg h⟩

/-- **A set change resets every per-set tally and installs the new voters**: after `initiateRound` the prevotes,
precommits and both equivocation maps are empty, the tree is untouched, and the voter list is the one the node's
state returned for the new set id (unchanged when the set id did not change). -/
theorem C21_set_change_resets (c : Cfg) (s : St) (i : Init) :
    (initiateRound c s i).2.pv = [] ∧ (initiateRound c s i).2.pc = [] ∧
    (initiateRound c s i).2.pve = [] ∧ (initiateRound c s i).2.pce = [] ∧
    (initiateRound c s i).1.fin = i.head ∧
    (i.cur ≠ c.set → (initiateRound c s i).1.voters = i.auths) ∧
    (i.cur = c.set → (initiateRound c s i).1.voters = c.voters) ∧
    (initiateRound c s i).1.t = c.t ∧ (initiateRound c s i).1.base = c.base ∧
    (initiateRound c s i).1.me = c.me ∧ (initiateRound c s i).1.strict = c.strict := by
  -- after `updateAuthorities` only the set id, the round and the head change
  obtain ⟨st, r, h⟩ : ∃ st r, (initiateRound c s i).1 =
      { updateAuthorities c i with set := st, round := r, fin := i.head } := by
    unfold initiateRound
    generalize updateAuthorities c i = c1
    dsimp only
    obtain ⟨s2, r2, h2⟩ := catchUp_eq (c1.round < i.hr ∧ i.hs = c1.set) c1 c1.set i.hr
    rw [h2]
    obtain ⟨s3, r3, h3⟩ := catchUp_eq (s2 < i.hs) { c1 with set := s2, round := r2 } i.hs i.hr
    rw [h3]
    exact ⟨_, _, rfl⟩
  rw [h]
  unfold updateAuthorities
  refine ⟨rfl, rfl, rfl, rfl, rfl, fun hne => by rw [if_neg hne], fun he => by rw [if_pos he], ?_⟩
  split <;> exact ⟨rfl, rfl, rfl, rfl⟩

theorem stepAll_own (cs : Cfg × St) (stage b : Nat) :
    stepAll cs (.own stage b) = cs ∨ ((b < cs.1.t.size ∧ cs.1.fin ∈ cs.1.t.chain b) ∧
      stepAll cs (.own stage b) = (cs.1, ownVote cs.1 cs.2 stage b)) := by
  by_cases h : b < cs.1.t.size ∧ cs.1.t.le cs.1.fin b = true
  · exact Or.inr ⟨⟨h.1, Tree.le_iff.1 h.2⟩, if_pos h⟩
  · exact Or.inl (if_neg h)

structure Cfg.Static (c c' : Cfg) : Prop where
  t : c'.t = c.t
  base : c'.base = c.base
  me : c'.me = c.me
  strict : c'.strict = c.strict

theorem Cfg.Static.trans {a b c : Cfg} (h : a.Static b) (h' : b.Static c) : a.Static c :=
  ⟨h'.t.trans h.t, h'.base.trans h.base, h'.me.trans h.me, h'.strict.trans h.strict⟩

theorem stepAll_static (cs : Cfg × St) (ev : Ev) : cs.1.Static (stepAll cs ev).1 := by
  cases ev with
  | msg m => exact ⟨rfl, rfl, rfl, rfl⟩
  | own stage b => rcases stepAll_own cs stage b with e | ⟨_, e⟩ <;> rw [e] <;> exact ⟨rfl, rfl, rfl, rfl⟩
  | init i =>
    obtain ⟨-, -, -, -, -, -, -, ht, hb, hm, hs⟩ := C21_set_change_resets cs.1 cs.2 i
    exact ⟨ht, hb, hm, hs⟩

theorem runAll_static (c0 : Cfg) (evs : List Ev) : c0.Static (runAll c0 evs).1 :=
  List.foldlRecOn evs stepAll (motive := fun cs => c0.Static cs.1) ⟨rfl, rfl, rfl, rfl⟩
    fun cs h ev _ => h.trans (stepAll_static cs ev)

def EvNumOK (c : Cfg) : Ev → Prop
  | .msg m => m.num = c.number m.blk
  | _ => True

/-- **The filter over histories with authority-set changes.**  `C21_filter_partial` at the configuration and the state
that a history of vote messages, own votes and `initiateRound` calls leaves (it holds of every configuration and state,
so the history adds nothing to the proof): a message whose signer is not an authority of the set the Service is in NOW,
or that names another set id than the current one, or that is badly signed / for an unknown or off-chain block / from
our own key, is answered with an error and changes none of the four tallies; a vote message never changes the
configuration. -/
theorem C21_filter_history (c0 : Cfg) (evs : List Ev) (m : Msg)
    (h : BadMsg (runAll c0 evs).1 m) :
    (validateVoteMessage (runAll c0 evs).1 (runAll c0 evs).2 m).1 ≠ none ∧
    (stepAll (runAll c0 evs) (.msg m)).1 = (runAll c0 evs).1 ∧
    (stepAll (runAll c0 evs) (.msg m)).2.pv = (runAll c0 evs).2.pv ∧
    (stepAll (runAll c0 evs) (.msg m)).2.pc = (runAll c0 evs).2.pc ∧
    (stepAll (runAll c0 evs) (.msg m)).2.pve = (runAll c0 evs).2.pve ∧
    (stepAll (runAll c0 evs) (.msg m)).2.pce = (runAll c0 evs).2.pce := by
  have := C21_filter_partial (runAll c0 evs).1 (runAll c0 evs).2 m h
  exact ⟨this.1, rfl, this.2.1, this.2.2.1, this.2.2.2.1, this.2.2.2.2⟩

/-- **Invariant of all reachable states, set changes included**: every stored vote names a block of the tree on the
chain of the CURRENT finalised head with that block's number. -/
theorem C21_history_good (c0 : Cfg) (evs : List Ev)
    (hnum : c0.strict = true ∨ ∀ ev ∈ evs, EvNumOK c0 ev) :
    GoodVotes (runAll c0 evs).1 (runAll c0 evs).2.pv ∧ GoodVotes (runAll c0 evs).1 (runAll c0 evs).2.pc := by
  refine (List.foldlRecOn evs stepAll (b := (c0, {})) (motive := fun cs => c0.Static cs.1 ∧
      GoodVotes cs.1 cs.2.pv ∧ GoodVotes cs.1 cs.2.pc)
    ⟨⟨rfl, rfl, rfl, rfl⟩, nofun, nofun⟩ fun cs h ev hev => ?_).2
  refine ⟨h.1.trans (stepAll_static cs ev), ?_⟩
  cases ev with
  | msg m =>
    refine step_good (op := .msg m) trivial (hnum.imp h.1.strict.trans fun hn => ?_) h.2
    show m.num = cs.1.base + cs.1.t.depth m.blk
    rw [h.1.t, h.1.base]
    exact hn _ hev
  | own stage b =>
    rcases stepAll_own cs stage b with e | ⟨hc, e⟩ <;> rw [e]
    · exact h.2
    · exact step_good (op := .own stage b) hc (Or.inr trivial) h.2
  | init i => exact ⟨nofun, nofun⟩

/-- the Service stays an authority through every set change of the history -/
def EvMeOK (me : Nat) : Ev → Prop
  | .init i => me ∈ i.auths
  | _ => True

/-- **Accounting over histories with set changes**: the authorities with a stored vote of a stage and the
equivocators of that stage are distinct authorities of the CURRENT set, hence at most its `n` together – when the
Service stays an authority through every set change (`EvMeOK`). -/
theorem C21_history_accounted (c0 : Cfg) (hme : c0.me ∈ c0.voters) (evs : List Ev)
    (hev : ∀ ev ∈ evs, EvMeOK c0.me ev) :
    (runAll c0 evs).2.pv.length + (runAll c0 evs).2.pve.length ≤ (runAll c0 evs).1.n ∧
    (runAll c0 evs).2.pc.length + (runAll c0 evs).2.pce.length ≤ (runAll c0 evs).1.n := by
  have h := List.foldlRecOn evs stepAll (b := (c0, {})) (motive := fun cs => (cs.1.me = c0.me ∧ cs.1.me ∈ cs.1.voters) ∧
      AccInv cs.1.voters cs.1.me cs.2.pv cs.2.pve ∧ AccInv cs.1.voters cs.1.me cs.2.pc cs.2.pce)
    ⟨⟨rfl, hme⟩, .nil _ _, .nil _ _⟩ fun cs h ev hm => by
      cases ev with
      | msg m => exact ⟨h.1, step_acc h.1.2 h.2 (.msg m)⟩
      | own stage b =>
        rcases stepAll_own cs stage b with e | ⟨_, e⟩ <;> rw [e]
        · exact h
        · exact ⟨h.1, step_acc h.1.2 h.2 (.own stage b)⟩
      | init i =>
        obtain ⟨-, -, -, -, -, hnew, hsame, -, -, hkey, -⟩ := C21_set_change_resets cs.1 cs.2 i
        have hme' : (initiateRound cs.1 cs.2 i).1.me = c0.me := hkey.trans h.1.1
        refine ⟨⟨hme', ?_⟩, .nil _ _, .nil _ _⟩
        show (initiateRound cs.1 cs.2 i).1.me ∈ (initiateRound cs.1 cs.2 i).1.voters
        rw [hme']
        by_cases hc : i.cur = cs.1.set
        · rw [hsame hc, ← h.1.1]; exact h.1.2
        · rw [hnew hc]; exact hev _ hm
  exact ⟨h.2.1.length_le, h.2.2.length_le⟩

/-- **The precommit target over all histories with set changes** (partial, as `C21_precommit_target_partial`) -/
theorem C21_precommit_target_history_partial (c0 : Cfg) (hw : c0.t.WF) (hme : c0.me ∈ c0.voters)
    (evs : List Ev) (hev : ∀ ev ∈ evs, EvMeOK c0.me ev)
    (hnum : c0.strict = true ∨ ∀ ev ∈ evs, EvNumOK c0 ev) {o : Ord} (ho : o.Valid)
    (he : 3 * (runAll c0 evs).2.pve.length ≤ (runAll c0 evs).1.n) {G : Nat}
    (hgh : IsGhost (runAll c0 evs).1 (runAll c0 evs).2 G)
    (hns : (∃ kv ∈ (runAll c0 evs).2.pv, kv.2.blk = G) ∨
      (∀ kv ∈ (runAll c0 evs).2.pv, pvTotal (runAll c0 evs).1 (runAll c0 evs).2 kv.2.blk ≤
        thr (runAll c0 evs).1.n)) :
    determinePreCommit (runAll c0 evs).1 o (runAll c0 evs).2 =
      capVote (runAll c0 evs).1 ((runAll c0 evs).1.voteOf G) := by
  have hw' : (runAll c0 evs).1.t.WF := by rw [(runAll_static c0 evs).t]; exact hw
  exact (C21_precommit_target_partial hw' (C21_history_good c0 evs hnum).1 ho
    (C21_history_accounted c0 hme evs hev).1 he hgh hns).2

def scCfg : Cfg := ⟨[0, 1, 2, 3], 0, 0, ⟨[0, 0, 1]⟩, 0, .none, 1, 0, false⟩
def scInit : Init := ⟨1, [5, 0, 1, 4], 0, 0, 1⟩
def scMsg (key mset : Nat) : Msg := ⟨0, key, 2, 2, true, 1, mset⟩

/-- a set change (set 0 → 1: authorities 2 and 3 leave, 4 and 5 join, the order changes, the head moves to
block 1): the old prevotes are gone; a removed authority's well-signed prevote for the new set is refused
(`ErrVoterNotFound`) and counted nowhere, a surviving authority's vote for the OLD set id is refused
(`ErrSetIDMismatch`), the new authority's vote is accepted -/
theorem C21_set_change_example :
    (runAll scCfg [.msg (scMsg 1 0), .msg (scMsg 2 0), .init scInit]).1.voters = [5, 0, 1, 4] ∧
    (runAll scCfg [.msg (scMsg 1 0), .msg (scMsg 2 0), .init scInit]).1.set = 1 ∧
    (runAll scCfg [.msg (scMsg 1 0), .msg (scMsg 2 0), .init scInit]).1.round = 1 ∧
    (runAll scCfg [.msg (scMsg 1 0), .msg (scMsg 2 0)]).2.pv = [(1, ⟨2, 2⟩), (2, ⟨2, 2⟩)] ∧
    (runAll scCfg [.msg (scMsg 1 0), .msg (scMsg 2 0), .init scInit]).2.pv = [] ∧
    (validateVoteMessage (runAll scCfg [.init scInit]).1 (runAll scCfg [.init scInit]).2 (scMsg 2 1)).1
      = some .voter ∧
    (validateVoteMessage (runAll scCfg [.init scInit]).1 (runAll scCfg [.init scInit]).2 (scMsg 1 0)).1
      = some .set ∧
    (runAll scCfg [.init scInit, .msg (scMsg 2 1), .msg (scMsg 1 0), .msg (scMsg 4 1)]).2.pv
      = [(4, ⟨2, 2⟩)] := by
  decide +kernel

end Gossamer.C21
