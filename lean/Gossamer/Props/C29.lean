/-
C29  Hashing helpers agree with the reference implementations.
What *can* be a theorem in this family: the glue of lib/common/hasher.go over the reference
primitives.  "The Go primitive equals the reference on every input" is not a theorem about a model
of gossamer (third-party library code is not translated): that part is decided by correspondence
against the executable references of Lib/HashRef.lean and is claimed at level `other`.
The same holds for the signature side (Lib/SrRef, Lib/SigRef): the theorems are about the framing of merlin
transcripts, the format checks of sr25519 verification, and the shape of the answers of the crypto host
functions (lib/runtime/wazero/imports.go).  Several statements are `rfl`: they record how a reference
definition is composed, so that the composition is checked when a definition changes; their docstrings
say so.
-/
import Gossamer.Model.C29
namespace Gossamer.C29
open Gossamer Gossamer.HashRef Gossamer.SigRef Gossamer.SrRef

theorem u64le_length (x : UInt64) : (u64le x).length = 8 := by simp [u64le]

/-- Twox128 is Twox64 (seed 0) followed by xxHash64 with seed 1, little-endian; holds by definition (`rfl`) -/
theorem C29_twox128 (m : Bytes) : twox128 m = twox64 m ++ u64le (xxh64 1 m) := rfl

/-- Twox256 extends Twox128 with seeds 2 and 3 -/
theorem C29_twox256 (m : Bytes) :
    twox256 m = twox128 m ++ u64le (xxh64 2 m) ++ u64le (xxh64 3 m) := by
  simp [twox256, twox128]

theorem C29_twox_lengths (m : Bytes) :
    (twox64 m).length = 8 ∧ (twox128 m).length = 16 ∧ (twox256 m).length = 32 := by
  simp [twox64, twox128, twox256, u64le_length]

theorem u64le_eq_leBytes (x : UInt64) : u64le x = leBytes 8 x.toNat := by
  have h (i : Nat) (hi : i < 8) :
      (x >>> (8 * i).toUInt64).toUInt8 = UInt8.ofNat (x.toNat / 2 ^ (8 * i) % 256) := by
    have e : (8 * i).toUInt64.toNat % 64 = 8 * i := by
      rw [Nat.toUInt64_eq, UInt64.toNat_ofNat']; omega
    rw [← UInt8.toNat_inj, UInt64.toNat_toUInt8, UInt64.toNat_shiftRight, e, Nat.shiftRight_eq_div_pow,
      UInt8.toNat_ofNat', Nat.mod_mod]
  -- `Nat.reduceMul` stays off in the first pass: `h` fires on the unevaluated `8 * i`
  simp only [u64le, List.range, List.range.loop, List.map, leBytes, Nat.div_div_eq_div_mul, h,
    Nat.reduceLT, -Nat.reduceMul]
  simp only [Nat.reduceMul, Nat.reducePow, Nat.div_one]

/-- the eight bytes denote the value, so distinct xxHash64 values give distinct Twox64 bytes -/
theorem C29_u64le_value (x : UInt64) : natOfLE (u64le x) = x.toNat := by
  rw [u64le_eq_leBytes, natOfLE_leBytes]
  exact Nat.mod_eq_of_lt x.toNat_lt

/-! sr25519: the group law, Keccak-f and the ristretto maps are executable definitions validated by
correspondence (RFC 9496 vectors, the merlin test vector, go-schnorrkel on honest and adversarial inputs); the
theorems are about the framing and the format checks around them. -/

/-- merlin `append_message` is exactly: one meta-AD of `label ‖ le32(len)` followed by one AD of the message
    (the definition of the reference, unfolded: `rfl`) -/
theorem C29_merlin_append (t : Transcript) (label msg : Bytes) :
    appendMessage t label msg
      = absorb (beginOp (absorb (beginOp t (flagM ||| flagA)) (label ++ u32le msg.length)) flagA) msg := rfl

/-- `challenge_bytes`: one meta-AD of `label ‖ le32(n)` followed by a PRF of n bytes (`rfl`, as above) -/
theorem C29_merlin_challenge (t : Transcript) (label : Bytes) (n : Nat) :
    challengeBytes t label n
      = squeeze n (beginOp (absorb (beginOp t (flagM ||| flagA)) (label ++ u32le n)) (flagI ||| flagA ||| flagC)) := rfl

/-- absorbing is a fold: data may be fed in pieces (the `more` continuation of STROBE) -/
theorem C29_absorb_append (s : Strobe) (a b : Bytes) : absorb s (a ++ b) = absorb (absorb s a) b := by
  simp [absorb, List.foldl_append]

/-- the length frame `u32le n` is 4 bytes and determines `n` below 2^32 (so the framings `label ++ u32le n`
    of two different lengths differ; the framing itself does not occur in the statement) -/
theorem C29_merlin_len_frame (n m : Nat) (hn : n < 2 ^ 32) (hm : m < 2 ^ 32) :
    (u32le n).length = 4 ∧ (u32le n = u32le m → n = m) :=
  ⟨length_leBytes 4 n, leBytes_inj (w := 4) hn hm⟩

/-- a PRF of n bytes returns n bytes -/
theorem C29_squeeze_length (n : Nat) (s : Strobe) : (squeeze n s).2.length = n := by
  induction n generalizing s with
  | zero => simp [squeeze]
  | succ k ih => simp [squeeze, ih]

/-- the signing context of Substrate is three framed messages on a fresh "SigningContext" transcript
    (`rfl`, as above) -/
theorem C29_signing_context (msg : Bytes) :
    signingContext substrateCtx msg
      = appendMessage (appendMessage (newTranscript (str "SigningContext")) [] (str "substrate"))
          (str "sign-bytes") msg := rfl

/-- the challenge scalar is canonical (< ℓ) whatever the transcript -/
theorem C29_challenge_reduced (t : Transcript) (lb : SigLabels) (pk r : Bytes) :
    challengeScalar t lb pk r < edL := by
  unfold challengeScalar scalarWide
  exact Nat.mod_lt _ (by decide)

/-- **schnorrkel marker**: a signature whose marker bit (bit 7 of byte 63) is clear is rejected by the
    reference verifier and by the model of gossamer's `VerifySignature`/`PublicKey.Verify` -/
theorem C29_sr_marker (pk msg sig : Bytes) (h : markerSet sig = false) :
    srVerifyRef pk msg sig = false ∧ srVerifyGo pk msg sig = false := by
  constructor
  · unfold srVerifyRef verifyRef
    simp [h]
  · unfold srVerifyGo verifyGo
    simp [h]

/-- wrong lengths are rejected (the first check of each verifier) -/
theorem C29_sr_lengths (pk msg sig : Bytes) (h : pk.length ≠ 32 ∨ sig.length ≠ 64) :
    srVerifyRef pk msg sig = false ∧ srVerifyGo pk msg sig = false ∧ srVerifyDeprecatedRef pk msg sig = false := by
  refine ⟨?_, ?_, ?_⟩
  · unfold srVerifyRef verifyRef; simp [h]
  · unfold srVerifyGo verifyGo; simp [h]
  · unfold srVerifyDeprecatedRef; simp [h]

/-- an accepted signature is well formed: marked, canonical scalar (s < ℓ), decodable public key -/
theorem C29_sr_accept_wellformed (pk msg sig : Bytes) (h : srVerifyRef pk msg sig = true) :
    pk.length = 32 ∧ sig.length = 64 ∧ markerSet sig = true ∧ sigScalar sig < edL ∧ (rDecode pk).isSome := by
  unfold srVerifyRef verifyRef at h
  by_cases hl : pk.length ≠ 32 ∨ sig.length ≠ 64
  · rw [if_pos hl] at h; cases h
  by_cases hm : (!markerSet sig) = true
  · rw [if_neg hl, if_pos hm] at h; cases h
  by_cases hs : sigScalar sig ≥ edL
  · rw [if_neg hl, if_neg hm, if_pos hs] at h; cases h
  rw [if_neg hl, if_neg hm, if_neg hs] at h
  cases ha : rDecode pk with
  | none => rw [ha] at h; cases h
  | some a => exact ⟨by omega, by omega, by simpa using hm, by omega, rfl⟩

/-- ristretto255 DECODE only accepts canonical (< p) non-negative (even) field encodings of 32 bytes -/
theorem C29_ristretto_canonical (b : Bytes) (q : EdPt) (h : rDecode b = some q) :
    b.length = 32 ∧ natOfLE b < edP ∧ natOfLE b % 2 = 0 := by
  unfold rDecode at h
  by_cases hl : b.length ≠ 32
  · rw [if_pos hl] at h; cases h
  by_cases hp : natOfLE b ≥ edP
  · simp only [if_neg hl, if_pos hp] at h; cases h
  by_cases ho : (natOfLE b % 2 == 1) = true
  · simp only [if_neg hl, if_neg hp, if_pos ho] at h; cases h
  exact ⟨Decidable.not_not.mp hl, Nat.lt_of_not_le hp,
    (Nat.mod_two_eq_zero_or_one _).resolve_right fun e => ho (beq_iff_eq.mpr e)⟩

/-- the deprecated entry point of the reference: a marked, canonical signature is judged by the current
    protocol alone (the 0.1.1 protocol is only tried for signatures that do not parse as current ones) -/
theorem C29_sr_deprecated_ref_marked (pk msg sig : Bytes) (hl : pk.length = 32 ∧ sig.length = 64)
    (hm : markerSet sig = true) (hs : sigScalar sig < edL) :
    srVerifyDeprecatedRef pk msg sig = srVerifyRef pk msg sig := by
  unfold srVerifyDeprecatedRef
  simp [hl.1, hl.2, hm, hs]

/-- ... whereas gossamer's `VerifyDeprecated` never looks at the marker bit (finding
    `sr25519-deprecated-differs`): its verdict on a signature and on the marked copy coincide -/
theorem C29_sr_deprecated_go_marker_blind (pk msg sig : Bytes) (hl : sig.length = 64) :
    srVerifyDeprecatedGo pk msg (setMarker sig) = srVerifyDeprecatedGo pk msg sig := by
  have h63 : (sig.take 63).length = 63 := by simp [List.length_take]; omega
  have hlen : (setMarker sig).length = 64 := by simp [setMarker, h63]
  have hidem : setMarker (setMarker sig) = setMarker sig := by
    have ht : (setMarker sig).take 63 = sig.take 63 := by
      simp [setMarker, h63]
    have hg : (setMarker sig).getD 63 0 = (sig.getD 63 0) ||| 0x80 := by
      simp [setMarker, List.getD_eq_getElem?_getD, h63]
    show (setMarker sig).take 63 ++ [(setMarker sig).getD 63 0 ||| 0x80] = setMarker sig
    rw [ht, hg]
    simp [setMarker, UInt8.or_assoc]
  unfold srVerifyDeprecatedGo
  simp [hl, hlen, hidem]

/-- finding `sr25519-v1-always-valid`, as a statement about the model: the verdict of
    `ext_crypto_sr25519_verify_version_1` does not depend on message or signature -/
theorem C29_host_sr1_ignores_signature (pk m sg m' sg' : Bytes) :
    hostSr1Go pk m sg = hostSr1Go pk m' sg' := rfl

/-- for every key other than the all-zero one, `ext_crypto_sr25519_verify_version_2` is the verifier -/
theorem C29_host_sr2_nonzero (pk m sg : Bytes) (h : pk ≠ zeros32) :
    hostSr2Go pk m sg = srVerifyGo pk m sg := by
  unfold hostSr2Go
  simp [h]

/-- the recovery host functions answer `00 ‖ key` (the recovered key, compressed if asked for) when the
    recovery succeeds, and otherwise `01 ‖ v` with `v ≤ 2`, one of the three variants of EcdsaVerifyError -/
theorem C29_host_recover_shape (c : Bool) (m sg : Bytes) :
    (∃ q, ecdsaRecover m sg = some q ∧ hostRecoverGo c m sg = 0 :: (if c then compressQ q else q)) ∨
    (ecdsaRecover m sg = none ∧ ∃ v : UInt8, v ≤ 2 ∧ hostRecoverGo c m sg = [1, v]) := by
  unfold hostRecoverGo
  cases h : ecdsaRecover m sg with
  | none =>
    right
    refine ⟨rfl, ecdsaErrCode sg, ?_, rfl⟩
    unfold ecdsaErrCode
    simp only
    repeat' split
    all_goals decide
  | some q => left; exact ⟨q, rfl, by simp⟩

/-- for a recovery id outside 0..3 (after the optional −27) the error code is 1 (BadV), whatever r and s are.
    The statement is about `ecdsaErrCode` alone; `ecdsaRecover` fails on the same test of the id, so the host
    function answers `[1, 1]`, which this theorem does not say. -/
theorem C29_host_recover_badv (sg : Bytes)
    (h : (if (sg.getD 64 0).toNat ≥ 27 then (sg.getD 64 0).toNat - 27 else (sg.getD 64 0).toNat) > 3) :
    ecdsaErrCode sg = 1 := by
  unfold ecdsaErrCode
  simp only
  rw [if_pos h]

end Gossamer.C29
