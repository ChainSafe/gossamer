/-
C24 — BABE verification accepts exactly authorised blocks.  Theorems about `Gossamer.C24` (Model/C24.lean), for
all hash functions, authority counts, digests and all valuations of the crypto oracles.  Configurations: the guard of
the model's `getVerifierInfo` is `C1 = 0 ∨ C2 = 0 ∨ C1 > C2`, which is that of `CalculateThreshold` for
`C1, C2 < 2^53` (Model/C24, `C25_errors`); above, Go compares the two values as float64
(`C25_errors_rounding_counterexample`) and the model does not.

The full statement `verify … = .ok ↔ authorised … = true` is FALSE for the code as it is: `getVerifierInfo` keeps
only `SecondarySlots > 0`, so a secondary-plain claim passes under the VRF-only configuration (and vice versa, and
both under the invalid values 3..255).  Proved instead: what the code accepts, exactly (`authorisedLax`); that every
authorised header is accepted; the full statement outside the region `kindMismatch`; its negation at two witnesses.
-/
import Gossamer.Lib.C24Verify
import Gossamer.Props.C25
namespace Gossamer.C24
open Gossamer.C25 (secondaryAuthor Author)

/-- What the code accepts, exactly (all inputs, all oracle valuations). -/
theorem C24_verify_iff (H : Bytes → Bytes) (ss c1 c2 n : Nat) (rand : Bytes) (digest : List Item)
    (o : Oracles) :
    verify H ss c1 c2 n rand digest o = .ok ↔ authorisedLax H ss c1 c2 n rand digest o = true := by
  rw [authorisedLax_eq, authorisedK_iff, verify, getVerifierInfo_eq]
  by_cases hc : c1 ≠ 0 ∧ c2 ≠ 0 ∧ c1 ≤ c2
  · rw [if_pos hc]
    dsimp only
    rw [verifyAuthorshipRight_ok]
    simp only [kindFlag_lax]
    exact (and_iff_right hc).symm
  · rw [if_neg hc]
    exact ⟨nofun, fun h => absurd h.1 hc⟩

/-- the region where the code and the specification differ: a secondary claim of a kind the
    configuration does not allow while `SecondarySlots > 0` -/
def kindMismatch (ss : Nat) (digest : List Item) : Bool :=
  match digest.head? with
  | some (.pre (some pd)) => kindAllowedLax ss pd && !kindAllowed ss pd
  | _ => false

/-- completeness: every authorised header passes verification -/
theorem C24_authorised_accepted (H : Bytes → Bytes) (ss c1 c2 n : Nat) (rand : Bytes)
    (digest : List Item) (o : Oracles) (h : authorised H ss c1 c2 n rand digest o = true) :
    verify H ss c1 c2 n rand digest o = .ok := by
  rw [C24_verify_iff, authorisedLax_eq, authorisedK_iff]
  rw [authorised_eq, authorisedK_iff] at h
  obtain ⟨hc, hl, pd, hd, hg, hi, hk, hr⟩ := h
  exact ⟨hc, hl, pd, hd, hg, hi, kindAllowed_lax ss pd hk, hr⟩

/-- Outside the region `kindMismatch`: a block passes verification iff it is authorised. -/
theorem C24_iff_partial (H : Bytes → Bytes) (ss c1 c2 n : Nat) (rand : Bytes) (digest : List Item)
    (o : Oracles) (hreg : kindMismatch ss digest = false) :
    verify H ss c1 c2 n rand digest o = .ok ↔ authorised H ss c1 c2 n rand digest o = true := by
  refine ⟨fun hv => ?_, C24_authorised_accepted H ss c1 c2 n rand digest o⟩
  rw [C24_verify_iff, authorisedLax_eq, authorisedK_iff] at hv
  rw [authorised_eq, authorisedK_iff]
  obtain ⟨hc, hl, pd, hd, hg, hi, hk, hr⟩ := hv
  rw [kindMismatch, hd] at hreg
  dsimp only at hreg
  rw [hk, Bool.true_and, Bool.not_eq_false'] at hreg
  exact ⟨hc, hl, pd, hd, hg, hi, hreg, hr⟩

/-- The full statement fails: under `SecondarySlots = 2` (primary + secondary VRF only) a
    secondary-PLAIN claim by the slot's assigned authority, sealed by it, passes verification. -/
theorem C24_iff_counterexample :
    ∃ (H : Bytes → Bytes) (o : Oracles),
      verify H 2 1 4 1 [] [.pre (some (.secPlain 0 5)), .sealItem] o = .ok ∧
      authorised H 2 1 4 1 [] [.pre (some (.secPlain 0 5)), .sealItem] o = false :=
  ⟨fun _ => [0], ⟨false, false, .no, .yes⟩, by decide, by decide⟩

/-- … and the other way round: a secondary-VRF claim under `SecondarySlots = 1` (plain only). -/
theorem C24_iff_counterexample_vrf :
    ∃ (H : Bytes → Bytes) (o : Oracles),
      verify H 1 1 4 1 [] [.pre (some (.secVRF 0 5)), .sealItem] o = .ok ∧
      authorised H 1 1 4 1 [] [.pre (some (.secVRF 0 5)), .sealItem] o = false :=
  ⟨fun _ => [0], ⟨false, false, .yes, .yes⟩, by decide, by decide⟩

/-- The verdict of VerifyBlock does not depend on what the manager did before: in ANY sequence of
    VerifyBlock / SetOnDisabled calls, started from ANY manager state, the output of every VerifyBlock
    call is the single-shot verdict computed from the epoch data of the header's own branch. -/
theorem C24_manager_history_independent (H : Bytes → Bytes) (env : Env) (ops : List Op) :
    ∀ (st : MState) (i : Nat) (b : VB), ops[i]? = some (.vb b) →
      (runOps H env st ops)[i]? = some (.verdict (verifyBlock H env b)) := by
  induction ops with
  | nil => intro st i b h; simp at h
  | cons op ops ih =>
    intro st i b h
    cases i with
    | zero =>
      simp only [List.getElem?_cons_zero, Option.some.injEq] at h
      subst h
      simp [runOps, stepOp]
    | succ j =>
      simp only [List.getElem?_cons_succ] at h
      simp only [runOps, List.getElem?_cons_succ]
      exact ih _ j b h

theorem runOps_snoc_vb (H : Bytes → Bytes) (env : Env) (pre : List Op) (st : MState) (b : VB) :
    (runOps H env st (pre ++ [.vb b]))[pre.length]? = some (.verdict (verifyBlock H env b)) :=
  C24_manager_history_independent H env (pre ++ [Op.vb b]) st pre.length b List.getElem?_concat_length

/-- the same, said about two different histories -/
theorem C24_manager_two_histories (H : Bytes → Bytes) (env : Env) (pre1 pre2 : List Op) (st1 st2 : MState)
    (b : VB) :
    (runOps H env st1 (pre1 ++ [.vb b]))[pre1.length]? =
    (runOps H env st2 (pre2 ++ [.vb b]))[pre2.length]? := by
  rw [runOps_snoc_vb, runOps_snoc_vb]

theorem runOps_length (H : Bytes → Bytes) (env : Env) (ops : List Op) :
    ∀ st, (runOps H env st ops).length = ops.length := by
  induction ops with
  | nil => intro st; rfl
  | cons op ops ih => intro st; simp [runOps, ih]

/-- VerifyBlock accepts a header iff its parent is known, its epoch is not below its parent's, and it
    is authorised under the epoch data of its own branch — outside the region `kindMismatch`. -/
theorem C24_verifyBlock_iff_partial (H : Bytes → Bytes) (env : Env) (b : VB)
    (hreg : kindMismatch (descOfBlock env b).ss b.digest = false) :
    verifyBlock H env b = .ok ↔ blockAuthorised H env b = true := by
  rw [verifyBlock_ok, blockAuthorised_iff]
  exact and_congr_right fun _ => C24_iff_partial H _ _ _ _ _ _ _ hreg

/-- completeness on the manager level, unconditional: an authorised header is accepted, whatever the
    manager verified or disabled before -/
theorem C24_manager_accepts_authorised (H : Bytes → Bytes) (env : Env) (pre : List Op) (st : MState)
    (b : VB) (h : blockAuthorised H env b = true) :
    (runOps H env st (pre ++ [.vb b]))[pre.length]? = some (.verdict .ok) := by
  rw [runOps_snoc_vb]
  have h := (blockAuthorised_iff H env b).1 h
  exact congrArg (some ∘ Out.verdict) ((verifyBlock_ok H env b).2 ⟨h.1, C24_authorised_accepted _ _ _ _ _ _ _ _ h.2⟩)

/-- two branches announcing different descriptors for epoch 1: the same header material is judged by
    its own branch's data (non-vacuity of the manager theorems: the verdicts really differ) -/
example :
    let env : Env := ⟨⟨1, 0, 1, 1, 0⟩, ⟨1, 0, 1, 1, 1⟩, ⟨1, 0, 1, 1, 0⟩⟩
    let d : List Item := [.pre (some (.secPlain 0 5)), .sealItem]
    let o : Oracles := ⟨false, false, .no, .yes⟩
    runOps (fun _ => [0]) env MState.init
      [.vb ⟨.A, .blk 1, 1, d, o⟩, .vb ⟨.B, .blk 1, 1, d, o⟩, .dis .A 2 0, .vb ⟨.B, .blk 1, 1, d, o⟩,
       .vb ⟨.A, .blk 1, 1, d, o⟩]
    = [.verdict .ok, .verdict .badSlotClaim, .dis .ok, .verdict .badSlotClaim, .verdict .ok] := by
  decide

def runState (H : Bytes → Bytes) (env : Env) : MState → List Op → MState
  | st, [] => st
  | st, op :: ops => runState H env (stepOp H env st op).1 ops

/-- Every sequence of VerifyBlock / SetOnDisabled calls keeps `DisInv`, which holds of the initial manager state
    (`DisInv_init`): no producer is recorded as disabled twice along one branch (the duplicate is refused with
    ErrAuthorityAlreadyDisabled instead). -/
theorem C24_disabled_no_duplicates (H : Bytes → Bytes) (env : Env) (ops : List Op) :
    ∀ st, DisInv st → DisInv (runState H env st ops) := by
  induction ops with
  | nil => intro st h; exact h
  | cons op ops ih =>
    intro st h
    simp only [runState]
    apply ih
    cases op with
    | vb b => exact h
    | dis br k idx => exact setOnDisabled_inv env st br k idx h

theorem DisInv_init : DisInv MState.init := by
  unfold DisInv MState.init; exact List.Pairwise.nil

/-- Every claim produced by the node's own slot lottery, with the oracles telling what holds of an honest claim, is
    authorised (specification) … -/
theorem C24_own_claims_authorised (H : Bytes → Bytes) (ss c1 c2 n me : Nat) (rand : Bytes)
    (slot : Nat) (b : Bool) (pd : PreDigest) (o : Oracles)
    (hcfg : c1 ≠ 0 ∧ c2 ≠ 0 ∧ c1 ≤ c2) (hme : me < n)
    (hclaim : claimSlot H ss n me rand slot b = some pd)
    (hattach : o.attach = true) (hbelow : o.below = b) (hvrf : o.vrf = .yes) (hsig : o.sig = .yes) :
    authorised H ss c1 c2 n rand [.pre (some pd), .sealItem] o = true := by
  rw [authorised_eq, authorisedK_iff]
  refine ⟨hcfg, Nat.le_refl 2, pd, rfl, rfl, ?_⟩
  rcases claimSlot_cases H ss n me rand slot b pd hclaim with ⟨hb, rfl⟩ | ⟨hb, h2, ha, rfl⟩ | ⟨hb, h1, ha, rfl⟩
  · exact ⟨hme, rfl, by rw [claimRight, hattach, hbelow, hb, hvrf]; rfl, hsig⟩
  · exact ⟨hme, by rw [h2]; rfl, by rw [claimRight, ha, hvrf, beq_self_eq_true]; rfl, hsig⟩
  · exact ⟨hme, by rw [h1]; rfl, by rw [claimRight, ha]; exact beq_self_eq_true _, hsig⟩

/-- … and passes verification. -/
theorem C24_own_claims_pass (H : Bytes → Bytes) (ss c1 c2 n me : Nat) (rand : Bytes)
    (slot : Nat) (b : Bool) (pd : PreDigest) (o : Oracles)
    (hcfg : c1 ≠ 0 ∧ c2 ≠ 0 ∧ c1 ≤ c2) (hme : me < n)
    (hclaim : claimSlot H ss n me rand slot b = some pd)
    (hattach : o.attach = true) (hbelow : o.below = b) (hvrf : o.vrf = .yes) (hsig : o.sig = .yes) :
    verify H ss c1 c2 n rand [.pre (some pd), .sealItem] o = .ok :=
  C24_authorised_accepted _ _ _ _ _ _ _ _
    (C24_own_claims_authorised H ss c1 c2 n me rand slot b pd o hcfg hme hclaim hattach hbelow hvrf hsig)

/-- A primary claim whose 128-bit VRF in-out value `v = natOfLE res` is NOT strictly below the epoch
    threshold (in particular `v = threshold`) is rejected, whatever else holds: with the `below`
    oracle being C25's `checkPrimary res thr`. -/
theorem C24_primary_at_or_over_threshold_rejected (H : Bytes → Bytes) (ss c1 c2 n : Nat) (rand : Bytes)
    (digest : List Item) (o : Oracles) (idx slot : Nat) (res : Bytes) (thr : C13.U128)
    (hres : res.length ≤ 16) (hhead : digest.head? = some (.pre (some (.primary idx slot))))
    (hbelow : o.below = C25.checkPrimary res thr) (hv : thr.toNat ≤ natOfLE res) :
    verify H ss c1 c2 n rand digest o ≠ .ok := by
  intro hok
  rw [C24_verify_iff, authorisedLax_eq, authorisedK_iff] at hok
  obtain ⟨_, _, pd, hd, _, _, _, hcr, _⟩ := hok
  rw [hhead] at hd
  cases hd
  rw [claimRight, hbelow, C25.C25_compare res thr hres, decide_eq_false (Nat.not_lt_of_le hv), Bool.and_false,
    Bool.false_and] at hcr
  cases hcr

/-- … and the node's own lottery does not claim a primary slot at the boundary -/
theorem C24_no_primary_claim_at_threshold (H : Bytes → Bytes) (ss n me : Nat) (rand : Bytes) (slot : Nat)
    (res : Bytes) (thr : C13.U128) (hres : res.length ≤ 16) (hv : thr.toNat ≤ natOfLE res) :
    claimSlot H ss n me rand slot (C25.checkPrimary res thr) ≠ some (.primary me slot) := by
  have hb : C25.checkPrimary res thr = false := by
    rw [C25.C25_compare res thr hres]; simp; omega
  rw [hb]
  intro h
  rcases claimSlot_cases H ss n me rand slot false _ h with ⟨hb', _⟩ | ⟨_, _, _, h2⟩ | ⟨_, _, _, h2⟩
  · cases hb'
  · cases h2
  · cases h2

/-- `hclaim` of `C24_own_claims_pass` is satisfiable: authority 0 of 1 claims a secondary-plain slot under ss = 1 -/
example : claimSlot (fun _ => [0]) 1 1 0 [] 7 false = some (.secPlain 0 7) := by decide

end Gossamer.C24
