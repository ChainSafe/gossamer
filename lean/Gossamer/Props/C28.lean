/-
C28  The Wasm heap allocator never hands out overlapping memory.

Property (properties.jsonl): for every sequence of allocations and frees, each returned pointer is
8-byte aligned, lies above the heap base with its whole rounded-up block inside linear memory, and
never overlaps another live allocation.  Bytes written to a live allocation are unaffected by other
allocations and frees.  Freeing an invalid or already-freed pointer fails and poisons the allocator,
requests above 32 MiB fail, and memory never grows past 4 GiB.

All theorems are about the model `Gossamer/Model/C28.lean` (mirror of
lib/runtime/allocator/freeing_bump.go, after the `fix:` commit that stops the 32-bit bumper from
wrapping), for every byte store that obeys `Store.Lawful` -- in particular the hash-map store the
compiled driver runs (`hashStore_lawful`).

The guest is modelled by `Op` (alloc / free / store a word / memory.grow); `OpOk` says what a
well-behaved guest does.  Its `free` clause is the exact guard of the design's inherent limitation
(same in Substrate): a forged occupied header is accepted by the code
(`C28_bad_free_forged_counterexample`).
-/
import Gossamer.Lib.C28Step
import Gossamer.Lib.C28Hash
namespace Gossamer.C28
variable {S : Store}

def OpsOk (r : Run S) : List Op → Prop
  | [] => True
  | op :: ops => OpOk r op ∧ OpsOk (r.step op).1 ops

theorem C28_inv_init (heapBase pages maxPages : Nat) :
    Inv (Run.init S heapBase pages maxPages) { blocks := [], fl := fun _ => [] } := by
  have h8 : (newAlloc heapBase).base % 8 = 0 := Nat.mul_mod_right 8 _
  have hlt : (newAlloc heapBase).base < U32 :=
    Nat.lt_of_le_of_lt (Nat.mul_div_le _ 8) (Nat.mod_lt _ (by decide))
  exact ⟨⟨h8, h8, Nat.le_refl _, hlt, nofun, nofun, nofun, .nil⟩,
    fun _ => ⟨nofun, fun _ _ => rfl, nofun, fun _ _ => .nil, nofun⟩⟩

/-- one permitted operation preserves the invariant (Allocate, Deallocate, guest stores, growth) -/
theorem C28_inv_preserved (hS : S.Lawful) (r : Run S) (g : Ghost) (hI : Inv r g) (op : Op)
    (hok : OpOk r op) : ∃ g', Inv (r.step op).1 g' := by
  cases op with
  | alloc n => exact (alloc_sim hS hI n).imp fun _ h => h.1
  | free p => exact (free_sim hS hI p hok).imp fun _ h => h.1
  | poke a v => exact ⟨g, inv_poke hS hI a v hok⟩
  | grow d => exact ⟨g, inv_grow hI d⟩

theorem inv_exec (hS : S.Lawful) (ops : List Op) : ∀ (r : Run S), (∃ g, Inv r g) → OpsOk r ops →
    ∃ g, Inv (r.exec ops) g := by
  induction ops with
  | nil => intro r h _; exact h
  | cons op ops ih =>
    intro r ⟨g, hI⟩ hok
    exact ih _ (C28_inv_preserved hS r g hI op hok.1) hok.2

/-- the invariant holds after every history of a well-behaved guest, from every heap base and
    every initial / maximal memory size -/
theorem C28_inv_reachable (hS : S.Lawful) (heapBase pages maxPages : Nat) (ops : List Op)
    (hok : OpsOk (Run.init S heapBase pages maxPages) ops) :
    ∃ g, Inv ((Run.init S heapBase pages maxPages).exec ops) g :=
  inv_exec hS ops _ ⟨_, C28_inv_init heapBase pages maxPages⟩ hok

def LiveOk (r : Run S) (e : Nat × Nat) : Prop :=
  e.1 % 8 = 0 ∧ r.s.base + 8 ≤ e.1 ∧ e.1 + osize e.2 ≤ r.m.size ∧ e.1 + osize e.2 ≤ r.s.bumper

/-- two allocations `(pointer, order)`, headers included, do not overlap: `Disj` of their blocks, seen from
    the pointers (pointer = header address + 8; `live_noOverlap`) -/
def NoOverlap (a b : Nat × Nat) : Prop :=
  a.1 + osize a.2 + 8 ≤ b.1 ∨ b.1 + osize b.2 + 8 ≤ a.1

theorem live_noOverlap {r : Run S} {g : Ghost} (hG : Geo r g) {a b : Nat × Nat} (ha : a ∈ r.live)
    (hb : b ∈ r.live) (hne : a.1 ≠ b.1) : NoOverlap a b := by
  obtain ⟨a8, ab⟩ := hG.live_blk a ha
  obtain ⟨b8, bb⟩ := hG.live_blk b hb
  have hd := blk_sep hG ab bb
    (fun h => hne (((Nat.sub_eq_iff_eq_add a8).mp h).trans (Nat.sub_add_cancel b8)))
  unfold Disj at hd
  rw [bend_live a8, bend_live b8] at hd
  exact hd.imp (Nat.add_le_of_le_sub b8) (Nat.add_le_of_le_sub a8)

theorem live_ok_of_geo {r : Run S} {g : Ghost} (hG : Geo r g) :
    (∀ e ∈ r.live, LiveOk r e) ∧ r.live.Pairwise NoOverlap := by
  constructor
  · intro e he
    obtain ⟨e8, eb⟩ := hG.live_blk e he
    obtain ⟨al, lo, hi, _, sz⟩ := hG.blk _ eb
    rw [bend_live e8] at hi sz
    refine ⟨?_, Nat.add_le_of_le_sub e8 lo, sz, hi⟩
    rw [← Nat.sub_add_cancel e8, Nat.add_mod_right]
    exact al
  · exact List.Pairwise.imp_of_mem (fun ha hb => live_noOverlap hG ha hb) hG.live_nodup

/-- **No overlap, for all histories.**  After any history of a well-behaved guest, from any heap
    base: every live allocation is 8-aligned, starts above the (aligned) heap base, has its whole
    rounded-up block inside the linear memory and below the bumper, and no two live allocations
    (headers included) overlap. -/
theorem C28_no_overlap (hS : S.Lawful) (heapBase pages maxPages : Nat) (ops : List Op)
    (hok : OpsOk (Run.init S heapBase pages maxPages) ops) :
    let r := (Run.init S heapBase pages maxPages).exec ops
    (∀ e ∈ r.live, LiveOk r e) ∧ r.live.Pairwise NoOverlap := by
  obtain ⟨g, hI⟩ := C28_inv_reachable hS heapBase pages maxPages ops hok
  exact live_ok_of_geo hI.1

/-- **Result of Allocate**, in any state with the invariant: a returned pointer `p` is 8-aligned,
    `p - 8 ≥ heap base`, the block of `8 << order` bytes holds the request, lies inside the (possibly
    grown) memory, and is disjoint (headers included) from every allocation that was live before. -/
theorem C28_alloc_result (hS : S.Lawful) (r : Run S) (g : Ghost) (hI : Inv r g) (n p : Nat)
    (h : (r.step (.alloc n)).2 = .ptr p) :
    ∃ o, orderFromSize n = some o ∧ n ≤ osize o ∧ o < 23 ∧
      p % 8 = 0 ∧ r.s.base + 8 ≤ p ∧ p + osize o ≤ (r.step (.alloc n)).1.m.size ∧
      ∀ e ∈ r.live, NoOverlap (p, o) e := by
  obtain ⟨g', hI', hb, ⟨_, e, he⟩ | ⟨c, o, ho, hp, hl, _⟩⟩ := alloc_sim hS hI n
  · rw [he] at h; cases h
  · obtain rfl : c + 8 = p := by rw [hp] at h; injection h
    obtain ⟨_, ho23, hn, _⟩ := orderFromSize_spec n o ho
    -- the rest is read off the invariant of the state after the call, in which `p` is live
    obtain ⟨hall, hpw⟩ := live_ok_of_geo hI'.1
    rw [hl] at hall hpw
    obtain ⟨a1, a2, a3, _⟩ := hall _ (List.mem_cons_self ..)
    exact ⟨o, ho, hn, ho23, a1, hb ▸ a2, a3, (List.pairwise_cons.mp hpw).1⟩

/-- the host functions trap exactly when the allocator returns an error, and change the state
    exactly as `Allocate` / `Deallocate` do (so poisoning, `C28_double_free`, ... carry over) -/
theorem C28_host_traps (r : Run S) (x : Nat) :
    ((hostMalloc r x).1 = (r.step (.alloc x)).1 ∧
      ∀ e, (hostMalloc r x).2 = .panic e ↔ (r.step (.alloc x)).2 = .err e) ∧
    ((hostFree r x).1 = (r.step (.free x)).1 ∧
      ∀ e, (hostFree r x).2 = .panic e ↔ (r.step (.free x)).2 = .err e) := by
  constructor
  · rcases hr : allocate r.s r.m x with ⟨s', m', e' | q⟩ <;> simp [hostMalloc, Run.step, hr]
  · rcases hr : deallocate r.s r.m x with ⟨s', m', e' | q⟩ <;> simp [hostFree, Run.step, hr]

/-- **Host malloc** (`ext_allocator_malloc_version_1`): whenever the host function returns a pointer
    to the guest (instead of trapping), the pointer satisfies everything `C28_alloc_result` says, and
    the invariant holds in the new state. -/
theorem C28_host_malloc_result (hS : S.Lawful) (r : Run S) (g : Ghost) (hI : Inv r g) (n p : Nat)
    (h : (hostMalloc r n).2 = .val p) :
    (∃ g', Inv (hostMalloc r n).1 g') ∧
    ∃ o, orderFromSize n = some o ∧ n ≤ osize o ∧ o < 23 ∧
      p % 8 = 0 ∧ r.s.base + 8 ≤ p ∧ p + osize o ≤ (hostMalloc r n).1.m.size ∧
      ∀ e ∈ r.live, NoOverlap (p, o) e := by
  have h1 : (r.step (.alloc n)).2 = .ptr p := by
    rcases hr : allocate r.s r.m n with ⟨s', m', e | q⟩
    · simp only [hostMalloc, Run.step, hr] at h; cases h
    · simp only [hostMalloc, Run.step, hr] at h ⊢
      injection h with h
      exact congrArg _ h
  rw [(C28_host_traps r n).1.1]
  exact ⟨C28_inv_preserved hS r g hI (.alloc n) trivial, C28_alloc_result hS r g hI n p h1⟩

/-- an `alloc` or a permitted `free` writes at most one word: the header in front of `p`, the pointer
    `Allocate` returns or `Deallocate` is given -/
theorem footprint (hS : S.Lawful) {r : Run S} {g : Ghost} (hI : Inv r g) {op : Op}
    (hop : (∃ n, op = .alloc n) ∨ (∃ p, op = .free p)) (hok : OpOk r op) :
    (r.step op).1.m.bytes = r.m.bytes ∨
    ∃ p o v, 8 ≤ p ∧ (r.step op).1.m.bytes = put64 r.m.bytes (p - 8) v ∧
      ∀ e ∈ r.live, e.1 = p ∨ NoOverlap (p, o) e := by
  rcases hop with ⟨n, rfl⟩ | ⟨p, rfl⟩
  · obtain ⟨g', hI', _, ⟨hm, _⟩ | ⟨c, o, _, _, hl, hw⟩⟩ := alloc_sim hS hI n
    · exact Or.inl (by rw [hm])
    · -- `c + 8` is live after the call, so the invariant of that state keeps it off the others
      exact Or.inr ⟨c + 8, o, _, Nat.le_add_left .., by rw [Nat.add_sub_cancel]; exact hw,
        fun e he => Or.inr ((List.pairwise_cons.mp (hl ▸ (live_ok_of_geo hI'.1).2)).1 e he)⟩
  · obtain ⟨g', _, hm | ⟨o, hl, hw⟩⟩ := free_sim hS hI p hok
    · exact Or.inl (by rw [hm])
    · exact Or.inr ⟨p, o, _, (hI.1.live_blk _ hl).1, hw, fun e he =>
        Decidable.or_iff_not_imp_left.mpr fun hpe => live_noOverlap hI.1 hl he (Ne.symm hpe)⟩

/-- **Frame.**  In a state with the invariant, an `alloc` or a permitted `free` leaves every byte of every
    live allocation (the whole rounded-up block) unchanged. -/
theorem C28_frame (hS : S.Lawful) (r : Run S) (g : Ghost) (hI : Inv r g) (op : Op)
    (hop : (∃ n, op = .alloc n) ∨ (∃ p, op = .free p)) (hok : OpOk r op) :
    ∀ e ∈ r.live, ∀ a, e.1 ≤ a → a < e.1 + osize e.2 →
      byteAt (r.step op).1.m.bytes a = byteAt r.m.bytes a := by
  intro e he a ha1 ha2
  rcases footprint hS hI hop hok with h | ⟨p, o, v, p8, h, hno⟩
  · rw [h]
  · -- the one word written is the header in front of `p`: `e` is that allocation or lies clear of it
    rw [h]
    refine byteAt_put64_other hS _ _ _ _ ?_
    rcases hno e he with hpe | hno
    · exact Or.inr (by rw [Nat.sub_add_cancel p8]; exact hpe ▸ ha1)
    · unfold NoOverlap at hno
      simp only at hno
      omega

/-- **Bad free (exact guard).**  In ANY state of a non-poisoned allocator: if the 8 bytes in front of
    `p` are not a well-formed occupied header (`p < 8`, outside the memory, occupied bit clear, or
    order ≥ 23), `Deallocate(p)` fails, writes nothing and poisons the allocator. -/
theorem C28_bad_free (s : St) (m : Mem S) (p : Nat) (hp : s.poisoned = false) (hno : ¬ OccAt m p) :
    ∃ s' e, deallocate s m p = (s', m, .error e) ∧ s'.poisoned = true := by
  rcases deallocate_cases s m p with ⟨s', e, heq, hpo, _⟩ | ⟨_, _, _, _, _, hocc, _⟩
  · exact ⟨s', e, heq, hpo⟩
  · exact absurd hocc hno

/-- **Double free.**  In a non-poisoned state with the invariant every pointer that was freed and not handed
    out again since is rejected by `Deallocate`: error, nothing written, allocator poisoned. -/
theorem C28_double_free (r : Run S) (g : Ghost) (hI : Inv r g) (hp : r.s.poisoned = false)
    (p : Nat) (hf : p ∈ r.freed) :
    ∃ s' e, deallocate r.s r.m p = (s', r.m, .error e) ∧ s'.poisoned = true := by
  have hH := hI.2 hp
  obtain ⟨_, o, ho, hm⟩ := hH.freed p hf
  -- a header that sits on a free list has its occupied bit clear
  refine C28_bad_free r.s r.m p hp (fun hocc => ?_)
  have := hocc.2.2.1
  rw [Nat.div_eq_of_lt (Chain_mem_free (hH.chain o ho) _ hm)] at this
  cases this

/-- `freed` really is "freed and not handed out again": after a successful `free p` the pointer is
    on it (so the next `free p` fails, by `C28_double_free` and `C28_inv_preserved`) -/
theorem C28_freed_after_free (r : Run S) (p : Nat) (h : (r.step (.free p)).2 = .ok) :
    p ∈ (r.step (.free p)).1.freed := by
  rcases hr : deallocate r.s r.m p with ⟨s', m', e | u⟩
  · simp only [Run.step, hr] at h; cases h
  · simp only [Run.step, hr]; exact List.mem_cons_self ..

/-- **Poison is sticky**: a poisoned allocator refuses every call and changes nothing. -/
theorem C28_poisoned_sticky (s : St) (m : Mem S) (x : Nat) (hp : s.poisoned = true) :
    allocate s m x = (s, m, .error .poisoned) ∧ deallocate s m x = (s, m, .error .poisoned) := by
  constructor
  · unfold allocate; rw [if_pos hp]
  · unfold deallocate; rw [if_pos hp]

/-- **Every error** of `Allocate` or `Deallocate` **poisons** the allocator. -/
theorem C28_error_poisons (s s' : St) (m m' : Mem S) (x : Nat) (e : Err) :
    (allocate s m x = (s', m', .error e) → s'.poisoned = true) ∧
    (deallocate s m x = (s', m', .error e) → s'.poisoned = true) := by
  constructor
  · intro h
    rcases allocate_cases s m x with ⟨_, _, heq, hp, _⟩ | ⟨_, _, _, heq, _⟩ | ⟨_, _, _, heq, _⟩
    · rw [heq] at h; injection h with e1; exact e1 ▸ hp
    · rw [heq] at h; exact nomatch (Prod.mk.inj (Prod.mk.inj h).2).2
    · rw [heq] at h; exact nomatch (Prod.mk.inj (Prod.mk.inj h).2).2
  · intro h
    rcases deallocate_cases s m x with ⟨_, _, heq, hp, _⟩ |
      ⟨_, _, _, heq, _, _, _, _, _, _, ⟨rfl, _⟩ | ⟨rfl, hp⟩⟩
    · rw [heq] at h; injection h with e1; exact e1 ▸ hp
    · rw [heq] at h; exact nomatch (Prod.mk.inj (Prod.mk.inj h).2).2
    · rw [heq] at h; injection h with e1; exact e1 ▸ hp

/-- **Too large**: a request above 32 MiB always fails (and nothing is written). -/
theorem C28_too_large (s : St) (m : Mem S) (n : Nat) (h : MAX_ALLOC < n) :
    ∃ s' e, allocate s m n = (s', m, .error e) ∧ s'.poisoned = true := by
  rcases allocate_cases s m n with ⟨s', e, heq, hpo, _⟩ | ⟨_, o, _, _, _, ho, _⟩ | ⟨_, _, o, _, _, ho, _⟩
  · exact ⟨s', e, heq, hpo⟩
  · have := (orderFromSize_spec n o ho).1; omega
  · have := (orderFromSize_spec n o ho).1; omega

/-- Exactly the requests up to 32 MiB get an order (the others: `C28_too_large`): it is below 23, and its block of `8 << o` bytes
    is the smallest that holds the request -/
theorem C28_order_spec (n : Nat) :
    (MAX_ALLOC < n → orderFromSize n = none) ∧
    (∀ o, orderFromSize n = some o → n ≤ MAX_ALLOC ∧ o < 23 ∧ n ≤ osize o ∧ (o = 0 ∨ osize o < 2 * n)) :=
  ⟨(orderFromSize_none n).mpr, orderFromSize_spec n⟩

/-- **Memory limit**: whatever the environment would allow (`maxPages`), `Allocate` never grows a
    memory of at most 65536 pages (4 GiB) beyond 65536 pages; `Deallocate` never grows it. -/
theorem C28_max_memory (s : St) (m : Mem S) (x : Nat) (h : m.pages ≤ MAX_PAGES) :
    (allocate s m x).2.1.pages ≤ MAX_PAGES ∧ (deallocate s m x).2.1.pages = m.pages := by
  constructor
  · rcases allocate_cases s m x with ⟨_, _, heq, _⟩ | ⟨_, _, _, heq, _⟩ |
      ⟨_, _, _, heq, _, _, _, _, _, _, hm', _⟩
    · rw [heq]; exact h
    · rw [heq]; exact h
    · rw [heq]
      rcases hm' with e | e
      · rw [e]; exact h
      · exact e
  · rcases deallocate_cases s m x with ⟨_, _, heq, _⟩ | ⟨_, _, _, heq, _⟩
    · rw [heq]
    · rw [heq]

/-- for whole histories without guest-initiated growth: the memory never exceeds 4 GiB -/
theorem C28_max_memory_run (ops : List Op) : ∀ (r : Run S), r.m.pages ≤ MAX_PAGES →
    (∀ op ∈ ops, ∀ d, op ≠ .grow d) → (r.exec ops).m.pages ≤ MAX_PAGES := by
  induction ops with
  | nil => intro r h _; exact h
  | cons op ops ih =>
    intro r h hng
    have key : (r.step op).1.m.pages ≤ MAX_PAGES := by
      cases op with
      | alloc n => rw [step_alloc_m]; exact (C28_max_memory r.s r.m n h).1
      | free p => rw [step_free_m, (C28_max_memory r.s r.m p h).2]; exact h
      | poke a v => rw [step_poke]; split <;> exact h
      | grow d => exact absurd rfl (hng _ (List.mem_cons_self ..) d)
    exact ih _ key (fun op' h' => hng op' (List.mem_cons_of_mem _ h'))

/-- Full statement wanted: the aligned base used by the allocator is never below the heap base it
    was given (`heapBase ≤ (newAlloc heapBase).base` for every 32-bit `heapBase`).  Proved for
    `heapBase + 7 < 2^32`; the seven values above wrap (known finding `heapbase-wrap`). -/
theorem C28_heap_base_partial (heapBase : Nat) (h : heapBase + 7 < U32) :
    heapBase ≤ (newAlloc heapBase).base ∧ (newAlloc heapBase).base < heapBase + 8 := by
  show heapBase ≤ 8 * (((heapBase + HDR - 1) % U32) / 8) ∧ 8 * (((heapBase + HDR - 1) % U32) / 8) < heapBase + 8
  have : (heapBase + HDR - 1) % U32 = heapBase + 7 := Nat.mod_eq_of_lt h
  rw [this]
  omega

theorem C28_heap_base_counterexample :
    (4294967295 : Nat) < U32 ∧ ¬ (4294967295 ≤ (newAlloc 4294967295).base) := by decide

/-- a history of a well-behaved guest (on the function store): `alloc 65` hands 24 out again, the second
    `free 24` gives it back, and the third `free 24` is a double free, which `OpOk` permits because the
    header in front of 24 is then a free header: it fails and poisons -/
def exOps : List Op := [.alloc 100, .alloc 8, .poke 32 7, .free 24, .alloc 65, .free 24, .free 24, .grow 1]

example : (((Run.init funStore 13 1 16).exec [.alloc 100, .alloc 8]).live) = [(160, 0), (24, 4)] := by
  decide

/-- the hypotheses of the history theorems are satisfiable -/
theorem C28_opsok_example : OpsOk (Run.init funStore 13 1 16) exOps := by
  refine ⟨trivial, trivial, ?_, ?_, trivial, ?_, ?_, trivial, trivial⟩
  · exact Or.inr (Or.inr ⟨(24, 4), by decide, by decide, by decide⟩)
  · exact Or.inl ⟨4, by decide⟩
  · exact Or.inl ⟨4, by decide⟩
  · refine Or.inr ?_
    intro h
    have := h.2.2.1
    revert this
    decide

/-- The double free of `exOps` is rejected: the run ends poisoned, the other allocation is
    still live -/
example : ((Run.init funStore 13 1 16).exec exOps).s.poisoned = true ∧
    ((Run.init funStore 13 1 16).exec exOps).live = [(160, 0)] := by decide

/-- the guest forges an occupied header inside a block it holds and frees the address behind it -/
def forgedRun : Run funStore :=
  (Run.init funStore 0 1 1).exec [.alloc 32, .poke 16 OCC, .free 24, .alloc 8]

/-- **The inherent limitation** (same in Substrate): the pointer 24 was never returned by `Allocate`,
    yet `Deallocate` accepts it because the guest wrote a well-formed occupied header in front of it,
    and the next allocation of that order is handed out INSIDE the live allocation at 8.  This is why
    `OpOk` demands that a pointer the guest does not hold has no well-formed occupied header in front
    of it: that hypothesis of `C28_no_overlap` cannot be dropped. -/
theorem C28_bad_free_forged_counterexample :
    forgedRun.s.poisoned = false ∧ forgedRun.live = [(24, 0), (8, 2)] ∧ ¬ NoOverlap (24, 0) (8, 2) := by
  refine ⟨by decide, by decide, ?_⟩
  unfold NoOverlap
  decide

end Gossamer.C28
