/-
C25 — BABE lottery arithmetic.  Theorems about `Gossamer.C25` (Model/C25.lean).

What is proved (for ALL inputs): the exact part of CalculateThreshold — for every float64 value
`p = num / 2^k ∈ [0,1]` the result is `min (2^128 - 1) ⌊2^128 · p⌋`, monotone in `p`, saturating
at `p = 1`; the guards (`C1 = 0`, `C2 = 0`, `C1 > C2`) and that no guard fires on `0 < C1 ≤ C2`
(float64 conversion of integers is monotone); the threshold comparison; the secondary author formula.

What is NOT a theorem: that the float64 `p` equals the real `1 - (1 - c)^(1/n)` — `math.Pow` is a
software routine outside any model; the driver checks it per case by rational enclosure
(`encloses`, absolute tolerance 2^-50) and monotonicity in `c` is sampled on adjacent pairs.
-/
import Gossamer.Model.C25
import Gossamer.Props.C13
namespace Gossamer.C25
open Gossamer.C13 (U128 C13_ofBig C13_ofBytesLE C13_compare)

theorem floor_le_one (num k : Nat) (h : num ≤ 2 ^ k) : 2 ^ 128 * num / 2 ^ k ≤ 2 ^ 128 :=
  Nat.div_le_of_le_mul (by rw [Nat.mul_comm (2 ^ k)]; exact Nat.mul_le_mul_left _ h)

theorem C25_floor (num k : Nat) :
    (2 ^ 128 * num / 2 ^ k) * 2 ^ k ≤ 2 ^ 128 * num ∧
    2 ^ 128 * num < (2 ^ 128 * num / 2 ^ k + 1) * 2 ^ k :=
  ⟨Nat.div_mul_le_self _ _, Nat.lt_of_lt_of_eq (Nat.lt_mul_div_succ _ (Nat.two_pow_pos k)) (Nat.mul_comm _ _)⟩

theorem thresholdOf_le {num k : Nat} {T : Nat} (hT : 2 ^ 128 * num / 2 ^ k = T) (hle : T ≤ 2 ^ 128) :
    ∃ t, thresholdOf num k = .ok t ∧ t.toNat = min (2 ^ 128 - 1) T := by
  unfold thresholdOf
  rw [hT]
  dsimp only
  by_cases he : T = 2 ^ 128
  · rw [if_pos he, he]
    exact ⟨_, rfl, (C13_ofBig maxU128 (by decide)).trans (by decide)⟩
  · have hlt : T < 2 ^ 128 := Nat.lt_of_le_of_ne hle he
    rw [if_neg he, if_neg (Nat.not_le_of_lt hlt)]
    exact ⟨_, rfl, (C13_ofBig _ hlt).trans (Nat.min_eq_right (Nat.le_sub_one_of_lt hlt)).symm⟩

theorem C25_exact (num k : Nat) (h : num ≤ 2 ^ k) :
    ∃ t, thresholdOf num k = .ok t ∧ t.toNat = min (2 ^ 128 - 1) (2 ^ 128 * num / 2 ^ k) :=
  thresholdOf_le rfl (floor_le_one num k h)

/-- the value of the result, as a function (total on `[0,1]` by `C25_exact`) -/
def thrVal (num k : Nat) : Nat := min (2 ^ 128 - 1) (2 ^ 128 * num / 2 ^ k)

theorem div_le_div_of_cross (a b c d : Nat) (hb : 0 < b) (hd : 0 < d) (h : a * d ≤ c * b) :
    a / b ≤ c / d := by
  rw [Nat.le_div_iff_mul_le hd]
  apply Nat.le_of_mul_le_mul_right _ hb
  calc a / b * d * b = a / b * b * d := by rw [Nat.mul_assoc, Nat.mul_comm d b, ← Nat.mul_assoc]
    _ ≤ a * d := Nat.mul_le_mul_right _ (Nat.div_mul_le_self _ _)
    _ ≤ c * b := h

/-- monotone in `p`: `num₁/2^k₁ ≤ num₂/2^k₂ ≤ 1` implies threshold₁ ≤ threshold₂ -/
theorem C25_monotone_in_p (n1 k1 n2 k2 : Nat) (hp : n1 * 2 ^ k2 ≤ n2 * 2 ^ k1) (h2 : n2 ≤ 2 ^ k2) :
    ∃ t1 t2, thresholdOf n1 k1 = .ok t1 ∧ thresholdOf n2 k2 = .ok t2 ∧ t1.toNat ≤ t2.toNat := by
  have hle := floor_le_one n2 k2 h2
  have h12 := div_le_div_of_cross (2 ^ 128 * n1) (2 ^ k1) (2 ^ 128 * n2) (2 ^ k2) (Nat.two_pow_pos _)
    (Nat.two_pow_pos _) (by rw [Nat.mul_assoc, Nat.mul_assoc]; exact Nat.mul_le_mul_left _ hp)
  obtain ⟨t1, e1, v1⟩ := thresholdOf_le rfl (Nat.le_trans h12 hle)
  obtain ⟨t2, e2, v2⟩ := thresholdOf_le rfl hle
  refine ⟨t1, t2, e1, e2, ?_⟩
  rw [v1, v2]
  exact Nat.le_min.2 ⟨Nat.min_le_left .., Nat.le_trans (Nat.min_le_right ..) h12⟩

/-- `p = 1` gives the maximum -/
theorem C25_saturates (k : Nat) :
    ∃ t, thresholdOf (2 ^ k) k = .ok t ∧ t.toNat = 2 ^ 128 - 1 :=
  thresholdOf_le (Nat.mul_div_cancel _ (Nat.two_pow_pos k)) (Nat.le_refl _)

/-- only `p = 1` saturates: below it the threshold is the plain floor -/
theorem C25_below_one (num k : Nat) (h : num < 2 ^ k) :
    ∃ t, thresholdOf num k = .ok t ∧ t.toNat = 2 ^ 128 * num / 2 ^ k := by
  have hlt : 2 ^ 128 * num / 2 ^ k < 2 ^ 128 :=
    (Nat.div_lt_iff_lt_mul (Nat.two_pow_pos k)).2 (Nat.mul_lt_mul_of_pos_left h (Nat.two_pow_pos _))
  obtain ⟨t, e, v⟩ := thresholdOf_le rfl (Nat.le_of_lt hlt)
  exact ⟨t, e, v.trans (Nat.min_eq_right (Nat.le_sub_one_of_lt hlt))⟩

theorem decode_one : decodeF64 0x3ff0000000000000 = some ⟨false, 2 ^ 52, 0, 52⟩ := by decide

theorem decode_normal (bits : Nat) (hs : bits < 2 ^ 63) (he0 : bits / 2 ^ 52 % 2 ^ 11 ≠ 0)
    (he : bits / 2 ^ 52 % 2 ^ 11 ≤ 1075) :
    decodeF64 bits = some ⟨false, 2 ^ 52 + bits % 2 ^ 52, 0, 1075 - bits / 2 ^ 52 % 2 ^ 11⟩ := by
  unfold decodeF64
  dsimp only
  rw [Nat.div_eq_of_lt hs, if_neg (fun h => absurd (h ▸ he) (by decide)), if_neg he0, if_pos he]
  rfl

theorem thresholdOfBits_nonneg {bits m k : Nat} (h : decodeF64 bits = some ⟨false, m, 0, k⟩) :
    thresholdOfBits bits = thresholdOf m k := by
  unfold thresholdOfBits thresholdOfDy
  rw [h]
  dsimp only
  rw [if_neg (fun h => Bool.false_ne_true h.1), Nat.pow_zero, Nat.mul_one]

theorem f64_small (x : Nat) (h : x < 2 ^ 53) : f64OfNat x = x := if_pos h

/-- round to nearest, ties to even: the quotient `q` with remainder `r`, against half a unit -/
def rnd (half q r : Nat) : Nat := if r > half ∨ (r = half ∧ q % 2 = 1) then q + 1 else q

theorem rnd_bounds (half q r : Nat) : q ≤ rnd half q r ∧ rnd half q r ≤ q + 1 := by
  unfold rnd
  by_cases c : r > half ∨ (r = half ∧ q % 2 = 1)
  · rw [if_pos c]; exact ⟨Nat.le_succ q, Nat.le_refl _⟩
  · rw [if_neg c]; exact ⟨Nat.le_refl q, Nat.le_succ q⟩

theorem rnd_mono (half q : Nat) {r r' : Nat} (h : r ≤ r') : rnd half q r ≤ rnd half q r' := by
  by_cases c : r' > half ∨ (r' = half ∧ q % 2 = 1)
  · rw [rnd, rnd, if_pos c]; exact (rnd_bounds half q r).2
  · rw [rnd, rnd, if_neg c, if_neg (by omega)]; exact Nat.le_refl q

/-- rounding `x` at a fixed shift: the else-branch of the model's `f64OfNat` with its `let`s unfolded (`f64_big`) -/
def roundAt (sh x : Nat) : Nat := rnd (2 ^ (sh - 1)) (x / 2 ^ sh) (x % 2 ^ sh) * 2 ^ sh

theorem f64_big (x : Nat) (h : ¬ x < 2 ^ 53) : f64OfNat x = roundAt (Nat.log2 x - 52) x := if_neg h

theorem roundAt_mono (sh : Nat) {x y : Nat} (h : x ≤ y) : roundAt sh x ≤ roundAt sh y := by
  refine Nat.mul_le_mul_right _ ?_
  have hq : x / 2 ^ sh ≤ y / 2 ^ sh := Nat.div_le_div_right h
  by_cases hqe : x / 2 ^ sh = y / 2 ^ sh
  · rw [hqe]
    refine rnd_mono _ _ ?_
    have hx := Nat.div_add_mod x (2 ^ sh)
    have hy := Nat.div_add_mod y (2 ^ sh)
    rw [hqe] at hx
    omega
  · exact Nat.le_trans (rnd_bounds ..).2 (Nat.le_trans (Nat.succ_le_of_lt (Nat.lt_of_le_of_ne hq hqe)) (rnd_bounds ..).1)

theorem roundAt_bounds (x : Nat) (h : 2 ^ 53 ≤ x) :
    2 ^ Nat.log2 x ≤ roundAt (Nat.log2 x - 52) x ∧ roundAt (Nat.log2 x - 52) x ≤ 2 ^ (Nat.log2 x + 1) := by
  have hx0 : x ≠ 0 := Nat.ne_of_gt (Nat.lt_of_lt_of_le (Nat.two_pow_pos 53) h)
  have hlo : 2 ^ Nat.log2 x ≤ x := Nat.log2_self_le hx0
  have hhi : x < 2 ^ (Nat.log2 x + 1) := Nat.lt_log2_self
  have hL : 52 ≤ Nat.log2 x := Nat.le_of_succ_le ((Nat.le_log2 hx0).2 h)
  generalize Nat.log2 x = L at hlo hhi hL ⊢
  obtain ⟨sh, rfl⟩ := Nat.exists_eq_add_of_le hL
  rw [Nat.add_sub_cancel_left]
  have hpos : 0 < 2 ^ sh := Nat.two_pow_pos _
  rw [Nat.pow_add] at hlo ⊢
  rw [Nat.add_right_comm, Nat.pow_add] at hhi ⊢
  exact ⟨Nat.le_trans (Nat.mul_le_mul_right _ ((Nat.le_div_iff_mul_le hpos).2 hlo)) (Nat.mul_le_mul_right _ (rnd_bounds ..).1),
    Nat.mul_le_mul_right _ (Nat.le_trans (rnd_bounds ..).2 ((Nat.div_lt_iff_lt_mul hpos).2 hhi))⟩

/-- Go's `float64(uint64)` is monotone: with the same binary exponent both are rounded at the same shift
    (`roundAt_mono`); with different exponents a power of two lies between the two results (`roundAt_bounds`) -/
theorem f64OfNat_mono (x y : Nat) (h : x ≤ y) : f64OfNat x ≤ f64OfNat y := by
  by_cases hy : y < 2 ^ 53
  · rw [f64_small x (Nat.lt_of_le_of_lt h hy), f64_small y hy]; exact h
  · have hy' : 2 ^ 53 ≤ y := Nat.le_of_not_lt hy
    have hy0 : y ≠ 0 := Nat.ne_of_gt (Nat.lt_of_lt_of_le (Nat.two_pow_pos 53) hy')
    have hby := (roundAt_bounds y hy').1
    rw [f64_big y hy]
    by_cases hx : x < 2 ^ 53
    · rw [f64_small x hx]
      exact Nat.le_trans (Nat.le_of_lt hx) (Nat.le_trans (Nat.pow_le_pow_right (by decide) ((Nat.le_log2 hy0).2 hy')) hby)
    · have hx' : 2 ^ 53 ≤ x := Nat.le_of_not_lt hx
      have hx0 : x ≠ 0 := Nat.ne_of_gt (Nat.lt_of_lt_of_le (Nat.two_pow_pos 53) hx')
      rw [f64_big x hx]
      have hLL : Nat.log2 x ≤ Nat.log2 y := (Nat.le_log2 hy0).2 (Nat.le_trans (Nat.log2_self_le hx0) h)
      by_cases hLe : Nat.log2 x = Nat.log2 y
      · rw [hLe]; exact roundAt_mono _ h
      · exact Nat.le_trans (roundAt_bounds x hx').2
          (Nat.le_trans (Nat.pow_le_pow_right (by decide) (Nat.succ_le_of_lt (Nat.lt_of_le_of_ne hLL hLe))) hby)

/-- the results the arithmetic can give: neither of the two guard errors -/
def Thr.notGuardErr : Thr → Prop
  | .errZero | .errGt1 => False
  | _ => True

theorem notGuardErr_ite {c : Prop} [Decidable c] {a b : Thr} (ha : a.notGuardErr) (hb : b.notGuardErr) :
    (if c then a else b).notGuardErr := by
  by_cases hc : c
  · rw [if_pos hc]; exact ha
  · rw [if_neg hc]; exact hb

theorem thresholdOfBits_notGuardErr (b : Nat) : (thresholdOfBits b).notGuardErr := by
  unfold thresholdOfBits
  cases decodeF64 b with
  | none => trivial
  | some d => exact notGuardErr_ite (notGuardErr_ite trivial trivial) (notGuardErr_ite trivial (notGuardErr_ite trivial trivial))

theorem calcThreshold_zero {c1 c2 : Nat} (pb : Nat) (hz : c1 = 0 ∨ c2 = 0) : calcThreshold c1 c2 pb = .errZero :=
  if_pos hz

theorem calcThreshold_gt {c1 c2 : Nat} (pb : Nat) (hz : ¬ (c1 = 0 ∨ c2 = 0)) (hg : f64OfNat c1 > f64OfNat c2) :
    calcThreshold c1 c2 pb = .errGt1 := by
  rw [calcThreshold, if_neg hz, if_pos hg]

theorem calcThreshold_ok {c1 c2 : Nat} (pb : Nat) (hz : ¬ (c1 = 0 ∨ c2 = 0)) (hg : ¬ f64OfNat c1 > f64OfNat c2) :
    calcThreshold c1 c2 pb = thresholdOfBits pb := by
  rw [calcThreshold, if_neg hz, if_neg hg]

/-- The guards of CalculateThreshold: the zero guard fires exactly on `C1 = 0 ∨ C2 = 0`;
    the ratio guard fires only when `C1 > C2`, and always when moreover `C1 < 2^53`
    (where `float64` conversion is exact); on `0 < C1 ≤ C2` no guard fires. -/
theorem C25_errors (c1 c2 pb : Nat) :
    (calcThreshold c1 c2 pb = .errZero ↔ c1 = 0 ∨ c2 = 0) ∧
    (calcThreshold c1 c2 pb = .errGt1 → c1 ≠ 0 ∧ c2 ≠ 0 ∧ c1 > c2) ∧
    (c1 ≠ 0 → c2 ≠ 0 → c1 > c2 → c1 < 2 ^ 53 → calcThreshold c1 c2 pb = .errGt1) ∧
    (c1 ≠ 0 → c1 ≤ c2 → calcThreshold c1 c2 pb = thresholdOfBits pb) := by
  have har := thresholdOfBits_notGuardErr pb
  refine ⟨⟨fun h => ?_, calcThreshold_zero pb⟩, fun h => ?_, fun h1 h2 hgt hb => ?_, fun h1 hle => ?_⟩
  · by_cases hz : c1 = 0 ∨ c2 = 0
    · exact hz
    · by_cases hg : f64OfNat c1 > f64OfNat c2
      · rw [calcThreshold_gt pb hz hg] at h; cases h
      · rw [calcThreshold_ok pb hz hg] at h; rw [h] at har; exact har.elim
  · by_cases hz : c1 = 0 ∨ c2 = 0
    · rw [calcThreshold_zero pb hz] at h; cases h
    · by_cases hg : f64OfNat c1 > f64OfNat c2
      · exact ⟨fun e => hz (Or.inl e), fun e => hz (Or.inr e),
          Nat.lt_of_not_le fun hle => Nat.not_le_of_gt hg (f64OfNat_mono c1 c2 hle)⟩
      · rw [calcThreshold_ok pb hz hg] at h; rw [h] at har; exact har.elim
  · refine calcThreshold_gt pb (not_or.2 ⟨h1, h2⟩) ?_
    rw [f64_small c1 hb, f64_small c2 (Nat.lt_trans hgt hb)]; exact hgt
  · exact calcThreshold_ok pb (not_or.2 ⟨h1, fun e => h1 (Nat.le_zero.1 (e ▸ hle))⟩)
      (Nat.not_lt_of_le (f64OfNat_mono c1 c2 hle))

/-- above 2^53 the ratio guard is blind to `C1 > C2` when both round to the same double:
    `C1 = 2^53 + 1 > C2 = 2^53` is not rejected (it is treated as c = 1) -/
theorem C25_errors_rounding_counterexample :
    f64OfNat (2 ^ 53 + 1) = f64OfNat (2 ^ 53) ∧
    calcThreshold (2 ^ 53 + 1) (2 ^ 53) 0x3ff0000000000000 ≠ .errGt1 := by
  have h1 : f64OfNat (2 ^ 53 + 1) = f64OfNat (2 ^ 53) := by decide
  refine ⟨h1, fun h => ?_⟩
  have har := thresholdOfBits_notGuardErr 0x3ff0000000000000
  rw [← calcThreshold_ok (c1 := 2 ^ 53 + 1) (c2 := 2 ^ 53) _ (by decide) (h1 ▸ Nat.lt_irrefl _), h] at har
  exact har

/-- CalculateThreshold on the property's domain: `0 < C1 ≤ C2` and the float kernel produced a value
    `p = m / 2^k ∈ [0,1]`: the result is `min (2^128 - 1) ⌊2^128 · p⌋`. -/
theorem C25_calc (c1 c2 pb m k : Nat) (h1 : c1 ≠ 0) (hle : c1 ≤ c2)
    (hd : decodeF64 pb = some ⟨false, m, 0, k⟩) (hm : m ≤ 2 ^ k) :
    ∃ t, calcThreshold c1 c2 pb = .ok t ∧ t.toNat = min (2 ^ 128 - 1) (2 ^ 128 * m / 2 ^ k) := by
  rw [(C25_errors c1 c2 pb).2.2.2 h1 hle, thresholdOfBits_nonneg hd]
  exact C25_exact m k hm

example : ∃ t, calcThreshold 1 1 0x3ff0000000000000 = .ok t ∧ t.toNat = 2 ^ 128 - 1 := by
  obtain ⟨t, e, v⟩ := C25_calc 1 1 0x3ff0000000000000 (2 ^ 52) 52 (by decide) (by decide) decode_one
    (Nat.le_refl _)
  exact ⟨t, e, by rw [v]; decide⟩

/-- checkPrimaryThreshold accepts exactly when the 16 VRF bytes, read little-endian, are
    numerically below the threshold -/
theorem C25_compare (res : Bytes) (thr : U128) (h : res.length ≤ 16) :
    checkPrimary res thr = decide (natOfLE res < thr.toNat) := by
  unfold checkPrimary
  rw [C13_compare, C13_ofBytesLE res h]
  by_cases h1 : natOfLE res > thr.toNat
  · simp only [h1, if_true]
    have : ¬ natOfLE res < thr.toNat := by omega
    simp [this]
  · simp only [h1, if_false]
    by_cases h2 : natOfLE res < thr.toNat
    · simp [h2]
    · simp [h2]

/-- For every hash function `H`, randomness, slot and authority count `1 ≤ n ≤ 2^32`:
    the author index is `natOfBE (H (randomness ++ le64 slot)) mod n`, and it is a valid index. -/
theorem C25_secondary_author (H : Bytes → Bytes) (r : Bytes) (slot n : Nat)
    (h1 : 1 ≤ n) (h32 : n ≤ 2 ^ 32) :
    ∃ i, secondaryAuthor H r slot n = .idx i ∧ i < n ∧
      i = natOfBE (H (r ++ leBytes 8 slot)) % n := by
  unfold secondaryAuthor
  have hlt : natOfBE (H (r ++ leBytes 8 slot)) % n < n := Nat.mod_lt _ (by omega)
  -- neither conversion (`Uint64`, `uint32`) truncates a value below `n ≤ 2^32`
  have hconv : natOfBE (H (r ++ leBytes 8 slot)) % n % 2 ^ 64 % 2 ^ 32 = natOfBE (H (r ++ leBytes 8 slot)) % n := by
    rw [Nat.mod_eq_of_lt (a := _ % n) (by omega), Nat.mod_eq_of_lt (by omega)]
  exact ⟨_, by rw [if_neg (by omega), hconv], hlt, rfl⟩

/-- the 8 bytes appended to the randomness are the slot number, little endian -/
theorem C25_slot_bytes (slot : Nat) (h : slot < 2 ^ 64) :
    (leBytes 8 slot).length = 8 ∧ natOfLE (leBytes 8 slot) = slot :=
  ⟨length_leBytes 8 slot, natOfLE_leBytes_lt (k := 8) h⟩

/-- beyond 2^32 authorities the `uint32` conversion truncates the index (not reachable: an
    authority index is a `uint32` in every pre-digest) -/
theorem C25_secondary_author_counterexample :
    ∃ H : Bytes → Bytes, secondaryAuthor H [] 0 (2 ^ 32 + 1) = .idx 0 ∧
      natOfBE (H ([] ++ leBytes 8 0)) % (2 ^ 32 + 1) = 2 ^ 32 :=
  ⟨fun _ => [1, 0, 0, 0, 0], by decide, by decide⟩

end Gossamer.C25
