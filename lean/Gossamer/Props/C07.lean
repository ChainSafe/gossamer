/-
C07 — trie node encoding round-trips and decoding is robust: theorems about the model
(`Gossamer.Lib.TrieCodec`, `Gossamer.Model.C07`).
-/
import Gossamer.Lib.C07RoundTrip
import Gossamer.Lib.C07Safe
namespace Gossamer.C07
open Gossamer Gossamer.TrieCodec

/-- **Round trip (node codec).**  Every well-formed node — a leaf with its value or a branch with or
    without one, the value shorter than 2^30 bytes, inline or stored by hash, any partial key of up to
    65535 nibbles, children inlined or referenced by hash — decodes from its encoding to `view H n` (the
    node with hashed values and children of 32 bytes or more replaced by their hashes), whichever way
    pkg/scale treats short reads.  `H` is any 32-byte hash function. -/
theorem C07_node_roundtrip (H : Bytes → Bytes) (hH : ∀ m, (H m).length = 32) (strict : Bool)
    (n : Node) (hwf : WF n) : decode strict (encode H n) = .ok (view H n) :=
  decode_encode H hH strict n hwf

/-- **Header round trip**, for the five node variants and every partial key length up to 65535,
    with arbitrary following bytes `r`. -/
theorem C07_header_roundtrip (v : Variant) (hv : v ∈ nodeVariants) (pk r : Bytes)
    (h : pk.length ≤ 65535) : decodeHeader (encodeHeader v pk.length ++ r) = .ok (v, pk.length, r) :=
  header_roundtrip v hv pk.length h r

/-- **Partial key round trip**: `decodeKey` reads back any nibble key from `NibblesToKeyLE` of it, given
    its length, with arbitrary following bytes `r`. -/
theorem C07_key_roundtrip (pk r : Bytes) (hn : Nibbles pk) :
    decodeKey pk.length (nibblesToKeyLE pk ++ r) = .ok (pk, r) :=
  key_roundtrip pk r hn

example : decodeHeader (encodeHeader leafV 62 ++ [7]) = .ok (leafV, 62, [7]) :=
  header_roundtrip leafV (by decide) 62 (by decide) [7]
example : decodeHeader (encodeHeader leafV 63 ++ [7]) = .ok (leafV, 63, [7]) :=
  header_roundtrip leafV (by decide) 63 (by decide) [7]
example : decodeHeader (encodeHeader leafV 64 ++ [7]) = .ok (leafV, 64, [7]) :=
  header_roundtrip leafV (by decide) 64 (by decide) [7]
example : decodeHeader (encodeHeader branchHashedV (15 + 255 * 3) ++ []) = .ok (branchHashedV, 15 + 255 * 3, []) :=
  header_roundtrip branchHashedV (by decide) _ (by decide) []
example : decodeHeader (encodeHeader leafHashedV 65535 ++ []) = .ok (leafHashedV, 65535, []) :=
  header_roundtrip leafHashedV (by decide) _ (by decide) []

/-- non-vacuity: a branch with a hashed value, an inlined leaf and a child referenced by hash is
    well-formed -/
example : WF (.branch [1, 2, 3] (some [9, 9]) true
    ([.leaf [4] (some [5]) false, .stub (List.replicate 32 7)] ++ List.replicate 14 .empty)) := by
  simp [WF, WFKids, Nibbles, ValueOK, List.replicate]

/-- **Robustness (node codec): no panic.**  For every byte string, under either behaviour of short
    reads in pkg/scale, `node.Decode` returns a node or an error. -/
theorem C07_no_panic (strict : Bool) (bs : Bytes) : decode strict bs ≠ .panic :=
  (decodeF_safe strict _ bs (Nat.lt_succ_of_le (nz_le_length bs))).1

/-- **Robustness (node codec): termination.**  The recursion into inlined children always ends:
    the model never runs out of the fuel `len bs + 1` (each level consumes a non-zero header byte). -/
theorem C07_total (strict : Bool) (bs : Bytes) : decode strict bs ≠ .fuel :=
  (decodeF_safe strict _ bs (Nat.lt_succ_of_le (nz_le_length bs))).2

/-- the two together: `node.Decode` returns a node or one of its error classes -/
theorem C07_decode_ok_or_err (strict : Bool) (bs : Bytes) :
    (∃ n, decode strict bs = .ok n) ∨ (∃ e, decode strict bs = .err e) :=
  Safe.cases ⟨C07_no_panic strict bs, C07_total strict bs⟩

/-- **Robustness (triedb codec).**  `codec.Decode` returns a node or an error for every byte string:
    in particular the `panic(err)` after `scale.Unmarshal` in `decodeBranch` is unreachable. -/
theorem C07_tdecode_no_panic (quirk strict : Bool) (bs : Bytes) :
    tdecodeG quirk strict bs ≠ .panic ∧ tdecodeG quirk strict bs ≠ .fuel :=
  tdecodeG_safe quirk strict bs

/-- **Round trip (triedb codec), as the code is** (`_partial`: hashes must not be all zero).
    Full statement: `TWF false n → tdecode strict (tencode n) = .ok n`; it fails, see
    `C07_tnode_roundtrip_counterexample`. -/
theorem C07_tnode_roundtrip_partial (strict : Bool) (n : TNode) (hwf : TWF true n) :
    tdecode strict (tencode n) = .ok n := by
  have := tnode_roundtrip true strict n [] hwf
  rwa [List.append_nil] at this

/-- the same without the restriction, for a decoder whose `H256.UnmarshalSCALE` keeps the zero hash -/
theorem C07_tnode_roundtrip_spec (strict : Bool) (n : TNode) (hwf : TWF false n) :
    tdecodeG false strict (tencode n) = .ok n := by
  have := tnode_roundtrip false strict n [] hwf
  rwa [List.append_nil] at this

/-- a leaf whose value hash is 32 zero bytes does not decode back to itself -/
theorem C07_tnode_roundtrip_counterexample :
    ∃ n, TWF false n ∧ ∀ strict, tdecode strict (tencode n) ≠ .ok n := by
  refine ⟨.leaf [] 0 (.hashed (List.replicate 32 0)), ?_, ?_⟩
  · simp [TWF, TValueOK, HashOK]
  · intro strict
    have : tdecode strict (tencode (.leaf [] 0 (.hashed (List.replicate 32 0)))) =
        .ok (.leaf [] 0 (.hashed [])) := by cases strict <;> rfl
    rw [this]
    simp

/-- non-vacuity of the triedb round trip -/
example : TWF true (.branch [0x0a, 0xbc] 1 (some (.hashed (List.replicate 32 7)))
    ([.inline [0x41, 0x00], .hashed (List.replicate 32 9)] ++ List.replicate 14 .none)) := by
  simp [TWF, TValueOK, TChildOK, HashOK, List.replicate]

/-- The model has one flag for the reads inside pkg/scale.  This is enough: how the bytes of the
    compact length are read (zero-filling `Read` or `io.ReadFull`) cannot be observed through
    `decodeBytes`, only how the data bytes are read. -/
theorem C07_scale_int_mode_irrelevant (si si' sd : Bool) (r : Bytes) :
    scaleBytes2 si sd r = scaleBytes2 si' sd r ∧ scaleBytes2 sd sd r = scaleBytes sd r :=
  ⟨scaleBytes2_int_irrelevant si si' sd r, rfl⟩

end Gossamer.C07
