/-
C38 — paginated key listing enumerates each matching key exactly once; the key/value listing
returns exactly the matching keys with their current values.
-/
import Gossamer.Lib.C38Run
namespace Gossamer.C38
open Gossamer Gossamer.Trie

/-- The lexicographic order of the lower-case hex texts is the byte-lexicographic order of the keys
    (a proper prefix is smaller in both). -/
theorem C38_hex_order (a b : Bytes) : klt (hexChars a) (hexChars b) = klt a b :=
  klt_hexChars a b

theorem fKey_gt_empty (k : Bytes) : sgt (fKey k) [] = true := rfl

/-- The specification side: the ordered map `es`.  For every prefix, page
    size `q ≥ 1` and every bound of calls above the number of matching keys, the client loop ends
    on an empty page and the pages are the consecutive `q`-chunks of `keysWithPrefix p`. -/
theorem C38_pages_spec {es : Entries} (hs : OMap.Sorted es) (pfx : Str) (p : Bytes)
    (hp : prefixOf pfx = some p) (q : Nat) (hq : 1 ≤ q) (fuel : Nat)
    (hf : (OMap.keysWithPrefix p es).length < fuel) :
    paginate (getKeysPaged (mapStore es) true pfx q) fuel [] =
      (chunk q ((OMap.keysWithPrefix p es).map fKey), LoopEnd.done) := by
  rw [getKeysPaged_eq _ pfx p hp]
  apply paginate_all q hq _ (asc_keys hs p)
  · intro x hx
    obtain ⟨k, _, rfl⟩ := List.mem_map.mp hx
    exact fKey_gt_empty k
  · simpa using hf

/-- **Pages partition the matching keys.**  FULL STATEMENT (false for the code, see the counterexample): the same
    with the Go trie `t` in place of the map it represents, for every prefix.
    Proved for every state, prefix, page size ≥ 1 outside the region of the inherited trie finding
    `prefix-zero-nibble` (`trimRegion`: the prefix ends in a zero nibble and some stored key has
    the nibble prefix without that nibble but not the byte prefix). -/
theorem C38_pages_partition_partial {t : Trie} {es : Entries} (h : Rep t es) (pfx : Str) (p : Bytes)
    (hp : prefixOf pfx = some p) (hreg : trimRegion p es = false) (q : Nat) (hq : 1 ≤ q)
    (fuel : Nat) (hf : (OMap.keysWithPrefix p es).length < fuel) :
    paginate (getKeysPaged (trieStore t) true pfx q) fuel [] =
      (chunk q ((OMap.keysWithPrefix p es).map fKey), LoopEnd.done) := by
  rw [paged_agree h true pfx (fun _ e => by rw [hp] at e; cases e; exact hreg) q]
  exact C38_pages_spec h.sorted pfx p hp q hq fuel hf

/-- in particular for every prefix whose last byte has a non-zero low nibble, and the empty one -/
theorem C38_pages_partition_nonzero {t : Trie} {es : Entries} (h : Rep t es) (pfx : Str) (p : Bytes)
    (hp : prefixOf pfx = some p) (hz : lowNibbleZero p = false) (q : Nat) (hq : 1 ≤ q)
    (fuel : Nat) (hf : (OMap.keysWithPrefix p es).length < fuel) :
    paginate (getKeysPaged (trieStore t) true pfx q) fuel [] =
      (chunk q ((OMap.keysWithPrefix p es).map fKey), LoopEnd.done) :=
  C38_pages_partition_partial h pfx p hp (by simp [trimRegion, hz]) q hq fuel hf

/-- the concatenated pages are exactly the matching keys, each once, in ascending byte order (the last
    three conjuncts restate what `keysWithPrefix` is, so that this reads in one statement) -/
theorem C38_pages_concat_partial {t : Trie} {es : Entries} (h : Rep t es) (pfx : Str) (p : Bytes)
    (hp : prefixOf pfx = some p) (hreg : trimRegion p es = false) (q : Nat) (hq : 1 ≤ q)
    (fuel : Nat) (hf : (OMap.keysWithPrefix p es).length < fuel) :
    let r := paginate (getKeysPaged (trieStore t) true pfx q) fuel []
    r.2 = LoopEnd.done ∧
    r.1.flatten = (OMap.keysWithPrefix p es).map fKey ∧
    (∀ pg ∈ r.1, pg ≠ [] ∧ pg.length ≤ q) ∧
    (OMap.keysWithPrefix p es).Pairwise (fun a b => klt a b = true) ∧
    (OMap.keysWithPrefix p es).Nodup ∧
    (∀ k, k ∈ OMap.keysWithPrefix p es ↔ p.isPrefixOf k = true ∧ ∃ v, (k, v) ∈ es) := by
  intro r
  have hr : r = (chunk q ((OMap.keysWithPrefix p es).map fKey), LoopEnd.done) :=
    C38_pages_partition_partial h pfx p hp hreg q hq fuel hf
  have hasc := OMap.keysWithPrefix_asc h.sorted p
  exact ⟨by rw [hr], by rw [hr]; exact chunk_flatten q hq _, by rw [hr]; exact chunk_sizes q hq _, hasc,
    hasc.nodup klt_strict, fun k => OMap.mem_keysWithPrefix p k es⟩

/-- inside the region: state `{1f ↦ 01}`, prefix `0x10`, page size 1 — the loop lists `0x1f` -/
theorem C38_pages_partition_counterexample :
    ∃ (t : Trie) (es : Entries) (pfx : Str) (p : Bytes) (q fuel : Nat), Rep t es ∧
      prefixOf pfx = some p ∧ 1 ≤ q ∧ (OMap.keysWithPrefix p es).length < fuel ∧
      paginate (getKeysPaged (trieStore t) true pfx q) fuel [] ≠
        (chunk q ((OMap.keysWithPrefix p es).map fKey), LoopEnd.done) :=
  ⟨Trie.put Trie.nil [0x1f] [0x01], OMap.upsert [0x1f] [0x01] [], ['0', 'x', '1', '0'], [0x10], 1, 3,
    Rep.empty.put _ _, by decide, by decide, by decide, by decide⟩

/-- GetKeysPaged hands the block field to the storage as a state root: with the hash of a block
    (unknown as a root) the call fails although the prefix is valid and the state has keys -/
theorem C38_block_counterexample :
    ∃ (t : Trie) (es : Entries) (pfx : Str), Rep t es ∧
      getKeysPaged (trieStore t) (Addr.blk != Addr.blk) pfx 1 [] = none ∧
      getKeysPaged (mapStore es) true pfx 1 [] = some [['0', 'x', '1', 'f']] :=
  ⟨Trie.put Trie.nil [0x1f] [0x01], OMap.upsert [0x1f] [0x01] [], ['0', 'x'],
    Rep.empty.put _ _, by decide, by decide⟩

/-- GetPairs without a prefix (nil, `""` or `"0x"`) returns every key of the
    state with its current value (all states; no side condition). -/
theorem C38_pairs_all {t : Trie} {es : Entries} (h : Rep t es) (pfx : Option Str)
    (hp : pfx = none ∨ pfx = some [] ∨ pfx = some ['0', 'x']) :
    getPairs (trieStore t) true pfx = some (es.map (fun e => (fKey e.1, fKey e.2))) := by
  rw [pairs_agree h true pfx, getPairs_map_all h.sorted pfx hp]
  rintro p hpb rfl e
  rcases hp with hp | hp | hp <;> cases hp
  · cases e
  · cases e; rfl

/-- **GetPairs lists the matching entries.**  FULL STATEMENT (false for the code inside `trimRegion`): for every state and
    every well-formed prefix string denoting the bytes `p`, GetPairs returns exactly the entries
    whose key has the byte prefix `p`, ascending, each with its current value. -/
theorem C38_pairs_partial {t : Trie} {es : Entries} (h : Rep t es) (pfx : Str) (p : Bytes)
    (hp : hexToBytes? pfx = some p) (hreg : trimRegion p es = false) :
    getPairs (trieStore t) true (some pfx) = some (specPairs p es) := by
  rw [pairs_agree h true (some pfx) (by rintro _ hp' ⟨⟩ e; rw [hp] at e; cases e; exact hreg)]
  by_cases hne : pfx = [] ∨ pfx = ['0', 'x']
  · have hp0 : p = [] := by
      rcases hne with e | e
      · subst e; simp [hexToBytes?] at hp
      · subst e; simp [hexToBytes?, ofHexChars?] at hp; exact hp
    subst hp0
    rw [getPairs_map_all h.sorted (some pfx) (by rcases hne with e | e <;> simp [e]), specPairs_nil]
  · exact getPairs_map_prefix h.sorted pfx p hp hne

/-- inside the region: state `{1f ↦ 01}`, `GetPairs("0x10")` lists `0x1f` -/
theorem C38_pairs_counterexample :
    ∃ (t : Trie) (es : Entries) (pfx : Str) (p : Bytes), Rep t es ∧ hexToBytes? pfx = some p ∧
      getPairs (trieStore t) true (some pfx) ≠ some (specPairs p es) :=
  ⟨Trie.put Trie.nil [0x1f] [0x01], OMap.upsert [0x1f] [0x01] [], ['0', 'x', '1', '0'], [0x10],
    Rep.empty.put _ _, by decide, by decide⟩

/-- a malformed prefix is an error of GetKeysPaged, whatever the store and the block field -/
theorem C38_bad_prefix (S : Store) (b : Bool) (pfx : Str) (q : Nat) (a : Str)
    (hp : prefixOf pfx = none) : getKeysPaged S b pfx q a = none :=
  congrFun (getKeysPaged_bad S b pfx hp q) a

/-- a single page with an arbitrary `afterKey` string (any text: upper case, no `0x`, not hex):
    the first `q` matching keys whose `0x…` text is greater than `afterKey` as a string -/
theorem C38_page_partial {t : Trie} {es : Entries} (h : Rep t es) (pfx : Str) (p : Bytes)
    (hp : prefixOf pfx = some p) (hreg : trimRegion p es = false) (q : Nat) (after : Str) :
    getKeysPaged (trieStore t) true pfx q after =
      some ((((OMap.keysWithPrefix p es).map fKey).filter (fun s => sgt s after)).take q) := by
  rw [getKeysPaged_eq _ pfx p hp]
  simp only [trieStore, h.keysWithPrefix p hreg, pageOf]

/-- After ANY history of state changes, commits (new best blocks) and listings,
    every committed state is still represented exactly by its trie, and a request without a block
    resolves to the latest state — listings never influence later listings. -/
theorem C38_history (ops : List Op) :
    (∀ (i : Nat) (st : Trie × Entries), (finalSt ops).hist[i]? = some st → Rep st.1 st.2) ∧
    (finalSt ops).best = ((finalSt ops).t, (finalSt ops).es) := by
  have g := C38_state_rep ops
  exact ⟨fun i st h => (g.hist st (List.mem_of_getElem? h)).1, best_eq g⟩

/-- The partition into pages for the run itself: in every reachable state the bound of calls the
    harness (and the driver) uses, `puts + 2`, is enough — the loop never reports `nonterm` — and
    the pages of the best block's state are the chunks of the matching keys of the latest map. -/
theorem C38_pages_run_partial (ops : List Op) (pfx : Str) (p : Bytes) (hp : prefixOf pfx = some p)
    (hreg : trimRegion p (finalSt ops).es = false) (q : Nat) (hq : 1 ≤ q) :
    paginate (getKeysPaged (trieStore (finalSt ops).best.1) true pfx q) ((finalSt ops).puts + 2) [] =
      (chunk q ((OMap.keysWithPrefix p (finalSt ops).es).map fKey), LoopEnd.done) := by
  have g := C38_state_rep ops
  rw [best_eq g]
  apply C38_pages_partition_partial g.rep pfx p hp hreg q hq
  have := OMap.length_keysWithPrefix_le p (finalSt ops).es
  have := g.len
  omega

/-- … and the same for every earlier state addressed by its root: the pages are the chunks of the
    matching keys of THAT state's map -/
theorem C38_pages_at_partial (ops : List Op) (i : Nat) (st : Trie × Entries)
    (hi : (finalSt ops).hist[i]? = some st) (pfx : Str) (p : Bytes) (hp : prefixOf pfx = some p)
    (hreg : trimRegion p st.2 = false) (q : Nat) (hq : 1 ≤ q) :
    paginate (getKeysPaged (trieStore st.1) true pfx q) ((finalSt ops).puts + 2) [] =
      (chunk q ((OMap.keysWithPrefix p st.2).map fKey), LoopEnd.done) := by
  have g := (C38_state_rep ops).hist st (List.mem_of_getElem? hi)
  apply C38_pages_partition_partial g.1 pfx p hp hreg q hq
  have := OMap.length_keysWithPrefix_le p st.2
  omega

/-- FULL STATEMENT (false for the code): `∀ addr ops, runFrom (stepModel addr) St.init ops =
    runFrom (stepSpec addr) St.init ops`.  Every run of put / del / page / loop / pairs and of
    requests against earlier states (`at i`), with the block field empty, a state root or a block
    hash, all of whose ops stay outside the regions of the two known findings gives exactly the
    observables of the specification: each listing shows the keys of the state it addresses (the
    latest one when no block is given), however many blocks and listings came before. -/
theorem C38_refines_partial (addr : Addr) (ops : List Op) (hs : safeFrom addr St.init ops = true) :
    runFrom (stepModel addr) St.init ops = runFrom (stepSpec addr) St.init ops :=
  refines_from addr ops _ good_init hs

/-- the hypothesis is not vacuous: a run with keys that are prefixes of keys, a prefix ending in a
    zero nibble that is harmless in this state, overwrites, a delete, several blocks, the same
    listing before and after a change and a listing of an earlier state is safe -/
example : safeFrom Addr.nil St.init
    [.put [0x10] [1], .put [0x10, 0x01] [2], .put [] [3], .put [0x20] [4],
     .loop ['0', 'x', '1', '0'] 1, .page ['0', 'x'] 2 ['0', 'x', '1', '0'], .del [0x10],
     .loop ['0', 'x', '1', '0'] 1, .at 1 (.loop ['0', 'x', '1', '0'] 1),
     .pairs (some ['0', 'x', '1', '0']), .pairs none, .loop [] 3] = true := by decide

end Gossamer.C38
