/-
C08 — Runtime storage transactions are transparent and roll back exactly.

Model: `Gossamer/Model/C08.lean` (`storageDiff` + `TrieState`, generic in the committed trie).
Two instances of the committed trie (`Gossamer/Lib/C08Backend.lean`): `memBackend` = the in-memory
trie as it is (tied to the Go code by the differential run) and `idealBackend` = a correct
`trie.Trie` on ordered maps.  Specification: `Gossamer/Lib/C08Spec.lean` (stack of logical states).

`C08_rollback` and `C08_diffs_sorted` hold at full strength: every backend (also the in-memory
one), every operation of the model, every nesting depth.  The refinement theorems (`…_partial`) are
over the ideal backend and on a fragment, because the full statement
    ∀ ops, observables (model over the ideal trie) ops = observables spec ops
is NOT provable for the code as it is: the five `_counterexample` theorems show that it fails
outside the fragment, each for one of the known findings (`harness/C08/findings.json` lists ten).
The fragment (`OpOK`, `StepOK` in Lib/C08SimStep) is every operation of the property except `croot`,
at any transaction depth, outside the regions of those findings.
The refinement theorems are about the iteration order of the executable model, `Diff.sortedOrder`.
The outermost commit is the only step that looks at the order, and `C08_applyToTrie_order` says
that there every order of a sorted diff gives the same trie over a well-formed committed state;
the two are not joined into one statement about `runTS` with an arbitrary `ord`.
-/
import Gossamer.Lib.C08SimStep
import Gossamer.Lib.C08DiffSorted
import Gossamer.Lib.C08Transparent
import Gossamer.Lib.C08HostSim
namespace Gossamer.C08
open Gossamer

/-- A rollback restores exactly the state at the matching start: any backend `B`, any iteration
    order `ord`, any operations in between whose transactions are balanced. -/
theorem C08_rollback {β τ : Type} (B : Backend β τ) (D : Dumper β) (ord : Diff → ApplyOrder)
    (s : TS β) (xs : List Op) (hb : Balanced xs) :
    (runTS B D ord s ([Op.start] ++ xs ++ [Op.rollback])).1 = s :=
  rollback_exact B D ord s xs hb

/-- the hypothesis is satisfiable by a non-trivial history (nested commit and rollback, limits,
    child tries) -/
example : Balanced [Op.put [1] (some [2]), Op.start, Op.clrl [1] 1, Op.commit, Op.start,
    Op.kill [3], Op.rollback, Op.cput [3] [4] none] := by
  unfold Balanced; rfl

theorem C08_diffs_sorted {β τ : Type} (B : Backend β τ) (D : Dumper β) (ord : Diff → ApplyOrder)
    (b : β) (ops : List Op) :
    ∀ d ∈ (runTS B D ord { base := b, txs := [] } ops).1.txs, d.SortedD :=
  run_sorted B D ord ops _ (fun _ h => by simp at h)

/-- Go's map iteration order does not matter: for a well-formed committed state `b` and a diff `d`
    with sorted maps (every reachable diff: `C08_diffs_sorted`), any two orders `o1`, `o2` of the
    maps of `d` give the same committed state, without panic. -/
theorem C08_applyToTrie_order (Hc Hm : Entries → Bytes) (b : Logical) (d : Diff)
    (o1 o2 : ApplyOrder) (hb : b.WF) (hd : d.SortedD) (h1 : IsOrderOf d o1) (h2 : IsOrderOf d o2) :
    applyToTrie (idealBackend Hc Hm) b o1 = applyToTrie (idealBackend Hc Hm) b o2 ∧
      (applyToTrie (idealBackend Hc Hm) b o1).isSome = true := by
  rw [applyToTrie_ideal, applyToTrie_ideal, applyIdeal_order hd h1 h2 hb]
  exact ⟨rfl, rfl⟩

/-- the order used by the executable model is one of the orders -/
theorem C08_sortedOrder_isOrder (d : Diff) (hd : d.SortedD) : IsOrderOf d d.sortedOrder :=
  sortedOrder_isOrder hd

def t0 : TS Logical := { base := Logical.empty, txs := [] }
def s0 : SS := { back := Logical.empty, stack := [] }

/-- Every observable of the model over a correct trie equals the specification's, for every history
    whose steps are in the fragment (`SafeRun`: `StepOK` at every step): every operation of the
    property except `croot`, with the exclusions stated at `OpOK` and `StepOK`, which mirror the
    regions of the known findings. -/
theorem C08_refines_partial (Hc Hm : Entries → Bytes) (D : Dumper Logical) (CK : Bytes → Bool)
    (ops : List Op) (hops : SafeRun Hc Hm D CK t0 ops) :
    (runTS (idealBackend Hc Hm) D Diff.sortedOrder t0 ops).2 = (specRun Hc Hm s0 ops).2 :=
  (sim_run Hc Hm D (sim_init CK) ops hops).2

/-- After any history of the fragment the committed trie IS the specification's
    committed state and every open transaction level has the specification's logical content; in
    particular the outermost commit leaves the same entries and child tries as the specification
    (which applies the operations directly to a copy), hence the same root. -/
theorem C08_commit_outermost_partial (Hc Hm : Entries → Bytes) (D : Dumper Logical)
    (CK : Bytes → Bool) (ops : List Op) (hops : SafeRun Hc Hm D CK t0 ops) :
    let t := (runTS (idealBackend Hc Hm) D Diff.sortedOrder t0 ops).1
    let s := (specRun Hc Hm s0 ops).1
    t.base = s.back ∧ t.txs.map (effL t.base) = s.stack ∧
      (idealBackend Hc Hm).hash t.base = Hm (Logical.view Hc s.back) ∧
      (idealBackend Hc Hm).entries t.base = (Logical.view Hc s.back).map (fun e => (e.1, some e.2)) := by
  intro t s
  have h : Sim CK t s := (sim_run Hc Hm D (sim_init CK) ops hops).1
  have hb : s.back = t.base := h.back
  refine ⟨hb.symm, h.stack.eq_map h.base, ?_, ?_⟩
  · show Hm (Logical.view Hc t.base) = Hm (Logical.view Hc s.back)
    rw [hb]
  · show (Logical.view Hc t.base).map _ = _
    rw [hb]

/-- A history without child-trie deletion and made of the key-value operations only (`OpOK0`) is in
    the fragment whatever the states are: the static form of the hypothesis. -/
theorem C08_safe_of_static (Hc Hm : Entries → Bytes) (D : Dumper Logical) (CK : Bytes → Bool)
    (ops : List Op) (hops : ∀ op ∈ ops, OpOK0 CK op) : SafeRun Hc Hm D CK t0 ops :=
  safe_of_ok0 Hc Hm D ops hops t0 (fun _ h => by simp [t0] at h)

/-- Committing the outermost transaction gives exactly the state (contents, child tries, hence
    root) that applying the same operations directly, without a transaction, gives — after any
    history `pre` of the key-value fragment that ends with no transaction open.  (`xs` is limited
    to `OpOK0` by the proof, not by the statement, which compares final states only: the proof
    compares the two runs call by call, observables included, and an ordered read of the main trie
    answers differently in the two, since inside a transaction the child-root entries of the main
    trie are those of the last commit.) -/
theorem C08_commit_direct_partial (Hc Hm : Entries → Bytes) (D : Dumper Logical) (CK : Bytes → Bool)
    (pre xs : List Op) (hpre : ∀ op ∈ pre, OpOK0 CK op) (hxs : ∀ op ∈ xs, OpOK0 CK op)
    (hplain : ∀ op ∈ xs, isTx op = false)
    (hdepth : (runTS (idealBackend Hc Hm) D Diff.sortedOrder t0 pre).1.txs = []) :
    (runTS (idealBackend Hc Hm) D Diff.sortedOrder t0 (pre ++ ([Op.start] ++ xs ++ [Op.commit]))).1 =
      (runTS (idealBackend Hc Hm) D Diff.sortedOrder t0 (pre ++ xs)).1 := by
  rw [runTS_append, runTS_append (l1 := pre)]
  exact commit_direct Hc Hm D
    (sim_run Hc Hm D (sim_init CK) pre (C08_safe_of_static Hc Hm D CK pre hpre)).1 hdepth xs hxs hplain

def H0 : Entries → Bytes := fun _ => []

def D0 : Dumper Logical := ⟨fun _ => []⟩

/-- the fragment is not empty: a history with every kind of operation, main and child keys kept
    apart by a first byte (checked by evaluation of `SafeRun`) -/
def demoOps : List Op :=
  [Op.put [1] (some [2]), Op.put [1, 5] (some [3]), Op.cput [0x4b, 1] [1] (some [3]), Op.start,
   Op.clr [1], Op.next [], Op.ents, Op.cput [0x4b, 1] [2] none, Op.start, Op.kill [0x4b, 1],
   Op.ckeys [0x4b, 1] [], Op.rollback, Op.cclr [0x4b, 1] [1], Op.cnext [0x4b, 1] [], Op.del [1],
   Op.cdel [0x4b, 1] [2], Op.commit, Op.get [1], Op.cget [0x4b, 1] [1],
   Op.put [2] (some [1]), Op.put [2, 1] (some [1]), Op.clrl [2] 1, Op.cput [0x4b, 2] [1] (some [1]),
   Op.cput [0x4b, 2] [1, 1] (some [2]), Op.start, Op.put [2, 2] (some [3]), Op.clrl [2] 1,
   Op.cput [0x4b, 2] [1, 2] (some [3]), Op.cclrl [0x4b, 2] [1] 1, Op.killl [0x4b, 2] (some 1),
   Op.commit, Op.cclrl [0x4b, 2] [1] 2, Op.killl [0x4b, 2] none]

instance (CK : Bytes → Bool) (op : Op) : Decidable (OpOK CK op) := by
  cases op <;> unfold OpOK <;> infer_instance

instance (CK : Bytes → Bool) (t : TS Logical) (op : Op) : Decidable (StepOK CK t op) := by
  unfold StepOK
  cases op <;> cases t.txs <;> infer_instance

def safeRunB (Hc Hm : Entries → Bytes) (D : Dumper Logical) (CK : Bytes → Bool) :
    TS Logical → List Op → Bool
  | _, [] => true
  | t, op :: r => decide (StepOK CK t op) &&
      safeRunB Hc Hm D CK (stepTS (idealBackend Hc Hm) D Diff.sortedOrder t op).1 r

theorem safeRunB_sound (Hc Hm : Entries → Bytes) (D : Dumper Logical) (CK : Bytes → Bool)
    (ops : List Op) : ∀ t, safeRunB Hc Hm D CK t ops = true → SafeRun Hc Hm D CK t ops := by
  induction ops with
  | nil => intro _ _; trivial
  | cons op r ih =>
    intro t h
    simp only [safeRunB, Bool.and_eq_true, decide_eq_true_eq] at h
    exact ⟨h.1, ih _ h.2⟩

example : SafeRun H0 H0 D0 (fun k => k.head? == some 0x4b) t0 demoOps :=
  safeRunB_sound _ _ _ _ _ _ (by decide)

/-- Host-level refinement (corollary of the simulation behind `C08_refines_partial`): for every
    history of storage host-function calls whose storage steps are in the fragment, the bytes the
    host functions leave in guest memory / their u32 results, computed from the model of `TrieState`
    over a correct trie, are exactly those computed from the specification.  Covered: set, get,
    exists, read, clear, clear_prefix v1/v2, next_key, root v1/v2, start / commit / rollback
    transaction, child set, get, exists, clear, clear_prefix v1/v2, next_key, storage_kill v1/v2
    (not kill_v3 and child root: `HOp.lifted`, `StepOK`). -/
theorem C08_host_refines_partial (Hc Hm : Entries → Bytes) (D : Dumper Logical) (CK : Bytes → Bool)
    (hs : List HOp)
    (hsafe : HostSafe (tsMach (idealBackend Hc Hm) D Diff.sortedOrder) (StepOK CK) t0 hs) :
    (hostRun (tsMach (idealBackend Hc Hm) D Diff.sortedOrder) t0 hs).2 =
      (hostRun (specMach Hc Hm) s0 hs).2 :=
  host_refines Hc Hm D CK hs t0 s0 (sim_init CK) hsafe

/-- the result encodings are decodable: the guest recovers exactly the value that was encoded -/
theorem C08_host_roundtrip (v : Option Bytes) (n : Nat) (all : Bool)
    (hv : ∀ b, v = some b → b.length < 256 ^ 67) (hn : n < 4294967296) :
    decOptVec (optVec v) = some v ∧ decKillEnum (killEnum n all) = some (n, all) ∧
      decOptVec (optVec (some (killEnum n all))) = some (some (killEnum n all)) := by
  refine ⟨decOptVec_optVec v hv, decKillEnum_killEnum n all hn, decOptVec_optVec _ ?_⟩
  intro b hb
  cases hb
  simp [killEnum, length_leBytes]

/-- a host-level history in the fragment -/
def demoHost : List HOp :=
  [HOp.put [1] [2], HOp.start, HOp.get [1], HOp.read [1] 0 4, HOp.has [1], HOp.cput [0x4b, 1] [1] [3],
   HOp.cclrl [0x4b, 1] [1] (some 1), HOp.clr [1], HOp.clrl [1] none, HOp.next [], HOp.cput [0x4b, 1] [2] [3], HOp.killl2 [0x4b, 1] none,
   HOp.root, HOp.chas [0x4b, 1] [1]]

def hostSafeB (CK : Bytes → Bool) : TS Logical → List HOp → Bool
  | _, [] => true
  | t, h :: r =>
    h.lifted && (match h.op with | some op => decide (StepOK CK t op) | none => true) &&
      hostSafeB CK (hostStep (tsMach (idealBackend H0 H0) D0 Diff.sortedOrder) t h).1 r

theorem hostSafeB_sound (CK : Bytes → Bool) (hs : List HOp) :
    ∀ t, hostSafeB CK t hs = true →
      HostSafe (tsMach (idealBackend H0 H0) D0 Diff.sortedOrder) (StepOK CK) t hs := by
  induction hs with
  | nil => intro _ _; trivial
  | cons h r ih =>
    intro t hb
    simp only [hostSafeB, Bool.and_eq_true] at hb
    refine ⟨hb.1.1, ?_, ih _ hb.2⟩
    intro op hop
    have := hb.1.2
    rw [hop] at this
    simpa using this

example : HostSafe (tsMach (idealBackend H0 H0) D0 Diff.sortedOrder)
    (StepOK (fun k => k.head? == some 0x4b)) t0 demoHost :=
  hostSafeB_sound _ _ _ (by decide)

def valOf : Out → Option (Option Bytes)
  | .val v => some v
  | _ => none

def cntOf : Out → Option (Nat × Bool)
  | .cnt n a => some (n, a)
  | _ => none

def lastI (ops : List Op) : Option Out :=
  (runTS (idealBackend H0 H0) D0 Diff.sortedOrder { base := Logical.empty, txs := [] } ops).2.getLast?

def lastS (ops : List Op) : Option Out :=
  (specRun H0 H0 { back := Logical.empty, stack := [] } ops).2.getLast?

/-- finding `deletes-shared-by-main-and-child`: deleting the main key `a` inside a transaction
    deletes the child trie `a` at commit and leaves the main key -/
theorem C08_refines_counterexample_shared_deletes :
    let ops := [Op.put [0x61] (some [1]), Op.cput [0x61] [0x61] (some [2]), Op.start,
      Op.del [0x61], Op.commit, Op.get [0x61]]
    (lastI ops).bind valOf = some (some [1]) ∧ (lastS ops).bind valOf = some none := by decide

/-- finding `child-recreated-after-kill`: a child trie deleted and written again inside one
    transaction keeps its old keys -/
theorem C08_refines_counterexample_kill_then_put :
    let ops := [Op.cput [0x61] [1] (some [2]), Op.start, Op.kill [0x61],
      Op.cput [0x61] [3] (some [4]), Op.commit, Op.cget [0x61] [1]]
    (lastI ops).bind valOf = some (some [2]) ∧ (lastS ops).bind valOf = some none := by decide

/-- finding `alldeleted-counts-nonmatching`: `allDeleted` is false because an unrelated key was
    written in the transaction -/
theorem C08_refines_counterexample_alldeleted :
    let ops := [Op.start, Op.put [0x71] (some [1]), Op.clrl [0x61] 1]
    (lastI ops).bind cntOf = some (0, false) ∧ (lastS ops).bind cntOf = some (0, true) := by decide

/-- finding `child-root-key-unprotected`: a prefix clear inside a transaction hides the root
    entry of a committed child trie -/
theorem C08_refines_counterexample_child_root_key :
    let ops := [Op.cput [0x61] [1] (some [2]), Op.start, Op.clr [], Op.get (childPrefix ++ [0x61])]
    (lastI ops).bind valOf = some none ∧ (lastS ops).bind valOf = some (some []) := by decide

/-- finding `child-root-ignores-overlay`: `GetChildRoot` does not see the transaction -/
theorem C08_refines_counterexample_child_root :
    let ops := [Op.start, Op.cput [0x61] [1] (some [2]), Op.croot [0x61]]
    (lastI ops).bind valOf = some none ∧ (lastS ops).bind valOf = some (some []) := by decide

end Gossamer.C08
