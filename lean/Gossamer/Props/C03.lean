/-
C03 — Trie snapshots are isolated from one another.

Model: `Gossamer.TrieHeap` (heap of trie nodes with generations, in-place writes where the Go code
makes them, Merkle value caches) and `Gossamer.C03.stepOp` (handles, `Snapshot`, `SetVersion`, …).
Isolation (`C03_isolated`) is shown for the histories in which no operation writes through a handle that has a
live snapshot below it (`guardOp`, the exact predicate of the driver); without the guard it is false
(`C03_isolated_full_counterexample`, known finding `parent-write-after-snapshot`), and only `C03_frame` holds for
EVERY history.  The root hash is `RVal`, the fuel-free semantics of `Hash()` reading the caches (`C03_hash_sound`).
-/
import Gossamer.Lib.C03Step
namespace Gossamer.C03
open Gossamer Gossamer.Trie Gossamer.TrieHeap

/-- the handle an operation acts on: `C03_step` says nothing of this handle itself (the mutators change its
    entries; `hash`, `wd` do not, which `cache_step` shows on the way and `C03_step` does not state; after `ver`,
    `drop` the handle's own info has changed) -/
def Op.actor : Op → Option Nat
  | .put h _ _ => some h
  | .del h _ => some h
  | .clr h _ => some h
  | .clrl h _ _ => some h
  | .hash h => some h
  | .wd h => some h
  | .ver h _ => some h
  | .drop h => some h
  | .snap _ => none
  | .hashall => none
  | .bad => none

/-- the root node of the trie an operation hashes or writes through -/
def actorRoot (s : St) : Op → Option Nat
  | .put h _ _ => (s.handle? h).bind (·.t.root)
  | .del h _ => (s.handle? h).bind (·.t.root)
  | .clr h _ => (s.handle? h).bind (·.t.root)
  | .clrl h _ _ => (s.handle? h).bind (·.t.root)
  | .hash h => (s.handle? h).bind (·.t.root)
  | .wd h => (s.handle? h).bind (·.t.root)
  | _ => none

theorem guard_target {s : St} {op : Op} {h : Nat} (ht : op.target = some h) (hI : SInv s)
    (hg : guardOp s op = true) : ∀ j y, Live s j y → ¬ Anc s.hs h j := by
  unfold guardOp at hg
  rw [ht] at hg
  simp only [Bool.not_eq_true'] at hg
  exact no_live_desc hI.parentLt hg

/-- what one operation does to the state, result token aside: the case analysis of `stepOp` that the
    invariants share -/
inductive Move (H : Bytes → Bytes) (s : St) (op : Op) : St → Prop
  | same : Move H s op s
  | write {h : Nat} {x : HInfo} {hp' : Heap} {t' : Handle} : s.handle? h = some x → op.target = some h →
      op.actor = some h → actorRoot s op = x.t.root → TopOK H s.hp x.t hp' t' →
      Move H s op (s.setHandle hp' h x t')
  | snap {h : Nat} {x : HInfo} : s.handle? h = some x → actorRoot s op = none →
      Move H s op { s with hs := s.hs ++ [{ t := snapshot x.t, parent := some h, live := true }] }
  | swap {h : Nat} {x : HInfo} (x' : HInfo) : s.handle? h = some x → op.actor = some h → actorRoot s op = none →
      x'.parent = x.parent → x'.t.root = x.t.root → x'.t.gen = x.t.gen →
      Move H s op { s with hs := setAt s.hs h x' }
  | cache {hp' : Heap} : CacheOnly s.hp hp' →
      (∀ ρ, (∀ r, actorRoot s op = some r → ¬ PD s.hp ρ r) → VP H (PD s.hp ρ) ρ s.hp hp') →
      Move H s op { s with hp := hp' }
  -- `hashall` is `Hash()` of each live handle in turn, but not a `cache` move: the `VP` of the i-th `Hash()` needs
  -- "the root of handle i is not strictly below `ρ`" for every pair of live handles, which `SInv` does not give.
  -- So it carries no information here, is excluded from `C03_step` (`hne`) and gets `C03_hashall` (entries only).
  | hashall : op = .hashall → Move H s op (stepOp H false s .hashall).1

theorem stepOp_move (H : Bytes → Bytes) (s : St) (hwf : HeapWF s.hp)
    (hroots : ∀ h x, s.handle? h = some x → ∀ r, x.t.root = some r → r < s.hp.size) (op : Op) :
    Move H s op (stepOp H false s op).1 := by
  have har : ∀ {h x}, s.handle? h = some x → (s.handle? h).bind (·.t.root) = x.t.root :=
    fun hh => by rw [hh]; rfl
  cases op with
  | put h k v =>
    cases hh : s.handle? h with
    | none => simp only [stepOp, hh]; exact .same
    | some x => simp only [stepOp, hh]; exact .write hh rfl rfl (har hh) (put_ok H s.hp x.t hwf (hroots h x hh) k v)
  | del h k =>
    cases hh : s.handle? h with
    | none => simp only [stepOp, hh]; exact .same
    | some x => simp only [stepOp, hh]; exact .write hh rfl rfl (har hh) (delete_ok H s.hp x.t hwf (hroots h x hh) k)
  | clr h p =>
    cases hh : s.handle? h with
    | none => simp only [stepOp, hh]; exact .same
    | some x =>
      simp only [stepOp, hh]
      split
      · exact .same
      · exact .write hh rfl rfl (har hh) (clearPrefix_ok H s.hp x.t hwf (hroots h x hh) p)
  | clrl h p n =>
    cases hh : s.handle? h with
    | none => simp only [stepOp, hh]; exact .same
    | some x =>
      simp only [stepOp, hh]
      split
      · exact .same
      · exact .write hh rfl rfl (har hh) (clearPrefixLimit_ok H s.hp x.t hwf (hroots h x hh) p n)
  | snap h =>
    cases hh : s.handle? h with
    | none => simp only [stepOp, hh]; exact .same
    | some x => simp only [stepOp, hh, Bool.false_eq_true, if_false]; exact .snap hh rfl
  | ver h v =>
    cases hh : s.handle? h with
    | none => simp only [stepOp, hh]; exact .same
    | some x =>
      simp only [stepOp, hh]
      split
      · exact .same
      · exact .swap { x with t := { x.t with ver := v } } hh rfl rfl rfl rfl rfl
  | hash h =>
    cases hh : s.handle? h with
    | none => simp only [stepOp, hh]; exact .same
    | some x =>
      simp only [stepOp, hh]
      exact .cache (mvOnly_hash H s.hp x.t).cacheOnly (fun ρ hnk => hash_vp (view_PD s.hp ρ) x.t (har hh ▸ hnk))
  | hashall => exact .hashall rfl
  | wd h =>
    cases hh : s.handle? h with
    | none => simp only [stepOp, hh]; exact .same
    | some x =>
      simp only [stepOp, hh]
      exact .cache (writeDirty_cacheOnly H s.hp [] x.t)
        (fun ρ hnk => writeDirty_vp (view_PD s.hp ρ) [] x.t (har hh ▸ hnk))
  | drop h =>
    cases hh : s.handle? h with
    | none => simp only [stepOp, hh]; exact .same
    | some x => simp only [stepOp, hh]; exact .swap { x with live := false } hh rfl rfl rfl rfl rfl
  | bad => exact .same

/-- From a state satisfying the invariant, an operation that respects the guard keeps the invariant and leaves
    every other live handle alone (`Same`). -/
theorem C03_step (H : Bytes → Bytes) (s : St) (hI : SInv s) (op : Op) (hne : op ≠ .hashall)
    (hg : guardOp s op = true) :
    SInv (stepOp H false s op).1 ∧
    ∀ k y, Live s k y → op.actor ≠ some k → Same H s (stepOp H false s op).1 k y (actorRoot s op) := by
  have hm := stepOp_move H s hI.wf (fun h x hh => hI.roots h x (handle?_live hh)) op
  generalize (stepOp H false s op).1 = s' at hm ⊢
  cases hm with
  | same => exact ⟨hI, fun k y hk _ => same_of_eq (by rfl) hk _⟩
  | write hh ht ha har hok =>
    obtain ⟨h1, h2⟩ := mut_step hI (handle?_live hh) hok (guard_target ht hI hg)
    exact ⟨h1, fun k y hk hne' => har ▸ h2 k y hk (fun e => hne' (e ▸ ha))⟩
  | snap hh har =>
    obtain ⟨h1, h2⟩ := snap_step (H := H) hI (handle?_live hh)
    exact ⟨h1, fun k y hk _ => har ▸ h2 k y hk⟩
  | swap x' hh ha har hp hr hg =>
    obtain ⟨h1, h2⟩ := swap_step (H := H) hI (handle?_live hh) x' hp hr hg
    exact ⟨h1, fun k y hk hne' => har ▸ h2 k y hk (fun e => hne' (e ▸ ha))⟩
  | cache hc hvp =>
    obtain ⟨h1, h2⟩ := cache_step hI hc _ hvp
    exact ⟨h1, fun k y hk _ => h2 k y hk⟩
  | hashall e => exact absurd e hne

/-- `hashall` (= `Hash()` of every live handle in turn) keeps the invariant and all entries -/
theorem C03_hashall (H : Bytes → Bytes) (s : St) (hI : SInv s) :
    SInv (stepOp H false s .hashall).1 ∧
    ∀ k y, Live s k y → Live (stepOp H false s .hashall).1 k y ∧
      entries (stepOp H false s .hashall).1.hp y.t.root = entries s.hp y.t.root :=
  cache_inv hI (hashAll_go_cacheOnly H s.hs 0 s.hp)

/-- the state after a history (a Go panic ends it) -/
def runState (H : Bytes → Bytes) : St → List Op → St
  | s, [] => s
  | s, op :: r => if (stepOp H false s op).2.2 then s else runState H (stepOp H false s op).1 r

theorem sinv_step (H : Bytes → Bytes) (s : St) (hI : SInv s) (op : Op) (hg : guardOp s op = true) :
    SInv (stepOp H false s op).1 := by
  by_cases hne : op = .hashall
  · subst hne; exact (C03_hashall H s hI).1
  · exact (C03_step H s hI op hne hg).1

/-- **The invariant holds after every history that respects the guard** (`violatesGuard` is the
    predicate the driver evaluates to tag the known finding). -/
theorem C03_inv_reachable (H : Bytes → Bytes) : ∀ (ops : List Op) (s : St), SInv s →
    violatesGuard H s ops = false → SInv (runState H s ops)
  | [], s, hI, _ => hI
  | op :: r, s, hI, hv => by
    unfold violatesGuard at hv
    unfold runState
    by_cases hg : guardOp s op = true
    · simp only [hg, Bool.not_true, Bool.false_eq_true, if_false] at hv
      split
      · exact hI
      · rename_i hp
        simp only [hp] at hv
        exact C03_inv_reachable H r _ (sinv_step H s hI op hg) hv
    · simp [hg] at hv

/-- **Isolation.**  After any history from the empty trie that respects the guard, an operation that
    respects the guard (`Put`, `Delete`, `ClearPrefix`, `ClearPrefixLimit`, `Hash`, `WriteDirty`, `SetVersion`,
    `Snapshot`, dropping a handle) leaves every other live handle with the same `Entries()` and, if the root
    node of the acting trie does not lie strictly below the other trie's root (`PD`), the same root hash.  That
    premise is part of the statement (`Same.hash`); no theorem discharges it, the driver tests it in every state
    (`rootBelowRoot`).  `hashall` is excluded (`hne`, see `Move.hashall`). -/
theorem C03_isolated (H : Bytes → Bytes) (ops : List Op) (hv : violatesGuard H St.init ops = false)
    (op : Op) (hne : op ≠ .hashall) (hg : guardOp (runState H St.init ops) op = true) :
    ∀ k y, Live (runState H St.init ops) k y → op.actor ≠ some k →
      Same H (runState H St.init ops) (stepOp H false (runState H St.init ops) op).1 k y
        (actorRoot (runState H St.init ops) op) :=
  (C03_step H _ (C03_inv_reachable H ops St.init SInv.init hv) op hne hg).2

/-- `hashall` after such a history: every live handle keeps its entries; nothing is shown about root hashes -/
theorem C03_isolated_hashall (H : Bytes → Bytes) (ops : List Op)
    (hv : violatesGuard H St.init ops = false) :
    ∀ k y, Live (runState H St.init ops) k y →
      entries (stepOp H false (runState H St.init ops) .hashall).1.hp y.t.root =
        entries (runState H St.init ops).hp y.t.root :=
  fun k y hk => ((C03_hashall H _ (C03_inv_reachable H ops St.init SInv.init hv)).2 k y hk).2

/-- the root hash of the isolation theorem is what the executable `Hash()` of the model returns, when it returns a
    value (`none`: the model ran out of fuel) -/
theorem C03_hash_sound (H : Bytes → Bytes) (hp : Heap) (t : Handle) (r : Nat) (hr : t.root = some r)
    (m : Bytes) (h : (hash H hp t).2 = some m) : RVal H hp r m := by
  unfold TrieHeap.hash hashRoot at h
  rw [hr] at h
  obtain ⟨_, _, _, hs⟩ := calcRootMV_spec H hp r
  exact hs m h

/-- the root hash is a function of the heap: two runs of `Hash()` that both return agree -/
theorem C03_hash_unique (H : Bytes → Bytes) (hp : Heap) (r : Nat) (m m' : Bytes)
    (h : RVal H hp r m) (h' : RVal H hp r m') : m = m' := h.functional h'

/-- well-formedness that EVERY history keeps, guarded or not: child pointers and roots are allocated (`SInv.wf` and
    `SInv.roots`, the latter for all handles, live or dropped): all that `C03_frame` needs -/
structure WInv (s : St) : Prop where
  wf : HeapWF s.hp
  roots : ∀ (i : Nat) (x : HInfo), s.hs[i]? = some x → ∀ r, x.t.root = some r → r < s.hp.size

theorem WInv.init : WInv St.init where
  wf := fun a ha => absurd ha (Nat.not_lt_zero a)
  roots := fun i x hx r hr => by rw [(init_handle hx).1] at hr; cases hr

theorem winv_setAt {s : St} (hW : WInv s) {hp' : Heap} (hwf : HeapWF hp') (hsz : s.hp.size ≤ hp'.size)
    (h : Nat) (x' : HInfo) (hx' : ∀ r, x'.t.root = some r → r < hp'.size) :
    WInv { hp := hp', hs := setAt s.hs h x' } := by
  refine ⟨hwf, fun i y hy r hr => ?_⟩
  simp only [getElem?_setAt] at hy
  split at hy
  · cases hy; exact hx' r hr
  · exact Nat.lt_of_lt_of_le (hW.roots i y hy r hr) hsz

theorem winv_cache {s : St} (hW : WInv s) {hp' : Heap} (hc : CacheOnly s.hp hp') :
    WInv { s with hp := hp' } := by
  refine ⟨hc.wf hW.wf, fun i y hy r hr => ?_⟩
  show r < hp'.size
  rw [hc.size]; exact hW.roots i y hy r hr

theorem winv_step (H : Bytes → Bytes) (s : St) (hW : WInv s) (op : Op) : WInv (stepOp H false s op).1 := by
  have hm := stepOp_move H s hW.wf (fun h x hh => hW.roots h x (handle?_live hh).1) op
  generalize (stepOp H false s op).1 = s' at hm ⊢
  cases hm with
  | same => exact hW
  | write hh _ _ _ hok => exact winv_setAt hW hok.good.wf hok.good.size _ _ (fun r hr => (hok.root r hr).2)
  | @snap h x hh _ =>
    refine ⟨hW.wf, fun i y hy r hr => ?_⟩
    rcases getElem?_snoc hy with ⟨_, hy⟩ | ⟨_, rfl⟩
    · exact hW.roots i y hy r hr
    · exact hW.roots h x (handle?_live hh).1 r hr
  | @swap h x x' hh _ _ _ hx' _ =>
    exact winv_setAt hW hW.wf (Nat.le_refl _) h x' (fun r hr => hW.roots h x (handle?_live hh).1 r (hx' ▸ hr))
  | cache hc _ => exact winv_cache hW hc
  | hashall _ => exact winv_cache hW (hashAll_go_cacheOnly H s.hs 0 s.hp)

theorem winv_run (H : Bytes → Bytes) : ∀ (ops : List Op) (s : St), WInv s → WInv (runState H s ops)
  | [], _, hW => hW
  | op :: r, s, hW => by
    unfold runState
    split
    · exact hW
    · exact winv_run H r _ (winv_step H s hW op)

/-- the heap after the mutating method of `op` on the trie `t` (the handle that `op` names is ignored) -/
def mutResult (H : Bytes → Bytes) (hp : Heap) (t : Handle) : Op → Option Heap
  | .put _ k v => some (put H hp t k v).1
  | .del _ k => some (delete H hp t k).1
  | .clr _ p => some (clearPrefix H hp t p).1
  | .clrl _ p n => some (clearPrefixLimit H hp t p n).1
  | _ => none

/-- **Generation frame, for every history.**  A mutating operation on a trie of generation `g`
    only appends nodes, all of generation `g`; it never changes the generation of a node; and a node
    of another generation keeps every field except its `MerkleValue` cache. -/
theorem C03_frame (H : Bytes → Bytes) (ops : List Op) (op : Op) (h : Nat) (x : HInfo)
    (hx : (runState H St.init ops).handle? h = some x) (hp' : Heap)
    (hm : mutResult H (runState H St.init ops).hp x.t op = some hp') :
    (runState H St.init ops).hp.size ≤ hp'.size ∧
    (∀ a, a < (runState H St.init ops).hp.size →
      (hp'.get a).gen = ((runState H St.init ops).hp.get a).gen ∧
      (((runState H St.init ops).hp.get a).gen ≠ x.t.gen →
        (hp'.get a).strip = ((runState H St.init ops).hp.get a).strip ∧
        (hp'.get a).dirty = ((runState H St.init ops).hp.get a).dirty)) ∧
    (∀ a, (runState H St.init ops).hp.size ≤ a → a < hp'.size → (hp'.get a).gen = x.t.gen) := by
  have hW := winv_run H ops St.init WInv.init
  have hr := hW.roots h x (handle?_live hx).1
  obtain ⟨t', hok⟩ : ∃ t', TopOK H (runState H St.init ops).hp x.t hp' t' := by
    cases op with
    | put _ k v => exact ⟨_, Option.some.inj hm ▸ put_ok H _ x.t hW.wf hr k v⟩
    | del _ k => exact ⟨_, Option.some.inj hm ▸ delete_ok H _ x.t hW.wf hr k⟩
    | clr _ p => exact ⟨_, Option.some.inj hm ▸ clearPrefix_ok H _ x.t hW.wf hr p⟩
    | clrl _ p n => exact ⟨_, Option.some.inj hm ▸ clearPrefixLimit_ok H _ x.t hW.wf hr p n⟩
    | _ => cases hm
  exact ⟨hok.good.size, fun a ha => ⟨hok.good.gen a ha, fun hne => hok.good.frame a ha (fun ho => hne ho.2)⟩,
    fun a h1 h2 => hok.good.fresh a h1 h2⟩

/-- some hash function (what is checked of the witnesses below does not depend on it) -/
def H0 : Bytes → Bytes := fun _ => []

def cexOps : List Op := [.put 0 [0x12] [1], .snap 0]

/-- a write through the parent `h0` of the live snapshot `h1` -/
def cexOp : Op := .put 0 [0x12] [2]

/-- **Without the guard the isolation statement is false**: after `put h0 12 01; snap h0`, the
    operation `put h0 12 02` (whose guard is false: `h0` has the live snapshot `h1`) changes the
    entries seen through `h1`.  Known finding `parent-write-after-snapshot`. -/
theorem C03_isolated_full_counterexample :
    violatesGuard H0 St.init cexOps = false ∧ guardOp (runState H0 St.init cexOps) cexOp = false ∧
    cexOp.actor ≠ some 1 ∧
    ∃ y, Live (runState H0 St.init cexOps) 1 y ∧
      entries (stepOp H0 false (runState H0 St.init cexOps) cexOp).1.hp y.t.root ≠
        entries (runState H0 St.init cexOps).hp y.t.root := by
  refine ⟨by decide, by decide, by decide, ⟨{ root := some 0, gen := 1, ver := Ver.v0 }, some 0, true⟩, ?_, ?_⟩
  · constructor <;> rfl
  · decide +kernel

/-- a history that respects the guard, with three handles that end up with three different contents:
    the hypotheses of `C03_isolated` are satisfiable in a non-trivial way -/
def okOps : List Op :=
  [.put 0 [0x12] [1], .put 0 [0x13] [1], .snap 0, .snap 0, .put 1 [0x12] [2], .del 2 [0x13],
   .snap 1, .ver 3 Ver.v1, .put 3 [0x12, 0x34] [3]]

def entriesOf (s : St) (i : Nat) : List (Bytes × Option Bytes) :=
  match s.hs[i]? with
  | some x => entries s.hp x.t.root
  | none => []

set_option maxRecDepth 100000 in
unseal encodeKids in
example : violatesGuard H0 St.init okOps = false ∧
    guardOp (runState H0 St.init okOps) (.put 2 [0x12] [9]) = true ∧
    entriesOf (runState H0 St.init okOps) 0 = [([0x12], some [1]), ([0x13], some [1])] ∧
    entriesOf (runState H0 St.init okOps) 1 = [([0x12], some [2]), ([0x13], some [1])] ∧
    entriesOf (runState H0 St.init okOps) 2 = [([0x12], some [1])] ∧
    entriesOf (runState H0 St.init okOps) 3 =
      [([0x12], some [2]), ([0x12, 0x34], some [3]), ([0x13], some [1])] := by
  decide +kernel

end Gossamer.C03
