/-
C10 — the host trie-root functions compute spec roots: whenever the input decodes and the version is 0
or 1 the result is `specRoot ver H` of the last-wins map of the entries (of `compact(i) ↦ value_i` for the
ordered root), for every hash function `H`; any other version byte fails; input that the canonical
decoder rejects fails outside the region of the decoder finding `bytes-short-read` (the `_partial`
theorems; `C10_undecodable_counterexample` lies inside it).
-/
import Gossamer.Props.C01
import Gossamer.Lib.C11Decode
import Gossamer.Lib.C11Encode
import Gossamer.Model.C10
import Gossamer.Lib.TrieEnc
namespace Gossamer.C10
open Gossamer Gossamer.Trie Gossamer.Scale

/-- what the strict decoder makes of a result of the Go decoder: nothing, if a byte string was
    zero-filled -/
def noFill {α : Type} : Dec α → Option (α × Bytes)
  | some (x, r, false) => some (x, r)
  | _ => none

/-- `s` (strict) decodes exactly what `g` (Go) decodes without zero-filling -/
def Agree {α : Type} (g : Bytes → Dec α) (s : Bytes → Option (α × Bytes)) : Prop :=
  ∀ bs, s bs = noFill (g bs)

theorem agree_bytes : Agree decBytesGo decBytesStrict := by
  intro bs
  simp only [decBytesGo, decBytesStrict]
  rcases C11.decodeUintV bs with _ | ⟨len, r⟩
  · rfl
  · dsimp only
    split
    · rfl
    · by_cases h0 : len = 0
      · subst h0; simp [noFill]
      · cases r with
        | nil => simp [h0, noFill, Nat.pos_of_ne_zero h0]
        | cons x xs =>
          by_cases hl : xs.length + 1 < len
          · simp [h0, hl, noFill]
          · simp [h0, hl, noFill, Nat.sub_eq_zero_of_le (Nat.le_of_not_lt hl)]

theorem agree_entry : Agree decEntryGo decEntryStrict := by
  intro bs
  simp only [decEntryStrict, decEntryGo, agree_bytes bs]
  rcases decBytesGo bs with _ | ⟨k, r, _ | _⟩
  · rfl
  · simp only [noFill, agree_bytes r]
    rcases decBytesGo r with _ | ⟨v, r', _ | _⟩ <;> rfl
  · dsimp only [noFill]
    rcases decBytesGo r with _ | ⟨v, r', z⟩ <;> rfl

theorem agree_seq {α : Type} {g : Bytes → Dec α} {s : Bytes → Option (α × Bytes)} (h : Agree g s) :
    ∀ n, Agree (decSeqGo g n) (decSeqStrict s n)
  | 0, _ => rfl
  | n + 1, bs => by
    simp only [decSeqGo, decSeqStrict, h bs]
    rcases g bs with _ | ⟨x, r, _ | _⟩
    · rfl
    · simp only [noFill, agree_seq h n r]
      rcases decSeqGo g n r with _ | ⟨xs, r', _ | _⟩ <;> rfl
    · dsimp only [noFill]
      rcases decSeqGo g n r with _ | ⟨xs, r', z⟩ <;> rfl

theorem agree_slice {α : Type} {g : Bytes → Dec α} {s : Bytes → Option (α × Bytes)} (h : Agree g s) :
    Agree (decSliceGo g) (decSliceStrict s) := by
  intro bs
  simp only [decSliceGo, decSliceStrict]
  rcases C11.decodeUintV bs with _ | ⟨l, r⟩
  · rfl
  · exact agree_seq h l r

theorem strict_eq_some_iff {α : Type} {g : Bytes → Dec α} {s : Bytes → Option (α × Bytes)}
    (h : Agree g s) (data : Bytes) (xs : List α) :
    (decSliceStrict s data).map (·.1) = some xs ↔
      (decSliceGo g data).map (fun r => (r.1, r.2.2)) = some (xs, false) := by
  rw [agree_slice h data]
  rcases decSliceGo g data with _ | ⟨ys, r, _ | _⟩ <;> simp [noFill]

theorem strict_eq_none {α : Type} {g : Bytes → Dec α} {s : Bytes → Option (α × Bytes)}
    (h : Agree g s) {data : Bytes} (hn : (decSliceGo g data).map (fun r => (r.1, r.2.2)) = none) :
    (decSliceStrict s data).map (·.1) = none := by
  cases hs : (decSliceStrict s data).map (·.1) with
  | none => rfl
  | some xs => rw [(strict_eq_some_iff h data xs).mp hs] at hn; cases hn

/-- Every version byte other than 0 and 1 is a failure, whatever the input -/
theorem C10_bad_version (H : Bytes → Bytes) (version : Nat) (data : Bytes)
    (h2 : 2 ≤ version) (h255 : version ≤ 255) :
    hostRoot H version data = none ∧ hostOrderedRoot H version data = none := by
  have hp : parseVersion version = none := by
    simp only [parseVersion, Nat.mod_eq_of_lt (by omega : version < 256)]
    rw [if_neg (by omega), if_neg (by omega)]
  simp [hostRoot, hostOrderedRoot, hp]

theorem parseVersion_some {version : Nat} {ver : Ver} (h : parseVersion version = some ver) :
    (version % 256 = 0 ∧ ver = Ver.v0) ∨ (version % 256 = 1 ∧ ver = Ver.v1) := by
  simp only [parseVersion] at h
  split at h
  · left; exact ⟨by assumption, by cases h; rfl⟩
  · split at h
    · right; exact ⟨by assumption, by cases h; rfl⟩
    · cases h

theorem lastWins_eq (kvs : List (Bytes × Bytes)) : lastWins kvs = C01.upsertAll [] kvs := rfl

/-- Whenever the input decodes and the version is 0 or 1, the function returns the
    spec root, for that version, of the map in which a later duplicate key wins.  `z` is free: this
    includes a zero-filled decode, the other face of `C10_undecodable_counterexample`. -/
theorem C10_root (H : Bytes → Bytes) (version : Nat) (data : Bytes) (ver : Ver)
    (es : List (Bytes × Bytes)) (z : Bool) (hv : parseVersion version = some ver)
    (hd : unmarshalEntries data = some (es, z)) :
    hostRoot H version data = some (specRoot ver H (lastWins es)) := by
  simp only [hostRoot, hv, hd, C01.C01_layoutRoot, lastWins_eq]

/-- the `_version_1` function is the version-0 root -/
theorem C10_root_v1 (H : Bytes → Bytes) (data : Bytes) (es : List (Bytes × Bytes)) (z : Bool)
    (hd : unmarshalEntries data = some (es, z)) :
    hostRoot1 H data = some (specRoot Ver.v0 H (lastWins es)) :=
  C10_root H 0 data Ver.v0 es z rfl hd

/-- The map `lastWins` gives every key the value of its LAST occurrence in the
    list, and no other key is present -/
theorem C10_last_wins (kvs : List (Bytes × Bytes)) (k : Bytes) :
    OMap.get k (lastWins kvs) = (kvs.reverse.find? (fun e => e.1 == k)).map (·.2) := by
  rw [lastWins, OMap.get_foldl_upsert]
  cases kvs.reverse.find? (fun e => e.1 == k) <;> simp [OMap.get]

theorem sorted_lastWins (kvs : List (Bytes × Bytes)) : OMap.Sorted (lastWins kvs) :=
  (C01.rep_putAll kvs Rep.empty).sorted

theorem indexed_eq (vs : List Bytes) : ∀ i, i + vs.length ≤ 256 ^ 67 → indexed i vs = indexedSpec i vs := by
  induction vs with
  | nil => intro i _; rfl
  | cons v r ih =>
    intro i h
    simp only [List.length_cons] at h
    simp only [indexed, indexedSpec]
    rw [C11.C11_encodeBigInt_canonical i (by omega), ← compactNat_eq, ih (i + 1) (by omega)]

theorem decSeqGo_length {α : Type} (dec : Bytes → Dec α) : ∀ (n : Nat) (bs : Bytes) (xs : List α)
    (r : Bytes) (z : Bool), decSeqGo dec n bs = some (xs, r, z) → xs.length = n := by
  intro n
  induction n with
  | zero => intro bs xs r z h; simp [decSeqGo] at h; simp [h.1]
  | succ n ih =>
    intro bs xs r z h
    simp only [decSeqGo] at h
    split at h
    · cases h
    · rename_i x r1 z1 _
      split at h
      · cases h
      · rename_i xs' r' z2 hrec
        cases h
        simp [ih _ _ _ _ hrec]

/-- the keys the host function builds for a decoded list are the compact integers: a decoded list
    has fewer than 2^64 elements, and below 256^67 `encodeBigInt` is canonical -/
theorem indexed_unmarshalValues {data : Bytes} {vs : List Bytes} {z : Bool}
    (h : unmarshalValues data = some (vs, z)) : indexed 0 vs = indexedSpec 0 vs := by
  simp only [unmarshalValues, decSliceGo] at h
  cases hu : C11.decodeUintV data with
  | none => simp [hu] at h
  | some p =>
    obtain ⟨l, r⟩ := p
    simp only [hu] at h
    cases hs : decSeqGo decBytesGo l r with
    | none => simp [hs] at h
    | some q =>
      obtain ⟨xs, r', z'⟩ := q
      simp only [hs, Option.map_some, Option.some.injEq, Prod.mk.injEq] at h
      have := decSeqGo_length decBytesGo l r xs r' z' hs
      have := (C11.uintOk_iff l).1 (C11.decodeUintV_some.1 hu).2
      exact indexed_eq vs 0 (Nat.le_of_lt (lt_pow67_of_lt_u64 (by rw [← h.1]; omega)))

/-- Whenever the input decodes to the values `v_0 … v_{n-1}` and the version
    is 0 or 1, the function returns the spec root of the map `{compact(i) ↦ v_i}`. -/
theorem C10_ordered_root (H : Bytes → Bytes) (version : Nat) (data : Bytes) (ver : Ver)
    (vs : List Bytes) (z : Bool) (hv : parseVersion version = some ver)
    (hd : unmarshalValues data = some (vs, z)) :
    hostOrderedRoot H version data = some (specRoot ver H (lastWins (indexedSpec 0 vs))) := by
  simp only [hostOrderedRoot, hv, hd, C01.C01_layoutRoot, lastWins_eq, indexed_unmarshalValues hd]

theorem indexedSpec_keys (vs : List Bytes) : ∀ (i : Nat) (e : Bytes × Bytes), e ∈ indexedSpec i vs →
    ∃ j, i ≤ j ∧ j < i + vs.length ∧ e.1 = compactNat j := by
  induction vs with
  | nil => intro i e h; simp [indexedSpec] at h
  | cons v r ih =>
    intro i e h
    simp only [indexedSpec, List.mem_cons] at h
    rcases h with h | h
    · exact ⟨i, Nat.le_refl _, by simp, by rw [h]⟩
    · obtain ⟨j, h1, h2, h3⟩ := ih (i + 1) e h
      exact ⟨j, by omega, by simp only [List.length_cons]; omega, h3⟩

theorem get_indexedSpec (vs : List Bytes) : ∀ (i : Nat) (es : Entries) (j : Nat), i ≤ j →
    j < i + vs.length → i + vs.length ≤ 256 ^ 67 →
    OMap.get (compactNat j) ((indexedSpec i vs).foldl (fun es e => OMap.upsert e.1 e.2 es) es) =
      vs[j - i]? := by
  induction vs with
  | nil => intro i es j h1 h2; simp at h2; omega
  | cons v r ih =>
    intro i es j h1 h2 hb
    simp only [List.length_cons] at h2 hb
    simp only [indexedSpec, List.foldl_cons]
    by_cases hj : j = i
    · subst hj
      have hne : ∀ e ∈ indexedSpec (j + 1) r, e.1 ≠ compactNat j := fun e he hc => by
        obtain ⟨j', hj1, hj2, hj3⟩ := indexedSpec_keys r (j + 1) e he
        have := compactNat_inj (by omega) (by omega) (hj3.symm.trans hc)
        omega
      rw [OMap.get_foldl_upsert_other _ _ _ hne]
      simp [OMap.get_upsert]
    · rw [ih (i + 1) _ j (by omega) (by omega) (by omega)]
      rw [show j - i = (j - (i + 1)) + 1 by omega, List.getElem?_cons_succ]

/-- The map of the ordered root has, for every index `i < n`, the key
    `compact(i)` (one, two, four or more bytes: every `n ≤ 256^67`, across 64 and 16384) with the value `v_i` -/
theorem C10_ordered_entries (vs : List Bytes) (hb : vs.length ≤ 256 ^ 67) (i : Nat) (hi : i < vs.length) :
    OMap.get (compactNat i) (lastWins (indexedSpec 0 vs)) = some vs[i] := by
  rw [lastWins, get_indexedSpec vs 0 [] i (Nat.zero_le _) (by omega) (by omega)]
  simp [hi]

/-- and nothing else: every key of that map is `compact(i)` for some `i < n` -/
theorem C10_ordered_keys (vs : List Bytes) (k : Bytes) (v : Bytes)
    (h : OMap.get k (lastWins (indexedSpec 0 vs)) = some v) : ∃ i, i < vs.length ∧ k = compactNat i := by
  rw [C10_last_wins] at h
  cases hf : (indexedSpec 0 vs).reverse.find? (fun e => e.1 == k) with
  | none => simp [hf] at h
  | some e =>
    have hm := List.mem_of_find?_eq_some hf
    have hk := List.find?_some hf
    obtain ⟨j, _, hj, hj3⟩ := indexedSpec_keys vs 0 e (List.mem_reverse.mp hm)
    exact ⟨j, by omega, by rw [← hj3]; exact (beq_iff_eq.mp hk).symm⟩

/-- `shortRead` depends on its first argument only through the decoder used: `Fn.root2` stands for the
    entries decoder (`.root1` gives the same function), `Fn.oroot2` below for the values decoder -/
theorem root_refines (H : Bytes → Bytes) (version : Nat) (data : Bytes)
    (hz : shortRead Fn.root2 data = false) : hostRoot H version data = specRootFn H version data := by
  simp only [shortRead] at hz
  simp only [hostRoot, specRootFn]
  cases parseVersion version with
  | none => rfl
  | some ver =>
    cases hu : unmarshalEntries data with
    | none => rw [strictEntries, strict_eq_none agree_entry hu]
    | some p =>
      rw [hu] at hz
      rw [strictEntries, (strict_eq_some_iff agree_entry data p.1).mpr (hu.trans (by rw [← hz]))]
      simp only [C01.C01_layoutRoot, lastWins_eq]

theorem ordered_refines (H : Bytes → Bytes) (version : Nat) (data : Bytes)
    (hz : shortRead Fn.oroot2 data = false) :
    hostOrderedRoot H version data = specOrderedRootFn H version data := by
  simp only [shortRead] at hz
  simp only [hostOrderedRoot, specOrderedRootFn]
  cases parseVersion version with
  | none => rfl
  | some ver =>
    cases hu : unmarshalValues data with
    | none => rw [strictValues, strict_eq_none agree_bytes hu]
    | some p =>
      rw [hu] at hz
      rw [strictValues, (strict_eq_some_iff agree_bytes data p.1).mpr (hu.trans (by rw [← hz]))]
      simp only [C01.C01_layoutRoot, lastWins_eq, indexed_unmarshalValues hu]

/-- FULL STATEMENT (false for the code): `strictEntries data = none →
    hostRoot H version data = none`.  Proved for every input on which the Go decoder does not
    zero-fill a truncated byte string (`shortRead … = false`), every version. -/
theorem C10_undecodable_partial (H : Bytes → Bytes) (version : Nat) (data : Bytes)
    (hs : strictEntries data = none) (hz : shortRead Fn.root2 data = false) :
    hostRoot H version data = none := by
  rw [root_refines H version data hz, specRootFn, hs]
  cases parseVersion version <;> rfl

/-- the same for the ordered root and the values decoder -/
theorem C10_ordered_undecodable_partial (H : Bytes → Bytes) (version : Nat) (data : Bytes)
    (hs : strictValues data = none) (hz : shortRead Fn.oroot2 data = false) :
    hostOrderedRoot H version data = none := by
  rw [ordered_refines H version data hz, specOrderedRootFn, hs]
  cases parseVersion version <;> rfl

/-- inside the region: `04 00 14 aa` — one entry, empty key, a value of declared length 5 with one
    byte present — is not decodable, yet a root (of the value `aa 00 00 00 00`) comes back -/
theorem C10_undecodable_counterexample :
    ∃ d1 d2 : Bytes, strictEntries d1 = none ∧ strictValues d2 = none ∧
      ∀ H : Bytes → Bytes, (hostRoot H 0 d1).isSome = true ∧ (hostOrderedRoot H 1 d2).isSome = true := by
  refine ⟨[0x04, 0x00, 0x14, 0xaa], [0x04, 0x14, 0xaa], by decide, by decide, fun H => ?_⟩
  have h1 : unmarshalEntries [0x04, 0x00, 0x14, 0xaa] = some ([([], [0xaa, 0, 0, 0, 0])], true) := by
    decide
  have h2 : unmarshalValues [0x04, 0x14, 0xaa] = some ([[0xaa, 0, 0, 0, 0]], true) := by decide
  constructor
  · simp [hostRoot, parseVersion, h1]
  · simp [hostOrderedRoot, parseVersion, h2]

theorem decodeUintV_compactNat (n : Nat) (hn : n < 4294967296) (r : Bytes) :
    C11.decodeUintV (compactNat n ++ r) = some (n, r) := by
  rw [compactNat_eq]
  exact C11.decodeUintV_compactEnc ((C11.uintOk_iff n).2 (.inl hn)) r

theorem decBytesStrict_scaleBytes (b : Bytes) (hb : b.length < 4294967296) (r : Bytes) :
    decBytesStrict (scaleBytes b ++ r) = some (b, r) := by
  simp only [decBytesStrict, scaleBytes, List.append_assoc, decodeUintV_compactNat _ hb]
  rw [if_neg (by omega), if_neg (by simp)]
  simp

/-- sizes a 32-bit guest can produce -/
def EntriesOk (es : List (Bytes × Bytes)) : Prop :=
  es.length < 4294967296 ∧ ∀ e ∈ es, e.1.length < 4294967296 ∧ e.2.length < 4294967296

def ValuesOk (vs : List Bytes) : Prop :=
  vs.length < 4294967296 ∧ ∀ v ∈ vs, v.length < 4294967296

theorem decSeqStrict_flatMap {α : Type} {dec : Bytes → Option (α × Bytes)} {enc : α → Bytes} (xs : List α)
    (h : ∀ x ∈ xs, ∀ r, dec (enc x ++ r) = some (x, r)) (r : Bytes) :
    decSeqStrict dec xs.length (xs.flatMap enc ++ r) = some (xs, r) := by
  induction xs with
  | nil => rfl
  | cons x t ih =>
    simp only [List.length_cons, decSeqStrict, List.flatMap_cons, List.append_assoc, h x List.mem_cons_self,
      ih fun y hy => h y (List.mem_cons_of_mem _ hy)]

theorem strictEntries_enc (es : List (Bytes × Bytes)) (h : EntriesOk es) (r : Bytes) :
    strictEntries (encEntries es ++ r) = some es := by
  simp only [strictEntries, decSliceStrict, encEntries, List.append_assoc, decodeUintV_compactNat _ h.1]
  rw [decSeqStrict_flatMap es fun e he r => by
    simp only [decEntryStrict, List.append_assoc, decBytesStrict_scaleBytes _ (h.2 e he).1,
      decBytesStrict_scaleBytes _ (h.2 e he).2]]
  rfl

theorem strictValues_enc (vs : List Bytes) (h : ValuesOk vs) (r : Bytes) :
    strictValues (encValues vs ++ r) = some vs := by
  simp only [strictValues, decSliceStrict, encValues, List.append_assoc, decodeUintV_compactNat _ h.1]
  rw [decSeqStrict_flatMap vs fun v hv => decBytesStrict_scaleBytes v (h.2 v hv)]
  rfl

theorem unmarshalEntries_enc (es : List (Bytes × Bytes)) (h : EntriesOk es) (r : Bytes) :
    unmarshalEntries (encEntries es ++ r) = some (es, false) :=
  (strict_eq_some_iff agree_entry _ es).mp (strictEntries_enc es h r)

theorem unmarshalValues_enc (vs : List Bytes) (h : ValuesOk vs) (r : Bytes) :
    unmarshalValues (encValues vs ++ r) = some (vs, false) :=
  (strict_eq_some_iff agree_bytes _ vs).mp (strictValues_enc vs h r)

/-- For EVERY entry list (duplicates, empty keys and values; number of entries, key and value
    lengths below 2^32), every version and every trailing garbage: the function applied to the
    SCALE encoding of the list returns the spec root of the last-wins map for version 0 / 1 (as a
    byte) and failure for every other version. -/
theorem C10_root_of_encoding (H : Bytes → Bytes) (version : Nat) (es : List (Bytes × Bytes))
    (h : EntriesOk es) (r : Bytes) :
    hostRoot H version (encEntries es ++ r) =
      (parseVersion version).map (fun ver => specRoot ver H (lastWins es)) := by
  cases hv : parseVersion version with
  | none => simp [hostRoot, hv]
  | some ver => rw [C10_root H version _ ver es false hv (unmarshalEntries_enc es h r)]; rfl

/-- For EVERY list of values the ordered-root function applied to
    its encoding returns the spec root of `{compact(i) ↦ v_i}`. -/
theorem C10_ordered_root_of_encoding (H : Bytes → Bytes) (version : Nat) (vs : List Bytes)
    (h : ValuesOk vs) (r : Bytes) :
    hostOrderedRoot H version (encValues vs ++ r) =
      (parseVersion version).map (fun ver => specRoot ver H (lastWins (indexedSpec 0 vs))) := by
  cases hv : parseVersion version with
  | none => simp [hostOrderedRoot, hv]
  | some ver => rw [C10_ordered_root H version _ ver vs false hv (unmarshalValues_enc vs h r)]; rfl

/-- non-vacuity: a list with a duplicate key, an empty key, an empty value and a 33-byte value -/
example : EntriesOk [([0x10], [1]), ([0x10, 0x01], []), ([], List.replicate 33 7), ([0x10], [2])] := by
  refine ⟨by decide, ?_⟩
  intro e he
  simp only [List.mem_cons, List.mem_nil_iff, or_false] at he
  rcases he with rfl | rfl | rfl | rfl <;> decide

/-- FULL STATEMENT (false for the code): `∀ f v d, runModel H f v d = runSpec H f v d`.
    On every input outside the short-read region, for all four host functions, every version
    argument and every hash function, the model of the Go code returns what the specification
    demands: the spec root of the strictly decoded list, or failure. -/
theorem C10_refines_partial (H : Bytes → Bytes) (f : Fn) (version : Nat) (data : Bytes)
    (hz : shortRead f data = false) : runModel H f version data = runSpec H f version data := by
  cases f with
  | root1 => exact root_refines H 0 data hz
  | root2 => exact root_refines H version data hz
  | oroot1 => exact ordered_refines H 0 data hz
  | oroot2 => exact ordered_refines H version data hz

end Gossamer.C10
