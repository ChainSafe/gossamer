/-
C34  The transaction queue is ordered and linearizable.

Sequential part: the transcription of `PriorityQueue` over Go's container/heap (slots with
`index` back-pointers, `txs` map, `currOrder`) refines the list of queued transactions sorted
by (priority desc, insertion order asc), for every sequence of Push / Pop / Peek /
RemoveExtrinsic / Exists / Pending / Len; the heap invariant holds in every reachable state.
Concurrent part: lock tables of PriorityQueue, Pool and TransactionState (re-extracted from the
sources by the harness on every run) + the monitor theorem of Lib.Monitor.
-/
import Gossamer.Lib.C34Rel
import Gossamer.Lib.Monitor
namespace Gossamer.C34

def reach (ops : List Op) : State := (run State.init ops).2

/-- **C34_refines.**  For every sequence of Push / Pop / Peek / RemoveExtrinsic / Exists /
    Pending / Len on a fresh queue, the heap implementation returns what the sorted list returns
    (Pending: the same transactions, in heap layout order instead of service order), and the
    final states are related by `Rel` (same queued items, same next insertion number). -/
theorem C34_refines (ops : List Op) :
    OutsRel (run State.init ops).1 (srun Spec.init ops).1 ∧
    Rel (reach ops) (srun Spec.init ops).2 :=
  run_rel ops rel_init

/-- **C34_heap_inv.**  In every reachable state: the slice is a heap for `Less`; every `index`
    back-pointer equals the slot position; insertion numbers are pairwise distinct
    and below `currOrder`, hashes are pairwise distinct; and the `txs` map is exactly the set of queued items (the pointer
    stored under a hash designates the slot holding that hash). -/
theorem C34_heap_inv (ops : List Op) :
    let s := reach ops
    Ord s.pq.arr s.pq.len ∧ IdxOK s.pq.arr s.pq.len ∧ Inj s.pq.arr s.pq.len ∧
    (∀ k1 k2, k1 < s.pq.len → k2 < s.pq.len → (s.pq.arr.get k1).hash = (s.pq.arr.get k2).hash → k1 = k2) ∧
    (∀ k, k < s.pq.len → (s.pq.arr.get k).order < s.currOrder) ∧
    (∀ h o, s.txs.lookup h = some o ↔
      ∃ k, k < s.pq.len ∧ (s.pq.arr.get k).hash = h ∧ (s.pq.arr.get k).order = o) := by
  intro s
  have hR := (C34_refines ops).2
  refine ⟨hR.wf.ord, hR.wf.idx, hR.wf.inj, fun k1 k2 h1 h2 => hR.slot_hash_inj h1 h2, ?_, ?_⟩
  · intro k hk
    have := hR.fresh _ (hR.slot hk)
    rw [hR.next] at this
    exact this
  · intro h o
    rw [hR.txs h o]
    exact hR.exists_slot fun x => x.hash = h ∧ x.order = o

/-- **C34_pop_is_max.**  In every reachable non-empty state, Pop yields a queued transaction
    whose priority is at least the priority of every queued transaction. -/
theorem C34_pop_is_max (ops : List Op) (hne : (reach ops).pq.len ≠ 0) :
    let s := reach ops
    (pop s).1 = .tx (s.pq.arr.get 0).hash ∧
    ∀ k, k < s.pq.len → (s.pq.arr.get k).priority ≤ (s.pq.arr.get 0).priority := by
  refine ⟨(pop_slot (C34_refines ops).2 hne).1, fun k hk => ?_⟩
  have := (le_iff _ _).mp (root_min (C34_refines ops).2.wf.ord k hk)
  omega

/-- **C34_fifo_among_equal.**  In every reachable non-empty state, among the queued transactions
    that have the priority of the one Pop yields, that one has the smallest insertion number. -/
theorem C34_fifo_among_equal (ops : List Op) (hne : (reach ops).pq.len ≠ 0) :
    let s := reach ops
    (pop s).1 = .tx (s.pq.arr.get 0).hash ∧
    ∀ k, k < s.pq.len → (s.pq.arr.get k).priority = (s.pq.arr.get 0).priority →
      (s.pq.arr.get 0).order ≤ (s.pq.arr.get k).order := by
  refine ⟨(pop_slot (C34_refines ops).2 hne).1, fun k hk hp => ?_⟩
  have := (le_iff _ _).mp (root_min (C34_refines ops).2.wf.ord k hk)
  omega

/-- **C34_order_is_insertion.**  Insertion numbers are insertion order: in every reachable state a Push of a
    hash that is not in `txs` succeeds, gives the new transaction the number `currOrder`, larger than the number
    of everything already queued, and increments it. -/
theorem C34_order_is_insertion (ops : List Op) (h p : Nat)
    (hnew : (reach ops).txs.lookup h = none) :
    let s := reach ops
    (push s h p).1 = .ok ∧ (push s h p).2.currOrder = s.currOrder + 1 ∧
    (∃ k, k < (push s h p).2.pq.len ∧ (push s h p).2.pq.arr.get k =
        { hash := h, priority := p, order := s.currOrder, index := (k : Int) }) ∧
    ∀ k, k < s.pq.len → (s.pq.arr.get k).order < s.currOrder := by
  intro s
  have hinv : ∀ k, k < s.pq.len → (s.pq.arr.get k).order < s.currOrder := (C34_heap_inv ops).2.2.2.2.1
  have hR : Rel s _ := (C34_refines ops).2
  let it : Item := { hash := h, priority := p, order := s.currOrder, index := 0 }
  have hpush := push_new (s := s) hnew p
  refine ⟨by rw [hpush], by rw [hpush], ?_, hinv⟩
  rw [hpush]
  -- the slot that holds the new key has a consistent `index`
  obtain ⟨_, hidx, _, hmem⟩ := heapPush_spec hR.wf it (fun k hk => Nat.ne_of_lt (hinv k hk))
  obtain ⟨k, hk, hkk⟩ := (hmem (key it)).mpr (Or.inl rfl)
  exact ⟨k, hk, item_ext hkk (hidx k hk)⟩

/-- **C34_dup_refused.**  In every reachable state, pushing a transaction whose hash is queued
    is refused with ErrTransactionExists and leaves the queue untouched; conversely a hash that
    is not queued is accepted. -/
theorem C34_dup_refused (ops : List Op) (h p : Nat) :
    let s := reach ops
    ((∃ k, k < s.pq.len ∧ (s.pq.arr.get k).hash = h) → push s h p = (.dup, s)) ∧
    ((¬ ∃ k, k < s.pq.len ∧ (s.pq.arr.get k).hash = h) → (push s h p).1 = .ok) := by
  intro s
  have hR := (C34_refines ops).2
  constructor
  · rintro ⟨k, hk, hkh⟩
    exact push_dup ((hR.txs h _).mpr ⟨_, hR.slot hk, hkh, rfl⟩) p
  · intro hno
    have hl := (hR.absent fun x hx hxh => hno ((hR.exists_slot (·.hash = h)).mp ⟨x, hx, hxh⟩)).2
    rw [push_new hl]

/-- **C34_at_most_once.**  A transaction yielded by Pop, or removed by RemoveExtrinsic, is no
    longer queued afterwards (no slot holds its hash and `txs` has no entry for it, so Exists answers false), so it
    cannot be yielded or removed a second time unless it is pushed again. -/
theorem C34_at_most_once (ops : List Op) (h : Nat) :
    let s := reach ops
    ((pop s).1 = .tx h →
      (¬ ∃ k, k < (pop s).2.pq.len ∧ ((pop s).2.pq.arr.get k).hash = h) ∧ (pop s).2.txs.lookup h = none) ∧
    ((¬ ∃ k, k < (removeExtrinsic s h).2.pq.len ∧ ((removeExtrinsic s h).2.pq.arr.get k).hash = h) ∧
      (removeExtrinsic s h).2.txs.lookup h = none) := by
  intro s
  have hR := (C34_refines ops).2
  constructor
  · intro hpop
    by_cases hne : s.pq.len = 0
    · rw [pop_empty hne] at hpop
      cases hpop
    · -- the yielded hash is the root's, and `Pop` filters it out like a removal
      obtain ⟨ho, hR'⟩ := pop_slot hR hne
      obtain rfl : (s.pq.arr.get 0).hash = h := Out.tx.inj (ho.symm.trans hpop)
      exact hR'.absent (sstep_remove_absent _ _)
  · exact (remove_rel hR h).2.absent (sstep_remove_absent _ h)

/-- non-vacuity: a concrete run with equal priorities, a duplicate, and removal of a middle slot -/
example : (run State.init [.push 1 5, .push 2 7, .push 3 5, .push 1 9, .peek, .remove 3, .pop, .pop, .pop, .exist 3]).1 =
    [.ok, .ok, .ok, .dup, .tx 2, .ok, .tx 2, .tx 1, .none, .bool false] := by decide

/-- **C34_conservation.**  For every operation sequence on a fresh queue: the transactions
    accepted by Push are, as a multiset, exactly those yielded by Pop/PopWithTimer plus those
    taken out by RemoveExtrinsic plus those still in the queue.  Nothing is lost, nothing is
    yielded twice. -/
theorem C34_conservation (ops : List Op) :
    let l := ledger State.init ops ⟨[], [], []⟩
    l.pushed.Perm ((reach ops).pq.toList.map (·.hash) ++ (l.yielded ++ l.removed)) := by
  intro l
  have hR := (C34_refines ops).2
  have hB : Bal (srun Spec.init ops).2 l :=
    bal_run ops rel_init (by simp [Bal, Spec.init])
  exact hB.trans (List.Perm.append_right _ (pending_rel hR).symm)

/-- **C34_nil_takes_nothing.**  A Pop (and PopWithTimer, which is Pop or a time-out) that
    returns nil has not changed the queue: it can report "nothing" only when nothing was taken. -/
theorem C34_nil_takes_nothing (s : State) (h : (pop s).1 = .none) : (pop s).2 = s := by
  by_cases hne : s.pq.len = 0
  · rw [pop_empty hne]
  · rw [pop_eq hne] at h
    cases h

/-- **C34_state_remove_both.**  For every TransactionState reached by any operation sequence
    `ops1`: right after `RemoveExtrinsic(h)` the extrinsic is in neither container (not in the
    pool, in no slot of the ready queue, not in `txs`, `Exists` answers false), and whatever
    sequence `ops2` follows, as long as `h` is not pushed again, no Pop or Peek ever yields it. -/
theorem C34_state_remove_both (ops1 ops2 : List TSOp) (h : Nat) (hno : ∀ p, TSOp.push h p ∉ ops2) :
    let ts := (tsStep (tsRun TS.init ops1).2 (.rm h)).2
    ts.pool.lookup h = none ∧
    (¬ ∃ k, k < ts.q.pq.len ∧ (ts.q.pq.arr.get k).hash = h) ∧
    ts.q.txs.lookup h = none ∧
    (tsStep ts (.exist h)).1 = .bool false ∧
    Out.tx h ∉ (tsRun ts ops2).1 := by
  intro ts
  obtain ⟨t, hR⟩ := tsRun_rel ops1 (ts := TS.init) ⟨Spec.init, rel_init⟩
  have hnoh := sstep_remove_absent t h
  have hf : (¬ ∃ k, k < ts.q.pq.len ∧ (ts.q.pq.arr.get k).hash = h) ∧ ts.q.txs.lookup h = none :=
    (remove_rel hR h).2.absent hnoh
  have hp : ts.pool.lookup h = none := lookup_poolDel _ h
  refine ⟨hp, hf.1, hf.2, ?_, tsRun_absent ops2 hno ⟨_, (remove_rel hR h).2, hnoh⟩⟩
  show Out.bool ((ts.pool.lookup h).isSome || (ts.q.txs.lookup h).isSome) = .bool false
  rw [hp, hf.2]; rfl

/-- non-vacuity: in pool and queue at once (promotion window), then removed -/
example : (tsRun TS.init [.addPool 1 7, .push 2 1, .push 1 7, .rm 1, .unpool 1, .exist 1, .peek, .pop, .pop]).1 =
    [.ok, .ok, .ok, .ok, .ok, .bool false, .tx 2, .tx 2, .none] := by decide

def tablePQ : List Monitor.Method := (Monitor.ofTriples lockTablePQ).getD []
def tablePool : List Monitor.Method := (Monitor.ofTriples lockTablePool).getD []
def tableTS : List Monitor.Method := (Monitor.ofTriples lockTableTS).getD []

/-- **C34_race_free.**  Over the lock tables of PriorityQueue, Pool and TransactionState as
    transcribed in Model/C34 (informational: the check does NOT compare against
    them, it decides the tables it extracts from the three source files at run time with the
    same `Monitor.raceFree`): every method that writes guarded fields holds the exclusive lock and
    every method that reads them holds a lock, in one critical section; hence no two
    conflicting methods can be inside their critical sections together.  The lengths are part of the statement
    because a table that fails to parse is `[]` (`getD []`), of which the two checks hold trivially. -/
theorem C34_race_free :
    (tablePQ.length = 8 ∧ Monitor.disciplined tablePQ = true ∧ Monitor.raceFree tablePQ = true) ∧
    (tablePool.length = 5 ∧ Monitor.disciplined tablePool = true ∧ Monitor.raceFree tablePool = true) ∧
    (tableTS.length = 13 ∧ Monitor.disciplined tableTS = true ∧ Monitor.raceFree tableTS = true) := by
  decide

/-- the tables before the repairs (Exists without lock; Transactions reading the map size
    outside the lock, i.e. not one critical section) are rejected by the same check -/
theorem C34_race_free_counterexample :
    Monitor.raceFree [⟨"Exists", .none, .reads⟩, ⟨"Push", .lock, .writes⟩] = false ∧
    Monitor.Method.parse? "Transactions" ["split", "none", "reads", "RLock", "reads"]
      = some ⟨"Transactions", .none, .reads⟩ ∧
    Monitor.raceFree [⟨"Insert", .lock, .writes⟩, ⟨"Transactions", .none, .reads⟩] = false := by
  decide

def Op.method : Op → String
  | .push _ _ => "Push" | .pop => "Pop" | .peek => "Peek" | .remove _ => "RemoveExtrinsic"
  | .exist _ => "Exists" | .pending => "Pending" | .len => "Len"

def Op.writes : Op → Bool
  | .push _ _ => true | .pop => true | .remove _ => true
  | .peek => false | .exist _ => false | .pending => false | .len => false

theorem step_pure (s : State) (op : Op) (h : op.writes = false) : (step s op).2 = s := by
  cases op <;> first | rfl | cases h

def invOf (t : List Monitor.Method) (op : Op) : Monitor.Inv State Out :=
  { mode := Monitor.modeIn t op.method, body := [fun s _ => ((step s op).2, (step s op).1)], init := .ok }

/-- what is asked of a PriorityQueue table: it is race free (what a run of the check decides: `Monitor.verdict`),
    and the modifying methods are classified as writers of the guarded fields (an assumption on the go/ast
    extractor: no run decides it).  Nothing is asked of the reading methods: a table that gives one of them no
    lock, or omits it, is accepted, and the theorems below are then silent about calls of that method
    (`Monitor.Step.acq` never fires for mode `.none`). -/
structure GoodTable (t : List Monitor.Method) : Prop where
  raceFree : Monitor.raceFree t = true
  writers : ∀ op : Op, op.writes = true → Monitor.accessIn t op.method = .writes

theorem goodTable_of {t : List Monitor.Method} (hrf : Monitor.raceFree t = true)
    (h1 : Monitor.accessIn t "Push" = .writes) (h2 : Monitor.accessIn t "Pop" = .writes)
    (h3 : Monitor.accessIn t "RemoveExtrinsic" = .writes) : GoodTable t :=
  ⟨hrf, fun op h => by
    cases op with
    | push => exact h1
    | pop => exact h2
    | remove => exact h3
    | _ => cases h⟩

/-- the transcribed table is one such table; so is the same table with the pure readers under RLock
    (sync.RWMutex) -/
theorem goodTable_today : GoodTable tablePQ :=
  goodTable_of C34_race_free.1.2.2 (by decide) (by decide) (by decide)

theorem goodTable_rwmutex : GoodTable
    [⟨"Exists", .rlock, .reads⟩, ⟨"Len", .rlock, .reads⟩, ⟨"Peek", .rlock, .reads⟩,
     ⟨"Pending", .rlock, .reads⟩, ⟨"Pop", .lock, .writes⟩, ⟨"PopWithTimer", .none, .pure⟩,
     ⟨"Push", .lock, .writes⟩, ⟨"RemoveExtrinsic", .lock, .writes⟩] :=
  goodTable_of (by decide) (by decide) (by decide) (by decide)

/-- check-then-act Push (duplicate check under RLock, insertion under Lock: two critical
    sections) is parsed as an unlocked writer and rejected -/
theorem C34_check_then_act_rejected :
    Monitor.Method.parse? "Push" ["split", "RLock", "reads", "Lock", "writes"] = some ⟨"Push", .none, .writes⟩ ∧
    Monitor.raceFree [⟨"Exists", .rlock, .reads⟩, ⟨"Pop", .lock, .writes⟩, ⟨"Push", .none, .writes⟩] = false := by
  decide

theorem invOf_lock {t : List Monitor.Method} (ht : GoodTable t) {op : Op} (hw : op.writes = true) :
    (invOf t op).mode = .lock :=
  Monitor.modeIn_lock ht.raceFree (ht.writers _ hw)

theorem readersPure_of_goodTable {t : List Monitor.Method} (ht : GoodTable t) (calls : Nat → Op) :
    Monitor.ReadersPure (fun i => invOf t (calls i)) := by
  intro i hr f hf s l
  cases hw : (calls i).writes with
  | true => rw [invOf_lock ht hw] at hr; cases hr
  | false =>
    obtain rfl : f = fun s _ => ((step s (calls i)).2, (step s (calls i)).1) := List.mem_singleton.mp hf
    exact step_pure s (calls i) hw

/-- **C34_linearizable.**  For ANY lock table `t` that is a `GoodTable` (race free, modifying
    methods classified as writers — e.g. the transcribed sync.Mutex table, or pure readers under RLock of
    a sync.RWMutex; the run of the check decides race freedom only): any number of goroutines invoke Push / Pop /
    Peek / RemoveExtrinsic / Exists / Pending / Len (`calls i` is the i-th invocation; a call of a method to which
    `t` assigns no lock never starts, so nothing is said of it) on a fresh queue; each invocation
    acquires the lock the table assigns to its method, runs, releases; acquisitions obey the
    reader/writer lock rules (readers may overlap); the interleaving is otherwise arbitrary.
    Whenever no invocation is in progress, the queue state and the result of every invocation
    are those of the sequential model run in release order, hence (C34_refines) those of the
    sorted-list specification. -/
theorem C34_linearizable (t : List Monitor.Method) (ht : GoodTable t)
    (calls : Nat → Op) (es : List Monitor.Ev) (c : Monitor.Cfg State Out)
    (hs : Monitor.Steps (fun i => invOf t (calls i)) (Monitor.Cfg.init State.init) es c)
    (hq : ∀ j, c.fl j = none) :
    let order := c.log.reverse.map (·.1)
    c.shared = reach (order.map calls) ∧
    c.log.reverse = order.zip (run State.init (order.map calls)).1 ∧
    OutsRel (run State.init (order.map calls)).1 (srun Spec.init (order.map calls)).1 ∧
    Rel c.shared (srun Spec.init (order.map calls)).2 := by
  intro order
  have h := Monitor.linearizable_atomic (step := step) (run := run) (hnil := fun _ => rfl) (hcons := fun _ _ _ => rfl)
    (calls := calls) (hbody := fun _ => rfl) (hp := readersPure_of_goodTable ht calls) (s0 := State.init) (hs := hs) (hq := hq)
  have hr := C34_refines (order.map calls)
  exact ⟨h.1, h.2, hr.1, h.1 ▸ hr.2⟩

/-- under any `GoodTable`, two invocations inside the queue at the same time are both
    non-modifying (a modifying method is always alone inside) -/
theorem C34_mutual_exclusion (t : List Monitor.Method) (ht : GoodTable t)
    (calls : Nat → Op) (es : List Monitor.Ev) (c : Monitor.Cfg State Out)
    (hs : Monitor.Steps (fun i => invOf t (calls i)) (Monitor.Cfg.init State.init) es c)
    (i j : Nat) (hi : c.fl i ≠ none) (hj : c.fl j ≠ none) (hij : i ≠ j) :
    (calls i).writes = false ∧ (calls j).writes = false := by
  have h := Monitor.mutual_exclusion _ State.init es c hs i j hi hj hij
  constructor
  · cases hw : (calls i).writes with
    | false => rfl
    | true => rw [invOf_lock ht hw] at h; cases h.1
  · cases hw : (calls j).writes with
    | false => rfl
    | true => rw [invOf_lock ht hw] at h; cases h.2

/-- non-vacuity of the hypotheses of C34_linearizable: a Push can run alone to completion -/
example : ∃ c, Monitor.Steps (fun i => invOf tablePQ ((fun _ => Op.push 1 5) i)) (Monitor.Cfg.init State.init)
    [.acq 0, .step 0, .rel 0] c ∧ (∀ j, c.fl j = none) := by
  obtain ⟨c, h1, h2, _⟩ := Monitor.solo_one (fun i => invOf tablePQ ((fun _ => Op.push 1 5) i)) 0 _ rfl
    (by rw [invOf_lock goodTable_today (op := Op.push 1 5) rfl]; simp) State.init
  exact ⟨c, h1, h2⟩

end Gossamer.C34
