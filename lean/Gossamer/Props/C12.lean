/-
C12  SCALE decoding rejects malformed input safely.

Model: `C12.decodeA` (Model/C12.lean): the walk of `decodeState.unmarshal` with its result, the
largest read buffer it allocated (`req`) and whether a short read was zero-filled (`zf`).
Spec: `decode Spec.codec`, the canonical SCALE decoder (rejects truncated input, non-canonical
compact integers, bad tags).
The case analysis of `decodeA` is done once, in Lib/C12Walk (`Walk.decodeA`); the theorems here are
its instances and their corollaries.  `C12_decodeA_res` and `C12_no_panic` are in Lib/C12Walk.
-/
import Gossamer.Lib.C12Walk
namespace Gossamer.C12
open Gossamer Gossamer.Scale

/-- **Refinement**: for every type and every input, without a zero-filled read each success of the
    Go decoder is the success of the canonical decoder (same value, same rest); with a zero-filled
    read the canonical decoder rejects the input. -/
theorem C12_refines (t : Ty) :
    ∀ bs, Refines (decodeA t bs).res (decodeA t bs).zf (decode Spec.codec t bs) :=
  refines_walk.decodeA Spec.codec _ (fun p _ => prim_refines p) len_refines t (allPrim_true t)

/-- **Soundness** (partial: known finding bytes-short-read).  Full statement wanted: every
    successful decode consumed exactly the canonical encoding of its result.  It holds whenever no
    short read was zero-filled (`zf = false`). -/
theorem C12_decode_sound_partial (t : Ty) (hwf : t.wf = true) (bs : Bytes) (v : Val) (r : Bytes)
    (hz : (decodeA t bs).zf = false) (h : (decodeA t bs).res = some (v, r)) :
    wt t v = true ∧ bs = encode Spec.codec t v ++ r :=
  Spec.sound t hwf bs v r ((C12_refines t bs).1 hz _ h)

/-- the same for `Unmarshal` itself -/
theorem C12_unmarshal_sound_partial (t : Ty) (hwf : t.wf = true) (bs : Bytes) (v : Val) (r : Bytes)
    (hz : (decodeA t bs).zf = false) (h : C11.unmarshal t bs = some (v, r)) :
    wt t v = true ∧ bs = encode Spec.codec t v ++ r :=
  C12_decode_sound_partial t hwf bs v r hz (by rw [C12_decodeA_res]; exact h)

/-- **Truncation** (partial): a strict prefix of a canonical encoding is rejected, unless the
    decoder zero-filled a short read of a byte string. -/
theorem C12_truncated_partial (t : Ty) (hwf : t.wf = true) (v : Val) (p s : Bytes)
    (hw : wt t v = true) (he : encode Spec.codec t v = p ++ s) (hs : s ≠ [])
    (hz : (decodeA t p).zf = false) : (decodeA t p).res = none := by
  cases h : (decodeA t p).res with
  | none => rfl
  | some x =>
    have := (C12_refines t p).1 hz x h
    rw [Spec.truncated t hwf v p s hw he hs] at this
    cases this

/-- **Non-canonical input is rejected** (partial): two inputs that decode (without zero fill) to
    the same value and the same rest are the same byte string. -/
theorem C12_noncanonical_rejected (t : Ty) (hwf : t.wf = true) (bs bs' : Bytes) (v : Val) (r : Bytes)
    (hz : (decodeA t bs).zf = false) (h : (decodeA t bs).res = some (v, r))
    (hz' : (decodeA t bs').zf = false) (h' : (decodeA t bs').res = some (v, r)) : bs = bs' := by
  rw [(C12_decode_sound_partial t hwf bs v r hz h).2, (C12_decode_sound_partial t hwf bs' v r hz' h').2]

/-- an input on which the Go decoder zero-filled a read is one the canonical decoder rejects -/
theorem C12_zero_fill_is_malformed (t : Ty) (bs : Bytes) (hz : (decodeA t bs).zf = true) :
    decode Spec.codec t bs = none := (C12_refines t bs).2 hz

/-- the excluded region is real: `10 01 02` declares 4 bytes and carries 2; the Go decoder
    succeeds, consumes everything and returns the zero-filled `01 02 00 00`, whose encoding
    `10 01 02 00 00` is not the input; the input is a strict prefix of the encoding of `01 02 03 04` -/
theorem C12_decode_sound_counterexample :
    (decodeA (.prim .bytes) [0x10, 1, 2]).zf = true ∧
    (decodeA (.prim .bytes) [0x10, 1, 2]).res.map (fun p => encode Spec.codec (.prim .bytes) p.1 ++ p.2)
      = some [0x10, 1, 2, 0, 0] ∧
    encode Spec.codec (.prim .bytes) (.bytes [1, 2, 3, 4]) = [0x10, 1, 2] ++ [3, 4] := by
  refine ⟨by decide, by decide, by decide⟩

/-- non-vacuity of the hypotheses: a non-trivial successful decode without zero fill -/
example : (decodeA (.pair (.prim .bytes) (.pair (.prim .compact) .unit)) [0x08, 7, 9, 0x01, 0x01, 5]).zf = false ∧
    (decodeA (.pair (.prim .bytes) (.pair (.prim .compact) .unit)) [0x08, 7, 9, 0x01, 0x01, 5]).res.isSome = true ∧
    Ty.wf (.pair (.prim .bytes) (.pair (.prim .compact) .unit)) = true := by
  refine ⟨by decide, by decide, by decide⟩

/-- **Allocation** (partial: known finding bytes-alloc).  Full statement wanted: the decoder never
    allocates a read buffer larger than a constant plus the input.  For every type without byte
    strings, on every input, no buffer exceeds 67 bytes.  (`req` counts the buffers of the reads;
    the `io.ReadAll` with which `decodePointer` / `decodeResult` format the error for an unknown tag
    is not modelled.) -/
theorem C12_alloc_bounded_partial (t : Ty) (h : noBytes t = true) :
    ∀ bs, (decodeA t bs).req ≤ 67 :=
  decodeA_req_le t h

/-- **Allocation of honest successes**: a decode that succeeds without a zero-filled read
    allocated no read buffer larger than `max 67 |input|` (and its rest is no longer than the input). -/
theorem C12_alloc_ok_bounded (t : Ty) :
    ∀ bs, OkBound (decodeA t bs).res (decodeA t bs).req (decodeA t bs).zf bs :=
  okBound_walk.decodeA C11.codec _ (fun p _ => prim_okBound p)
    (fun bs _ n r h =>
      ⟨Nat.le_trans (decodeUintReq_le bs) (Nat.le_trans (by decide) (Nat.le_max_left ..)),
        Nat.le_of_lt (C11.decodeUintV_length_lt bs n r h)⟩) t (allPrim_true t)

/-- the excluded region is real: the 4 input bytes `fe ff ff ff` declare a byte string of
    2^30-1 bytes; the decoder allocates all of it before it finds the input empty -/
theorem C12_alloc_bounded_counterexample :
    (decodeA (.prim .bytes) [0xfe, 0xff, 0xff, 0xff]).req = 1073741823 ∧
    (decodeA (.prim .bytes) [0xfe, 0xff, 0xff, 0xff]).res.isNone = true := by
  refine ⟨by decide, by decide⟩


/-- **Reader independence** (partial: known finding bytes-chunked-read).  Full statement wanted:
    whatever legal `io.Reader` delivers the input (all at once, half of each request, one byte at
    a time, last data together with `io.EOF`), `NewDecoder(r).Decode` returns what `Unmarshal`
    returns.  It holds for every type without byte strings (all of them read with `io.ReadFull`). -/
theorem C12_reader_independent_partial (k : RKind) (n : Nat) (t : Ty) (h : noByteString t = true) :
    ∀ bs, decode (codecR k n) t bs = decode C11.codec t bs :=
  -- `codecR` differs from `C11.codec` at the byte strings only, so both are what `decodeA` returns
  fun bs => (res_walk.decodeA (codecR k n) _ (fun p hp _ => by cases p <;> first | rfl | cases hp)
    (fun _ => rfl) t (noByteString_eq t ▸ h) bs).symm.trans (C12_decodeA_res t bs)

/-- `NewDecoder(r).Decode` over a reader of kind `k` that holds the whole input returns what
    `Unmarshal` returns -/
theorem C12_reader_independent_unmarshal (k : RKind) (t : Ty) (h : noByteString t = true)
    (input : Bytes) : decodeR k t input = C11.unmarshal t input :=
  C12_reader_independent_partial k input.length t h input

/-- the excluded region is real: the complete, canonical `08 01 02` (the byte string `01 02`)
    decodes through `iotest.HalfReader` to `01 00` with `02` left over, and fails through
    `iotest.DataErrReader`; a fixed byte array does not -/
theorem C12_reader_independent_counterexample :
    (decodeR .buffer (.prim .bytes) [0x08, 1, 2]).map (fun p => encode Spec.codec (.prim .bytes) p.1 ++ p.2)
      = some [0x08, 1, 2] ∧
    (decodeR .half (.prim .bytes) [0x08, 1, 2]).map (fun p => encode Spec.codec (.prim .bytes) p.1 ++ p.2)
      = some [0x08, 1, 0, 2] ∧
    (decodeR .dataErr (.prim .bytes) [0x08, 1, 2]).isNone = true ∧
    (decodeR .half (.array 2 (.prim .u8)) [1, 2]).isSome = true ∧
    (decodeR .one (.array 2 (.prim .u8)) [1]).isNone = true := by
  refine ⟨by decide, by decide, by decide, by decide, by decide⟩

end Gossamer.C12
