/-
C14: chain data structures encode as the specification defines.

  spec      `Gossamer.Chain` (Lib/ChainTypes.lean): the types of the Polkadot specification as SCALE
            descriptors + the canonical SCALE codec = the independent reference encoder;
            `Gossamer.Proto` (Lib/ChainProto.lean): protobuf wire format + block request/response.
  model     `Gossamer.C14` (Model/C14.lean): pkg/scale (the C11/C12 Go codec) applied to the Go
            declarations, `Header.Hash`, the protobuf mapping of block.go.

Two kinds of theorem.  Consistency of the REFERENCE alone (`dec`, `enc` are both `Spec.codec`;
`Proto.*` decodes what `Proto.*` encodes): `C14_roundtrip*`, `C14_encoding_injective`,
`C14_header_decode_sound`, the `Proto` round trips, the `*_indices` tables.  Go against the
reference: `C14_*_matches_spec` (through `Scale.Sub` where a Go declaration differs from the
specification's type), `C14_roundtrip_go_*`, `C14_header_hash*`, `C14_*_message_roundtrip*`.
-/
import Gossamer.Model.C14
import Gossamer.Props.C11
namespace Gossamer.C14
open Gossamer Gossamer.Scale Gossamer.Chain

/-- the reference decoder reads back what the reference encoder wrote (nothing of Go in it) -/
theorem C14_roundtrip (c : CTy) (v : Val) (r : Bytes) (h : wtc c v = true) :
    dec c (enc c v ++ r) = some (v, r) := Chain.roundtrip c v r h

theorem C14_encoding_injective (c : CTy) (v w : Val) (hv : wtc c v = true) (hw : wtc c w = true)
    (h : enc c v = enc c w) : v = w := Chain.enc_inj c v w hv hw h

theorem C14_roundtrip_header (v : Val) (r : Bytes) (h : wtc header v = true) :
    dec header (enc header v ++ r) = some (v, r) := C14_roundtrip _ v r h
theorem C14_roundtrip_digest (v : Val) (r : Bytes) (h : wtc digest v = true) :
    dec digest (enc digest v ++ r) = some (v, r) := C14_roundtrip _ v r h
theorem C14_roundtrip_body (v : Val) (r : Bytes) (h : wtc body v = true) :
    dec body (enc body v ++ r) = some (v, r) := C14_roundtrip _ v r h
theorem C14_roundtrip_babePreDigest (v : Val) (r : Bytes) (h : wtc babePreDigest v = true) :
    dec babePreDigest (enc babePreDigest v ++ r) = some (v, r) := C14_roundtrip _ v r h
theorem C14_roundtrip_babeConsensusDigest (v : Val) (r : Bytes) (h : wtc babeConsensusDigest v = true) :
    dec babeConsensusDigest (enc babeConsensusDigest v ++ r) = some (v, r) := C14_roundtrip _ v r h
theorem C14_roundtrip_grandpaConsensusDigest (v : Val) (r : Bytes)
    (h : wtc grandpaConsensusDigest v = true) :
    dec grandpaConsensusDigest (enc grandpaConsensusDigest v ++ r) = some (v, r) := C14_roundtrip _ v r h
theorem C14_roundtrip_vote (v : Val) (r : Bytes) (h : wtc vote v = true) :
    dec vote (enc vote v ++ r) = some (v, r) := C14_roundtrip _ v r h
theorem C14_roundtrip_fullVote (v : Val) (r : Bytes) (h : wtc fullVote v = true) :
    dec fullVote (enc fullVote v ++ r) = some (v, r) := C14_roundtrip _ v r h
theorem C14_roundtrip_signedVote (v : Val) (r : Bytes) (h : wtc signedVote v = true) :
    dec signedVote (enc signedVote v ++ r) = some (v, r) := C14_roundtrip _ v r h
theorem C14_roundtrip_commit (v : Val) (r : Bytes) (h : wtc commit v = true) :
    dec commit (enc commit v ++ r) = some (v, r) := C14_roundtrip _ v r h
theorem C14_roundtrip_justification (v : Val) (r : Bytes) (h : wtc justification v = true) :
    dec justification (enc justification v ++ r) = some (v, r) := C14_roundtrip _ v r h
theorem C14_roundtrip_grandpaMessage (v : Val) (r : Bytes) (h : wtc grandpaMessage v = true) :
    dec grandpaMessage (enc grandpaMessage v ++ r) = some (v, r) := C14_roundtrip _ v r h
theorem C14_roundtrip_fgCommit (n : CTy) (v : Val) (r : Bytes) (h : wtc (fgCommit n) v = true) :
    dec (fgCommit n) (enc (fgCommit n) v ++ r) = some (v, r) := C14_roundtrip _ v r h
theorem C14_roundtrip_fgJustification (n : CTy) (v : Val) (r : Bytes)
    (h : wtc (fgJustification n) v = true) :
    dec (fgJustification n) (enc (fgJustification n) v ++ r) = some (v, r) := C14_roundtrip _ v r h

/-- these descriptors are well formed (every enum tail is an enum), the hypothesis of `Chain.sound`;
    soundness itself is stated for the header only (`C14_header_decode_sound`) -/
theorem C14_wf : header.toTy.wf = true ∧ digest.toTy.wf = true ∧ babePreDigest.toTy.wf = true ∧
    babeConsensusDigest.toTy.wf = true ∧ grandpaConsensusDigest.toTy.wf = true ∧
    grandpaMessage.toTy.wf = true ∧ justification.toTy.wf = true ∧
    (fgJustification u32).toTy.wf = true ∧ equivocationProof.toTy.wf = true := by decide

theorem C14_header_decode_sound (bs : Bytes) (v : Val) (r : Bytes) (h : dec header bs = some (v, r)) :
    wtc header v = true ∧ bs = enc header v ++ r := Chain.sound header C14_wf.1 bs v r h

/-- **byte-for-byte**: at every descriptor `c`, `scale.Marshal` of a value is exactly its reference
    encoding at the same `c` (`C11_encode_canonical`).  That a Go declaration IS the descriptor is
    tied by the harness's label check; where it is not, see the `Sub` theorems below. -/
theorem C14_encode_matches_spec (c : CTy) (v : Val) (h : wtc c v = true) : marshal c v = enc c v :=
  C11.C11_encode_canonical c.toTy v h

/-- where the specification's type extends the Go declaration, `scale.Marshal` of every value the
    Go type can hold is the reference encoding of that value as a value of the specification -/
theorem _root_.Gossamer.Scale.Sub.matches_spec {g s : CTy} (hs : Sub g.toTy s.toTy) (v : Val) (h : wtc g v = true) :
    wtc s v = true ∧ marshal g v = enc s v :=
  have ⟨w, e⟩ := hs v h
  ⟨w, (C11.C11_encode_canonical _ v h).trans (e Spec.codec).symm⟩

theorem digestItem_sub : Sub goDigestItem.toTy digestItem.toTy :=
  Sub.enumSkip 0 _ _ (by decide) (by decide)

theorem headerOf_sub {i i' : CTy} (h : Sub i.toTy i'.toTy) : Sub (headerOf i).toTy (headerOf i').toTy :=
  Sub.pair (Sub.refl _) (Sub.pair (Sub.refl _) (Sub.pair (Sub.refl _) (Sub.pair (Sub.refl _)
    (Sub.pair (Sub.seq h) (Sub.refl _)))))

/-- **header, byte-for-byte**: every header the Go type can hold is a spec header and
    `scale.Marshal` of it is its reference encoding -/
theorem C14_header_matches_spec (v : Val) (h : wtc goHeader v = true) :
    wtc header v = true ∧ marshal goHeader v = enc header v :=
  (headerOf_sub digestItem_sub).matches_spec v h

theorem C14_digest_matches_spec (v : Val) (h : wtc goDigest v = true) :
    wtc digest v = true ∧ marshal goDigest v = enc digest v :=
  (Sub.seq digestItem_sub).matches_spec (g := goDigest) (s := digest) v h

/-- **finality-grandpa justification, byte-for-byte** (ancestry headers without digest items,
    the only ones the Go type can hold) -/
theorem C14_fgjust_matches_spec (n : CTy) (v : Val) (h : wtc (goFgJustification n) v = true) :
    wtc (fgJustification n) v = true ∧ marshal (goFgJustification n) v = enc (fgJustification n) v :=
  Sub.matches_spec (g := goFgJustification n) (s := fgJustification n)
    (Sub.pair (Sub.refl _) (Sub.pair (Sub.refl _)
      (Sub.pair (Sub.seq (headerOf_sub (Sub.enumNil _))) (Sub.refl _)))) v h

/-- **Go round trip** (partial: known finding uint-5to7).  Full statement wanted:
    `wtc c v → unmarshal c (marshal c v ++ r) = some (v, r)`; it holds when no compact integer
    (header number) and no sequence length of the value lies in [2^32, 2^56). -/
theorem C14_roundtrip_go_partial (c : CTy) (v : Val) (r : Bytes) (h : wtc c v = true)
    (hq : leavesOk C11.okLeaf C11.okLen c.toTy v = true) :
    unmarshal c (marshal c v ++ r) = some (v, r) := C11.C11_roundtrip_partial c.toTy v r h hq

/-- a header with number 2^32 -/
def hdrBig : Val :=
  let z : Val := .list (List.replicate 32 (.nat 0))
  .pair z (.pair (.nat 4294967296) (.pair z (.pair z (.pair (.list []) .unit))))

/-- **known finding uint-5to7**: a header with number 2^32 is a value of the Go type, is encoded,
    and its encoding is refused by the Go decoder -/
theorem C14_roundtrip_go_counterexample :
    wtc goHeader hdrBig = true ∧ (unmarshal goHeader (marshal goHeader hdrBig)).isNone = true := by
  constructor <;> decide

/-- the hypotheses of `C14_roundtrip_go_partial` hold for a real header -/
def hdrOk : Val :=
  let z : Val := .list (List.replicate 32 (.nat 7))
  .pair z (.pair (.nat 4294967295) (.pair z (.pair z
    (.pair (.list [.variant 6 (.pair (.list [.nat 66, .nat 65, .nat 66, .nat 69]) (.pair (.bytes [1, 2]) .unit)),
                   .variant 8 .unit]) .unit))))

example : wtc goHeader hdrOk = true ∧ leavesOk C11.okLeaf C11.okLen goHeader.toTy hdrOk = true := by
  constructor <;> decide

/-- a header whose digest holds one `Other` item -/
def hdrOther : Val :=
  let z : Val := .list (List.replicate 32 (.nat 0))
  .pair z (.pair (.nat 1) (.pair z (.pair z (.pair (.list [.variant 0 (.bytes [1])]) .unit))))

/-- **known finding digest-other**: a spec-valid header holding an `Other` digest item is not a
    value of the Go type, and the Go decoder refuses its reference encoding (which the reference
    decoder reads back) -/
theorem C14_header_other_counterexample :
    wtc header hdrOther = true ∧ wtc goHeader hdrOther = false ∧
    (unmarshal goHeader (enc header hdrOther)).isNone = true ∧
    dec header (enc header hdrOther) = some (hdrOther, []) := by
  have hw : wtc header hdrOther = true := by decide
  exact ⟨hw, by decide, by decide, by
    simpa only [List.append_nil] using C14_roundtrip header hdrOther [] hw⟩

/-- **header hash**: `Hash()` of a header whose cache is empty (a literal, a decoded header, a
    deep copy) is the hash of its Go encoding -/
theorem C14_header_hash (H : Bytes → Bytes) (v : Val) :
    ((HeaderM.fresh v).hash H).1 = H (marshal goHeader v) := by
  simp [HeaderM.hash, HeaderM.fresh]

/-- **header hash, against the specification**: `Hash()` of a header whose cache is empty is the
    hash of its REFERENCE encoding (BLAKE2b-256 for `H`) -/
theorem C14_header_hash_spec (H : Bytes → Bytes) (v : Val) (h : wtc goHeader v = true) :
    ((HeaderM.fresh v).hash H).1 = H (enc header v) := by
  rw [C14_header_hash, (C14_header_matches_spec v h).2]

def HeaderM.Inv (H : Bytes → Bytes) (h : HeaderM) : Prop :=
  h.cache = zero32 ∨ h.cache = H (marshal goHeader h.fields)

theorem HeaderM.hash_inv (H : Bytes → Bytes) (h : HeaderM) (hi : h.Inv H) :
    (h.hash H).1 = H (marshal goHeader h.fields) ∧ (h.hash H).2.Inv H ∧ (h.hash H).2.fields = h.fields := by
  unfold HeaderM.hash
  by_cases hz : h.cache = zero32
  · rw [if_pos hz]; exact ⟨rfl, Or.inr rfl, rfl⟩
  · rw [if_neg hz]
    rcases hi with hi | hi
    · exact absurd hi hz
    · exact ⟨hi, Or.inr hi, rfl⟩

def hashN (H : Bytes → Bytes) : Nat → HeaderM → HeaderM
  | 0, h => h
  | k + 1, h => hashN H k (h.hash H).2

theorem hashN_inv (H : Bytes → Bytes) (k : Nat) : ∀ h : HeaderM, h.Inv H →
    (hashN H k h).Inv H ∧ (hashN H k h).fields = h.fields := by
  induction k with
  | zero => intro h hi; exact ⟨hi, rfl⟩
  | succ k ih =>
    intro h hi
    have ⟨_, i2, f2⟩ := HeaderM.hash_inv H h hi
    have ⟨i3, f3⟩ := ih _ i2
    exact ⟨i3, by rw [hashN, f3, f2]⟩

/-- **header hash, every reachable state without field assignment**: after `NewHeader` or any
    number of earlier `Hash()` calls, `Hash()` is the hash of the encoding -/
theorem C14_header_hash_reachable (H : Bytes → Bytes) (v : Val) (k : Nat) :
    ((hashN H k (HeaderM.fresh v)).hash H).1 = H (marshal goHeader v) := by
  have ⟨i, f⟩ := hashN_inv H k (HeaderM.fresh v) (Or.inl rfl)
  have := (HeaderM.hash_inv H _ i).1
  rw [this, f]; rfl

theorem C14_newHeader_hash (H : Bytes → Bytes) (v : Val) :
    ((HeaderM.new H v).hash H).1 = H (marshal goHeader v) :=
  C14_header_hash_reachable H v 1

/-- **known finding hash-stale-cache**: assigning a field after `Hash()` leaves the old hash in
    the cache (here `H` = the first 32 bytes of the encoding, i.e. the parent hash) -/
theorem C14_header_hash_stale_counterexample :
    ∃ (H : Bytes → Bytes) (v v' : Val), wtc goHeader v = true ∧ wtc goHeader v' = true ∧
      ((((HeaderM.fresh v).hash H).2.setFields v').hash H).1 ≠ H (marshal goHeader v') := by
  let z (k : Nat) : Val := .list (List.replicate 32 (.nat k))
  let mk (k : Nat) : Val := .pair (z k) (.pair (.nat 1) (.pair (z 0) (.pair (z 0) (.pair (.list []) .unit))))
  refine ⟨fun bs => bs.take 32, mk 7, mk 8, by decide, by decide, by decide⟩

/-- **lib/grandpa `FullVote` = finality-grandpa localized payload**: the bytes a lib/grandpa
    voter signs (stage byte, vote, round, set id) are the bytes `(Message, round, set_id)` of the
    specification, for the three message kinds 0 prevote, 1 precommit, 2 primary propose -/
theorem C14_fullvote_eq_localized (s : Nat) (hs : s ≤ 2) (hv nv rd sid : Val) :
    enc fullVote (.pair (.nat s) (.pair (.pair hv (.pair nv .unit)) (.pair rd (.pair sid .unit)))) =
    enc (localizedPayload u32)
      (.pair (.variant s (.pair hv (.pair nv .unit))) (.pair rd (.pair sid .unit))) := by
  have : s = 0 ∨ s = 1 ∨ s = 2 := by omega
  rcases this with rfl | rfl | rfl <;> rfl

theorem C14_varint_roundtrip (n : Nat) (r : Bytes) : Proto.unvarint (Proto.varint n ++ r) = some (n, r) :=
  Proto.unvarint_varint n r

theorem C14_wire_roundtrip (fs : List Proto.WField) (hn : ∀ f ∈ fs, 1 ≤ f.num) :
    Proto.parse (Proto.encFields fs) = some fs := Proto.parse_encFields fs hn

/-- the reference `BlockRequest` round-trips in field-number order (what prost emits) -/
theorem C14_blockrequest_roundtrip (m : Proto.BlockRequest) (h : m.wf) :
    Proto.BlockRequest.decode m.encode = some m := Proto.BlockRequest.decode_encode m h
/-- the reference `BlockRequest` round-trips in protobuf-go's order (oneof member last) -/
theorem C14_blockrequest_roundtrip_go (m : Proto.BlockRequest) (h : m.wf) :
    Proto.BlockRequest.decode m.encodeGo = some m := Proto.BlockRequest.decode_encodeGo m h
theorem C14_blockdata_roundtrip (d : Proto.BlockData) : Proto.BlockData.decode d.encode = some d :=
  Proto.BlockData.decode_encode d
theorem C14_blockresponse_roundtrip (r : Proto.BlockResponse) :
    Proto.BlockResponse.decode r.encode = some r := Proto.BlockResponse.decode_encode r

theorem toPb_wf (m : BlockRequestMessage) (h : m.wf) : m.toPb.wf := by
  obtain ⟨h1, _, h3, _⟩ := h
  constructor
  · show 16777216 * m.requestedData < 4294967296
    omega
  · show m.max.getD 0 < 4294967296
    cases hm : m.max with
    | none => simp
    | some k => simpa using h3 k hm

/-- `MaxBlocks = 0` stands for a nil `Max`, so `Max = &0` is read back as nil -/
theorem max_getD (mx : Option Nat) :
    (if mx.getD 0 = 0 then none else some (mx.getD 0)) = if mx = some 0 then none else mx := by
  cases mx with
  | none => rfl
  | some k => by_cases hk : k = 0 <;> simp [hk]

theorem bytesToHash_of_32 {b : Bytes} (h : b.length = 32) : bytesToHash b = b := by
  rw [bytesToHash, if_pos (Nat.le_of_eq h.symm), h, Nat.sub_self, List.drop_zero]

theorem ofPb_toPb (m : BlockRequestMessage) (h : m.wf) :
    BlockRequestMessage.ofPb m.toPb = some m.norm := by
  obtain ⟨rd, sb, dir, mx⟩ := m
  obtain ⟨h1, h2, h3, h4⟩ := h
  have e1 : 16777216 * rd / 16777216 % 256 = rd := by
    rw [Nat.mul_div_cancel_left rd (by decide), Nat.mod_eq_of_lt h1]
  have e2 : dir % 256 = dir := Nat.mod_eq_of_lt h2
  cases sb with
  | number n =>
    have hlt : (if 4294967295 < n then 4294967295 else n) < 256 ^ 4 := by
      split
      · decide
      · exact Nat.lt_succ_of_le (Nat.not_lt.1 ‹_›)
    simp only [BlockRequestMessage.ofPb, BlockRequestMessage.toPb, fromBlockEncode, length_leBytes,
      if_true, natOfLE_leBytes_lt hlt, e1, e2, BlockRequestMessage.norm]
    exact congrArg (fun x => some (BlockRequestMessage.mk rd _ dir x)) (max_getD mx)
  | hash b =>
    simp only [BlockRequestMessage.ofPb, BlockRequestMessage.toPb, fromBlockEncode, e1, e2,
      bytesToHash_of_32 (h4 b rfl), BlockRequestMessage.norm]
    exact congrArg (fun x => some (BlockRequestMessage.mk rd _ dir x)) (max_getD mx)

/-- **BlockRequestMessage round trip** (block.go `Encode` then `Decode`): the message comes back
    up to what the wire format cannot express — `Max = &0` reads back as nil, a start number
    above 2^32-1 was clamped by `FromBlock.Encode` -/
theorem C14_request_message_roundtrip (m : BlockRequestMessage) (h : m.wf) :
    BlockRequestMessage.decode m.encode = some m.norm := by
  simp only [BlockRequestMessage.decode, BlockRequestMessage.encode,
    Proto.BlockRequest.decode_encodeGo _ (toPb_wf m h), Option.bind_some, ofPb_toPb m h]

/-- **BlockRequestMessage round trip, exact**: a message in normal form (`Max ≠ &0`, start number
    at most 2^32-1) is read back unchanged -/
theorem C14_request_message_roundtrip_exact (m : BlockRequestMessage) (h : m.wf)
    (h1 : m.max ≠ some 0) (h2 : ∀ n, m.startingBlock = .number n → n ≤ 4294967295) :
    BlockRequestMessage.decode m.encode = some m := by
  rw [C14_request_message_roundtrip m h]
  obtain ⟨rd, sb, dir, mx⟩ := m
  simp only at h1 h2
  cases sb with
  | number n =>
    have : ¬ 4294967295 < n := by have := h2 n rfl; omega
    simp [BlockRequestMessage.norm, h1, this]
  | hash b => simp [BlockRequestMessage.norm, h1]

/-- the hypotheses are satisfiable: a typical sync request -/
example : (⟨19, .number 1000, 0, some 128⟩ : BlockRequestMessage).wf := by
  refine ⟨by decide, by decide, ?_, ?_⟩
  · intro k hk; cases hk; decide
  · intro b hb; cases hb

/-- values a Go `types.BlockData` of a response holds and the Go decoder reads back: a 32-byte
    hash, a header of the Go type without a compact leaf in [2^32, 2^56) (finding uint-5to7),
    extrinsics of lengths a Go slice can have -/
def BlockDataM.wf (d : BlockDataM) : Prop :=
  d.hash.length = 32 ∧
  (∀ h, d.header = some h → wtc goHeader h = true ∧ leavesOk C11.okLeaf C11.okLen goHeader.toTy h = true) ∧
  (∀ es, d.body = some es → es.length < 4294967296 ∧ ∀ e ∈ es, e.length < maxBytesLen)

theorem unmarshal_goHeader_nil : unmarshal goHeader [] = none := by decide

theorem map_bytesOfVal (es : List Bytes) : (es.map Val.bytes).map bytesOfVal = es := by
  induction es with
  | nil => rfl
  | cons e es ih => simp [bytesOfVal, ih]

theorem bodyOfEncoded_roundtrip (es : List Bytes) (hl : es.length < 4294967296)
    (he : ∀ e ∈ es, e.length < maxBytesLen) :
    bodyOfEncoded (es.map (fun e => C11.encP .bytes (.bytes e))) = some es := by
  have hseq : (es.map Val.bytes).length < maxSeqLen := by rw [List.length_map]; unfold maxSeqLen; omega
  have enc_eq : C11.encodeBigInt es.length ++ (es.map (fun e => C11.encP .bytes (.bytes e))).flatten =
      C11.marshal (.seq (.prim .bytes)) (.list (es.map Val.bytes)) := by
    rw [← C11.marshal_seq_stream _ _ hseq, List.length_map, List.map_map]; rfl
  have hw : wt (.seq (.prim .bytes)) (.list (es.map Val.bytes)) = true := by
    simp only [wt, List.length_map, Bool.and_eq_true, decide_eq_true_eq, List.all_eq_true, List.mem_map]
    refine ⟨by rw [← List.length_map]; exact hseq, ?_⟩
    rintro x ⟨e, hm, rfl⟩
    simpa [Prim.kind, wtKind] using he e hm
  have hq : leavesOk C11.okLeaf C11.okLen (.seq (.prim .bytes)) (.list (es.map Val.bytes)) = true := by
    simp only [leavesOk, List.length_map, Bool.and_eq_true, List.all_eq_true, List.mem_map]
    refine ⟨?_, ?_⟩
    · simp only [C11.okLen, C11.uintOk, Bool.or_eq_true, decide_eq_true_eq]; left; omega
    · rintro x ⟨e, _, rfl⟩; rfl
  have rt := C11.C11_roundtrip_partial _ _ [] hw hq
  rw [List.append_nil] at rt
  simp only [bodyOfEncoded, List.length_map]
  rw [enc_eq, rt]
  simp only [map_bytesOfVal]

theorem optOfBytes_getD (o : Option Bytes) : optOfBytes (o.getD []) = if o = some [] then none else o := by
  cases o with
  | none => rfl
  | some b => cases b <;> simp [optOfBytes]

theorem headerOfPb_toPb (hdr : Option Val)
    (h : ∀ x, hdr = some x → wtc goHeader x = true ∧ leavesOk C11.okLeaf C11.okLen goHeader.toTy x = true) :
    headerOfPb (headerToPb hdr) = some hdr := by
  cases hdr with
  | none => rfl
  | some x =>
    have ⟨hw, hq⟩ := h x rfl
    have rt := C14_roundtrip_go_partial goHeader x [] hw hq
    rw [List.append_nil] at rt
    -- the encoding is not empty: it is read back, and the empty input is refused
    have hne : marshal goHeader x ≠ [] := fun e => by rw [e, unmarshal_goHeader_nil] at rt; cases rt
    simp only [headerOfPb, headerToPb, hne, if_false, rt]

theorem bodyOfPb_toPb (bdy : Option (List Bytes))
    (h : ∀ es, bdy = some es → es.length < 4294967296 ∧ ∀ e ∈ es, e.length < maxBytesLen) :
    bodyOfPb (bodyToPb bdy) = some (if bdy = some [] then none else bdy) := by
  cases bdy with
  | none => rfl
  | some es =>
    cases es with
    | nil => rfl
    | cons e es =>
      have ⟨hl, he⟩ := h (e :: es) rfl
      simp only [bodyOfPb, bodyToPb]
      rw [bodyOfEncoded_roundtrip (e :: es) hl he]
      simp

theorem justOfPb_toPb (js : Option Bytes) : justOfPb (js.getD []) (js == some []) = js := by
  cases js with
  | none => rfl
  | some b => cases b <;> simp [justOfPb]

theorem blockData_ofPb_toPb (d : BlockDataM) (h : d.wf) : BlockDataM.ofPb d.toPb = some d.norm := by
  obtain ⟨hash, hdr, bdy, rc, mq, js⟩ := d
  obtain ⟨h1, h2, h3⟩ := h
  simp only at h1 h2 h3
  simp only [BlockDataM.ofPb, BlockDataM.toPb, BlockDataM.norm, headerOfPb_toPb hdr h2,
    bodyOfPb_toPb bdy h3, bytesToHash_of_32 h1, justOfPb_toPb, optOfBytes_getD]

theorem optMapM_map_map {α β γ : Type} (f : β → Option γ) (g : α → β) (k : α → γ) (l : List α)
    (h : ∀ a ∈ l, f (g a) = some (k a)) : optMapM f (l.map g) = some (l.map k) := by
  induction l with
  | nil => rfl
  | cons a as ih =>
    simp only [List.map_cons, optMapM, h a (by simp), ih (fun x hx => h x (by simp [hx]))]

/-- **BlockResponseMessage round trip** (block.go `Encode` then `Decode`): every block comes back
    up to what the wire format cannot express — an empty body / receipt / message queue reads
    back as nil; an empty justification survives through `is_empty_justification` -/
theorem C14_response_message_roundtrip (ds : List BlockDataM) (h : ∀ d ∈ ds, d.wf) :
    responseDecode (responseEncode ds) = some (ds.map BlockDataM.norm) := by
  simp only [responseDecode, responseEncode, Proto.BlockResponse.decode_encode]
  exact optMapM_map_map BlockDataM.ofPb BlockDataM.toPb BlockDataM.norm ds
    (fun d hd => blockData_ofPb_toPb d (h d hd))

/-- the hypotheses are satisfiable: a block with header, body and an empty justification -/
example : (⟨List.replicate 32 1, some hdrOk, some [[1, 2], []], none, some [9], some []⟩ : BlockDataM).wf := by
  refine ⟨by decide, ?_, ?_⟩
  · intro h hh; cases hh; constructor <;> decide
  · intro es he; cases he; constructor <;> decide

/-- the variant tables; the harness's `idx` cases tie them to the Go `IndexValue` / `ValueAt` tables -/
theorem C14_digest_indices :
    goDigestItem.table = [(4, "ConsensusDigest"), (5, "SealDigest"), (6, "PreRuntimeDigest"),
      (8, "RuntimeEnvironmentUpdated")] ∧
    digestItem.table = (0, "Other") :: goDigestItem.table := ⟨rfl, rfl⟩

theorem C14_babe_indices :
    babePreDigest.table = [(1, "BabePrimaryPreDigest"), (2, "BabeSecondaryPlainPreDigest"),
      (3, "BabeSecondaryVRFPreDigest")] ∧
    babeConsensusDigest.table = [(1, "NextEpochData"), (2, "BABEOnDisabled"), (3, "VersionedNextConfigData")] :=
  ⟨rfl, rfl⟩

theorem C14_grandpa_indices :
    grandpaConsensusDigest.table = [(1, "GrandpaScheduledChange"), (2, "GrandpaForcedChange"),
      (3, "GrandpaOnDisabled"), (4, "GrandpaPause"), (5, "GrandpaResume")] ∧
    grandpaMessage.table = [(0, "VoteMessage"), (1, "CommitMessage"), (2, "VersionedNeighbourPacket"),
      (3, "CatchUpRequest"), (4, "CatchUpResponse")] ∧
    (fgMessage u32).table = [(0, "Prevote"), (1, "Precommit"), (2, "PrimaryPropose")] := ⟨rfl, rfl, rfl⟩

end Gossamer.C14
