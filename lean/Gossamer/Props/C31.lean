/-
C31  Block request planning and serving cover exactly the requested range.

Planning: the requests of `NewAscendingBlockRequests a b` are consecutive, ascending, each of 1..128 blocks, and cover
`[a, b]` exactly once (all `a ≤ b` but the whole `uint` range).  Serving: a successful response of
`CreateBlockResponse` is a parent-linked run from the requested block, no longer than min(requested max, 128), with
exactly the requested fields (every request but "ascending from number 0"), over block states with forks and after a
finalisation that moved a prefix of the chain to the database and pruned forks.  Limiter: a call is refused iff the
same request was already served `maxNumberOfSameRequestPerPeer` times to that peer within the LRU window of 100 keys.
-/
import Gossamer.Lib.C31Plan
import Gossamer.Lib.C31Serve
import Gossamer.Lib.C31Cache
namespace Gossamer.C31

/-- **Planning, chain form.** The requests are back to back from `a` to `b + 1`, each of 1..128 blocks. -/
theorem C31_plan_consecutive (a b : Nat) (hab : a ≤ b) (hb : b < W)
    (hfull : ¬ (a = 0 ∧ b = W - 1)) :
    Consecutive a (plan a b) (b + 1) ∧ ∀ r ∈ plan a b, 1 ≤ r.max ∧ r.max ≤ maxBlocks := by
  unfold plan
  simp only [Nat.not_lt.mpr hab, if_false, diff_eq a b hab hb hfull]
  clear hfull
  by_cases h1 : b + 1 - a = 1
  · simp only [h1, if_true, Consecutive, true_and, List.mem_singleton, forall_eq, maxBlocks]
    omega
  · simp only [h1, if_false]
    have hd : a + (b + 1 - a) = b + 1 := Nat.add_sub_cancel' (Nat.le_succ_of_le hab)
    generalize b + 1 - a = d at hd ⊢
    have hdm := Nat.div_add_mod d maxBlocks
    have hm := Nat.mod_lt d (show 0 < maxBlocks by decide)
    generalize d / maxBlocks = q at hdm ⊢
    generalize d % maxBlocks = m at hdm hm ⊢
    -- `cnt + 1` iterations, asking for `128 * cnt + last = b + 1 - a` blocks
    by_cases hm0 : m = 0
    · subst hm0
      cases q with
      | zero => omega
      | succ cnt =>
        simp only [ne_eq, not_true_eq_false, if_false]
        exact planLoop_consecutive (cnt + 1) 0 maxBlocks rfl (Nat.zero_le _) cnt 0 a (b + 1) (Nat.zero_add _)
          (by rw [Nat.mul_succ] at hdm; omega) hb
    · simp only [ne_eq, hm0, not_false_eq_true, if_true]
      exact planLoop_consecutive (q + 1) m m (if_pos hm0).symm (Nat.le_of_lt hm) q 0 a (b + 1) (Nat.zero_add _)
        (by omega) hb

/-- **Planning covers exactly the requested range** (property C31, first sentence): for all
    `a ≤ b` (Go `uint`s; the single excluded pair is the whole 2^64 range, see the counterexample)
    the heights requested, read in order, are exactly `a, a+1, …, b` — every height once, ascending —
    and no request asks for more than `MaxBlocksInResponse` (nor for 0) blocks. -/
theorem C31_plan_partition (a b : Nat) (hab : a ≤ b) (hb : b < W)
    (hfull : ¬ (a = 0 ∧ b = W - 1)) :
    heights (plan a b) = List.range' a (b + 1 - a)
    ∧ Consecutive a (plan a b) (b + 1)
    ∧ ∀ r ∈ plan a b, 1 ≤ r.max ∧ r.max ≤ maxBlocks := by
  obtain ⟨hc, hbnd⟩ := C31_plan_consecutive a b hab hb hfull
  obtain ⟨n, hn, hh⟩ := heights_of_consecutive hc
  exact ⟨by rw [hh, hn, Nat.add_sub_cancel_left], hc, hbnd⟩

/-- an inverted range plans nothing -/
theorem C31_plan_empty (a b : Nat) (h : b < a) : plan a b = [] := by
  simp [plan, h]

/-- the excluded pair really fails: for the whole `uint` range the count wraps to 0 -/
theorem C31_plan_partition_counterexample : plan 0 (W - 1) = [] := by decide

example : plan 1 259 = [⟨1, 128⟩, ⟨129, 128⟩, ⟨257, 3⟩] := by decide
example : plan 0 128 = [⟨0, 128⟩, ⟨128, 1⟩] := by decide

/-
Without `hgen` the next theorem fails, and only there: an ascending request by number for block 0 is answered from
block 1 (`handleAscendingRequest`: "if startBlock == 0 { startBlock = 1 }", asserted by the repository's own test
`ascending_request_nil_startHash`); see `C31_serve_chain_counterexample`.
-/

/-- **A served response is a gap-free chain from the requested block** (property C31, second
    sentence): for every well-formed block tree and every request (by number or by hash, either
    direction, any `Max`, any field mask) other than "ascending from number 0", a successful
    response (1) has at most `min(Max, 128)` blocks, (2) starts, if it has a block, at the requested block,
    (3) is parent-linked in the requested direction, every block being a block of the tree,
    (4) carries for every block exactly the requested fields (that are stored for it).
    `ServedChain` does not say which child an ascending response follows where the tree forks. -/
theorem C31_serve_chain_partial (t : Tree) (wf : WF t) (r : Request) (bs : List BData)
    (hgen : ¬ (r.from_ = .num 0 ∧ r.dir = 0)) (h : serve t r = .ok bs) : ServedChain t r bs := by
  unfold serve dispatch at h
  split at h
  · simp at h
  · split at h
    · rename_i hd
      exact handleAscending_ok wf hd (fun hf => hgen ⟨hf, hd⟩) h
    · split at h
      · rename_i hd
        exact handleDescending_ok wf hd h
      · simp at h

/-- **Requests by number are answered in full** (non-empty field mask): an ascending request for an existing block
    `1 ≤ n ≤ best` returns exactly `min(Max, 128, best - n + 1)` blocks, a descending request
    from `n` returns exactly `min(Max, 128, min(n, best))` blocks (down to block 1; genesis is
    never served by number).  (For ascending requests block numbers are assumed to stay 128 below 2^64.) -/
theorem C31_serve_by_number_length (t : Tree) (r : Request) (n : Nat) (hmask : r.mask ≠ 0)
    (hf : r.from_ = .num n) :
    (r.dir = 0 → bestNum t + maxBlocks < W → 1 ≤ n → n ≤ bestNum t →
      ∃ bs, serve t r = .ok bs ∧ bs.length = min (effMax r.max) (bestNum t + 1 - n))
    ∧ (r.dir = 1 →
      ∃ bs, serve t r = .ok bs ∧ bs.length = min (effMax r.max) (min n (bestNum t))) := by
  obtain ⟨fr, dir, mx, mask⟩ := r
  simp only at hf hmask ⊢
  subst hf
  constructor
  · intro hd hW h1 hn
    subst hd
    exact serve_asc_by_number_length t n mx mask hmask hW h1 hn
  · intro hd
    subst hd
    exact serve_desc_by_number_length t n mx mask hmask

/-- main chain 1..4 and a fork 5, 6 on block 1 -/
def exampleTree : Tree := addSeg (addSeg genesisTree 4 0) 2 1

theorem exampleTree_wf : WF exampleTree :=
  wf_addSeg 2 (wf_addSeg 4 wf_genesis (by decide)) (by decide)

/-- the same tree after finalising block 2: the fork 5, 6 on block 1 is pruned, blocks 0..2 live
    in the database -/
def prunedTree : Tree := finalise exampleTree 2

theorem prunedTree_wf : WF prunedTree := wf_finalise exampleTree_wf (by decide)

example : (List.range 8).map (known prunedTree) = [true, true, true, true, true, false, false, false] := by
  decide
-- a pruned block is unknown; ascending from a finalised block crosses into the block tree
example : (serve prunedTree ⟨.hash 5, 0, none, 1⟩).toOption = none := by decide
example : (serve prunedTree ⟨.hash 1, 0, none, 1⟩).toOption
    = some [⟨1, 1⟩, ⟨2, 1⟩, ⟨3, 1⟩, ⟨4, 1⟩] := by decide +kernel
example : (serve prunedTree ⟨.num 4, 1, some 3, 3⟩).toOption = some [⟨4, 3⟩, ⟨3, 3⟩, ⟨2, 3⟩] := by
  decide
-- block 3 finalised: its body is missing from the database and is served as absent, no error
example : (serve (finalise exampleTree 3) ⟨.num 4, 1, some 3, 3⟩).toOption
    = some [⟨4, 3⟩, ⟨3, 1⟩, ⟨2, 3⟩] := by decide

example : (serve exampleTree ⟨.num 2, 0, some 2, 19⟩).toOption = some [⟨2, 3⟩, ⟨3, 19⟩] := by decide
example : (serve exampleTree ⟨.hash 6, 1, none, 1⟩).toOption = some [⟨6, 1⟩, ⟨5, 1⟩, ⟨1, 1⟩] := by
  decide
example : (serve exampleTree ⟨.hash 1, 0, some 3, 1⟩).toOption = some [⟨1, 1⟩, ⟨2, 1⟩, ⟨3, 1⟩] := by
  decide +kernel

/-- The excluded request really fails: ascending from number 0 is answered from block 1. -/
theorem C31_serve_chain_counterexample :
    ∃ (t : Tree) (r : Request) (bs : List BData),
      WF t ∧ serve t r = .ok bs ∧ ¬ ServedChain t r bs := by
  refine ⟨exampleTree, ⟨.num 0, 0, some 2, 1⟩, [⟨1, 1⟩, ⟨2, 1⟩], exampleTree_wf, by rfl, ?_⟩
  intro h
  have := h.start 1 (by decide)
  simp only [StartsAt, ite_true] at this
  exact absurd this (by decide)

/-- descending from number 0 is answered with no block at all (genesis is never served by number).  The empty
    response satisfies `ServedChain` (`start` speaks of the first block if there is one), so this records the
    behaviour and contradicts no statement of this file. -/
theorem C31_serve_genesis_desc_counterexample :
    (serve exampleTree ⟨.num 0, 1, none, 1⟩).toOption = some [] := by decide

/-- **The limiter** (all histories): after any sequence of calls to one service, a call by
    `peer` with request `r` is refused (`errMaxNumberOfSameRequest`, the peer is reported) if and
    only if it asks for some data and that very request was already served
    `maxNumberOfSameRequestPerPeer` times to that peer since the (peer, request) key last entered
    the LRU window of the 100 most recently used keys. -/
theorem C31_limiter_refused_iff (t : Tree) (ops : List (Nat × Request)) (peer : Nat) (r : Request) :
    (∃ c', request t (cacheAfter t ops) peer r = (c', .refused)) ↔
      r.mask ≠ 0 ∧ servedCount (keysOf ops) (reqKey peer r) = maxSame := by
  rw [request_refused_iff, cacheAfter_eq, lruGet_cacheOf]
  have := servedCount_le (keysOf ops) (reqKey peer r)
  omega

/-- the keys the service remembers are exactly the LRU window of the history -/
theorem C31_limiter_window (t : Tree) (ops : List (Nat × Request)) :
    (cacheAfter t ops).map (·.1) = window (keysOf ops) := by
  rw [cacheAfter_eq, cacheOf_eq]
  simp [List.map_map, Function.comp_def]

/-- the same request again and again: served `maxNumberOfSameRequestPerPeer` times, then refused -/
theorem C31_limiter_repeat (k : ReqKey) : ∀ j, servedCount (List.replicate j k) k = min j maxSame
  | 0 => by simp [servedCount]
  | j + 1 => by
    have ih := C31_limiter_repeat k j
    simp only [List.replicate_succ, servedCount, ite_true, ih, maxSame]
    split <;> omega

/-- eviction by capacity: once 100 other distinct keys were used after it, a key is forgotten
    (its count starts again at 0), however often it was served before -/
theorem C31_limiter_evicted (k : ReqKey) (fs older : List ReqKey) (hnd : fs.Nodup)
    (hlen : fs.length = seenCap) (hk : k ∉ fs) :
    k ∉ window (fs ++ older) ∧ servedCount (fs ++ older) k = 0 := by
  obtain ⟨rest, hr⟩ := recency_prefix fs older hnd
  have hw : window (fs ++ older) = fs := by
    simp only [window, hr, ← hlen]
    simp
  have : k ∉ window (fs ++ older) := by rw [hw]; exact hk
  exact ⟨this, servedCount_out this⟩

end Gossamer.C31
