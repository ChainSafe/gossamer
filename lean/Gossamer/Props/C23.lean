/-
Property C23: authority set changes are applied as Substrate applies them.

The model is Model/C23 (dot/state/grandpa.go, grandpa_changes.go, dot/digest/block_import.go, dot/core/service.go
handleBlock, the finalisation handler of dot/digest/digest.go), the specification Lib/C23Spec (Substrate's
`AuthoritySet` rules over the block tree).  `run t St.init ops` is the model after the history `ops` (`imp b` /
`fin b`) on the case tree `t`.
-/
import Gossamer.Lib.C23Next
import Gossamer.Lib.C23SpecStep
namespace Gossamer.C23

/-! Scope (`Scoped`): every `imp` names a block that is not in the block tree at that moment, headers carry at most
one scheduled and one forced change, and no import is refused by the code with `errAlreadyHasForcedChange` /
`errPendingScheduledChanges` (after such a refusal gossamer keeps the block, Substrate does not: known finding
`failed-import-keeps-block`, see `C23_refused_import_counterexample`).
`Scoped` asks each operation to be in scope in the state it meets, so it holds of every prefix of a history of which
it holds (by its definition; not stated as a theorem). -/

/-- After every history in scope: the same result class for every operation, the same current set id, the
    same authorities and change block for every set, the same answer of `GetSetIDByBlockNumber` for every
    block number, and the same block tree (known blocks and finalised block). -/
theorem C23_refines (t : Tree) (wf : t.WF) (ops : List Op) (h : Scoped t St.init ops) :
    trace t St.init ops = Spec.trace t Spec.init ops ∧
    (run t St.init ops).setId = (Spec.run t Spec.init ops).setId ∧
    (∀ i, i ≤ (run t St.init ops).setId →
      lookup (run t St.init ops).auths i = (Spec.run t Spec.init ops).auths[i]? ∧
      lookup (run t St.init ops).change i = (Spec.run t Spec.init ops).starts[i]?) ∧
    (∀ n, setIdAt (run t St.init ops) n = some ((Spec.run t Spec.init ops).setIdAt n)) ∧
    (run t St.init ops).live = (Spec.run t Spec.init ops).known ∧
    (run t St.init ops).root = (Spec.run t Spec.init ops).fin := by
  obtain ⟨ht, g⟩ := good_run wf ops (good_init wf) h
  exact ⟨ht.symm, g.sim.setId.symm, fun i hi => ⟨g.sim.auths i hi, g.sim.starts i hi⟩,
    fun n => sim_setIdAt g.sim g.inv.keys n, g.sim.live.symm, g.sim.root.symm⟩

/-- The pending changes agree as well: the forced changes as a multiset, the scheduled-change tree up to
    roots whose announcing block the block state no longer knows. -/
theorem C23_refines_pending (t : Tree) (wf : t.WF) (ops : List Op) (h : Scoped t St.init ops) :
    (run t St.init ops).forced.Perm (Spec.run t Spec.init ops).forced ∧
    (Spec.run t Spec.init ops).std =
      (run t St.init ops).roots.filter (fun r => (run t St.init ops).live.contains r.ann.blk) :=
  let g := (good_run wf ops (good_init wf) h).2
  ⟨g.sim.forced, g.sim.std⟩

/-- `NextGrandpaAuthorityChange`, asked for any block of the block tree after any history in scope, is the lowest
    effective number (not above the block's number) of a pending forced change or scheduled-change root
    announced on the block's chain, as the specification defines it (0 = `ErrNoNextAuthorityChange`). -/
theorem C23_refines_next (t : Tree) (wf : t.WF) (ops : List Op) (h : Scoped t St.init ops) (x : Nat)
    (hx : inBt t (run t St.init ops) x = true) :
    nextChange t (run t St.init ops) x = some ((Spec.run t Spec.init ops).nextChange t x) :=
  let g := (good_run wf ops (good_init wf) h).2
  nextChange_eq wf g.sim g.inv g.ninv x hx

/-- a history in scope that enacts a scheduled change on one fork after abandoning the other, and a forced
    change (the hypotheses of `C23_refines` are satisfiable on a non-trivial history) -/
def exTree : Tree :=
  { parents := [0, 0, 2, 3, 4],
    anns := [⟨1, false, 0, 1, 0⟩, ⟨2, false, 1, 2, 0⟩, ⟨4, true, 1, 3, 3⟩] }

def exOps : List Op := [.imp 1, .imp 2, .imp 3, .fin 3, .imp 4, .imp 5]

example : exTree.WF := by decide
example : Scoped exTree St.init exOps := by decide
example : (run exTree St.init exOps).setId = 2 := by decide
example : trace exTree St.init exOps = [.ok, .ok, .ok, .ok, .ok, .ok] := by decide
example : nextChange exTree (run exTree St.init (exOps.take 3)) 3 = some 2 := by decide

/-- why refused imports are outside `C23_refines`: the import of block 3 is refused (the forced change it would
    enact depends on the pending scheduled change of block 1), Substrate drops the block, the code keeps it in the
    tree -/
theorem C23_refused_import_counterexample :
    let t : Tree := { parents := [0, 1, 2], anns := [⟨1, false, 0, 1, 0⟩, ⟨2, true, 1, 2, 1⟩] }
    let ops : List Op := [.imp 1, .imp 2, .imp 3]
    trace t St.init ops = [.ok, .ok, .eForced .pending] ∧
    Spec.trace t Spec.init ops = [.ok, .ok, .eForced .pending] ∧
    (run t St.init ops).live = [0, 1, 2, 3] ∧ (Spec.run t Spec.init ops).known = [0, 1, 2] := by
  decide

/-- One operation leaves the set id alone or increases it by exactly one; the entries of the sets up to the old
    set id are not rewritten, and the tables go on holding exactly the set ids `0 .. current`. -/
theorem C23_setid_increments (t : Tree) (s : St) (op : Op) (hk : KeysOK s) :
    ((step t s op).1.setId = s.setId ∨ (step t s op).1.setId = s.setId + 1) ∧
    (∀ i, i ≤ s.setId → lookup (step t s op).1.auths i = lookup s.auths i ∧
      lookup (step t s op).1.change i = lookup s.change i) ∧
    KeysOK (step t s op).1 := by
  refine ⟨?_, step_keeps t s op, keysOK_step t s op hk⟩
  cases step_core t s op with
  | same h1 _ _ => exact Or.inl h1
  | next _ _ h1 _ _ => exact Or.inr h1

/-- After every history whatsoever the tables hold authorities and a change block for exactly the set ids
    `0 .. current`. -/
theorem C23_sets_contiguous (t : Tree) (ops : List Op) : KeysOK (run t St.init ops) :=
  foldl_pres KeysOK _ (keysOK_step t) ops keysOK_init

/-- `GetSetIDByBlockNumber`, after every history whatsoever: the latest set whose change block lies below
    the block number (set 0 if none). -/
theorem C23_setIdAt (t : Tree) (ops : List Op) (n : Nat) :
    setIdAt (run t St.init ops) n =
      some (topBelow (fun i => (lookup (run t St.init ops).change i).getD 0) n (run t St.init ops).setId) :=
  setIdAt_eq _ (C23_sets_contiguous t ops) n

/-- After every history in which no block is imported while it is in the block tree (`Fresh`): the pending forced
    changes are announced by nodes of the current block tree and no two of them by blocks related by ancestry. -/
theorem C23_one_forced_per_fork (t : Tree) (wf : t.WF) (ops : List Op) (h : Fresh t St.init ops) :
    (∀ c ∈ (run t St.init ops).forced, inBt t (run t St.init ops) c.blk = true) ∧
    (run t St.init ops).forced.Pairwise (fun a c => anc t a.blk c.blk = false ∧ anc t c.blk a.blk = false) :=
  (inv_run wf ops St.init (inv_init wf) h).forced

/-- `handleBlock` tolerates the re-import of a block that is in the tree; then the claim fails: block 1's forced
    change is enacted at block 2, block 3 announces a forced change, block 1 is imported again and announces
    its own once more: two forced changes are pending on one fork -/
theorem C23_reimport_counterexample :
    let t : Tree := { parents := [0, 1, 2], anns := [⟨1, true, 1, 1, 0⟩, ⟨3, true, 3, 2, 0⟩] }
    let s := run t St.init [.imp 1, .imp 2, .imp 3, .imp 1]
    s.setId = 1 ∧ s.forced.map (·.blk) = [1, 3] ∧ anc t 1 3 = true ∧
    ¬ Fresh t St.init [.imp 1, .imp 2, .imp 3, .imp 1] := by
  decide

/-- Every block that announces a tracked scheduled change is either known to the block state, or `isDesc` answers
    `false` both ways between it and every block of the block tree, so no lookup selects it.  This holds of every
    state (the proof uses neither hypothesis).  That a block the block state has forgotten lies on a fork abandoned by
    finalisation is the clause `RInv` of the invariant (`inv_run`); it is not stated here.  Forced changes are always
    announced by known blocks (`C23_one_forced_per_fork`). -/
theorem C23_abandoned_discarded (t : Tree) (wf : t.WF) (ops : List Op) (h : Fresh t St.init ops) :
    ∀ x ∈ blocksF (run t St.init ops).roots,
      x ∈ (run t St.init ops).live ∨
      (∀ y, inBt t (run t St.init ops) y = true →
        isDesc t (run t St.init ops) x y = some false ∧ isDesc t (run t St.init ops) y x = some false) := by
  intro x hx
  by_cases hxl : x ∈ (run t St.init ops).live
  · exact Or.inl hxl
  · right
    intro y hy
    have hy' := (inBt_iff t _ y).1 hy
    have hne : x ≠ y := fun e => hxl (e ▸ hy'.1)
    exact ⟨isDesc_dead (Or.inl hxl) hne, isDesc_dead (Or.inr hxl) (Ne.symm hne)⟩

/-- In the specification a finalisation that takes place keeps only pending changes announced on the finalised
    chain or below the finalised block. -/
theorem C23_spec_abandoned_discarded (t : Tree) (p : Spec) (b : Nat) (h : (p.finalise t b).2 ≠ .eFin) :
    (∀ f ∈ (p.finalise t b).1.forced, anc t b f.blk = true) ∧
    (∀ r ∈ (p.finalise t b).1.std, cmp t b r.ann.blk = true) := by
  rcases Spec.finalise_cases t p b with e | ⟨std, hstd, hp⟩
  · rw [e] at h; exact absurd rfl h
  · rcases hp _ rfl with e | ⟨r, _, _, _, e⟩ <;> rw [e] <;>
      exact ⟨fun f hf => (List.mem_filter.1 hf).2, hstd⟩

/-- In the specification (`C23_refines` carries it to the model) a finalisation of `b` enacts at most one change:
    a root of the standard-change tree announced on the chain of `b` whose effective number is not above the
    number of `b`; the outgoing set ends at `b`'s number. -/
theorem C23_scheduled_applies_on_own_fork (t : Tree) (p : Spec) (b : Nat) :
    ((p.finalise t b).1.setId = p.setId ∧ (p.finalise t b).1.auths = p.auths ∧ (p.finalise t b).1.starts = p.starts) ∨
    (∃ r ∈ p.std, anc t r.ann.blk b = true ∧ eff t r.ann ≤ num t b ∧
      (p.finalise t b).1.setId = p.setId + 1 ∧ (p.finalise t b).1.auths = p.auths ++ [r.ann.tag] ∧
      (p.finalise t b).1.starts = p.starts ++ [num t b]) := by
  rcases Spec.finalise_cases t p b with e | ⟨std, _, hp⟩
  · rw [e]; exact Or.inl ⟨rfl, rfl, rfl⟩
  · rcases hp _ rfl with e | ⟨r, hr, ha, he, e⟩
    · rw [e]; exact Or.inl ⟨rfl, rfl, rfl⟩
    · rw [e]; exact Or.inr ⟨r, hr, ha, he, rfl, rfl, rfl⟩

/-- In the specification an import of `b` enacts at most one change: a pending (or just announced) forced change
    announced on the chain of `b` whose effective number is the number of `b`; the outgoing set ends at the
    change's best finalized number and every pending change is dropped. -/
theorem C23_forced_applies_at_effective_block (t : Tree) (p : Spec) (b : Nat) :
    ((p.importBlock t b).1.setId = p.setId ∧ (p.importBlock t b).1.auths = p.auths ∧
      (p.importBlock t b).1.starts = p.starts) ∨
    (∃ f, (f ∈ p.forced ∨ signalled t b = some f) ∧ anc t f.blk b = true ∧ eff t f = num t b ∧
      (p.importBlock t b).1.setId = p.setId + 1 ∧ (p.importBlock t b).1.auths = p.auths ++ [f.tag] ∧
      (p.importBlock t b).1.starts = p.starts ++ [f.best] ∧
      (p.importBlock t b).1.forced = [] ∧ (p.importBlock t b).1.std = []) := by
  unfold Spec.importBlock
  by_cases hc : (!(p.known.contains (par t b) && anc t p.fin (par t b))) = true
  · rw [if_pos hc]; exact Or.inl ⟨rfl, rfl, rfl⟩
  · rw [if_neg hc]
    cases hadd : p.addChange t b with
    | error e => exact Or.inl ⟨rfl, rfl, rfl⟩
    | ok p1 =>
      have hp1 := Spec.addChange_ok hadd
      dsimp only
      unfold Spec.enactForced
      cases hf : p1.forced.find? (fun f => anc t f.blk b && decide (eff t f = num t b)) with
      | none => exact Or.inl ⟨hp1.1, hp1.2.1, hp1.2.2.1⟩
      | some f =>
        dsimp only
        by_cases hdep : p1.std.any (fun r => decide (eff t r.ann ≤ f.best) && anc t r.ann.blk f.blk) = true
        · rw [if_pos hdep]; exact Or.inl ⟨rfl, rfl, rfl⟩
        · rw [if_neg hdep]
          have hP := List.find?_some hf
          rw [Bool.and_eq_true_iff] at hP
          exact Or.inr ⟨f, hp1.2.2.2 f (List.mem_of_find?_eq_some hf), hP.1, of_decide_eq_true hP.2,
            congrArg (· + 1) hp1.1, congrArg (· ++ [f.tag]) hp1.2.1, congrArg (· ++ [f.best]) hp1.2.2.1, rfl, rfl⟩

/-- In the specification a forced change announced with delay 0 is enacted by the import of its own announcing
    block: the announcement is registered first (`add_pending_change`; `HandleDigests` in the code) and then found
    by the forced-change application of the same import.  Hypotheses: the block is accepted, no forced change is pending on its
    chain, no pending standard change is a dependency. -/
theorem C23_forced_delay0_applies_at_own_block (t : Tree) (wf : t.WF) (p : Spec) (b : Nat) (f : Ann)
    (hsig : signalled t b = some f) (hf : f.forced = true) (hd : f.delay = 0)
    (hpar : (p.known.contains (par t b) && anc t p.fin (par t b)) = true)
    (hno : p.forced.any (fun g => anc t g.blk b) = false)
    (hdep : p.std.any (fun r => decide (eff t r.ann ≤ f.best) && anc t r.ann.blk f.blk) = false) :
    (p.importBlock t b).2 = .ok ∧ (p.importBlock t b).1.setId = p.setId + 1 ∧
    (p.importBlock t b).1.auths = p.auths ++ [f.tag] ∧ (p.importBlock t b).1.starts = p.starts ++ [f.best] ∧
    (p.importBlock t b).1.forced = [] ∧ (p.importBlock t b).1.std = [] := by
  have hb := signalled_blk t b f hsig
  have hfind : (p.forced ++ [f]).find? (fun g => anc t g.blk b && decide (eff t g = num t b)) = some f := by
    rw [List.find?_append]
    have : p.forced.find? (fun g => anc t g.blk b && decide (eff t g = num t b)) = none := by
      rw [List.find?_eq_none]
      intro g hg
      rw [List.any_eq_false] at hno
      have := hno g hg
      simp [this]
    rw [this]
    simp [List.find?, hb, anc_refl wf, eff, hd]
  unfold Spec.importBlock
  simp only [hpar, Bool.not_true, Bool.false_eq_true, if_false]
  unfold Spec.addChange
  simp only [hsig, hf, if_true, hno, Bool.false_eq_true, if_false]
  unfold Spec.enactForced
  simp only [hfind, hdep, Bool.false_eq_true, if_false, Spec.enact]
  exact ⟨trivial, trivial, trivial, trivial, trivial, trivial⟩

/-- the same on the model (the composition `handleBlock` performs: AddBlock, HandleDigests, ApplyForcedChanges):
    block 2 announces a forced change with delay 0 and its own import enacts it; and a block that enacts a forced
    change while announcing a scheduled change loses that announcement with the old set -/
example :
    let t : Tree := { parents := [0, 1], anns := [⟨2, true, 0, 7, 1⟩] }
    (run t St.init [.imp 1, .imp 2]).setId = 1 ∧ lookup (run t St.init [.imp 1, .imp 2]).auths 1 = some 7 ∧
    lookup (run t St.init [.imp 1, .imp 2]).change 1 = some 1 ∧ (run t St.init [.imp 1, .imp 2]).forced = [] := by
  decide

example :
    let t : Tree := { parents := [0, 1, 2], anns := [⟨1, true, 1, 7, 0⟩, ⟨2, false, 1, 8, 0⟩] }
    let s := run t St.init [.imp 1, .imp 2, .imp 3, .fin 3]
    s.setId = 1 ∧ s.roots.length = 0 ∧ Scoped t St.init [.imp 1, .imp 2, .imp 3, .fin 3] := by
  decide

end Gossamer.C23
