/-
C11  SCALE encoding round-trips and is canonical.

Model: `Gossamer.C11` (Model/C11.lean), the Go codec of pkg/scale.  Spec: `Scale.Spec.codec`, the
canonical SCALE codec.  The Go primitives are compared with the canonical ones in Lib/C11Encode and
Lib/C11Decode; the theorems here put them through the generic layer (`encode_congr`; `roundtripOn` in
`unmarshal_marshal`).
The field order (`fieldOrder`, Go `fieldScaleIndices`) is applied to values in the drivers' text layer
(Lib/ScaleText `permute`); a `Ty.pair` chain is already in encoding order.  Model/C12 is imported for
`hasOptVdt`, the hypothesis of `C11_marshalGo_partial`.
-/
import Gossamer.Lib.C11Decode
import Gossamer.Model.C12
namespace Gossamer.C11
open Gossamer Gossamer.Scale

/-- **Canonical encoding**: on every well-typed value of every type, the Go encoder produces
    exactly the canonical SCALE encoding. -/
theorem C11_encode_canonical (t : Ty) (v : Val) (h : wt t v = true) :
    marshal t v = encode Spec.codec t v :=
  encode_congr codec Spec.codec encP_canonical (fun n hn => C11_encodeUint_canonical n hn) t v h

/-- **Round trip** (partial: known finding uint-5to7).  Full statement wanted:
    `wt t v → unmarshal t (marshal t v ++ r) = some (v, r)`.  It holds whenever no Go `uint` leaf
    and no sequence length of the value lies in [2^32, 2^56) (`leavesOk okLeaf okLen`). -/
theorem C11_roundtrip_partial (t : Ty) (v : Val) (r : Bytes) (h : wt t v = true)
    (hq : leavesOk okLeaf okLen t v = true) : unmarshal t (marshal t v ++ r) = some (v, r) :=
  unmarshal_marshal t v r h hq

/-- the Go decoder reads back the canonical (`Spec`) encoding of such a value -/
theorem C11_roundtrip_canonical (t : Ty) (v : Val) (r : Bytes) (h : wt t v = true)
    (hq : leavesOk okLeaf okLen t v = true) :
    unmarshal t (encode Spec.codec t v ++ r) = some (v, r) := by
  rw [← C11_encode_canonical t v h]; exact C11_roundtrip_partial t v r h hq

/-- the round trip covers element types of encoded width 0 (`Vec<()>`, `[][0]byte`, structs whose
    fields are all ignored) -/
theorem C11_roundtrip_zero_width (n : Nat) (hn : n < 4294967296) (r : Bytes) :
    marshal (.seq .unit) (.list (List.replicate n .unit)) = encodeUint n ∧
    unmarshal (.seq .unit) (marshal (.seq .unit) (.list (List.replicate n .unit)) ++ r)
      = some (.list (List.replicate n .unit), r) := by
  constructor
  · have : ∀ (f : Val → Bytes) k, (∀ v, f v = []) → encList f (List.replicate k .unit) = [] := by
      intro f k hf; induction k with
      | zero => rfl
      | succ k ih => rw [List.replicate_succ, encList, hf, ih]; rfl
    simp only [marshal, encode, List.length_replicate]
    rw [this _ n (fun v => by simp)]
    simp [codec]
  · apply C11_roundtrip_partial
    · have h64 : n < maxSeqLen := by rw [maxSeqLen, pow2_64]; omega
      simp [wt, h64]
    · simp [leavesOk, okLen, uintOk, hn]

/-- the same for arrays of length 0 and nested slices: a concrete instance -/
example : (unmarshal (.seq (.seq (.array 0 (.prim .u8))))
    (marshal (.seq (.seq (.array 0 (.prim .u8)))) (.list [.list [.list [], .list []], .list []]))).isSome
      = true := by decide

/-- the excluded region is real: 2^32 is a well-typed Go `uint`, its encoding `07 00 00 00 00 01`
    is canonical, and the Go decoder rejects it -/
theorem C11_roundtrip_counterexample :
    wt (.prim .compact) (.nat 4294967296) = true ∧
    marshal (.prim .compact) (.nat 4294967296) = [7, 0, 0, 0, 0, 1] ∧
    (unmarshal (.prim .compact) (marshal (.prim .compact) (.nat 4294967296))).isNone = true := by
  refine ⟨by decide, by decide, by decide⟩

/-- the hypotheses of `C11_roundtrip_partial` are satisfiable by a non-trivial value -/
example : wt (.pair (.prim .compact) (.pair (.seq (.prim .u16)) .unit))
      (.pair (.nat 72057594037927936) (.pair (.list [.nat 1, .nat 65535]) .unit)) = true ∧
    leavesOk okLeaf okLen (.pair (.prim .compact) (.pair (.seq (.prim .u16)) .unit))
      (.pair (.nat 72057594037927936) (.pair (.list [.nat 1, .nat 65535]) .unit)) = true := by
  decide

theorem optJoin_map (f : Val → Option Bytes) (g : Val → Bytes) (vs : List Val)
    (h : ∀ v ∈ vs, f v = some (g v)) : optJoin (vs.map f) = some (encList g vs) := by
  induction vs with
  | nil => rfl
  | cons v vs ih =>
    simp only [List.map_cons, encList]
    rw [h v (by simp)]
    simp only [optJoin]
    rw [ih (fun w hw => h w (by simp [hw]))]; rfl

/-- **Marshal as walked by the Go code** (partial: known finding opt-vdt): below no pointer to a
    varying data type the reflect walk writes exactly `marshal t v`. -/
theorem C11_marshalGo_partial (t : Ty) (h : C12.hasOptVdt t = false) :
    ∀ v, marshalGo t v = some (marshal t v) := by
  induction t with
  | prim p => intro v; rfl
  | unit => intro v; rfl
  | pair a b iha ihb =>
    simp only [C12.hasOptVdt, Bool.or_eq_false_iff] at h
    intro v
    cases v with
    | pair x y => simp only [marshalGo, iha h.1 x, ihb h.2 y]; rfl
    | _ => rfl
  | option t ih =>
    simp only [C12.hasOptVdt, Bool.or_eq_false_iff] at h
    intro v
    cases v with
    | none => simp only [marshalGo, h.1, Bool.false_eq_true, if_false]; rfl
    | some x => simp only [marshalGo, h.1, Bool.false_eq_true, if_false, ih h.2 x]; rfl
    | _ => rfl
  | result a b iha ihb =>
    simp only [C12.hasOptVdt, Bool.or_eq_false_iff] at h
    intro v
    cases v with
    | ok x => simp only [marshalGo, iha h.1 x]; rfl
    | err x => simp only [marshalGo, ihb h.2 x]; rfl
    | _ => rfl
  | array n t ih =>
    intro v
    cases v with
    | list vs => exact optJoin_map _ _ vs (fun w _ => ih h w)
    | _ => rfl
  | seq t ih =>
    intro v
    cases v with
    | list vs => simp only [marshalGo, optJoin_map _ (encode codec t) vs (fun w _ => ih h w)]; rfl
    | _ => rfl
  | enumNil => intro v; cases v <;> rfl
  | enumCons i t rest iht ihr =>
    simp only [C12.hasOptVdt, Bool.or_eq_false_iff] at h
    intro v
    cases v with
    | variant j x =>
      simp only [marshalGo, marshal, encode]
      split
      · simp only [iht h.1 x]; rfl
      · exact ihr h.2 _
    | _ => rfl

/-- the excluded region is real: `Some(v)` behind a pointer to a varying data type is written
    without its option byte, `None` panics -/
theorem C11_marshalGo_counterexample :
    marshalGo (.option (.enumCons 0 (.prim .u8) .enumNil)) (.some (.variant 0 (.nat 5))) = some [0, 5] ∧
    encode Spec.codec (.option (.enumCons 0 (.prim .u8) .enumNil)) (.some (.variant 0 (.nat 5))) = [1, 0, 5] ∧
    marshalGo (.option (.enumCons 0 (.prim .u8) .enumNil)) .none = none := by
  refine ⟨by decide, by decide, by decide⟩

theorem insertTagged_perm (x : Nat × Int) (l : List (Nat × Int)) :
    (insertTagged x l).Perm (x :: l) := by
  induction l with
  | nil => exact List.Perm.refl _
  | cons y ys ih =>
    simp only [insertTagged]
    split
    · exact List.Perm.refl _
    · exact ((List.Perm.cons y ih).trans (List.Perm.swap x y ys))

theorem sortTagged_perm (l : List (Nat × Int)) : (sortTagged l).Perm l := by
  induction l with
  | nil => exact List.Perm.refl _
  | cons x xs ih => exact (insertTagged_perm x _).trans (List.Perm.cons x ih)

theorem filterMap_zipIdx_pairwise {α β : Type} (f : α × Nat → Option β) (key : β → Nat)
    (hf : ∀ a i b, f (a, i) = some b → key b = i) (l : List α) :
    (l.zipIdx.filterMap f).Pairwise (fun x y => key x < key y) := by
  have hidx : l.zipIdx.Pairwise (fun a b => a.2 < b.2) :=
    List.pairwise_map.1 (List.zipIdx_map_snd 0 l ▸ List.pairwise_lt_range' 1)
  refine List.Pairwise.filterMap _ ?_ hidx
  intro ⟨a, i⟩ ⟨a', i'⟩ hlt b hb b' hb'
  rw [hf a i b hb, hf a' i' b' hb']; exact hlt

def taggedOf (tags : List FieldTag) : List (Nat × Int) :=
  tags.zipIdx.filterMap (fun (t, i) => match t with | some (some k) => some (i, k) | _ => none)
def untaggedOf (tags : List FieldTag) : List Nat :=
  tags.zipIdx.filterMap (fun (t, i) => match t with | none => some i | _ => none)

theorem fieldOrder_eq (tags : List FieldTag) :
    fieldOrder tags = (sortTagged (taggedOf tags)).map (·.1) ++ untaggedOf tags := rfl

theorem mem_taggedOf (tags : List FieldTag) (i : Nat) (k : Int) :
    (i, k) ∈ taggedOf tags ↔ tags[i]? = some (some (some k)) := by
  simp only [taggedOf, List.mem_filterMap]
  constructor
  · rintro ⟨⟨t, j⟩, hm, hf⟩
    have := List.mem_zipIdx_iff_getElem?.1 hm
    simp only at this
    cases t with
    | none => simp at hf
    | some t' =>
      cases t' with
      | none => simp at hf
      | some k' =>
        simp only [Option.some.injEq, Prod.mk.injEq] at hf
        rw [← hf.1, ← hf.2]; exact this
  · intro h
    exact ⟨(some (some k), i), List.mem_zipIdx_iff_getElem?.2 h, rfl⟩

theorem mem_untaggedOf (tags : List FieldTag) (i : Nat) :
    i ∈ untaggedOf tags ↔ tags[i]? = some none := by
  simp only [untaggedOf, List.mem_filterMap]
  constructor
  · rintro ⟨⟨t, j⟩, hm, hf⟩
    have := List.mem_zipIdx_iff_getElem?.1 hm
    simp only at this
    cases t with
    | none => simp only [Option.some.injEq] at hf; rw [← hf]; exact this
    | some t' => cases t' <;> simp at hf
  · intro h
    exact ⟨(none, i), List.mem_zipIdx_iff_getElem?.2 h, rfl⟩

/-- **Field order, membership**: the encoding order contains exactly the fields that are not
    skipped (`scale:"-"`): those without a tag and those with a numeric tag. -/
theorem C11_fieldOrder_mem (tags : List FieldTag) (i : Nat) :
    i ∈ fieldOrder tags ↔ (tags[i]? = some none ∨ ∃ k, tags[i]? = some (some (some k))) := by
  rw [fieldOrder_eq, List.mem_append, List.mem_map]
  constructor
  · rintro (⟨⟨j, k⟩, hm, hj⟩ | h)
    · simp only at hj; subst hj
      exact Or.inr ⟨k, (mem_taggedOf tags j k).1 ((sortTagged_perm _).mem_iff.1 hm)⟩
    · exact Or.inl ((mem_untaggedOf tags i).1 h)
  · rintro (h | ⟨k, h⟩)
    · exact Or.inr ((mem_untaggedOf tags i).2 h)
    · exact Or.inl ⟨(i, k), (sortTagged_perm _).mem_iff.2 ((mem_taggedOf tags i k).2 h), rfl⟩

theorem taggedOf_ascending (tags : List FieldTag) :
    (taggedOf tags).Pairwise (fun a b => a.1 < b.1) := by
  refine filterMap_zipIdx_pairwise _ Prod.fst ?_ tags
  intro t i b h
  cases t with
  | none => cases h
  | some x => cases x <;> cases h; rfl

theorem untaggedOf_ascending (tags : List FieldTag) : (untaggedOf tags).Pairwise (· < ·) := by
  refine filterMap_zipIdx_pairwise _ id ?_ tags
  intro t i b h
  cases t with
  | none => cases h; rfl
  | some x => cases x <;> cases h

/-- tag order, ties by declaration order -/
def tagLt (a b : Nat × Int) : Prop := a.2 < b.2 ∨ (a.2 = b.2 ∧ a.1 < b.1)

theorem insertTagged_stable (x : Nat × Int) (l : List (Nat × Int)) (hl : l.Pairwise tagLt)
    (hx : ∀ z ∈ l, x.1 < z.1) : (insertTagged x l).Pairwise tagLt := by
  induction l with
  | nil => simp [insertTagged]
  | cons y ys ih =>
    have ⟨hy, hys⟩ := List.pairwise_cons.1 hl
    simp only [insertTagged]
    split
    · rename_i hle
      refine List.pairwise_cons.2 ⟨fun z hz => ?_, hl⟩
      have hxz := hx z hz
      rcases List.mem_cons.1 hz with e | e
      · subst e; unfold tagLt; omega
      · have := hy z e; unfold tagLt at this ⊢; omega
    · rename_i hgt
      refine List.pairwise_cons.2 ⟨fun z hz => ?_, ih hys (fun z hz => hx z (by simp [hz]))⟩
      have hz' := (insertTagged_perm x ys).mem_iff.1 hz
      rcases List.mem_cons.1 hz' with e | e
      · subst e; unfold tagLt; omega
      · exact hy z e

theorem sortTagged_stable (l : List (Nat × Int)) (h : l.Pairwise (fun a b => a.1 < b.1)) :
    (sortTagged l).Pairwise tagLt := by
  induction l with
  | nil => simp [sortTagged]
  | cons x xs ih =>
    have ⟨hx, hxs⟩ := List.pairwise_cons.1 h
    exact insertTagged_stable x _ (ih hxs)
      (fun z hz => hx z ((sortTagged_perm xs).mem_iff.1 hz))

/-- **Field order is a stable sort of the declaration order**: the tagged fields come first, by
    ascending tag and, among equal tags, in declaration order; the untagged fields follow in
    declaration order — for any number of fields. -/
theorem C11_fieldOrder_stable (tags : List FieldTag) :
    ∃ (ts : List (Nat × Int)) (us : List Nat), fieldOrder tags = ts.map (·.1) ++ us ∧
      ts.Perm (taggedOf tags) ∧ ts.Pairwise tagLt ∧ us = untaggedOf tags ∧ us.Pairwise (· < ·) :=
  ⟨sortTagged (taggedOf tags), untaggedOf tags, fieldOrder_eq tags, sortTagged_perm _,
    sortTagged_stable _ (taggedOf_ascending tags), rfl, untaggedOf_ascending tags⟩

/-- **Field order, shape**: first the tagged fields in ascending tag order (a permutation of the
    tagged fields), then the untagged fields in declaration order (`C11_fieldOrder_stable` without
    the order among equal tags). -/
theorem C11_fieldOrder_sorted (tags : List FieldTag) :
    ∃ (ts : List (Nat × Int)) (us : List Nat), fieldOrder tags = ts.map (·.1) ++ us ∧
      ts.Perm (taggedOf tags) ∧ ts.Pairwise (fun a b => a.2 ≤ b.2) ∧
      us = untaggedOf tags ∧ us.Pairwise (· < ·) := by
  obtain ⟨ts, us, h1, h2, h3, h4, h5⟩ := C11_fieldOrder_stable tags
  exact ⟨ts, us, h1, h2, h3.imp fun h => by unfold tagLt at h; omega, h4, h5⟩

/-- a struct of 16 fields, tags interleaved with untagged and ignored fields (harness `c11W16`) -/
example : fieldOrder [none, some (some 3), none, none, some (some 1), none, some none, none, none,
    some (some 2), none, none, none, some (some 7), none, none]
    = [4, 9, 1, 13, 0, 2, 3, 5, 7, 8, 10, 11, 12, 14, 15] := by decide

example : fieldOrder [some (some 2), some none, some (some (-1)), none, none] = [2, 0, 3, 4] := by decide

end Gossamer.C11
