/-
C19  Justification verification accepts exactly valid justifications.

`accept pick w vs c tBlk tNum pcs` is the model of `verifyWithVoterSet` (Model/C19.lean) with the voter
set `vs = newVoterSet ws`.  The specification (Lib/C19Spec) is written against the RAW weight list `ws`
(a voter listed several times has its weights summed by construction: every list entry is counted)
and uses only order-independent notions: membership in the precommit list, the ancestry relation
(`desc`, `pathTo`, `dist`), sums over the weight list.
-/
import Gossamer.Lib.C19Accept
import Gossamer.Lib.C19Order
namespace Gossamer.C19

/-- whatever is accepted has supermajority support, valid signatures, exact ancestry -/
theorem C19_sound {pick : List Nat → Nat} (hp : LegalPick pick) {w : Nat} {ws : List IdW} {vs : VoterSet}
    (hvs : newVoterSet ws = some vs) {c : Chain} {tBlk tNum : Nat} {pcs : List Pre}
    (hacc : accept pick w vs c tBlk tNum pcs = true) :
    ValidCore w ws c tBlk tNum pcs := by
  obtain ⟨hv, mp, vis, hlm, hvl, hss⟩ := accept_iff.1 hacc
  obtain ⟨base, hmin, hall, _, hwB, hg, hnum⟩ := (validateCommit_valid_iff (members_eq hvs pcs)).1 hv
  obtain ⟨hbmem, hbmin⟩ := minPre_spec _ _ hmin
  obtain ⟨hd, hwt, hvoted⟩ := (ghost_run (vs := vs) (c := c) (tr := trackAll (membersOf ws pcs)) hp base.blk).spec hp
  rw [hg] at hd hwt hvoted
  have hsuper := hwt hwB
  rw [weightOn_spec hvs, threshold_spec hvs] at hsuper
  have hspec := newVoterSet_spec hvs
  obtain ⟨hlo, hlomin⟩ := lastMin_none_spec hlm
  obtain ⟨v1, v2⟩ := visitLoop_spec c mp.blk pcs [] vis hvl
  have hset := (sameSet_iff _ _).1 hss
  refine ⟨hspec.pos, hspec.lt, ⟨base, hbmem, fun p hpm => ⟨hbmin p hpm, hall p hpm⟩, hd, hnum⟩, ?_, hsuper,
    fun p hp => (v1 p hp).1, mp, hlo, hlomin, fun p hp => (v1 p hp).2, fun h => ?_⟩
  · rcases hvoted with hv | ⟨t, ht, hdt⟩
    · exact ⟨base, hbmem, hv ▸ desc_refl _ _⟩
    · exact ⟨t.first, (trInv_all _).mem_first t ht, hdt⟩
  · rw [← hset h, v2 h]
    simp

/-- a voter listed several times has its weights summed; `NewVoterSet` fails exactly on total weight 0 or ≥ 2^64 -/
theorem C19_dup_weights_summed (ws : List IdW) :
    (∀ vs, newVoterSet ws = some vs →
      vs.total = rawTotal ws ∧ vs.threshold = rawTotal ws - (rawTotal ws - 1) / 3 ∧
      ∀ id, vs.weight? id = if rawWeight ws id = 0 then none else some (rawWeight ws id)) ∧
    (newVoterSet ws = none ↔ rawTotal ws = 0 ∨ U64 ≤ rawTotal ws) := by
  refine ⟨fun vs h => ?_, fun h => (newVoterSet_none h).symm, fun h => ?_⟩
  · have := newVoterSet_spec h
    exact ⟨this.total, this.threshold, this.weight⟩
  · cases hv : newVoterSet ws with
    | none => rfl
    | some vs =>
      have hs := newVoterSet_spec hv
      have := hs.lt
      have := hs.pos
      omega

/-- non-vacuity: a:1, a:5, b:1 is the set a ↦ 6, b ↦ 1 with total 7 and threshold 5 -/
example : newVoterSet [(0, 1), (0, 5), (1, 1)] = some ⟨[(0, 6), (1, 1)], 7, 5⟩ := by decide

/-- 32-bit and 64-bit block numbers give the same verdict when every precommit's number plus the length of the chain
    stays below 2^32 -/
theorem C19_width_independent (pick : List Nat → Nat) (vs : VoterSet) (c : Chain) (tBlk tNum : Nat)
    (pcs : List Pre) (hb : ∀ p ∈ pcs, p.num + c.par.length + 1 < 2 ^ 32) :
    verifyWithVoterSet pick 32 vs c tBlk tNum pcs = verifyWithVoterSet pick 64 vs c tBlk tNum pcs ∧
    accept pick 32 vs c tBlk tNum pcs = accept pick 64 vs c tBlk tNum pcs := by
  have h : verifyWithVoterSet pick 32 vs c tBlk tNum pcs = verifyWithVoterSet pick 64 vs c tBlk tNum pcs := by
    unfold verifyWithVoterSet
    rw [validateCommit_width pick (w' := 64) vs c tBlk tNum pcs hb fun p hp => Nat.lt_trans (hb p hp) (by decide)]
  exact ⟨h, by unfold accept; rw [h]⟩

/-- a valid justification is accepted (fault assumption, tree-consistent numbers) -/
theorem C19_complete {pick : List Nat → Nat} (hp : LegalPick pick) {w : Nat} {ws : List IdW} {vs : VoterSet}
    (hvs : newVoterSet ws = some vs) {c : Chain} {tBlk tNum : Nat} {pcs : List Pre}
    (hmono : Mono c pcs) (htol : Tolerant ws pcs)
    (hval : Valid w ws c tBlk tNum pcs) : accept pick w vs c tBlk tNum pcs = true := by
  have houter := headers_ok hmono hval.core
  obtain ⟨⟨_, _, ⟨b, hbmem, hball, hbT, hbnum⟩, _, hsuper, _, _⟩, hghost⟩ := hval
  have hspec := newVoterSet_spec hvs
  -- the model's base is the specification's base
  obtain ⟨b0, hmin⟩ : ∃ b0, minPre (membersOf ws pcs) = some b0 :=
    Option.ne_none_iff_exists'.1 fun e => by rw [minPre_none e] at hbmem; cases hbmem
  obtain ⟨hb0mem, hb0min⟩ := minPre_spec _ _ hmin
  have hnum0 : b0.num = b.num := Nat.le_antisymm (hb0min b hbmem) (hball b0 hb0mem).1
  have hblk0 : b0.blk = b.blk :=
    hmono.blk_eq (List.mem_filter.1 hbmem).1 (List.mem_filter.1 hb0mem).1 (hball b0 hb0mem).2 (hb0min b hbmem)
  have hthr := threshold_spec hvs
  -- weights; `curW` is the weight of the voters with an entry, at least that of the supporters of the target
  have hwT : vs.threshold ≤ weightOn vs c (trackAll (membersOf ws pcs)) tBlk := by
    rw [weightOn_spec hvs, hthr]; exact hsuper
  have hB : specThreshold ws ≤ specWeight ws c (membersOf ws pcs) b0.blk :=
    hblk0 ▸ Nat.le_trans hsuper (specWeight_mono ws _ hbT)
  have hwB : vs.threshold ≤ weightOn vs c (trackAll (membersOf ws pcs)) b0.blk := by
    rw [weightOn_spec hvs, hthr]; exact hB
  have hcur : vs.threshold ≤ ((membersOf ws pcs).foldl (importStep vs) Imp.init).curW := by
    rw [(import_init vs _).curW hspec.sorted, (import_init vs _).tr]
    refine Nat.le_trans hwT ?_
    rw [weightOn_eq]
    refine wsum_mono (fun id hbit => ?_) _
    unfold bit at hbit
    cases hf : findT (trackAll (membersOf ws pcs)) id with
    | none => rw [hf] at hbit; cases hbit
    | some t => rfl
  have hwalk := (ghost_iff hp hvs htol hB).2 ⟨hblk0 ▸ desc_iff.1 hbT, hsuper, hghost⟩
  have hvalid : (validateCommit pick w vs c tBlk tNum pcs).valid = true :=
    (validateCommit_valid_iff (members_eq hvs pcs)).2 ⟨b0, hmin,
      fun p hpm => hblk0 ▸ (hball p hpm).2, hcur, hwB, hwalk, by rw [hnum0, hblk0]; exact hbnum⟩
  exact accept_iff.2 ⟨hvalid, houter⟩

/-- whatever is accepted under the fault assumption has the target as its GHOST -/
theorem C19_ghost_maximal {pick : List Nat → Nat} (hp : LegalPick pick) {w : Nat} {ws : List IdW}
    {vs : VoterSet} (hvs : newVoterSet ws = some vs) {c : Chain} {tBlk tNum : Nat} {pcs : List Pre}
    (htol : Tolerant ws pcs) (hacc : accept pick w vs c tBlk tNum pcs = true) :
    Valid w ws c tBlk tNum pcs := by
  have hcore := C19_sound hp hvs hacc
  obtain ⟨base, _, _, _, hwB, hg, _⟩ :=
    (validateCommit_valid_iff (members_eq hvs pcs)).1 (accept_iff.1 hacc).1
  rw [weightOn_spec hvs, threshold_spec hvs] at hwB
  exact ⟨hcore, ((ghost_iff hp hvs htol hwB).1 hg).2.2⟩

/-- **Acceptance is validity**, under the fault assumption and tree-consistent numbers (partial: outside them see
    `C19_iff_counterexample`): `verifyWithVoterSet` accepts exactly the justifications that are `Valid` -/
theorem C19_iff_partial {pick : List Nat → Nat} (hp : LegalPick pick) {w : Nat} {ws : List IdW}
    {vs : VoterSet} (hvs : newVoterSet ws = some vs) {c : Chain} {tBlk tNum : Nat} {pcs : List Pre}
    (hmono : Mono c pcs) (htol : Tolerant ws pcs) :
    accept pick w vs c tBlk tNum pcs = true ↔ Valid w ws c tBlk tNum pcs :=
  ⟨C19_ghost_maximal hp hvs htol, C19_complete hp hvs hmono htol⟩

/-- a permutation of the precommits, with any resolution of the child order, gets the same verdict, under the
    fault assumption and tree-consistent numbers (of the permutation only `p ∈ pcs ↔ p ∈ pcs'` is used) -/
theorem C19_order_independent {pick pick' : List Nat → Nat} (hp : LegalPick pick) (hp' : LegalPick pick')
    {w : Nat} {ws : List IdW} {vs : VoterSet} (hvs : newVoterSet ws = some vs) {c : Chain}
    {tBlk tNum : Nat} {pcs pcs' : List Pre} (hperm : pcs.Perm pcs')
    (hmono : Mono c pcs) (htol : Tolerant ws pcs) :
    accept pick w vs c tBlk tNum pcs = accept pick' w vs c tBlk tNum pcs' := by
  have h : ∀ p, p ∈ pcs ↔ p ∈ pcs' := fun p => hperm.mem_iff
  have h' : ∀ p, p ∈ pcs' ↔ p ∈ pcs := fun p => (h p).symm
  rw [Bool.eq_iff_iff, C19_iff_partial hp hvs hmono htol,
    C19_iff_partial hp' hvs (mono_congr h hmono) (tolerant_congr h htol)]
  exact ⟨valid_congr h, valid_congr h'⟩

/-- every resolution of the child order lies between the two the driver evaluates: acceptance under
    the least favourable one (`spec=` field) implies acceptance by the code, which implies acceptance
    under the most favourable one (the model output) -/
theorem C19_bracket {pick : List Nat → Nat} (hp : LegalPick pick) (w : Nat) (vs : VoterSet) (c : Chain)
    (tBlk tNum : Nat) (pcs : List Pre) :
    (accept (pickAway c tBlk) w vs c tBlk tNum pcs = true → accept pick w vs c tBlk tNum pcs = true) ∧
    (accept pick w vs c tBlk tNum pcs = true → accept (pickToward c tBlk) w vs c tBlk tNum pcs = true) :=
  ⟨accept_of_walk (fun tr cur => walk_away hp vs c tr tBlk cur),
   accept_of_walk (fun tr cur => walk_toward hp vs c tr tBlk cur)⟩

/-- the "second equivocation by the same voter" early return of `ValidateCommit` is dead code: the
    tracker reports an equivocation at most once per voter -/
theorem C19_early_return_dead (vs : VoterSet) (vp : List Pre) :
    (vp.foldl (importStep vs) Imp.init).stop = false := (import_init vs vp).run

/-- 4 unit voters; 0 and 1 equivocate, 2 votes for block 1, 3 for its sibling 2 -/
def cexWs : List IdW := [(0, 1), (1, 1), (2, 1), (3, 1)]
def cexChain : Chain := ⟨[0, 0, 0], [1, 2]⟩
def cexPcs : List Pre :=
  [⟨0, 0, 0, 0, true⟩, ⟨1, 1, 0, 1, true⟩, ⟨1, 1, 1, 0, true⟩, ⟨2, 1, 1, 1, true⟩, ⟨1, 1, 2, 0, true⟩,
   ⟨2, 1, 3, 0, true⟩]
def cexPcs' : List Pre :=
  [⟨0, 0, 0, 0, true⟩, ⟨1, 1, 0, 1, true⟩, ⟨2, 1, 3, 0, true⟩, ⟨2, 1, 1, 1, true⟩, ⟨1, 1, 1, 0, true⟩,
   ⟨1, 1, 2, 0, true⟩]
def cexVs : VoterSet := ⟨cexWs, 4, 3⟩

/-- without the fault assumption the verdict depends on which qualifying child is followed -/
theorem C19_iff_counterexample :
    newVoterSet cexWs = some cexVs ∧ Mono cexChain cexPcs ∧ ¬ Tolerant cexWs cexPcs ∧
    accept (pickToward cexChain 1) 32 cexVs cexChain 1 1 cexPcs = true ∧
    accept (pickAway cexChain 1) 32 cexVs cexChain 1 1 cexPcs = false := by
  refine ⟨by decide, by unfold Mono; decide, by unfold Tolerant; decide, by decide, by decide⟩

/-- without the fault assumption the verdict depends, for a fixed rule (first child in arrival order), on the order of
    the precommits -/
theorem C19_order_counterexample :
    cexPcs.Perm cexPcs' ∧
    accept (fun l => l.headD 0) 32 cexVs cexChain 1 1 cexPcs = true ∧
    accept (fun l => l.headD 0) 32 cexVs cexChain 1 1 cexPcs' = false := by
  refine ⟨by decide, by decide, by decide⟩

/-! ## non-vacuity: the hypotheses of the theorems hold on a concrete accepted justification -/

/-- 4 unit voters, chain 0 ← 1 ← 2; votes 1, 1, 2 (voter 3 silent); target 1 -/
def okPcs : List Pre := [⟨2, 7, 2, 0, true⟩, ⟨1, 6, 0, 0, true⟩, ⟨1, 6, 1, 0, true⟩]
def okChain : Chain := ⟨[0, 0, 1], [2]⟩

example : newVoterSet cexWs = some cexVs ∧ Mono okChain okPcs ∧ Tolerant cexWs okPcs ∧
    LegalPick (pickAway okChain 1) ∧
    accept (pickAway okChain 1) 32 cexVs okChain 1 6 okPcs = true ∧
    (∀ p ∈ okPcs, p.num + okChain.par.length + 1 < 2 ^ 32) :=
  ⟨by decide, by unfold Mono; decide, by unfold Tolerant; decide, legal_pickAway _ _, by decide, by decide⟩

/-- `GetSetIDByBlockNumber` as `VerifyBlockJustification` calls it (no change block stored beyond index `cur + 1`): the set id `j`
    returned for block number `n` satisfies `change j < n ≤ change (j+1)` (no lower bound for set 0, no upper bound for the
    last set) -/
theorem C19_set_lookup {g : GState} (hlen : g.changeAt (g.cur + 2) = none) {n j : Nat}
    (h : setIdAt g n = some j) :
    (j = 0 ∨ ∃ l, g.changeAt j = some l ∧ l < n) ∧
    (g.changeAt (j + 1) = none ∨ ∃ u, g.changeAt (j + 1) = some u ∧ n ≤ u) :=
  setIdLoop_spec g n (g.cur + 2) g.cur j (by omega) (Or.inl hlen) h

/-- `Service.VerifyBlockJustification` accepts only a justification that has the safety core of validity
    (`ValidCore`; `Valid` under the fault assumption) for the (unit weight) voter set of the set id the
    imported block's number maps to, whose commit target is the imported block, and whose precommits
    are all signed for that set id -/
theorem C19_wrapper_sound {pick : List Nat → Nat} (hp : LegalPick pick) {g : GState}
    {ibBlk ibNum sset : Nat} {c : Chain} {tBlk tNum : Nat} {pcs : List Pre} {sid : Nat}
    (h : wrapper pick false g ibBlk ibNum sset c tBlk tNum pcs = .ok sid) :
    setIdAt g ibNum = some sid ∧ tBlk = ibBlk ∧ tNum = ibNum % 2 ^ 32 ∧
    ∃ a, g.authsAt sid = some a ∧
      ValidCore 32 (unitWs a) c tBlk tNum (resign sset sid pcs) ∧
      (Tolerant (unitWs a) (resign sset sid pcs) → Valid 32 (unitWs a) c tBlk tNum (resign sset sid pcs)) ∧
      sset = sid ∧ ∀ p ∈ pcs, p.sigok = true := by
  unfold wrapper at h
  cases hs : setIdAt g ibNum with
  | none => rw [hs] at h; cases h
  | some sid' =>
    simp only [hs] at h
    cases ha : g.authsAt sid' with
    | none => rw [ha] at h; cases h
    | some a =>
      simp only [ha, Bool.false_eq_true, if_false] at h
      cases hv : newVoterSet (unitWs a) with
      | none => rw [hv] at h; cases h
      | some vs =>
        simp only [hv] at h
        cases hr : verifyFinalizes pick 32 vs c tBlk tNum ibBlk (ibNum % 2 ^ 32) (resign sset sid' pcs) <;>
          rw [hr] at h <;> cases h
        unfold verifyFinalizes at hr
        by_cases hne : tBlk ≠ ibBlk ∨ tNum ≠ ibNum % 2 ^ 32
        · rw [if_pos hne] at hr; cases hr
        rw [if_neg hne] at hr
        have hacc : accept pick 32 vs c tBlk tNum (resign sset sid pcs) = true := by
          rw [accept, hr]; rfl
        have hcore := C19_sound hp hv hacc
        -- every precommit, the lowest one for a start, carries `sigok && sset == sid`
        have hsig : ∀ p ∈ pcs, p.sigok = true ∧ (sset == sid) = true := fun p hpm =>
          Bool.and_eq_true_iff.1 (hcore.sigs _ (List.mem_map.2 ⟨p, hpm, rfl⟩))
        obtain ⟨lo, hlo, _⟩ := hcore.ancestry
        obtain ⟨p0, hp0, _⟩ := mem_resign hlo
        exact ⟨rfl, Decidable.of_not_not fun e => hne (Or.inl e), Decidable.of_not_not fun e => hne (Or.inr e),
          a, ha, hcore, fun ht => C19_ghost_maximal hp hv ht hacc, beq_iff_eq.1 (hsig p0 hp0).2,
          fun p hpm => (hsig p hpm).1⟩

/-- the importer finalises a block, with round `r` and set id `s`, only when the block data had a justification and the
    finality gadget accepted it and returned `(r, s)` -/
theorem C19_importer_sound (hasJust : Bool) (gadget : Option (Nat × Nat)) (ff jf : Bool) (r s : Nat)
    (h : importData hasJust gadget ff jf = .finalised r s) :
    hasJust = true ∧ gadget = some (r, s) := by
  unfold importData at h
  cases hasJust with
  | false => cases h
  | true =>
    cases gadget with
    | none => cases h
    | some rs =>
      simp only [if_true] at h
      cases ff <;> cases jf <;> cases h
      exact ⟨rfl, rfl⟩

end Gossamer.C19
