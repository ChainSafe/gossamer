/-
C16 — fork choice selects the best leaf deterministically.

`Spec.IsBest S b` (Lib/BlockTree): `b` is a leaf of the flat specification state that beats every other leaf in the
order (more primary-slot blocks on its chain after the root, then greater number, then earlier arrival, then lower
hash).  The `best…` theorems hold for every history and for EVERY iteration order of the two Go maps involved
(`it`: any permutation of the leaf map; `σ`: any permuting function for the temporary map of the tie group);
`C16_getHashByNumber` is about `BT.getHashByNumber`, which reads the leaf map in its stored order, and ranges over `σ` only.
The statements speak of Model/C16's `bestWith` / `bestHashWith`; `BT.best` / `BT.bestBlockHash` of Lib/BlockTree (what the
driver prints) are these at `it = bt.leaves`, by unfolding; no theorem states it.
-/
import Gossamer.Model.C16
import Gossamer.Props.C15
import Gossamer.Lib.BlockTreeBest

namespace Gossamer.C16
open Gossamer.BlockTree Gossamer.C15

/-- **best = spec.** For every history and every iteration order of the maps, `bestBlock` returns the best
    block of the specification state (there is only one: `isBest_unique`). -/
theorem C16_best_eq_spec (rh rn ra : Nat) (ops : List Op) (it : List Info) (σ : List Info → List Info)
    (hit : it.Perm (tree rh rn ra ops).leaves) (hσ : IsOrder σ) :
    ∃ b, bestWith (tree rh rn ra ops) it σ = some (some b) ∧ (spec rh rn ra ops).IsBest b := by
  obtain ⟨hi, hs⟩ := reach rh rn ra ops
  generalize tree rh rn ra ops = bt at *
  generalize spec rh rn ra ops = S at *
  have hmem : ∀ x, x ∈ it ↔ x ∈ leavesF [bt.root] := fun x => (hit.mem_iff).trans (hi.leavesMem x)
  obtain ⟨b, hb, hbit, hbc, hall⟩ := best_exists hi hit hσ
  refine ⟨b, hb, ?_⟩
  have hprim : ∀ x, x ∈ infosF [bt.root] → S.primaries x.hash = primaryCount bt.root x.hash := by
    intro x hx
    rw [hs.primaries hi (mem_desc_iff_infos.2 ⟨x, hx, rfl⟩)]
  have hbl : b ∈ leavesF [bt.root] := (hmem b).1 hbit
  have hbi : b ∈ infosF [bt.root] := leavesF_sub_infos hbl
  refine ⟨(hs.isLeaf hi _).2 ⟨b, hbl, rfl⟩, (hs.infoOf_iff hi).2 ⟨hbi, rfl⟩, ?_⟩
  intro l hll hli hne
  obtain ⟨hlin, _⟩ := (hs.infoOf_iff hi).1 hli
  obtain ⟨l', hl', hle⟩ := (hs.isLeaf hi _).1 hll
  obtain rfl : l' = l := info_unique hi.nodup (leavesF_sub_infos hl') hlin hle
  have hlit : l' ∈ it := (hmem l').2 hl'
  have hcl := le_highestCount bt.root hlit
  rw [Spec.better_iff, hprim b hbi, hprim l' hlin, hbc]
  by_cases hlt : primaryCount bt.root l'.hash < highestCount bt.root it
  · exact Or.inl hlt
  · have heq : primaryCount bt.root l'.hash = highestCount bt.root it := by omega
    exact Or.inr ⟨heq.symm, (hlBetter_total fun h => hne h.symm).resolve_right (hall l' hlit heq)⟩

theorem isBest_unique {S : Spec} {b b' : Info} (h : S.IsBest b) (h' : S.IsBest b') : b = b' := by
  by_cases he : b.hash = b'.hash
  · have h1 := h.2.1; have h2 := h'.2.1
    rw [he] at h1; rw [h1] at h2; exact Option.some.inj h2
  · have h1 := h.2.2 b' h'.1 h'.2.1 (fun e => he e.symm)
    have h2 := h'.2.2 b h.1 h.2.1 he
    unfold Spec.better at h1 h2
    omega

theorem bestHash_isBest (rh rn ra : Nat) (ops : List Op) (it : List Info) (σ : List Info → List Info)
    (hit : it.Perm (tree rh rn ra ops).leaves) (hσ : IsOrder σ) :
    ∃ b, (spec rh rn ra ops).IsBest b ∧ bestHashWith (tree rh rn ra ops) it σ = some b.hash := by
  obtain ⟨b, hb, hbest⟩ := C16_best_eq_spec rh rn ra ops it σ hit hσ
  refine ⟨b, hbest, ?_⟩
  obtain ⟨hi, hs⟩ := reach rh rn ra ops
  unfold bestHashWith
  by_cases hc : (tree rh rn ra ops).root.children.isEmpty
  · simp only [hc, if_true]
    -- the root is the only block, hence the only leaf, hence the best
    obtain ⟨x, hx, he⟩ := (hs.isLeaf hi _).1 hbest.1
    rw [leavesF_node, if_pos hc, List.isEmpty_iff.1 hc, leavesF, List.append_nil, List.mem_singleton] at hx
    rw [← he, hx]
  · simp only [hc, Bool.false_eq_true, if_false, hb]

/-- **best is a leaf.** `bestHashWith` (Model/C16: `BestBlockHash` with both map orders free) never dereferences nil and
    names a leaf (the root when it is alone). -/
theorem C16_best_is_leaf (rh rn ra : Nat) (ops : List Op) (it : List Info) (σ : List Info → List Info)
    (hit : it.Perm (tree rh rn ra ops).leaves) (hσ : IsOrder σ) :
    ∃ h, bestHashWith (tree rh rn ra ops) it σ = some h ∧ (spec rh rn ra ops).isLeaf h := by
  obtain ⟨b, hbest, he⟩ := bestHash_isBest rh rn ra ops it σ hit hσ
  exact ⟨b.hash, he, hbest.1⟩

/-- **order independence.** Two histories from the same root that leave the same set of blocks (e.g. the same
    blocks added in two different parent-first orders) have the same best block, whatever the map orders. -/
theorem C16_order_independent (rh rn ra : Nat) (ops₁ ops₂ : List Op)
    (it₁ it₂ : List Info) (σ₁ σ₂ : List Info → List Info)
    (h₁ : it₁.Perm (tree rh rn ra ops₁).leaves) (h₂ : it₂.Perm (tree rh rn ra ops₂).leaves)
    (hσ₁ : IsOrder σ₁) (hσ₂ : IsOrder σ₂)
    (hroot : (spec rh rn ra ops₁).root = (spec rh rn ra ops₂).root)
    (hsame : ∀ b, b ∈ (spec rh rn ra ops₁).blocks ↔ b ∈ (spec rh rn ra ops₂).blocks) :
    bestHashWith (tree rh rn ra ops₁) it₁ σ₁ = bestHashWith (tree rh rn ra ops₂) it₂ σ₂ := by
  obtain ⟨b₁, hb₁, he₁⟩ := bestHash_isBest rh rn ra ops₁ it₁ σ₁ h₁ hσ₁
  obtain ⟨b₂, hb₂, he₂⟩ := bestHash_isBest rh rn ra ops₂ it₂ σ₂ h₂ hσ₂
  have e : SpecEq (spec rh rn ra ops₁) (spec rh rn ra ops₂) :=
    ⟨hroot, (reach rh rn ra ops₁).2.nodup, (reach rh rn ra ops₂).2.nodup, hsame⟩
  have := isBest_unique ((e.isBest b₁).1 hb₁) hb₂
  rw [he₁, he₂, this]

/-- the root is never counted: the primary count of a block is taken over the blocks strictly below the root -/
theorem C16_primary_count_excludes_root (rh rn ra : Nat) (ops : List Op) :
    (spec rh rn ra ops).primaries (spec rh rn ra ops).root.hash = 0 ∧
    ∀ h, h ∈ (tree rh rn ra ops).getAllBlocks →
      primaryCount (tree rh rn ra ops).root h = (spec rh rn ra ops).primaries h := by
  obtain ⟨hi, hs⟩ := reach rh rn ra ops
  have e := reachEq rh rn ra ops
  refine ⟨?_, fun h hh => (hs.primaries hi hh).symm⟩
  rw [e.primaries, e.root]
  exact congrArg (fun c => (c.filter (·.primary)).length) (chain_root hi.nodup)

/-- **By number on the best chain.** `GetHashByNumber n` answers with the ancestor (by parent links) of the best
    block that has number `n`; numbers above the best block or below the root are errors; it never panics. -/
theorem C16_getHashByNumber (rh rn ra : Nat) (ops : List Op) (num : Nat) (σ : List Info → List Info)
    (hσ : IsOrder σ) :
    let bt := tree rh rn ra ops
    let S := spec rh rn ra ops
    ∃ b, S.IsBest b ∧
      (b.number < num → bt.getHashByNumber num σ = .greaterThanHighest) ∧
      (num < S.root.number → ¬ b.number < num → bt.getHashByNumber num σ = .lowerThanRoot) ∧
      (S.root.number ≤ num → num ≤ b.number →
        ∃ x, bt.getHashByNumber num σ = .ok x.hash ∧ S.isAnc x.hash b.hash ∧ S.infoOf x.hash = some x ∧
          x.number = num) := by
  intro bt S
  obtain ⟨b, hb, hbest⟩ := C16_best_eq_spec rh rn ra ops (tree rh rn ra ops).leaves σ (List.Perm.refl _) hσ
  obtain ⟨hi, hsim⟩ : Inv bt ∧ Sim bt S := reach rh rn ra ops
  refine ⟨b, hbest, ?_⟩
  -- the best block is the payload of a held node
  obtain ⟨nb, hnb, rfl⟩ := Option.map_eq_some_iff.1 ((hsim.infoOf hi _).symm.trans hbest.2.1)
  have hbm : nb.info.hash ∈ descF [bt.root] := findF_mem hnb
  obtain ⟨h1, h2, h3⟩ := getHashByNumber_spec hi hnb hb num
  rw [hsim.root]
  refine ⟨h1, fun h _ => h2 h, fun ha hb' => ?_⟩
  obtain ⟨x, hx, hr, hn⟩ := h3 ha hb'
  refine ⟨x, hr, ?_, (hsim.infoOf_iff hi).2 ⟨(up_facts hi hbm).mem _ hx, rfl⟩, hn⟩
  rw [Spec.isAnc, hsim.ancestors hi hbm]
  exact List.mem_map.2 ⟨x, hx, rfl⟩

example : IsOrder id := fun _ => List.Perm.refl _
example : IsOrder List.reverse := fun l => List.reverse_perm l

/-- 11 and 13 are primary leaves at number 1, 11 arrived first; 14 is deeper but on a secondary chain -/
example : bestHashWith exampleTree exampleTree.leaves id = some 11 := by
  simp [exampleTree, bestHashWith, bestWith, bestBlock, highestCount, primaryCount, pathF, highestLeaf, hlFold,
    hlStep]
example : bestHashWith exampleTree exampleTree.leaves.reverse List.reverse = some 11 := by
  simp [exampleTree, bestHashWith, bestWith, bestBlock, highestCount, primaryCount, pathF, highestLeaf, hlFold,
    hlStep]
/-- equal primary count, number and arrival: the lower hash wins, in either iteration order -/
example : bestHashWith ⟨.mk ⟨10, 0, 0, false⟩ [.mk ⟨12, 1, 5, true⟩ [], .mk ⟨11, 1, 5, true⟩ []], []⟩
    [⟨12, 1, 5, true⟩, ⟨11, 1, 5, true⟩] id = some 11 := by
  simp [bestHashWith, bestWith, bestBlock, highestCount, primaryCount, pathF, highestLeaf, hlFold, hlStep]
example : bestHashWith ⟨.mk ⟨10, 0, 0, false⟩ [.mk ⟨12, 1, 5, true⟩ [], .mk ⟨11, 1, 5, true⟩ []], []⟩
    [⟨11, 1, 5, true⟩, ⟨12, 1, 5, true⟩] id = some 11 := by
  simp [bestHashWith, bestWith, bestBlock, highestCount, primaryCount, pathF, highestLeaf, hlFold, hlStep]

end Gossamer.C16
