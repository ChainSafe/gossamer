/-
Property C27: slot equivocations are detected exactly.

The property theorems, stated about the *model* of dot/state/slot.go (`mstep`, run from the empty database); they
come from the abstract machine (Substrate `check_equivocation`, Lib/C27Spec) through the refinement of Lib/C27Refine.

Hypotheses that appear everywhere: the codec is lawful (SCALE round-trips, never empty) and the
inputs are Go `uint64` values (`Op.wf`).
-/
import Gossamer.Lib.C27Refine
open Gossamer Gossamer.C27
namespace Gossamer.C27

section
variable {H S Hh : Type} [DecidableEq S] [DecidableEq Hh]

/-- the literals 1000 / 2000 in the statements below are the constants of slot.go (tied to the Go
    values by the `const` cases of the correspondence run) -/
theorem C27_constants : maxSlotCapacity = 1000 ∧ pruningBound = 2000 := by decide

def mst (c : Codec H S) (hash : H → Hh) (ops : List (Op H S)) : DB := (run (mstep c hash) [] ops).2

/-- for every sequence of checks the database model of slot.go returns exactly the
    outputs of the reference state machine, and its database represents the reference state. -/
theorem C27_refines {c : Codec H S} (hc : c.Lawful) (hash : H → Hh) (ops : List (Op H S))
    (hwf : ∀ o ∈ ops, o.wf) :
    (run (mstep c hash) [] ops).1 = (run (sstep hash) Spec.empty ops).1 ∧
      R c (mst c hash ops) (sst hash ops) :=
  refines_run hc hash ops [] Spec.empty (R_empty c) hwf

section model
variable {c : Codec H S} (hc : c.Lawful) (hash : H → Hh)
include hc

theorem R_mst (pre : List (Op H S)) (hpre : ∀ x ∈ pre, x.wf) : R c (mst c hash pre) (sst hash pre) :=
  (C27_refines hc hash pre hpre).2

theorem mstep_out (pre : List (Op H S)) (hpre : ∀ x ∈ pre, x.wf) (o : Op H S) (ho : o.wf) :
    (mstep c hash (mst c hash pre) o).1 = (sstep hash (sst hash pre) o).1 :=
  (refines_step hc hash (R_mst hc hash pre hpre) o ho).1

/-- a returned proof names the checked slot and signer, carries the checked
    header as second header and, as first header, a header with a different hash that an earlier
    check of the same slot and signer recorded (that check itself returned no proof). -/
theorem C27_proof_sound (pre : List (Op H S)) (hpre : ∀ x ∈ pre, x.wf) (o : Op H S) (ho : o.wf)
    {sl : Nat} {off : S} {a b : H}
    (h : (mstep c hash (mst c hash pre) o).1 = .proof sl off a b) :
    sl = o.slot ∧ off = o.signer ∧ b = o.header ∧ hash a ≠ hash b ∧
      ∃ p1 o' p2, pre = p1 ++ o' :: p2 ∧ o'.slot = o.slot ∧ o'.signer = o.signer ∧ o'.header = a ∧
        (mstep c hash (mst c hash p1) o').1 = .none := by
  rw [mstep_out hc hash pre hpre o ho] at h
  obtain ⟨h1, h2, h3, h4, _, h6⟩ := spec_proof_shape hash _ o h
  refine ⟨h1, h2, h3, h4, ?_⟩
  obtain ⟨p1, o', p2, hq, hs, he, _, hn⟩ := (inv_all hash pre).prov _ _ h6
  have hp1 : ∀ x ∈ p1, x.wf := fun x hx => hpre x (by rw [hq]; simp [hx])
  have ho' : o'.wf := hpre o' (by rw [hq]; simp)
  refine ⟨p1, o', p2, hq, hs, ?_, ?_, ?_⟩
  · exact (Prod.mk.inj he).2
  · exact (Prod.mk.inj he).1
  · rw [mstep_out hc hash p1 hp1 o' ho']; exact hn

/-- after any history, a check returns the proof `(slot, signer, a, header)` exactly
    when it is inside the retained window (not older than 1000 slots, not before the start marker)
    and the database holds the header `a`, of different hash, for that signer and slot. -/
theorem C27_exact (pre : List (Op H S)) (hpre : ∀ x ∈ pre, x.wf) (o : Op H S) (ho : o.wf) (a : H) :
    (mstep c hash (mst c hash pre) o).1 = .proof o.slot o.signer a o.header ↔
      (o.slotNow - o.slot ≤ 1000 ∧ (absState c (mst c hash pre)).start.getD o.slot ≤ o.slotNow ∧
        (a, o.signer) ∈ (absState c (mst c hash pre)).slots o.slot ∧ hash a ≠ hash o.header) := by
  have hR := R_mst hc hash pre hpre
  rw [mstep_out hc hash pre hpre o ho, abs_start hR, abs_slots hc hR ho.2,
    spec_exact hash _ (uniqueSigners_sst hash pre) o a]
  simp only [inWindow, and_assoc]

/-- the `←` direction of `C27_exact` -/
theorem C27_complete_in_window (pre : List (Op H S)) (hpre : ∀ x ∈ pre, x.wf) (o : Op H S)
    (ho : o.wf) (a : H) (hcap : o.slotNow - o.slot ≤ 1000)
    (hstart : (absState c (mst c hash pre)).start.getD o.slot ≤ o.slotNow)
    (hm : (a, o.signer) ∈ (absState c (mst c hash pre)).slots o.slot)
    (hh : hash a ≠ hash o.header) :
    (mstep c hash (mst c hash pre) o).1 = .proof o.slot o.signer a o.header :=
  (C27_exact hc hash pre hpre o ho a).mpr ⟨hcap, hstart, hm, hh⟩

/-- a recorded entry of slot `n` stays in the database through every later check
    whose current slot is at most `n + 1000`. -/
theorem C27_retained (pre ops : List (Op H S)) (hpre : ∀ x ∈ pre, x.wf) (hops : ∀ x ∈ ops, x.wf)
    (n : Nat) (hn : n < 2 ^ 64) (e : H × S) (hm : e ∈ (absState c (mst c hash pre)).slots n)
    (hnow : ∀ x ∈ ops, x.slotNow ≤ n + 1000) :
    e ∈ (absState c (mst c hash (pre ++ ops))).slots n := by
  have hall : ∀ x ∈ pre ++ ops, x.wf := by
    intro x hx
    rcases List.mem_append.mp hx with h | h
    · exact hpre x h
    · exact hops x h
  rw [abs_slots hc (R_mst hc hash pre hpre) hn] at hm
  rw [abs_slots hc (R_mst hc hash _ hall) hn, sst_append]
  exact spec_retained hash ops _ n e hm hnow

/-- let `o'` be the first check of its (slot, signer), made for a slot that
    is not in the future and at most 1000 old, at a time not earlier than the checks before it.  Then
    any later check `o` of the same slot and signer with a header of different hash, made while time
    has not moved more than 1000 slots past that slot (and not earlier than the checks before it),
    returns the proof carrying `o'.header` and `o.header`. -/
theorem C27_complete_history (p1 p2 : List (Op H S)) (o' o : Op H S)
    (hwf : ∀ x ∈ p1 ++ o' :: p2, x.wf) (ho : o.wf)
    (hfirst : ∀ x ∈ p1, ¬ (x.slot = o'.slot ∧ x.signer = o'.signer))
    (hfut : o'.slot ≤ o'.slotNow) (hcap : o'.slotNow - o'.slot ≤ 1000)
    (ht1 : ∀ x ∈ p1, x.slotNow ≤ o'.slotNow)
    (ht2 : ∀ x ∈ p1 ++ o' :: p2, x.slotNow ≤ o.slotNow)
    (hslot : o.slot = o'.slot) (hsig : o.signer = o'.signer)
    (hrecent : o.slotNow ≤ o'.slot + 1000)
    (hh : hash o'.header ≠ hash o.header) :
    (mstep c hash (mst c hash (p1 ++ o' :: p2)) o).1 = .proof o.slot o.signer o'.header o.header := by
  rw [mstep_out hc hash _ hwf o ho]
  exact spec_complete_history hash p1 p2 o' o hfirst hfut hcap ht1 ht2 hslot hsig hrecent hh

/-- once a check has returned no proof, repeating the identical check any number
    of times never yields a proof. -/
theorem C27_idempotent (pre : List (Op H S)) (hpre : ∀ x ∈ pre, x.wf) (o : Op H S) (ho : o.wf)
    (h : (mstep c hash (mst c hash pre) o).1 = .none) (k : Nat) :
    (run (mstep c hash) (mstep c hash (mst c hash pre) o).2 (List.replicate k o)).1
      = List.replicate k .none := by
  have hR := R_mst hc hash pre hpre
  obtain ⟨e1, hR'⟩ := refines_step hc hash hR o ho
  rw [e1] at h
  have hrep : ∀ x ∈ List.replicate k o, x.wf := fun x hx => by
    rw [(List.mem_replicate.mp hx).2]; exact ho
  rw [(refines_run hc hash (List.replicate k o) _ _ hR' hrep).1]
  have hfix := spec_idempotent hash _ o h
  generalize (sstep hash (sst hash pre) o).2 = st' at hfix
  clear hrep
  induction k with
  | zero => rfl
  | succ k ih => simp only [List.replicate_succ, run, hfix, ih]

/-- re-checking the header that is recorded for the signer and slot
    (any header of the same hash) never yields a proof. -/
theorem C27_idempotent_recorded (pre : List (Op H S)) (hpre : ∀ x ∈ pre, x.wf) (o : Op H S)
    (ho : o.wf) (a : H) (hm : (a, o.signer) ∈ (absState c (mst c hash pre)).slots o.slot)
    (hh : hash a = hash o.header) :
    (mstep c hash (mst c hash pre) o).1 = .none := by
  have hR := R_mst hc hash pre hpre
  rw [abs_slots hc hR ho.2] at hm
  rw [mstep_out hc hash pre hpre o ho,
    spec_recheck_recorded hash _ (uniqueSigners_sst hash pre) o a hm hh]

/-- the database never holds two entries of one signer in one slot. -/
theorem C27_unique_signer (pre : List (Op H S)) (hpre : ∀ x ∈ pre, x.wf) (n : Nat) (hn : n < 2 ^ 64) :
    ((absState c (mst c hash pre)).slots n).Pairwise (fun a b => a.2 ≠ b.2) := by
  rw [abs_slots hc (R_mst hc hash pre hpre) hn]
  exact uniqueSigners_sst hash pre n

/-- the invariant `∀ stored slot s, start ≤ s` does NOT
    hold for all histories (`C27_start_le_stored_counterexample`); it holds when no check was made for a slot
    below the start marker of its time. -/
theorem C27_start_le_stored_partial (pre : List (Op H S)) (hpre : ∀ x ∈ pre, x.wf)
    (habove : ∀ p1 o p2, pre = p1 ++ o :: p2 →
      ∀ f, (absState c (mst c hash p1)).start = some f → f ≤ o.slot)
    (n : Nat) (hn : n < 2 ^ 64) (f : Nat)
    (hne : (absState c (mst c hash pre)).slots n ≠ [])
    (hst : (absState c (mst c hash pre)).start = some f) : f ≤ n := by
  have hR := R_mst hc hash pre hpre
  rw [abs_slots hc hR hn] at hne
  rw [abs_start hR] at hst
  apply spec_start_le_stored hash pre _ n f hne hst
  intro p1 x p2 hq g hg
  have hp1 : ∀ y ∈ p1, y.wf := fun y hy => hpre y (by rw [hq]; simp [hy])
  apply habove p1 x p2 hq g
  rw [abs_start (R_mst hc hash p1 hp1)]; exact hg

end model
end

theorem byteCodec_go (l : List (UInt8 × UInt8)) :
    bytePairs (l.flatMap (fun e => [e.1, e.2])) = some l := by
  induction l with
  | nil => rfl
  | cons e r ih => simp [bytePairs, ih]

theorem byteCodec_lawful : byteCodec.Lawful :=
  ⟨fun l => by simp [byteCodec, byteCodec_go], fun l => by simp [byteCodec]⟩

/-- `check(10,10,h,s); check(10,5,h,s)` stores slot 5 below
    the start marker 10. -/
theorem C27_start_le_stored_counterexample :
    let hist : List (Op UInt8 UInt8) := [⟨10, 10, 0, 0⟩, ⟨10, 5, 0, 0⟩]
    let db := mst byteCodec (fun x : UInt8 => x) hist
    (∀ x ∈ hist, x.wf) ∧ (absState byteCodec db).start = some 10 ∧
      (absState byteCodec db).slots 5 ≠ [] := by
  intro hist db
  have hwf : ∀ x ∈ hist, x.wf := by
    intro x hx
    simp only [hist, List.mem_cons, List.not_mem_nil, or_false] at hx
    rcases hx with h | h <;> subst h <;> simp [Op.wf]
  have hR := R_mst byteCodec_lawful (fun x : UInt8 => x) hist hwf
  have h : (sst (fun x : UInt8 => x) hist).start = some 10 ∧ (sst (fun x : UInt8 => x) hist).slots 5 = [(0, 0)] :=
    sst_below_start _ 0 0
  refine ⟨hwf, (abs_start hR).trans h.1, ?_⟩
  rw [abs_slots byteCodec_lawful hR (by decide), h.2]
  exact List.cons_ne_nil _ _

/-- "re-checking an identical header never yields a proof"
    cannot be read as "identical to the previous check": after `A`, the conflicting header `B` yields
    a proof every time it is checked (it is never recorded). -/
theorem C27_idempotent_naive_counterexample :
    let A : Op UInt8 UInt8 := ⟨10, 10, 1, 0⟩
    let B : Op UInt8 UInt8 := ⟨10, 10, 2, 0⟩
    (run (mstep byteCodec (fun x : UInt8 => x)) [] [A, B, B]).1
      = [.none, .proof 10 0 1 2, .proof 10 0 1 2] := by
  intro A B
  have hwf : ∀ x ∈ [A, B, B], x.wf := by
    intro x hx
    simp only [List.mem_cons, List.not_mem_nil, or_false] at hx
    rcases hx with h | h | h <;> subst h <;> simp [Op.wf, A, B]
  rw [(C27_refines byteCodec_lawful (fun x : UInt8 => x) [A, B, B] hwf).1]
  simp [A, B, run, sstep, specStep, Spec.empty]

/-- non-vacuity: the hypotheses of `C27_complete_history` are satisfiable -/
example :
    (mstep byteCodec (fun x : UInt8 => x)
      (mst byteCodec (fun x : UInt8 => x) ([] ++ (⟨1000, 7, 1, 2⟩ : Op UInt8 UInt8) :: [⟨1006, 1006, 3, 2⟩]))
      ⟨1007, 7, 4, 2⟩).1 = .proof 7 2 1 4 := by
  apply C27_complete_history byteCodec_lawful (fun x : UInt8 => x) [] [⟨1006, 1006, 3, 2⟩]
    ⟨1000, 7, 1, 2⟩ ⟨1007, 7, 4, 2⟩
  · intro x hx
    simp only [List.nil_append, List.mem_cons, List.not_mem_nil, or_false] at hx
    rcases hx with h | h <;> subst h <;> simp [Op.wf]
  · simp [Op.wf]
  · simp
  · simp
  · simp
  · simp
  · intro x hx
    simp only [List.nil_append, List.mem_cons, List.not_mem_nil, or_false] at hx
    rcases hx with h | h <;> subst h <;> simp
  · rfl
  · rfl
  · simp
  · decide

end Gossamer.C27
