/-
C20 – GRANDPA round state follows the protocol definitions.

Model: `Model/C20.lean` – `Round` (round.go, context.go, bitfield.go) over the UNCOMPRESSED vote graph (one cumulative
       vote mask per block).  The compressed representation of vote_graph.go (`Lib/C20Graph*`) and the 64-bit words
       of bitfield.go (`Lib/C20Bitfield`; tied to bitfield.go by `bf` cases) are proved to refine this layer
       (`C20_graph_*`, `C20_bitfield_*`).
Spec:  `Lib/C20Spec.lean` – the GRANDPA paper definitions as executable functions of the SET of imported signed
       votes; they are what the driver prints as `spec=`.  `C20_spec_*` state their relational meaning (highest
       block with …).

All theorems quantify over every well-formed block tree `t`, every weighted voter list `ws` with positive total
weight, and every import history `ops` (any order, duplicates, double/triple votes, votes of ids outside the
voter set).  `run t ws ops` is the round after importing `ops` one by one (incremental, memoised).

Hypotheses of the `_partial` theorems = the excluded regions.  Two of them are stronger than the proofs need, as said at
each; nothing rests on the stronger forms: the lemmas of `Lib/C20Derived`, `Lib/C20Rel` behind them carry the weaker ones.
* `ValidOps t ops`        – every target is a block of the tree.  (A target outside the chain makes the real
                            import return an error after the tracker was already updated; modelled and tied by
                            the harness; the paper has no such votes.)  Needed for finalized/estimate/completable: an
                            invalid first precommit raises `currentWeight` without `update()`.  The prevote GHOST does not
                            need it (`ghost_run` has no such hypothesis); `C20_ghost_eq_spec_partial` states it
                            all the same.
* `tolerant ws ops false` – at most f = total − threshold prevote weight equivocates: the domain on which the
                            paper defines g(S).  Outside it two siblings can both have a supermajority and the
                            round's answer depends on the import order: `C20_ghost_intolerant_counterexample`.
* `tolerant ws ops true`  – same for precommits; needed for estimate/completable only.  Outside it Go's unsigned
                            `toleratedEquivocations - currentEquivocations` wraps around:
                            `C20_estimate_intolerant_counterexample`.
* `NoGap ws ops`          – precommit weight ≥ threshold or ≤ 2f (always true when total = 3f+1).  In between the
                            real code short-cuts `estimate = prevote GHOST`, `completable = false`, which is NOT the
                            paper definition: known finding `estimate-shortcut-below-threshold`,
                            `C20_estimate_shortcut_counterexample`.
* `2 * total ws < 2^64`   – no uint64 overflow in `possibleToPrecommit` on the states of the model round; the proofs use
                            `total ws < 2^64` only (`possible_run`), which is what `NewVoterSet` guarantees.
* `3 * total ws < 2^64`   – `C20_graph_round_eq_spec_partial` only: `completable` on the compressed graph is compared
                            through a search that merges arbitrary vote masks, where a node may outweigh what was seen
                            and the closure's sum is bounded by 3·total (`possibleFull_ge_of_gt`).
`C20_hypotheses_satisfiable` exhibits a non-trivial history satisfying the first five.
-/
import Gossamer.Lib.C20Rel
import Gossamer.Lib.C20SpecEq
import Gossamer.Lib.C20BitfieldWeight
import Gossamer.Lib.C20GraphSim
import Gossamer.Lib.C20GraphRoundSim
namespace Gossamer.C20

variable {t : Tree} {ws : List Nat}

namespace Ex
def tFork : Tree := ⟨[0, 0, 0]⟩            -- base 0 with two children 1 and 2
def ws4 : List Nat := [1, 1, 1, 1]          -- total 4, f = 1, threshold 3
def ws5 : List Nat := [1, 1, 1, 1, 1]       -- total 5, f = 1, threshold 4 (not 3f+1)
def pv (v b : Nat) : Op := ⟨false, v, ⟨b, 0⟩⟩
def pc (v b : Nat) : Op := ⟨true, v, ⟨b, 0⟩⟩
/-- voters 0 and 1 prevote both 1 and 2 (equivocating weight 2 > f), voter 2 prevotes 1, voter 3 prevotes 2 -/
def opsX : List Op := [pv 0 1, pv 0 2, pv 1 1, pv 1 2, pv 2 1, pv 3 2]
def opsY : List Op := [pv 0 1, pv 0 2, pv 1 1, pv 1 2, pv 3 2, pv 2 1]
/-- 4 of 5 prevote block 1, then 3 of 5 precommit its sibling 2 -/
def opsGap : List Op := [pv 0 1, pv 1 1, pv 2 1, pv 3 1, pc 0 2, pc 1 2, pc 2 2]
/-- 3 of 4 prevote block 1; voters 0, 1 double-precommit 1 and 2; voters 2, 3 precommit the base -/
def opsWrap : List Op := [pv 0 1, pv 1 1, pv 2 1, pc 0 1, pc 0 2, pc 1 1, pc 1 2, pc 2 0, pc 3 0]
def tDeep : Tree := ⟨[0, 0, 1, 1]⟩          -- 0 ← 1 ← {2, 3}
/-- a tolerant history with a tolerated equivocation in each phase, duplicates and a non-voter -/
def opsOk : List Op :=
  [pv 0 2, pv 1 2, pv 9 3, pv 3 2, pv 3 3, pv 0 2, pv 2 3, pc 0 2, pc 1 1, pc 3 2, pc 3 0, pc 2 1, pc 3 1]

theorem tFork_WF : tFork.WF := by
  refine ⟨by decide, ?_⟩
  intro b h1 h2
  have : b = 1 ∨ b = 2 := by simp [tFork, Tree.size] at h2; omega
  rcases this with rfl | rfl <;> decide

theorem tDeep_WF : tDeep.WF := by
  refine ⟨by decide, ?_⟩
  intro b h1 h2
  have : b = 1 ∨ b = 2 ∨ b = 3 := by simp [tDeep, Tree.size] at h2; omega
  rcases this with rfl | rfl | rfl <;> decide
end Ex

/-- The weight the round computes for block `B` in a phase (`context.Weight` of the cumulative vote node with the
equivocation bits merged in) is the paper's weight – voters with a vote for a block ≥ B plus ALL equivocators –
for every block, also blocks nobody voted for; `currentWeight` is the weight of the voters that voted and
`EquivocationWeight` the weight of the voters with two different signed votes.  Every import history. -/
theorem C20_weight_eq_spec (t : Tree) (ws : List Nat) (ops : List Op) (ph : Bool) (B : Nat) :
    nodeWeight ws (run t ws ops).eqv ((run t ws ops).cum B) ph = weightFor t ws ops ph B ∧
    (run t ws ops).cur ph = voteWeight ws ops ph ∧
    maskWeight ws (run t ws ops).eqv (phN ph) = equivWeight ws ops ph :=
  ⟨nodeWeight_run t ws ops ph B, cur_run t ws ops ph, eqvWeight_run t ws ops ph⟩

/-- An equivocator's weight counts towards every block: the weight of any block `B` (in the tree or not, voted
for or not) is at least the weight of all equivocators of the phase, and a voter of the set that equivocated has
its bit in the mask that is weighed for `B`. -/
theorem C20_equivocator_counts_everywhere (t : Tree) (ws : List Nat) (ops : List Op) (ph : Bool) (B : Nat) :
    equivWeight ws ops ph ≤ nodeWeight ws (run t ws ops).eqv ((run t ws ops).cum B) ph ∧
    ∀ v, v < ws.length → isEquiv ops ph v = true →
      ((run t ws ops).cum B ||| (run t ws ops).eqv).testBit (bitPos v (phN ph)) = true := by
  refine ⟨?_, ?_⟩
  · rw [nodeWeight_run]; exact equivWeight_le_weightFor t ws ops ph B
  · intro v hv he
    rw [Nat.testBit_or, (bookInv_run t ws ops).eqv]
    simp [hv, he]

/-- The import order does not matter for the bookkeeping: after importing any
permutation of the same votes the current weights, the equivocation bitfield and the weight of every block in
both phases are the same.  (The trackers and the per-block bits themselves DO depend on the order – they remember
a voter's first vote – which is why the statement is about weights.) -/
theorem C20_import_order_independent (t : Tree) (ws : List Nat) {ops ops' : List Op} (hp : ops.Perm ops') :
    (∀ ph, (run t ws ops).cur ph = (run t ws ops').cur ph) ∧
    (run t ws ops).eqv = (run t ws ops').eqv ∧
    (∀ ph B, nodeWeight ws (run t ws ops).eqv ((run t ws ops).cum B) ph
           = nodeWeight ws (run t ws ops').eqv ((run t ws ops').cum B) ph) := by
  refine ⟨?_, ?_, ?_⟩
  · intro ph
    rw [cur_run, cur_run]
    exact voteWeight_perm ws hp ph
  · apply Nat.eq_of_testBit_eq
    intro i
    obtain ⟨v, ph, rfl⟩ := pos_as_bitPos i
    rw [(bookInv_run t ws ops).eqv, (bookInv_run t ws ops').eqv,
      Bool.eq_iff_iff.2 ⟨(SubVotes.of_perm hp ph).isEquiv, (SubVotes.of_perm hp.symm ph).isEquiv⟩]
  · intro ph B
    rw [nodeWeight_run, nodeWeight_run]
    exact weightFor_perm t ws hp ph B

/-- `specGhost` is g(S): it has a supermajority, every block with a supermajority is an ancestor-or-equal of it,
and it has the highest block number among them; `none` iff no block has a supermajority. -/
theorem C20_spec_ghost_meaning (h : t.WF) (h0 : 0 < total ws) (ops : List Op) (ph : Bool)
    (htol : tolerant ws ops ph = true) :
    IsGhost t ws ops ph (specGhost t ws ops ph) ∧
    ∀ g, specGhost t ws ops ph = some g → ∀ B, superm t ws ops ph B = true → depth t B ≤ depth t g := by
  have hg := specGhost_isGhost h h0 ops ph htol
  refine ⟨hg, ?_⟩
  intro g hgs B hB
  rw [hgs] at hg
  exact IsGhost.highest_number h hg B hB

/-- `specFinalized` is the highest block with a supermajority of both prevotes and precommits;
`specEstimate` is the deepest block on the chain of g(prevotes) for which a precommit supermajority is possible;
`specCompletable` says: E is defined and (E ≠ g, or no child of g – in the tree or not yet seen – is possible). -/
theorem C20_spec_meaning (h : t.WF) (h0 : 0 < total ws) (ops : List Op)
    (htol : tolerant ws ops false = true) :
    IsFinalized t ws ops (specFinalized t ws ops) ∧
    IsEstimate t ws ops (specGhost t ws ops false) (specEstimate t ws ops) ∧
    (specCompletable t ws ops = true ↔
      SpecCompletable t ws ops (specGhost t ws ops false) (specEstimate t ws ops)) :=
  ⟨specFinalized_isFinalized h h0 ops htol, specEstimate_isEstimate h h0 ops htol, specCompletable_iff t ws ops⟩

/-- The memoised prevote GHOST (computed incrementally, restarting from the previous ghost) is g(prevotes).
Full statement (no tolerance hypothesis) is false: `C20_ghost_intolerant_counterexample`. -/
theorem C20_ghost_eq_spec_partial (h : t.WF) (h0 : 0 < total ws) (ops : List Op)
    (hv : ValidOps t ops) (htol : tolerant ws ops false = true) :
    (run t ws ops).ghost = specGhost t ws ops false :=
  IsGhost.unique h (ghost_run h h0 ops htol) (specGhost_isGhost h h0 ops false htol)

/-- `Round.PrecommitGHOST()` on the state after `ops` – whatever an earlier call memoised (a block that had a
precommit supermajority, or nothing) – returns g(precommits). -/
theorem C20_precommit_ghost_eq_spec_partial (h : t.WF) (h0 : 0 < total ws) (ops : List Op)
    (htol : tolerant ws ops true = true) (memo : Option Nat)
    (hmemo : ∀ m, memo = some m → superm t ws ops true m = true) :
    (precommitGhost t ws { run t ws ops with pcGhost := memo }).pcGhost = specGhost t ws ops true :=
  IsGhost.unique h (rel_precommit_ghost_eq_spec_partial h h0 ops htol memo hmemo)
    (specGhost_isGhost h h0 ops true htol)

/-- `Round.finalized` is the paper's finalized block – for ANY precommit set (tolerant or not). -/
theorem C20_finalized_eq_spec_partial (h : t.WF) (h0 : 0 < total ws) (ops : List Op)
    (hv : ValidOps t ops) (htol : tolerant ws ops false = true) :
    (run t ws ops).fin = specFinalized t ws ops :=
  IsFinalized.unique h (rel_finalized_eq_spec_partial h h0 ops hv htol) (specFinalized_isFinalized h h0 ops htol)

/-- `Round.estimate` is E of the paper.
Full statement is false without `NoGap` (`C20_estimate_shortcut_counterexample`) and without precommit tolerance
(`C20_estimate_intolerant_counterexample`). -/
theorem C20_estimate_eq_spec_partial (h : t.WF) (h0 : 0 < total ws) (ops : List Op)
    (hv : ValidOps t ops) (htol : tolerant ws ops false = true) (htolc : tolerant ws ops true = true)
    (hgap : NoGap ws ops) (hov : 2 * total ws < MOD) :
    (run t ws ops).est = specEstimate t ws ops := by
  have h1 := rel_estimate_eq_spec_partial h h0 ops hv htol htolc hgap (Nat.lt_of_le_of_lt (Nat.le_mul_of_pos_left _ (by decide)) hov)
  rw [C20_ghost_eq_spec_partial h h0 ops hv htol] at h1
  exact IsEstimate.unique h h1 (specEstimate_isEstimate h h0 ops htol)

/-- `Round.completable` is the paper's completability (same excluded regions as the estimate). -/
theorem C20_completable_eq_spec_partial (h : t.WF) (h0 : 0 < total ws) (ops : List Op)
    (hv : ValidOps t ops) (htol : tolerant ws ops false = true) (htolc : tolerant ws ops true = true)
    (hgap : NoGap ws ops) (hov : 2 * total ws < MOD) :
    (run t ws ops).compl = specCompletable t ws ops := by
  have h1 := rel_completable_eq_spec_partial h h0 ops hv htol htolc hgap (Nat.lt_of_le_of_lt (Nat.le_mul_of_pos_left _ (by decide)) hov)
  rw [C20_ghost_eq_spec_partial h h0 ops hv htol,
      C20_estimate_eq_spec_partial h h0 ops hv htol htolc hgap hov] at h1
  exact Bool.eq_iff_iff.2 (h1.trans (specCompletable_iff t ws ops).symm)

/-- the paper definitions do not see the import order (no side condition) -/
theorem C20_spec_order_independent (t : Tree) (ws : List Nat) {ops ops' : List Op} (hp : ops.Perm ops') :
    (∀ ph, specGhost t ws ops ph = specGhost t ws ops' ph) ∧
    specFinalized t ws ops = specFinalized t ws ops' ∧
    specEstimate t ws ops = specEstimate t ws ops' ∧
    specCompletable t ws ops = specCompletable t ws ops' := by
  have hg : ∀ ph, specGhost t ws ops ph = specGhost t ws ops' ph := by
    intro ph; unfold specGhost; rw [superm_perm t ws hp]
  have he : specEstimate t ws ops = specEstimate t ws ops' := by
    unfold specEstimate; rw [hg false, possible_perm t ws hp]
  refine ⟨hg, ?_, he, ?_⟩
  · unfold specFinalized; rw [superm_perm t ws hp false, superm_perm t ws hp true]
  · unfold specCompletable unseenImpossible
    rw [hg false, he, possible_perm t ws hp, voteWeight_perm ws hp]

/-- State after importing a list = state after importing any permutation of it (prevote GHOST, finalized,
estimate, completable) – on the region where the round follows the definitions. -/
theorem C20_state_order_independent_partial (h : t.WF) (h0 : 0 < total ws) {ops ops' : List Op}
    (hp : ops.Perm ops') (hv : ValidOps t ops) (htol : tolerant ws ops false = true)
    (htolc : tolerant ws ops true = true) (hgap : NoGap ws ops) (hov : 2 * total ws < MOD) :
    (run t ws ops).ghost = (run t ws ops').ghost ∧ (run t ws ops).fin = (run t ws ops').fin ∧
    (run t ws ops).est = (run t ws ops').est ∧ (run t ws ops).compl = (run t ws ops').compl := by
  have hv' : ValidOps t ops' := fun o ho => hv o (hp.mem_iff.2 ho)
  have htol' : tolerant ws ops' false = true := tolerant_perm ws hp false ▸ htol
  have htolc' : tolerant ws ops' true = true := tolerant_perm ws hp true ▸ htolc
  have hgap' : NoGap ws ops' := by
    unfold NoGap at *; rw [← voteWeight_perm ws hp]; exact hgap
  obtain ⟨_, s2, s3, s4⟩ := C20_spec_order_independent t ws hp
  refine ⟨?_, ?_, ?_, ?_⟩
  · exact rel_ghost_order_independent_partial h h0 hp hv htol
  · rw [C20_finalized_eq_spec_partial h h0 ops hv htol, C20_finalized_eq_spec_partial h h0 ops' hv' htol', s2]
  · rw [C20_estimate_eq_spec_partial h h0 ops hv htol htolc hgap hov,
        C20_estimate_eq_spec_partial h h0 ops' hv' htol' htolc' hgap' hov, s3]
  · rw [C20_completable_eq_spec_partial h h0 ops hv htol htolc hgap hov,
        C20_completable_eq_spec_partial h h0 ops' hv' htol' htolc' hgap' hov, s4]

/-- `testBit(word, pos)` reads machine bit `63 - pos`; `SetBit(p)` sets exactly position `p` (growing the
slice when needed); `Merge` is the union (growing when needed); a blank bitfield has no bit set. -/
theorem C20_bitfield_ops (b other : BF.Words) (p q word pos : Nat) :
    BF.testBitGo word pos = word.testBit (63 - pos) ∧
    BF.get (BF.setBit b p) q = (BF.get b q || decide (p = q)) ∧
    BF.get (BF.merge b other) q = (BF.get b q || BF.get other q) ∧
    (BF.isBlank b = true → BF.get b q = false) :=
  ⟨BF.testBitGo_eq word pos, BF.get_setBit b p q, BF.get_merge b other q, fun h => BF.isBlank_get h q⟩

/-- `weight(bits.Iter1sEven/Odd(), voters)` and `weight(bits.Iter1sMergedEven/Odd(other), voters)` are the sums
of the weights of the voters whose bit of that phase is set (in either bitfield); hence `roundContext.Weight`
(with its IsBlank fast path) on bitfields that represent the model's masks is the model's `nodeWeight`. -/
theorem C20_bitfield_weight (ws : List Nat) (a b : BF.Words) (ph : Bool) :
    BF.weight ws (BF.iter1s a (phN ph) 1) = wsum ws (fun v => BF.get a (bitPos v (phN ph))) ∧
    BF.weight ws (BF.iter1sMerged a b (phN ph) 1)
      = wsum ws (fun v => BF.get a (bitPos v (phN ph)) || BF.get b (bitPos v (phN ph))) ∧
    (∀ e n, BF.Rep b e → BF.Rep a n → BF.contextWeight ws b a (phN ph) = nodeWeight ws e n ph) := by
  have hph : phN ph < 2 := by unfold phN; split <;> omega
  exact ⟨BF.weight_iter1s ws a _ hph, BF.weight_iter1sMerged ws a b _ hph,
    fun e n he hn => BF.contextWeight_eq ws he hn ph⟩

/-- the representation relation is preserved by the operations the round performs on bitfields -/
theorem C20_bitfield_refines (a b : BF.Words) (m n p : Nat) (ha : BF.Rep a m) (hb : BF.Rep b n) :
    BF.Rep [] 0 ∧ BF.Rep (BF.setBit a p) (setBit m p) ∧ BF.Rep (BF.merge a b) (m ||| n) :=
  ⟨BF.rep_empty, BF.rep_setBit ha p, BF.rep_merge ha hb⟩

/-! ## layer (b): the compressed vote graph of vote_graph.go refines the uncompressed one

`RoundC` is the round running on the model of `Lib/C20Graph*.lean` (the driver compares its entry dump with the real graph
after every import).  `insOf t ws ops` are the votes that reach the graph while importing `ops` (first vote per voter
and phase, target in the tree). -/

/-- **Representation invariant** of the entry map, for every import history and, more generally, for every
history of inserts: entries exist exactly for the base and the vote targets; the stored number is the block
number; the ancestor array is the chain from the parent up to the nearest vote-node above; the cumulative vote is
the uncompressed cumulative vote of the block; the descendants are (each once) the vote-nodes whose nearest
vote-node above is this one; the heads are the vote-nodes without descendants. -/
theorem C20_graph_inv (h : t.WF) (key : Nat → Nat) (ws : List Nat) (ops : List Op) :
    GInv t (insOf t ws ops) (runC key t ws ops).graph ∧
    ∀ (ins : Ins), (∀ p, p ∈ ins → p.1 < t.size) → GInv t ins (graphOf key t ins) :=
  ⟨runC_inv h key ws ops, graphOf_inv h key⟩

/-- **Weights**: the two rounds keep the same trackers, current weights and equivocation bits; the cumulative vote
stored in a vote-node, and the vote `FindAncestor` accumulates for a block inside ancestor edges (the votes of
the vote-nodes that `findContainingNodes` returns), are the uncompressed cumulative vote of that block – hence
their weight is the paper's weight of the block (`C20_weight_eq_spec`). -/
theorem C20_graph_weight_refines (h : t.WF) (key : Nat → Nat) (ws : List Nat) (ops : List Op) (ph : Bool) :
    (runC key t ws ops).trk = (run t ws ops).trk ∧ (runC key t ws ops).cur = (run t ws ops).cur ∧
    (runC key t ws ops).eqv = (run t ws ops).eqv ∧
    (∀ B e, (runC key t ws ops).graph.entries B = some e →
      e.cum = (run t ws ops).cum B ∧
      nodeWeight ws (runC key t ws ops).eqv e.cum ph = weightFor t ws ops ph B) ∧
    (∀ B R, (runC key t ws ops).graph.entries B = none →
      (runC key t ws ops).graph.findContaining key (t.size + 1) B (t.num B) = some R →
      (runC key t ws ops).graph.orCums R = (run t ws ops).cum B ∧
      nodeWeight ws (runC key t ws ops).eqv ((runC key t ws ops).graph.orCums R) ph = weightFor t ws ops ph B) := by
  have hs := bookSim_run key t ws ops
  have inv := runC_inv h key ws ops
  refine ⟨hs.trk, hs.cur, hs.eqv, ?_, ?_⟩
  · intro B e he
    have hc : e.cum = (run t ws ops).cum B := by rw [inv.cum B e he, hs.cum]
    exact ⟨hc, by rw [hc, hs.eqv]; exact nodeWeight_run t ws ops ph B⟩
  · intro B R hnone hR
    have hN : isNode (insOf t ws ops) B = false := by
      have := inv.nodes B; rw [hnone] at this; exact this.symm
    obtain ⟨R', hR', _, hmem⟩ := (findContaining_spec h inv key B).2 hN
    rw [hR] at hR'
    have : R = R' := Option.some.inj hR'
    subst this
    have hc : (runC key t ws ops).graph.orCums R = (run t ws ops).cum B := by
      rw [hs.cum]; exact orCums_containing h inv hN R hmem
    exact ⟨hc, by rw [hc, hs.eqv]; exact nodeWeight_run t ws ops ph B⟩

/-- **`FindAncestor`** on the compressed graph of the round returns what `findAncestor` returns on the
uncompressed cumulative votes of the model, with the right block number – for every condition. -/
theorem C20_graph_ancestor_refines (h : t.WF) (key : Nat → Nat) (ws : List Nat) (ops : List Op)
    (cond : Mask → Bool) (B : Nat) (hB : B < t.size) :
    (runC key t ws ops).graph.findAncestor key (t.size + 1) cond (t.size + 1) B (t.num B) =
      (findAncestor t (run t ws ops).cum B cond).map (fun X => (X, t.num X)) := by
  have hs := bookSim_run key t ws ops
  rw [hs.cum]
  exact findAncestor_refines h (runC_inv h key ws ops) key cond B hB

/-- **`FindGHOST`** on the compressed graph of the round returns what `findGhost` returns on the uncompressed
cumulative votes, with the right block number – through the breadth-first descent, `ghostFindMergePoint` and the
`forceConstrain` path – for every condition that is monotone in the votes and met by at most one child of any
block, and a current best block that (if it is in the graph) meets the condition.  Without the uniqueness
hypothesis the two searches may follow different children (tie-break by insertion order vs. block index);
`findGhostC_top` states what the compressed search returns without it.
The supermajority conditions of both phases satisfy the hypotheses on tolerant vote sets. -/
theorem C20_graph_ghost_refines (h : t.WF) (key : Nat → Nat) (ws : List Nat) (ops : List Op)
    (cond : Mask → Bool) (hm : MonoCond cond) (hu : UniqChild t (run t ws ops).cum cond) (cur : Option Nat)
    (hcur : ∀ b, cur = some b → b < t.size ∧
      (inGraph (run t ws ops).cum b = true → cond ((run t ws ops).cum b) = true)) :
    (runC key t ws ops).graph.findGhost key (t.size + 1) (pr t cur) cond =
      pr t (findGhost t (run t ws ops).cum cur cond) := by
  have hs := bookSim_run key t ws ops
  rw [hs.cum] at hu hcur ⊢
  exact findGhost_refines h (runC_inv h key ws ops) key hm hu cur hcur

/-- the hypotheses of `C20_graph_ghost_refines` hold for the supermajority condition of a tolerant phase -/
theorem C20_graph_ghost_hyps (h : t.WF) (h0 : 0 < total ws) (ops : List Op) (ph : Bool)
    (htol : tolerant ws ops ph = true) :
    MonoCond (supermCond ws (run t ws ops).eqv ph) ∧
    UniqChild t (run t ws ops).cum (supermCond ws (run t ws ops).eqv ph) :=
  ⟨supermCond_mono ws _ ph, superm_uniqChild h h0 ops ph htol⟩

/-- **The round on the real data structure**: after every valid, prevote-tolerant import history the round
running on the compressed graph (`runC`, the structure whose dump the driver compares with the Go graph) holds the
same prevote GHOST, finalized block and estimate as the model round, each with its block number – hence
`C20_ghost_eq_spec_partial`, `C20_finalized_eq_spec_partial`, `C20_estimate_eq_spec_partial` apply to it. -/
theorem C20_graph_round_refines (h : t.WF) (h0 : 0 < total ws) (key : Nat → Nat) (ops : List Op)
    (hv : ValidOps t ops) (htol : tolerant ws ops false = true) :
    (runC key t ws ops).ghost = pr t (run t ws ops).ghost ∧
    (runC key t ws ops).fin = pr t (run t ws ops).fin ∧
    (runC key t ws ops).est = pr t (run t ws ops).est ∧
    (runC key t ws ops).ghost = pr t (specGhost t ws ops false) ∧
    (runC key t ws ops).fin = pr t (specFinalized t ws ops) := by
  have s := stateSim_run h h0 key ops hv htol
  refine ⟨s.ghost, s.fin, s.est, ?_, ?_⟩
  · rw [s.ghost, C20_ghost_eq_spec_partial h h0 ops hv htol]
  · rw [s.fin, C20_finalized_eq_spec_partial h h0 ops hv htol]

/-- On the region where the model round follows the paper (both phases tolerant, no gap) the round on the
compressed graph reports the paper's estimate and completability as well: all four observables of `State()`
computed on the real data structure equal the paper definitions. -/
theorem C20_graph_round_eq_spec_partial (h : t.WF) (h0 : 0 < total ws) (key : Nat → Nat) (ops : List Op)
    (hv : ValidOps t ops) (htol : tolerant ws ops false = true) (htolc : tolerant ws ops true = true)
    (hgap : NoGap ws ops) (hov : 3 * total ws < MOD) :
    (runC key t ws ops).ghost = pr t (specGhost t ws ops false) ∧
    (runC key t ws ops).fin = pr t (specFinalized t ws ops) ∧
    (runC key t ws ops).est = pr t (specEstimate t ws ops) ∧
    (runC key t ws ops).compl = specCompletable t ws ops := by
  obtain ⟨_, _, s3, s4, s5⟩ := C20_graph_round_refines h h0 key ops hv htol
  have hov2 : 2 * total ws < MOD := by omega
  refine ⟨s4, s5, ?_, ?_⟩
  · rw [s3, C20_estimate_eq_spec_partial h h0 ops hv htol htolc hgap hov2]
  · rw [complSim_run h h0 key hov ops hv htol htolc,
        C20_completable_eq_spec_partial h h0 ops hv htol htolc hgap hov2]

open Ex in
/-- Outside the prevote-tolerant region the prevote GHOST depends on the import order: the same votes, two
orders, two different ghosts (both blocks have a supermajority: g(S) is not unique). -/
theorem C20_ghost_intolerant_counterexample :
    tFork.WF ∧ 0 < total ws4 ∧ ValidOps tFork opsX ∧ opsX.Perm opsY ∧ tolerant ws4 opsX false = false ∧
    (run tFork ws4 opsX).ghost = some 1 ∧ (run tFork ws4 opsY).ghost = some 2 ∧
    superm tFork ws4 opsX false 1 = true ∧ superm tFork ws4 opsX false 2 = true :=
  ⟨tFork_WF, by decide, by unfold ValidOps; decide, by decide, by decide⟩

open Ex in
/-- Known finding `estimate-shortcut-below-threshold`: every hypothesis of `C20_estimate_eq_spec_partial` holds
except `NoGap` (5 unit voters, 4 prevote block 1, 3 precommit its sibling): the round reports estimate = block 1
and not completable, although block 1 can no longer get a precommit supermajority; the paper's E is the base and
the round is completable. -/
theorem C20_estimate_shortcut_counterexample :
    tFork.WF ∧ ValidOps tFork opsGap ∧ tolerant ws5 opsGap false = true ∧ tolerant ws5 opsGap true = true ∧
    ¬ NoGap ws5 opsGap ∧
    (run tFork ws5 opsGap).est = some 1 ∧ specEstimate tFork ws5 opsGap = some 0 ∧
    (run tFork ws5 opsGap).compl = false ∧ specCompletable tFork ws5 opsGap = true := by
  exact ⟨tFork_WF, by unfold ValidOps; decide, by decide, by decide, by unfold NoGap; decide, by decide⟩

open Ex in
/-- Outside the precommit-tolerant region (equivocating precommit weight 2 > f = 1) the unsigned subtraction
wraps, every block counts as possible and the estimate stays at the prevote GHOST although two non-equivocating
voters precommitted the base. -/
theorem C20_estimate_intolerant_counterexample :
    tFork.WF ∧ ValidOps tFork opsWrap ∧ tolerant ws4 opsWrap false = true ∧ tolerant ws4 opsWrap true = false ∧
    NoGap ws4 opsWrap ∧
    (run tFork ws4 opsWrap).est = some 1 ∧ specEstimate tFork ws4 opsWrap = some 0 := by
  exact ⟨tFork_WF, by unfold ValidOps; decide, by decide, by decide, by unfold NoGap; decide, by decide⟩

open Ex in
/-- The hypotheses are satisfiable by a non-trivial history (a tolerated equivocation in each phase, a duplicate,
a third vote of an equivocator, a vote of a non-voter, thresholds reached in both phases); on it the round
reports ghost 2, finalized 1, estimate 1, completable. -/
theorem C20_hypotheses_satisfiable :
    tDeep.WF ∧ 0 < total ws4 ∧ ValidOps tDeep opsOk ∧ tolerant ws4 opsOk false = true ∧
    tolerant ws4 opsOk true = true ∧ NoGap ws4 opsOk ∧ 2 * total ws4 < MOD ∧
    equivWeight ws4 opsOk false = 1 ∧ equivWeight ws4 opsOk true = 1 ∧
    (run tDeep ws4 opsOk).ghost = some 2 ∧ (run tDeep ws4 opsOk).fin = some 1 ∧
    (run tDeep ws4 opsOk).est = some 1 ∧ (run tDeep ws4 opsOk).compl = true :=
  ⟨tDeep_WF, by decide, by unfold ValidOps; decide, by decide, by decide, by unfold NoGap; decide, by decide⟩

end Gossamer.C20
