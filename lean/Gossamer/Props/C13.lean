/-
C13  128-bit integers have consistent numeric views.
Every view is related to the value `U128.toNat`: the constructors pad to 16 bytes (`padBE_if`,
`padLE_if`) and split them into two 64-bit halves (`be_halves`, `le_halves`); the byte views write
the two halves out again (`natOfLE_halves`).
-/
import Gossamer.Model.C13
namespace Gossamer.C13
open Gossamer

theorem natOfLE_trimLE (b : Bytes) : natOfLE (trimLE b) = natOfLE b := by
  unfold trimLE
  rw [← natOfBE_reverse, List.reverse_reverse, natOfBE_dropWhile_zero, natOfBE_reverse]

theorem natOfBE_trimBE (b : Bytes) : natOfBE (trimBE b) = natOfBE b := natOfBE_dropWhile_zero b

theorem le64_toNat (b : Bytes) : (le64 b).toNat = natOfLE (b.take 8) :=
  UInt64.toNat_ofNat_of_lt' (Nat.lt_of_lt_of_le (natOfLE_lt _) (pow256_mono (List.length_take_le 8 b)))

theorem be64_toNat (b : Bytes) : (be64 b).toNat = natOfBE (b.take 8) :=
  UInt64.toNat_ofNat_of_lt' (Nat.lt_of_lt_of_le (natOfBE_lt _) (pow256_mono (List.length_take_le 8 b)))

theorem be_halves (b : Bytes) (h : b.length = 16) :
    (be64 b).toNat * 2 ^ 64 + (be64 (b.drop 8)).toNat = natOfBE b := by
  have h3 : (b.drop 8).length = 8 := by rw [List.length_drop, h]
  rw [be64_toNat, be64_toNat, List.take_of_length_le (Nat.le_of_eq h3)]
  conv => rhs; rw [← List.take_append_drop 8 b, natOfBE_append, h3, pow256_8_eq]

theorem le_halves (b : Bytes) (h : b.length = 16) :
    (le64 (b.drop 8)).toNat * 2 ^ 64 + (le64 b).toNat = natOfLE b := by
  have h1 : (b.take 8).length = 8 := by rw [List.length_take, h]; rfl
  have h3 : (b.drop 8).length = 8 := by rw [List.length_drop, h]
  rw [le64_toNat, le64_toNat, List.take_of_length_le (Nat.le_of_eq h3)]
  conv => rhs; rw [← List.take_append_drop 8 b, natOfLE_append, h1, pow256_8_eq]
  rw [Nat.add_comm, Nat.mul_comm]

theorem natOfLE_padLE (b : Bytes) : natOfLE (padLE b) = natOfLE b := by
  unfold padLE
  rw [← natOfBE_reverse, List.reverse_append, List.reverse_replicate, natOfBE_replicate_zero,
    natOfBE_reverse]

theorem padBE_if (b : Bytes) (h : b.length ≤ 16) :
    (if b.length < 16 then padBE b else b).length = 16 ∧
    natOfBE (if b.length < 16 then padBE b else b) = natOfBE b := by
  split
  · exact ⟨by rw [padBE, List.length_append, List.length_replicate, Nat.sub_add_cancel h],
      natOfBE_replicate_zero _ b⟩
  · exact ⟨Nat.le_antisymm h (Nat.not_lt.1 ‹_›), rfl⟩

theorem padLE_if (b : Bytes) (h : b.length ≤ 16) :
    (if b.length < 16 then padLE b else b).length = 16 ∧
    natOfLE (if b.length < 16 then padLE b else b) = natOfLE b := by
  split
  · exact ⟨by rw [padLE, List.length_append, List.length_replicate, Nat.add_sub_cancel' h],
      natOfLE_padLE b⟩
  · exact ⟨Nat.le_antisymm h (Nat.not_lt.1 ‹_›), rfl⟩

theorem natOfLE_halves (u : U128) :
    natOfLE (leBytes 8 u.lower.toNat ++ leBytes 8 u.upper.toNat) = u.toNat := by
  rw [natOfLE_append, natOfLE_leBytes, natOfLE_leBytes, length_leBytes, pow256_8_eq,
    Nat.mod_eq_of_lt u.lower.toNat_lt, Nat.mod_eq_of_lt u.upper.toNat_lt, Nat.add_comm, Nat.mul_comm]
  rfl

/-- little-endian bytes denote the value -/
theorem C13_bytesLE (u : U128) : natOfLE (bytesLE u) = u.toNat := by
  rw [bytesLE, natOfLE_trimLE, natOfLE_halves]

/-- big-endian bytes denote the value -/
theorem C13_bytesBE (u : U128) : natOfBE (bytesBE u) = u.toNat := by
  rw [bytesBE, natOfBE_trimBE, beBytes, beBytes, ← List.reverse_append, natOfBE_reverse, natOfLE_halves]

/-- the decimal string (and JSON form) is the decimal numeral of the value -/
theorem C13_string (u : U128) : toDec u = decChars u.toNat := by
  unfold toDec; rw [C13_bytesBE]

/-- big-integer conversion: every n < 2^128 converts to the value n -/
theorem C13_ofBig (n : Nat) (h : n < 2 ^ 128) : (ofBig n).toNat = n := by
  have hl : (bigBytes n).length ≤ 16 := by
    rw [bigBytes, List.length_reverse]
    exact (length_leMin_le n 16).2 h
  obtain ⟨h16, hv⟩ := padBE_if _ hl
  unfold ofBig U128.toNat
  rw [be_halves _ h16, hv, bigBytes, natOfBE_reverse, natOfLE_leMin]

/-- constructor from little-endian bytes (at most 16) denotes the little-endian number -/
theorem C13_ofBytesLE (b : Bytes) (h : b.length ≤ 16) : (ofBytesLE b).toNat = natOfLE b := by
  obtain ⟨h16, hv⟩ := padLE_if b h
  unfold ofBytesLE U128.toNat
  rw [le_halves _ h16, hv]

/-- constructor from big-endian bytes (at most 16) denotes the big-endian number -/
theorem C13_ofBytesBE (b : Bytes) (h : b.length ≤ 16) : (ofBytesBE b).toNat = natOfBE b := by
  obtain ⟨h16, hv⟩ := padBE_if b h
  unfold ofBytesBE U128.toNat
  rw [be_halves _ h16, hv]

theorem U128.toNat_lt (u : U128) : u.toNat < 2 ^ 128 := by
  unfold U128.toNat
  have h1 := u.lower.toNat_lt
  have h2 := u.upper.toNat_lt
  omega

theorem U128.toNat_lt_of_upper {u v : U128} (h : u.upper < v.upper) : u.toNat < v.toNat :=
  calc u.toNat < u.upper.toNat * 2 ^ 64 + 2 ^ 64 := Nat.add_lt_add_left u.lower.toNat_lt _
    _ = (u.upper.toNat + 1) * 2 ^ 64 := (Nat.succ_mul ..).symm
    _ ≤ v.upper.toNat * 2 ^ 64 := Nat.mul_le_mul_right _ (UInt64.lt_iff_toNat_lt.1 h)
    _ ≤ v.toNat := Nat.le_add_right ..

theorem U128.toNat_inj (u v : U128) (h : u.toNat = v.toNat) : u = v := by
  have hu : u.upper = v.upper :=
    UInt64.le_antisymm (UInt64.not_lt.1 fun a => Nat.ne_of_lt (U128.toNat_lt_of_upper a) h.symm)
      (UInt64.not_lt.1 fun a => Nat.ne_of_lt (U128.toNat_lt_of_upper a) h)
  have hl : u.lower = v.lower := by
    unfold U128.toNat at h
    rw [hu] at h
    exact UInt64.toNat_inj.1 (Nat.add_left_cancel h)
  cases u; cases v; cases hu; cases hl; rfl

/-- JSON-decoding the JSON form gives back the original value -/
theorem C13_json_roundtrip (u : U128) : unmarshal? (toDec u) = some u := by
  unfold unmarshal?
  rw [C13_string, parseDec_decChars]
  simp only [Option.map_some, Option.some.injEq]
  exact U128.toNat_inj _ _ (C13_ofBig _ u.toNat_lt)

/-- all views at once (the statement of C13) -/
theorem C13_views (u : U128) :
    natOfLE (bytesLE u) = u.toNat ∧ natOfBE (bytesBE u) = u.toNat ∧
    toDec u = decChars u.toNat ∧ (ofBig u.toNat) = u ∧ unmarshal? (toDec u) = some u :=
  ⟨C13_bytesLE u, C13_bytesBE u, C13_string u,
   U128.toNat_inj _ _ (C13_ofBig _ u.toNat_lt), C13_json_roundtrip u⟩

/-- `Compare` is the order of the denoted numbers -/
theorem C13_compare (u v : U128) :
    compare u v = (if u.toNat > v.toNat then 1 else if u.toNat < v.toNat then -1 else 0) := by
  unfold compare
  by_cases a : u.upper > v.upper
  · rw [if_pos a, if_pos (U128.toNat_lt_of_upper a)]
  by_cases b : u.upper < v.upper
  · have := U128.toNat_lt_of_upper b
    rw [if_neg a, if_pos b, if_neg (Nat.lt_asymm this), if_pos this]
  have e : u.upper = v.upper := UInt64.le_antisymm (UInt64.not_lt.1 a) (UInt64.not_lt.1 b)
  rw [if_neg a, if_neg b]
  simp only [U128.toNat, e, gt_iff_lt, Nat.add_lt_add_iff_left, UInt64.lt_iff_toNat_lt]

theorem length_trimLE_le (b : Bytes) : (trimLE b).length ≤ b.length := by
  unfold trimLE
  rw [List.length_reverse, ← List.length_reverse (as := b)]
  exact (List.dropWhile_suffix _).length_le

theorem length_bytesLE_le (u : U128) : (bytesLE u).length ≤ 16 := by
  have := length_trimLE_le (leBytes 8 u.lower.toNat ++ leBytes 8 u.upper.toNat)
  simpa [bytesLE, length_leBytes] using this

/-- the SCALE form is exactly 16 bytes and denotes the value in little-endian -/
theorem C13_scale_value (u : U128) : (scaleEnc u).length = 16 ∧ natOfLE (scaleEnc u) = u.toNat := by
  have h := length_bytesLE_le u
  refine ⟨?_, ?_⟩
  · simp [scaleEnc, padLE]; omega
  · unfold scaleEnc; rw [natOfLE_padLE, C13_bytesLE]

/-- SCALE decoding of the SCALE encoding gives back the value (the path taken by AccountInfo and
    by genesis balances) -/
theorem C13_scale_roundtrip (u : U128) : scaleDec (scaleEnc u) = u := by
  apply U128.toNat_inj
  have h := C13_scale_value u
  unfold scaleDec
  rw [C13_ofBytesLE _ (by omega), h.2]

/-! non-vacuity: a non-palindromic value (513 = 0x0201) satisfies every clause concretely -/
example : let u : U128 := ⟨0, 513⟩
    bytesLE u = [1, 2] ∧ bytesBE u = [2, 1] ∧ u.toNat = 513 := by decide
-- through `C13_string` (`decide` does not evaluate `decChars`): what is witnessed is `decChars 513`
example : toDec ⟨0, 513⟩ = ['5','1','3'] := by
  rw [C13_string]; simp [decChars, decAux, U128.toNat, decDigit]

end Gossamer.C13
