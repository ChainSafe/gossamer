/-
C17  Finality is monotone and fully discards abandoned forks.

Vocabulary
* `Desc st a h` : block `h` is `a` or descends from `a` by parent links inside the block tree of `st`.
* `Inv g st`    : the invariant of reachable states (root in the header table, every other tree node in
                  `unfinalisedBlocks` and nothing else, unique hashes, parents present with number − 1).
* `runG`        : `run` instrumented with the *finalised chain*: genesis followed by the subchains
                  (`RangeInMemory(lastFinalised, h)[1:]`) of all successful finalisations so far.
-/
import Gossamer.Lib.C17Chain
namespace Gossamer.C17

/-- **the invariant holds in every reachable state**; `OpOK`: no added block carries the genesis hash -/
theorem C17_inv_reachable (g : Blk) (ops : List Op) (hops : ∀ o ∈ ops, OpOK g o) : Inv g (run g ops) :=
  foldl_inv (step g.hash) (fun _ => Inv g) (OpOK g) (fun _ _ o ho inv => Inv_step inv o ho) ops [] _ hops (Inv_init g)

/-- **monotone**: a successful `SetFinalisedHash(h)` means `h` is the previous finalised head or descends
    from it; afterwards `h` is the head (`bs.lastFinalised`, block-tree root, `GetHighestFinalisedHash`). -/
theorem C17_monotone {g : Blk} {st : St} (inv : Inv g st) (h r s : Nat)
    (hok : (setFinalised g.hash st h r s).2 = .ok) :
    Desc st st.root h ∧ (setFinalised g.hash st h r s).1.root = h ∧
      highestFinalised (setFinalised g.hash st h r s).1 = some h := by
  rcases setFinalised_cases inv h r s with ⟨_, h2⟩ | ⟨hr, _, h1⟩ | ⟨hne, _, rb, hn, rest, m⟩
  · exact absurd hok (failed_ne_ok h2)
  · rw [h1]
    refine ⟨hr ▸ .refl _, hr.symm, ?_⟩
    unfold highestFinalised
    exact lookupK_cons_self _ _ _
  · have f := m.facts inv.tree hne
    refine ⟨?_, m.root, ?_⟩
    · have : st.root ∈ up st hn := by
        rw [f.upHead, List.mem_reverse, List.map_cons, f.rbh]
        exact List.mem_cons_self ..
      have := desc_of_mem_up inv.tree f.hnTree this
      rw [f.hnh] at this
      exact this
    · unfold highestFinalised
      rw [m.highest]; exact m.finKey

/-- **a failing call changes nothing** (tree, maps, database), whatever the reason, in every reachable state;
    and the only failures are: unknown block, stale set id, a failed range walk from the root to the target. -/
theorem C17_failed_unchanged {g : Blk} {st : St} (inv : Inv g st) (h r s : Nat)
    (hfail : (setFinalised g.hash st h r s).2 ≠ .ok) :
    (setFinalised g.hash st h r s).1 = st ∧
      ((setFinalised g.hash st h r s).2 = .errUnknown ∨ (setFinalised g.hash st h r s).2 = .errSetID ∨
        ∃ e, (setFinalised g.hash st h r s).2 = .errRange e) := by
  rcases setFinalised_cases inv h r s with h1 | ⟨_, h2, _⟩ | ⟨_, h2, _⟩
  · exact h1
  · exact absurd h2 hfail
  · exact absurd h2 hfail

/-- an unknown target (never imported, or dropped with an abandoned fork) is rejected -/
theorem C17_unknown_rejected (gh : Nat) (st : St) (h r s : Nat) (hu : getHeader st h = none) :
    setFinalised gh st h r s = (st, .errUnknown) :=
  setFinalised_unknown r s hu

/-- a stale target (a finalised ancestor: in the database, no longer in the block tree) is rejected -/
theorem C17_stale_rejected {g : Blk} {st : St} (inv : Inv g st) (h r s : Nat) (b : Blk)
    (hk : getHeader st h = some b) (hs : ¬ s < st.highest.2) (ht : findB st.tree h = none) :
    setFinalised g.hash st h r s = (st, .errRange .endNotFound) := by
  have hne : h ≠ st.root := inv.tree.ne_root ht
  unfold setFinalised handleFinalised rangeInMemory
  simp [hk, hs, hne, ht]

/-- **abandoned forks are gone**: after a successful move of the head to `h`, no block of the old tree that
    is not `h` or a descendant of `h` (abandoned forks, and the finalised ancestors themselves) is in
    `unfinalisedBlocks`, and none of them keeps its state trie in `tries`. -/
theorem C17_abandoned_gone {g : Blk} {st : St} (inv : Inv g st) (h r s : Nat)
    (hok : (setFinalised g.hash st h r s).2 = .ok) (hne : h ≠ st.root) (b : Blk) (hb : b ∈ st.tree)
    (hnd : ¬ Desc st h b.hash) :
    findB (setFinalised g.hash st h r s).1.unfin b.hash = none ∧
      b ∉ (setFinalised g.hash st h r s).1.unfin ∧ b.sroot ∉ (setFinalised g.hash st h r s).1.tries := by
  obtain ⟨rb, hn, rest, m⟩ := setFinalised_ok_moved inv hok hne
  -- not a descendant of the new head, so not at or below it in the parent walk
  have key := m.gone inv hne hb fun hm =>
    hnd ((m.facts inv.tree hne).hnh ▸ desc_of_mem_up inv.tree hb hm)
  exact ⟨key.1, fun hm => findB_eq_none.mp key.1 b hm rfl, key.2⟩

/-- after a successful move every block still retrievable as unfinalised is a strict descendant of the new
    head (in every later state the map stays inside the tree: `Inv.unfinTree`) -/
theorem C17_unfin_below_head {g : Blk} {st : St} (inv : Inv g st) (h r s : Nat)
    (hok : (setFinalised g.hash st h r s).2 = .ok) (hne : h ≠ st.root) (y : Blk)
    (hy : y ∈ (setFinalised g.hash st h r s).1.unfin) : y ∈ st.tree ∧ Desc st h y.hash ∧ y.hash ≠ h := by
  obtain ⟨rb, hn, rest, m⟩ := setFinalised_ok_moved inv hok hne
  have f := m.facts inv.tree hne
  have inv' := Inv_moved inv m hne
  have := inv'.unfinTree y hy
  rw [m.tree, m.root] at this
  obtain ⟨hyt, hup⟩ := mem_kept.mp this.1
  exact ⟨hyt, f.hnh ▸ desc_of_mem_up inv.tree hyt hup, this.2⟩

/-- **the head keeps its trie when state roots are not shared**: `Tries.delete` is keyed by state root, so the
    new head's trie survives the finalisation provided no block outside its subtree (old head, finalised
    ancestors, abandoned forks) has the same state root. -/
theorem C17_head_trie_kept {g : Blk} {st : St} (inv : Inv g st) (h r s : Nat)
    (hok : (setFinalised g.hash st h r s).2 = .ok) (hne : h ≠ st.root) (hn : Blk)
    (hhn : findB st.tree h = some hn) (hin : hn.sroot ∈ st.tries)
    (huniq : ∀ b ∈ st.tree, ¬ Desc st h b.hash → b.sroot ≠ hn.sroot) :
    hn.sroot ∈ (setFinalised g.hash st h r s).1.tries := by
  obtain ⟨rb, hn', rest, m⟩ := setFinalised_ok_moved inv hok hne
  have f := m.facts inv.tree hne
  cases Option.some.inj (m.headB.symm.trans hhn)
  -- the three kinds of node that lose their trie are not at or below the new head, hence no descendants of it
  have off : ∀ b, b ∈ st.tree → hn.hash ∉ up st b → b.sroot ≠ hn.sroot := fun b hb hnu =>
    huniq b hb fun hd => hnu (f.hnh ▸ mem_up_of_desc inv.tree hd b hb rfl)
  exact m.triesKeep _ hin
    (off rb f.rbTree (f.not_below inv.tree hne (.inl rfl))).symm
    (fun b hb hbh => off b (f.restTree b hb) (f.not_below inv.tree hne (.inr (.inl ⟨hb, hbh⟩))))
    (fun b hb => off b (mem_pruned.mp hb).1 (f.not_below inv.tree hne (.inr (.inr hb))))

/-- **number lookup**: after any history, every block of the finalised chain (genesis and every block of
    every successfully finalised subchain) is answered by `GetHashByNumber` — the head from the tree root,
    every earlier one from the number table of the database.  The chain is exactly the head's ancestry:
    it contains genesis and the head (which has the greatest number) and is closed under parents. -/
theorem C17_number_lookup (g : Blk) (ops : List Op) (hops : ∀ o ∈ ops, OpOK g o) :
    let st := run g ops
    let chain := (runG g ops).2
    (∀ c ∈ chain, hashByNumber st c.number = some c.hash ∧ lookupN st.dbNum c.number = some c.hash) ∧
    g ∈ chain ∧ (∃ rb ∈ chain, rb.hash = st.root ∧ ∀ c ∈ chain, c.number ≤ rb.number) ∧
    (∀ c ∈ chain, c = g ∨ ∃ p ∈ chain, p.hash = c.parent ∧ p.number + 1 = c.number) := by
  intro st chain
  obtain ⟨_, ci⟩ := ChainInv_reachable g ops hops
  rw [runG_fst] at ci
  obtain ⟨rb, hrb, hmem, hmax⟩ := ci.head
  refine ⟨?_, ci.genesis, ⟨rb, hmem, findB_hash hrb, hmax⟩, ci.closed⟩
  intro c hc
  refine ⟨?_, ci.num c hc⟩
  show hashByNumber (run g ops) c.number = some c.hash
  unfold hashByNumber
  rw [hrb]
  simp only
  by_cases he : rb.number = c.number
  · have := ci.inj rb hmem c hc he
    subst this
    simp
  · have := hmax c hc
    have hlt : c.number < rb.number := by omega
    simp only [he, if_false, hlt, if_true]
    exact ci.num c hc

/-- **the property over all histories**: in the state after any history, for any finalisation request:
    success ⇒ the target descends from the head and becomes the head; failure ⇒ nothing changed. -/
theorem C17_history (g : Blk) (ops : List Op) (hops : ∀ o ∈ ops, OpOK g o) (h r s : Nat) :
    let st := run g ops
    let out := setFinalised g.hash st h r s
    (out.2 = .ok → Desc st st.root h ∧ out.1.root = h ∧ highestFinalised out.1 = some h) ∧
    (out.2 ≠ .ok → out.1 = st) := by
  intro st out
  have inv := C17_inv_reachable g ops hops
  exact ⟨fun hok => C17_monotone inv h r s hok, fun hf => (C17_failed_unchanged inv h r s hf).1⟩

def wG : Blk := { hash := 1, parent := 0, number := 0, sroot := 0 }
def w1 : Blk := { hash := 2, parent := 1, number := 1, sroot := 11 }
def w2 : Blk := { hash := 3, parent := 2, number := 2, sroot := 12 }
def w3 : Blk := { hash := 4, parent := 2, number := 2, sroot := 13 }
def w4 : Blk := { hash := 5, parent := 4, number := 3, sroot := 14 }
/-- `wG ← w1 ← w2` and the fork `w1 ← w3 ← w4` (hashes 1 … 5) -/
def wOps : List Op := [.add w1, .add w2, .add w3, .add w4]

example : ∀ o ∈ wOps, OpOK wG o := by
  intro o ho
  simp only [wOps, List.mem_cons, List.mem_nil_iff, or_false] at ho
  rcases ho with rfl | rfl | rfl | rfl <;> simp [OpOK, w1, w2, w3, w4, wG]

/-- finalising `w2` (hash 3): ok; the fork `w3 ← w4` is gone from memory, `w1` and `w2` are in the number table -/
example : (setFinalised 1 (run wG wOps) 3 1 0).2 = .ok := by decide
example : ((setFinalised 1 (run wG wOps) 3 1 0).1.unfin.map (·.hash)) = [] := by decide
example : (setFinalised 1 (run wG wOps) 3 1 0).1.tries = [12] := by decide
example : hashByNumber (setFinalised 1 (run wG wOps) 3 1 0).1 1 = some 2 := by decide
/-- then the sibling `w3` (hash 4), the stale ancestor `w1` (hash 2), an unknown hash and a stale set id all fail -/
example : (setFinalised 1 (setFinalised 1 (run wG wOps) 3 1 0).1 4 2 0).2 = .errUnknown := by decide
example : (setFinalised 1 (setFinalised 1 (run wG wOps) 3 1 0).1 2 2 0).2 = .errRange .endNotFound := by decide
example : (setFinalised 1 (setFinalised 1 (run wG wOps) 3 1 0).1 77 2 0).2 = .errUnknown := by decide
example : (setFinalised 1 (setFinalised 1 (run wG wOps) 3 1 5).1 3 2 4).2 = .errSetID := by decide

/-- `xG ← x1`, then `x2` and `x3` are siblings under `x1` with the SAME state root 6 -/
def xG : Blk := { hash := 1, parent := 0, number := 0, sroot := 0 }
def x1 : Blk := { hash := 2, parent := 1, number := 1, sroot := 5 }
def x2 : Blk := { hash := 3, parent := 2, number := 2, sroot := 6 }
def x3 : Blk := { hash := 4, parent := 2, number := 2, sroot := 6 }

/-- **shared state roots evict the head's trie** (the converse of C17's last sentence does NOT hold in general):
    finalising `x2` prunes its sibling `x3`, and `tries.delete(x3's state root)` removes the trie the new head `x2`
    needs.  `Tries` is a cache (`StorageState.TrieState` reloads a missing trie from the database), so this costs a
    reload, not state. -/
theorem C17_shared_root_evicts_head_trie :
    let st := run xG [.add x1, .add x2, .add x3]
    (setFinalised 1 st 3 1 0).2 = .ok ∧ x2.sroot ∈ st.tries ∧ x2.sroot ∉ (setFinalised 1 st 3 1 0).1.tries := by
  decide

end Gossamer.C17
